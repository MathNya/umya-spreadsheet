/-
  C03, style resolution through cellXfs: the reader's `maked_style_list` against the independent decoder's `styleTable`,
  xf by xf, on the effective facts (font name / size / bold / italic / underline / strike / colour, pattern
  fill with both colours, the five border edges with style and colour and the two diagonal flags, alignment,
  number-format id and custom code, protection; `apply*` flags honoured).
  Model: `Umya/Model/ReaderStyle.lean` (built from the C05 codec models `Umya.StyleCodec.*.read` and `Umya.Style.pick`);
  decoder: `Umya.Spec.Sml.styleTable` (`FontV`, `FillV`, `BorderV`, `AlignV`, `ProtV`, `apply*`: ECMA-376 18.8).
-/
import Umya.Lemmas.ListFacts
import Umya.Lemmas.ReaderStyleSheet
namespace Umya.Thm.C03
open Umya.Reader Umya.Reader.Lemmas Umya.Spec.Xml Umya.Spec.Sml
open Umya.StyleCodec (Tok)

section Styles

/-- For every `styles.xml` whose root element satisfies `validStyles` — any number
    of number formats, fonts, fills, borders and xfs; children in any order; optional children and attributes present or
    not; `apply*` flags present (`0` / `1` / `true` / `false`) or not — and every `cf` (what parsing a float text and
    printing it again yields; the identity on canonical texts): the model of the reader (`readStyleSheet` =
    `Stylesheet::set_attributes` + `make_style`) does not panic, builds as many styles as there are `<xf>` in `cellXfs`, and
    the style at EVERY index `i` shows exactly the facts the decoder's `styleTable` assigns to xf `i` (`xfFacts`: the
    decoder's `XfV` with the float texts — font size, tints — taken through `cf`). -/
theorem C03_style_resolution (cf : Tok → Tok) (root : Node) (h : validStyles root = true) :
    ∃ made, readStyleSheet cf root = some made ∧ made.length = (styleTable root).length ∧
      ∀ i : Nat, (made[i]?).map styleFacts = ((styleTable root)[i]?).map (xfFacts cf) := by
  obtain ⟨made, hm, hv⟩ := styles_agree cf root h
  refine ⟨made, hm, ?_, fun i => ?_⟩
  · have := congrArg List.length hv
    simpa using this
  · rw [← List.getElem?_map, ← List.getElem?_map, hv]

/-- A `<c>` whose `s` attribute is an unsigned decimal below the number of xfs gets from the reader
    (`Cell::set_attributes`: `stylesheet.get_style(s)`) the facts of the xf the decoder's `decodeCell` points at. -/
theorem C03_style_cell (cf : Tok → Tok) (root : Node) (h : validStyles root = true) (sst : List Text) (c : Node) (v : Text)
    (hs : c.attr? "s".toList = some v) (hv : uintOk usizeBound v = true)
    (hi : (decodeCell sst c).1.style < (styleTable root).length) :
    ∃ made st, readStyleSheet cf root = some made ∧ cellStyle made c = some st ∧
      some (styleFacts st) = ((styleTable root)[(decodeCell sst c).1.style]?).map (xfFacts cf) := by
  obtain ⟨made, hm, hl, hv'⟩ := C03_style_resolution cf root h
  obtain ⟨n, hn, hp⟩ := uintOk_parse hv
  have hst : (decodeCell sst c).1.style = n := by
    simp only [decodeCell, hs, Option.bind_some, hn, Option.getD_some]
  rw [hst] at hi ⊢
  have hlt : n < made.length := by rw [hl]; exact hi
  refine ⟨made, made[n], hm, ?_, ?_⟩
  · unfold cellStyle
    have : parseUsize v = some n := hp
    simp only [hs, this, Option.bind_some, List.getElem?_eq_getElem hlt]
  · have := hv' n
    rw [List.getElem?_eq_getElem hlt] at this
    exact this

/-- A `<c>` without `s` keeps the default style on the reader's side: no component at all. -/
theorem C03_style_cell_unstyled (made : List StyleR) (c : Node) (hs : c.attr? "s".toList = none) :
    cellStyle made c = some {} ∧ styleFacts {} = {} := by
  refine ⟨?_, rfl⟩
  unfold cellStyle
  simp only [hs]

/-- the components, one statement each (all for every element satisfying the named predicate, `cf` arbitrary):
    `Font::set_attributes`, `Fill::set_attributes`, `Borders::set_attributes`, `Alignment::set_attributes`,
    `Protection::set_attributes` show the decoder's `fontV`, `fillV`, `borderV`, `alignV`, `protV`, and
    `CellFormat::set_attributes` reads what the decoder reads of an `<xf>` (`XfAgrees`). -/
theorem C03_style_components (cf : Tok → Tok) :
    (∀ n, validFont n = true → ∃ f, Umya.StyleCodec.Font.read cf n = some f ∧ fontFacts f = cfFont cf (fontV n)) ∧
    (∀ n, validFill n = true → ∃ f, Umya.StyleCodec.Fill.read cf n = some f ∧ fillFacts f = cfFill cf (fillV n)) ∧
    (∀ n, validBorder n = true → ∃ b, Umya.StyleCodec.Borders.read cf n = some b ∧ borderFacts b = cfBorder cf (borderV n)) ∧
    (∀ n, validAlign n = true → ∃ a, Umya.StyleCodec.Alignment.read n = some a ∧ alignFacts a = alignV n) ∧
    (∀ n, ∃ p, Umya.StyleCodec.Protection.read n = some p ∧ protFacts p = protV n) ∧
    (∀ n, validXf n = true → ∃ x, readXf n = some x ∧ XfAgrees x n) :=
  ⟨font_agrees cf, fill_agrees cf, border_agrees cf, align_agrees, prot_agrees, xf_agrees⟩

def el (n : String) (attrs : List (String × String)) (kids : List Node) : Node :=
  .elem n.toList (attrs.map fun a => ⟨a.1.toList, a.2.toList⟩) kids

/-- non-vacuity: a style sheet with a custom and built-in number formats, three fonts (children in different orders,
    `<b val="0"/>`, underline, colours by rgb / theme / indexed+tint), three fills, two borders, one `cellStyleXfs` record,
    and five xfs that share components: flags absent, `applyFont="0"`, `applyFill="false"`, alignment + protection,
    built-in 14 and custom 164 -/
def exampleStyles : Node :=
  el "styleSheet" []
    [el "numFmts" [("count", "1")] [el "numFmt" [("numFmtId", "164"), ("formatCode", "yyyy\\-mm")] []],
     el "fonts" []
       [el "font" [] [el "sz" [("val", "11")] [], el "name" [("val", "Calibri")] [], el "family" [("val", "2")] []],
        el "font" [] [el "b" [] [], el "u" [] [], el "sz" [("val", "12.5")] [], el "color" [("rgb", "FFFF0000")] [], el "name" [("val", "Arial")] []],
        el "font" [] [el "name" [("val", "A&B")] [], el "b" [("val", "0")] [], el "i" [("val", "true")] [], el "strike" [] [],
                      el "u" [("val", "double")] [], el "color" [("theme", "4"), ("tint", "-0.25")] [], el "sz" [("val", "9")] []]],
     el "fills" []
       [el "fill" [] [el "patternFill" [("patternType", "none")] []],
        el "fill" [] [el "patternFill" [("patternType", "solid")] [el "fgColor" [("rgb", "FFFFFF00")] [], el "bgColor" [("indexed", "64")] []]],
        el "fill" [] [el "patternFill" [] [el "bgColor" [("theme", "1")] []]]],
     el "borders" []
       [el "border" [] [el "left" [] [], el "right" [] [], el "top" [] [], el "bottom" [] [], el "diagonal" [] []],
        el "border" [("diagonalUp", "1")]
          [el "left" [("style", "thin")] [el "color" [("indexed", "64")] []], el "right" [] [], el "top" [("style", "double")] [],
           el "bottom" [("style", "mediumDashDot")] [el "color" [("rgb", "FF000000")] []], el "diagonal" [("style", "hair")] []]],
     el "cellStyleXfs" [] [el "xf" [("numFmtId", "0"), ("fontId", "0"), ("fillId", "0"), ("borderId", "0")] []],
     el "cellXfs" []
       [el "xf" [("numFmtId", "0"), ("fontId", "0"), ("fillId", "0"), ("borderId", "0"), ("xfId", "0")] [],
        el "xf" [("numFmtId", "14"), ("fontId", "1"), ("fillId", "1"), ("borderId", "1"), ("applyNumberFormat", "1"), ("applyFont", "1")] [],
        el "xf" [("numFmtId", "164"), ("fontId", "1"), ("fillId", "1"), ("borderId", "1"), ("applyFont", "0"), ("applyFill", "false")]
          [el "alignment" [("horizontal", "center"), ("wrapText", "1"), ("textRotation", "45")] [], el "protection" [("locked", "0")] []],
        el "xf" [("numFmtId", "164"), ("fontId", "2"), ("fillId", "2"), ("borderId", "0"), ("applyNumberFormat", "0"), ("applyAlignment", "0")]
          [el "alignment" [("vertical", "top")] []],
        el "xf" [("fontId", "2"), ("fillId", "1")] []]]

/-- An xf without an `<alignment>` child has no alignment of its own, whatever `cellStyleXfs[0]` carries (fix e6602f5,
    finding C03-style-alignment-from-cell-style, corpus file issue_210.xlsx: `make_style` hands `cellStyleXfs[0]` to
    `get_style_by_cell_format` as `def_cell_format`, and under the unrepaired rule an xf WITHOUT the child took that
    record's alignment / protection).  Witness (the shape Excel writes for a workbook whose Normal style is vertically centred):
    `cellStyleXfs = [<xf …><alignment vertical="center"/></xf>]`, `cellXfs = [<xf … applyAlignment="1"/>]`: the library,
    like the decoder (18.8.45: the xf's own record; no `<alignment>` = the defaults of CT_CellAlignment), shows no
    alignment for the cell xf; the sheet is inside `validStyles` (the `defNeutral` clause asks for no `apply*`
    attribute on `cellStyleXfs[0]` only); the unrepaired rule (`resolveXfOld`) gives vertical = center
    (`C03_style_alignment_from_cell_style_unfixed_fails`). -/
def inheritStyles : Node :=
  el "styleSheet" []
    [el "fonts" [] [el "font" [] [el "sz" [("val", "11")] [], el "name" [("val", "Calibri")] []]],
     el "fills" [] [el "fill" [] [el "patternFill" [("patternType", "none")] []]],
     el "borders" [] [el "border" [] [el "left" [] [], el "right" [] [], el "top" [] [], el "bottom" [] [], el "diagonal" [] []]],
     el "cellStyleXfs" [] [el "xf" [("numFmtId", "0"), ("fontId", "0"), ("fillId", "0"), ("borderId", "0")]
       [el "alignment" [("vertical", "center")] []]],
     el "cellXfs" [] [el "xf" [("numFmtId", "0"), ("fontId", "0"), ("fillId", "0"), ("borderId", "0"), ("xfId", "0"), ("applyAlignment", "1")] []]]

/-- The two demo style sheets, evaluated in one declaration: every kernel evaluation that runs the style reader decodes the
    reader's and the decoder's own `"name".toList` literals afresh (once per declaration), so what `exampleStyles` reads as
    and `C03_style_alignment_own_record` are the two halves of ONE evaluated fact. -/
theorem styleDemos_facts :
    (validStyles exampleStyles = true ∧
    ((readStyleSheet id exampleStyles).map fun m => m.map fun s => (s.numFmt.map (·.id), (s.font.bind (·.name)).getD [])) =
      some [(some 0, "Calibri".toList), (some 14, "Arial".toList), (some 164, []), (none, "A&B".toList), (some 0, "A&B".toList)] ∧
    ((readStyleSheet id exampleStyles).map fun m => m.map fun s =>
        [s.fill.isSome, s.borders.isSome, s.alignment.isSome, s.protection.isSome]) =
      some [[true, true, false, false], [true, true, false, false], [false, true, true, true], [true, true, false, false],
            [true, true, false, false]]) ∧
    (((readStyleSheet id inheritStyles).map fun m => m.map fun s => (styleFacts s).alignment) = some [none] ∧
    ((styleTable inheritStyles).map fun x => (xfFacts id x).alignment) = [none] ∧
    validStyles inheritStyles = true) := by
  -- the literals of the demos as their characters (`toList_lit`), each tree unfolded in ONE copy
  generalize hN : exampleStyles = N
  simp only [exampleStyles, el, List.map_cons, List.map_nil, toList_lit] at hN
  subst hN
  generalize hN : inheritStyles = N
  simp only [inheritStyles, el, List.map_cons, List.map_nil, toList_lit] at hN
  subst hN
  simp only [toList_lit]
  decide +kernel

theorem exampleStyles_valid : validStyles exampleStyles = true := styleDemos_facts.1.1

/-- what `exampleStyles` means: five styles; the third drops font and fill (`applyFont="0"`, `applyFill="false"`) but keeps the
    custom number format, alignment and protection; the fourth drops number format and alignment -/
example :
    ((readStyleSheet id exampleStyles).map fun m => m.map fun s => (s.numFmt.map (·.id), (s.font.bind (·.name)).getD [])) =
      some [(some 0, "Calibri".toList), (some 14, "Arial".toList), (some 164, []), (none, "A&B".toList), (some 0, "A&B".toList)] ∧
    ((readStyleSheet id exampleStyles).map fun m => m.map fun s =>
        [s.fill.isSome, s.borders.isSome, s.alignment.isSome, s.protection.isSome]) =
      some [[true, true, false, false], [true, true, false, false], [false, true, true, true], [true, true, false, false],
            [true, true, false, false]] :=
  styleDemos_facts.1.2

theorem C03_style_alignment_own_record :
    ((readStyleSheet id inheritStyles).map fun m => m.map fun s => (styleFacts s).alignment) = some [none] ∧
    ((styleTable inheritStyles).map fun x => (xfFacts id x).alignment) = [none] ∧
    validStyles inheritStyles = true :=
  styleDemos_facts.2

/-- the unrepaired rule (`resolveXfOld`, before e6602f5) on the same records: the cell xf took the alignment of `cellStyleXfs[0]` -/
theorem C03_style_alignment_from_cell_style_unfixed_fails :
    ((resolveXfOld {} { alignment := some { vertical := some .center } }
        { applyFont := some false, applyFill := some false, applyBorder := some false, applyAlignment := some true }).map
        fun s => s.alignment) = some (some { vertical := some .center }) ∧
    ((resolveXf {} { alignment := some { vertical := some .center } }
        { applyFont := some false, applyFill := some false, applyBorder := some false, applyAlignment := some true }).map
        fun s => s.alignment) = some none := by
  decide +kernel

end Styles

end Umya.Thm.C03
