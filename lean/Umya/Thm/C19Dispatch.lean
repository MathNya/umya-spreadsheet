/-
  C19 — "formatting never panics for any built-in format code and any finite number": the dispatcher.

  What a theorem needs to know of a built-in code is its `plan` (`Umya/Model/NumFmtDispatch.lean`); the plans of the whole table are computed by ONE evaluation (`builtin_plans` in
  `Thm/C19.lean`, against the table `builtinPlan`), and every theorem about particular ids looks them up there.
  The model follows `to_formatted_string` / `split_format` / `format_as_number` / `format_as_percentage` /
  `format_as_fraction` / `format_as_date` for a numeric value and turns every operation that can panic into
  `Outcome.panic`.  The theorems quantify over
    * every entry of the built-in table regenerated from `structs/numbering_format.rs` on every run
      (`Umya.Gen.builtin_format_codes`; 58 ids, listed by `C19_builtin_ids`),
    * every value text `v` with `isPlainDecimal v` (the shape of `f64::to_string` of a finite number),
    * every `Env`: the double itself (any `FloatOps` instance), the text of `value.abs() % 1` of shape `0` / `0.D+`
      (`isFracText`), the text of `value * 24` without `%` (`isHoursText`).
  Modelled, not verified: the hand-written matchers that stand for the fancy_regex patterns, chrono's `strftime`
  on the specifiers the replacement tables produce, the float operations behind `Env`; they are tied to the
  implementation by the `disp` correspondence stream on every run.
-/
import Umya.Thm.C19
namespace Umya.Thm.C19
open Umya.NumFmtDispatch Umya.NumFmt Umya.Dec Umya.Date Umya.Lemmas.NumFmtDispatch

/-- the ids the theorems below cover: every entry of the crate's table -/
theorem C19_builtin_ids :
    builtinCodes.map (·.1) =
      [0, 1, 2, 3, 4, 9, 10, 11, 12, 13, 14, 15, 16, 17, 18, 19, 20, 21, 22, 27, 28, 29, 30, 31, 32, 33, 34, 35, 36,
       37, 38, 39, 40, 44, 45, 46, 47, 48, 49, 50, 51, 52, 53, 54, 55, 56, 57, 58, 59, 60, 61, 62, 67, 68, 69, 70] := by
  decide

/-- the plan of each code of a small table `ids` of ids (`key`) with the plan wanted for it: `h`, closed by evaluation of
    `builtinPlan`, then `builtin_plans` -/
theorem plan_of_ids {α : Type} {ids : List α} {key : α → Nat} {want : α → Plan}
    (h : ids.all (fun q => signClasses.all fun sc => builtinPlan (key q) sc == some (want q)) = true)
    {q : α} (hq : q ∈ ids) {code : List Char} (hc : (key q, code) ∈ builtinCodes) (sc : SignClass) :
    plan code sc = want q :=
  plan_builtin hc (eq_of_beq (forall_signs h q hq sc))

/-- every built-in code, for a positive, a negative and a zero value, has a plan none of whose steps can panic
    or leave the model (`planOk`: no `stop`, every literal piece of a date plan is a well-formed strftime
    string) -/
theorem C19_builtin_plans_ok :
    builtinCodes.all (fun p => signClasses.all (fun sc => planOk (plan p.2 sc))) = true := by
  have hok : builtinCodes.all (fun p => signClasses.all fun sc => (builtinPlan p.1 sc).all planOk) = true := by
    decide +kernel
  refine List.all_eq_true.mpr fun p hp => List.all_eq_true.mpr fun sc _ => ?_
  cases h : builtinPlan p.1 sc with
  | some pl =>
    have := forall_signs hok p hp sc
    rw [h] at this
    rwa [plan_builtin hp h]
  | none =>
    obtain ⟨segs, hd, hs, -⟩ := plan_builtin_date hp h
    rw [hd]; exact hs

/-- No panic, a text for every value, under every built-in format code: for every entry `(id, code)` of
    the crate's built-in table, every value text of the shape `f64::to_string` prints for a finite number,
    every float model `F` and double, every remainder text `0` / `0.D+` and every hours text without `%`, the
    model of `to_formatted_string` returns a text (`Outcome.ok`): neither `panic` nor `unmodelled`. -/
theorem C19_builtin_no_panic {F : Type} [FloatOps F] (p : Nat × List Char) (hp : p ∈ builtinCodes)
    (v : List Char) (env : Env F) (hv : isPlainDecimal v = true) (hr : isFracText env.rem = true)
    (hh : isHoursText env.hours = true) (hha : isHoursText env.hoursAbs = true) :
    ∃ b t, dispatch p.2 v env = .ok b t := by
  rw [dispatch_eq_run v env hv]
  exact run_isOk _ v env (forall_signs C19_builtin_plans_ok p hp _) hr hh hha

/-- non-vacuity: the hypotheses hold for concrete values; the accounting code on a negative number, the
    elapsed-hours code, a Japanese date code -/
example : (44, "_(\"$\"* #,##0.00_);_(\"$\"* \\(#,##0.00\\);_(\"$\"* \"-\"??_);_(@_)".toList) ∈ builtinCodes :=
  mem_builtinCodes (by decide +kernel)
example : isPlainDecimal "-1234.5678".toList = true ∧ isFracText "0.5678".toList = true ∧
    isHoursText "-29629.627200000003".toList = true := by
  simp only [toList_lit]
  decide +kernel
example : dispatch (F := Fix) "_(\"$\"* #,##0.00_);_(\"$\"* \\(#,##0.00\\);_(\"$\"* \"-\"??_);_(@_)".toList
    "-1234.5678".toList ⟨⟨0⟩, ⟨0⟩, "0.5678".toList, [], []⟩ = .ok .number (some "$ (1,234.57".toList) := by
  simp only [toList_lit]
  decide +kernel
example : dispatch (F := Fix) "[h]:mm:ss".toList "1.5".toList ⟨⟨129600⟩, ⟨129600⟩, "0.5".toList, "36".toList, "36".toList⟩
    = .ok .date (some "36:00:00".toList) := by
  simp only [toList_lit]
  decide +kernel
example : dispatch (F := Fix) "[$-411]ggge\"年\"m\"月\"d\"日\"".toList "45435".toList
    ⟨⟨86400 * 45435⟩, ⟨86400 * 45435⟩, "0".toList, [], []⟩ = .ok .date (some "2024年5月23日".toList) := by
  simp only [toList_lit]
  decide +kernel

/-- the hypothesis on the value is needed: the model answers nothing for other texts -/
example : dispatch (F := Fix) "0".toList "1e5".toList ⟨⟨0⟩, ⟨0⟩, [], [], []⟩
    = .unmodelled "value is not the shortest text of a finite number" := by
  simp only [toList_lit]
  decide +kernel

/-- Outside the built-in table: a format code that is one quoted literal is parsed as a number
    (`format.trim_matches('"').parse::<f64>()`; the code `"N/A"` on the value `1`).  Before the repair ed3cd35 of /repo the
    result was unwrapped and the code panicked; since then a literal that is not a number is shown as it is.  The model
    follows the repaired code, and the harness replays this witness (`dispc`) on every run. -/
theorem C19_quoted_literal_code_shown {F : Type} [FloatOps F] (env : Env F) :
    dispatch "\"N/A\"".toList "1".toList env = .ok .literal (some "N/A".toList) := by
  have hp : plan "\"N/A\"".toList (signClass "1".toList) = .literal "N/A".toList := by decide +kernel
  have hf : isF64Syntax "N/A".toList = false := by decide +kernel
  have ht : trimWs "N/A".toList = "N/A".toList := by decide +kernel
  rw [dispatch_eq_run _ env (by decide +kernel), hp]
  simp only [run, hf, ht, Bool.false_eq_true, if_false]

/-- the step that panicked: the literal is not in Rust's `f64` grammar -/
example : isF64Syntax "N/A".toList = false ∧ isF64Syntax "12".toList = true := by
  simp only [toList_lit]
  decide +kernel

/-- Two panics of the code outside the built-in table (not repaired: they lie beyond the property's quantifier; the
    `dispc` stream replays them on the implementation on every run): a colour in a sixth section indexes the five-element `colors` array; four scaling commas
    overflow `1000i32.pow(4)` (builds with overflow checks). -/
theorem C19_custom_code_panics {F : Type} [FloatOps F] (env : Env F) :
    dispatch "0;0;0;0;0;[Red]0".toList "1".toList env = .panic "colors[idx]: index out of bounds" ∧
    dispatch "0.0,,,,".toList "1".toList env = .panic "1000i32.pow(commas): attempt to multiply with overflow" := by
  have hv : isPlainDecimal "1".toList = true := by decide +kernel
  have h1 : plan "0;0;0;0;0;[Red]0".toList (signClass "1".toList) = .stop (.panic "colors[idx]: index out of bounds") := by
    decide +kernel
  have h2 : plan "0.0,,,,".toList (signClass "1".toList)
      = .stop (.panic "1000i32.pow(commas): attempt to multiply with overflow") := by decide +kernel
  exact ⟨by rw [dispatch_eq_run _ env hv, h1]; rfl, by rw [dispatch_eq_run _ env hv, h2]; rfl⟩

def fractionIds : List Nat := [12, 13, 69, 70]

/-- Fraction codes never panic, and which way they go: a value whose text parses as `usize` (a whole
    number `0 ≤ n < 2^64` without sign) is shown as it is — the fraction formatter is not called; every other
    value (fractions, negative whole numbers, minus zero, whole numbers from `2^64` on) reaches
    `format_as_fraction`, whose only partial step — the text of `value.abs() % 1` with `0.` removed, parsed as
    `f64` and unwrapped — succeeds for every remainder text `0` / `0.D+`. -/
theorem C19_fraction_no_panic {F : Type} [FloatOps F] (p : Nat × List Char) (hp : p ∈ builtinCodes)
    (hid : fractionIds.contains p.1 = true) (v : List Char) (env : Env F) (hv : isPlainDecimal v = true)
    (hr : isFracText env.rem = true) :
    dispatch p.2 v env = if parsesAsUsize v then .ok .fractionWhole (some v) else .ok .fraction none := by
  rw [dispatch_eq_run v env hv,
    plan_of_ids (key := id) (want := fun _ => .fraction [] false) (by decide) (List.contains_iff_mem.mp hid) hp,
    run_fraction [] false v env hr]
  simp only [Bool.false_eq_true, if_false, List.nil_append]
  by_cases hq : parsesAsUsize v = true
  · have hd : v.all isDigit = true := by
      unfold parsesAsUsize at hq
      split at hq
      · simp [isPlainDecimal, isDigit] at hv
      · simp only [Bool.and_eq_true] at hq; exact hq.1.2
    simp only [hq, if_true, trimWs_numCh v (digits_numCh v hd)]
  · simp only [hq]; rfl

/-- whole numbers, negative whole numbers, minus zero, `2^64 - 1`, `2^64`, a fraction -/
example : parsesAsUsize "5".toList = true ∧ parsesAsUsize "-5".toList = false ∧ parsesAsUsize "-0".toList = false ∧
    parsesAsUsize "18446744073709551615".toList = true ∧ parsesAsUsize "18446744073709551616".toList = false ∧
    parsesAsUsize "0.5".toList = false := by
  simp only [toList_lit]
  decide +kernel
example : dispatch (F := Fix) "# ?/?".toList "-5".toList ⟨⟨0⟩, ⟨0⟩, "0".toList, [], []⟩ = .ok .fraction none := by
  simp only [toList_lit]
  decide +kernel
example : dispatch (F := Fix) "# ??/??".toList "18446744073709551616".toList ⟨⟨0⟩, ⟨0⟩, "0".toList, [], []⟩
    = .ok .fraction none := by
  simp only [toList_lit]
  decide +kernel
example : dispatch (F := Fix) "# ?/?".toList "5".toList ⟨⟨0⟩, ⟨0⟩, "0".toList, [], []⟩
    = .ok .fractionWhole (some "5".toList) := by
  simp only [toList_lit]
  decide +kernel
example : fractionDecimalPart "0".toList = some "0".toList ∧ fractionDecimalPart "0.05".toList = some "05".toList := by
  simp only [toList_lit]
  decide +kernel
/-- the code's `replace("0.", "")` does not depend on the prefix being there: the remainder text `0` of a whole number
    does not start with `0.` (a `strip_prefix("0.").unwrap()` in its place would panic) -/
example : startsWith "0".toList "0.".toList = false := by
  simp only [toList_lit]
  decide +kernel

/-- (id, decimals, thousands, percent) -/
def fixedBuiltins : List (Nat × Nat × Bool × Bool) :=
  [(1, 0, false, false), (2, 2, false, false), (3, 0, true, false), (4, 2, true, false),
   (9, 0, false, true), (10, 2, false, true),
   (59, 0, false, false), (60, 2, false, false), (61, 0, true, false), (62, 2, true, false),
   (67, 0, false, true), (68, 2, false, true)]

def fixedPlan (q : Nat × Nat × Bool × Bool) : Plan :=
  if q.2.2.2 then .percent q.2.1 q.2.2.1 false else .number (some q.2.1) q.2.2.1 [] false

/-- The built-in fixed-decimal and percentage ids reach exactly the renderer `C19_fixed` / `C19_percent` are
    about, with the parameters read off the code: ids 1–4 and their Thai twins 59–62 call
    `formatFixed t n thousands`, ids 9, 10, 67, 68 `formatPercent t n thousands`, on the digits `t` of the value
    text, whatever the sign; nothing else is added and `trim` changes nothing.  With `C19_fixed` /
    `C19_percent` this makes the rounding theorems statements about these built-in ids. -/
theorem C19_dispatch_matches_fixed {F : Type} [FloatOps F] (q : Nat × Nat × Bool × Bool) (hq : q ∈ fixedBuiltins)
    (code : List Char) (hc : (q.1, code) ∈ builtinCodes) (v : List Char) (env : Env F) (t : DecText)
    (hv : isPlainDecimal v = true) (ht : parseDecText v = some t) :
    dispatch code v env =
      if q.2.2.2 then .ok .percent (some (formatPercent t q.2.1 q.2.2.1))
      else .ok .number (some (formatFixed t q.2.1 q.2.2.1)) := by
  rw [dispatch_eq_run v env hv, plan_of_ids (want := fixedPlan) (by decide) hq hc]
  unfold fixedPlan
  split
  · exact run_percent v env t _ _ false ht
  · exact run_number v env t [] false ht (fun _ h => nomatch h)

example : (4, 2, true, false) ∈ fixedBuiltins ∧ (4, "#,##0.00".toList) ∈ builtinCodes ∧
    parseDecText "-1234567.895".toList = some ⟨true, [1, 2, 3, 4, 5, 6, 7], [8, 9, 5]⟩ :=
  ⟨by decide, mem_builtinCodes (by decide), by decide +kernel⟩
example : dispatch (F := Fix) "#,##0.00".toList "-1234567.895".toList ⟨⟨0⟩, ⟨0⟩, [], [], []⟩
    = .ok .number (some "-1,234,567.90".toList) := by
  simp only [toList_lit]
  decide +kernel
example : dispatch (F := Fix) "0.00%".toList "0.1234".toList ⟨⟨0⟩, ⟨0⟩, [], [], []⟩
    = .ok .percent (some "12.34%".toList) := by
  simp only [toList_lit]
  decide +kernel

def scientificBuiltins : List (Nat × Nat) := [(11, 2), (48, 1)]

/-- Scientific codes never panic — they are not rendered as scientific notation at all: `0.00E+00`
    (id 11) and `##0.0E+0` (id 48) take the plain number path, where `(0+)(\.?)(0*)` finds `0.00` / `000.0` and the
    rest of the code is ignored; the text is the fixed-decimal rendering with 2 / 1 decimals (a formatting
    shortcoming of the crate, not a panic; there is no mantissa / exponent code that could index out of range). -/
theorem C19_scientific_no_panic {F : Type} [FloatOps F] (q : Nat × Nat) (hq : q ∈ scientificBuiltins)
    (code : List Char) (hc : (q.1, code) ∈ builtinCodes) (v : List Char) (env : Env F) (t : DecText)
    (hv : isPlainDecimal v = true) (ht : parseDecText v = some t) :
    dispatch code v env = .ok .number (some (formatFixed t q.2 false)) := by
  rw [dispatch_eq_run v env hv,
    plan_of_ids (want := fun q => .number (some q.2) false [] false) (by decide) hq hc]
  exact run_number v env t [] false ht (fun _ h => nomatch h)

example : (11, "0.00E+00".toList) ∈ builtinCodes ∧ (48, "##0.0E+0".toList) ∈ builtinCodes :=
  ⟨mem_builtinCodes (by decide), mem_builtinCodes (by decide)⟩
example : dispatch (F := Fix) "0.00E+00".toList "1234.5678".toList ⟨⟨0⟩, ⟨0⟩, [], [], []⟩
    = .ok .number (some "1234.57".toList) := by
  simp only [toList_lit]
  decide +kernel

def accountingBuiltins : List (Nat × Nat) := [(37, 0), (38, 0), (39, 2), (40, 2)]

/-- Accounting codes never panic, and what they show.  Ids 37–40 (`#,##0_);(#,##0)` …, two sections, the
    second optionally with `[Red]`): whatever the sign, the text is `formatFixed` of the ABSOLUTE value with
    0 / 2 decimals and separators — the parentheses (and the sign) of a negative number are lost, because
    `format_straight_numeric_value` ignores the rest of the section.  `t` is the split of `absText v`, the
    value text without its sign. -/
theorem C19_accounting_no_panic {F : Type} [FloatOps F] (q : Nat × Nat) (hq : q ∈ accountingBuiltins)
    (code : List Char) (hc : (q.1, code) ∈ builtinCodes) (v : List Char) (env : Env F) (t : DecText)
    (hv : isPlainDecimal v = true) (ht : parseDecText (absText v) = some t) :
    dispatch code v env = .ok .number (some (formatFixed t q.2 true)) := by
  rw [dispatch_eq_run v env hv,
    plan_of_ids (want := fun q => .number (some q.2) true [] true) (by decide) hq hc]
  exact run_number v env t [] true ht (fun _ h => nomatch h)

/-- Id 44 (`_("$"* #,##0.00_);_("$"* \(#,##0.00\);_("$"* "-"??_);_(@_)`, four sections): a positive value shows
    `$ ` and the rounded absolute value, a negative one `$ (` and the rounded absolute value (the closing
    parenthesis is lost), a zero `$ -??` followed by the value text (no digit placeholder in that section). -/
theorem C19_accounting44_no_panic {F : Type} [FloatOps F] (code : List Char) (hc : (44, code) ∈ builtinCodes)
    (v : List Char) (env : Env F) (t : DecText) (hv : isPlainDecimal v = true)
    (ht : parseDecText (absText v) = some t) :
    dispatch code v env =
      match signClass v with
      | .pos => .ok .number (some ("$ ".toList ++ formatFixed t 2 true))
      | .neg => .ok .number (some ("$ (".toList ++ formatFixed t 2 true))
      | .zero => .ok .numberRaw (some (trimWs ("$ -??".toList ++ absText v))) := by
  rw [dispatch_eq_run v env hv, plan_builtin hc rfl]
  cases signClass v with
  | pos => exact run_number v env t _ true ht (by intro c hc; cases hc; decide)
  | neg => exact run_number v env t _ true ht (by intro c hc; cases hc; decide)
  | zero => rfl

example : (37, "#,##0_);(#,##0)".toList) ∈ builtinCodes ∧ (37, 0) ∈ accountingBuiltins ∧
    parseDecText (absText "-1234.5".toList) = some ⟨false, [1, 2, 3, 4], [5]⟩ :=
  ⟨mem_builtinCodes (by decide), by decide, by decide +kernel⟩
/-- the sign and the parentheses are lost -/
example : dispatch (F := Fix) "#,##0_);(#,##0)".toList "-1234.5".toList ⟨⟨0⟩, ⟨0⟩, [], [], []⟩
    = .ok .number (some "1,235".toList) := by
  simp only [toList_lit]
  decide +kernel
example : dispatch (F := Fix) "#,##0.00_);[Red](#,##0.00)".toList "-0.005".toList ⟨⟨0⟩, ⟨0⟩, [], [], []⟩
    = .ok .number (some "0.01".toList) := by
  simp only [toList_lit]
  decide +kernel
example : dispatch (F := Fix) "_(\"$\"* #,##0.00_);_(\"$\"* \\(#,##0.00\\);_(\"$\"* \"-\"??_);_(@_)".toList
    "-0".toList ⟨⟨0⟩, ⟨0⟩, [], [], []⟩ = .ok .numberRaw (some "$ -??0".toList) := by
  simp only [toList_lit]
  decide +kernel

/-- General / `@` never panic: the value text is returned as it is (no section splitting, no regex). -/
theorem C19_text_no_panic {F : Type} [FloatOps F] (v : List Char) (env : Env F) (hv : isPlainDecimal v = true) :
    (0, general) ∈ builtinCodes ∧ (49, textCode) ∈ builtinCodes ∧
    dispatch general v env = .ok .general (some v) ∧ dispatch textCode v env = .ok .text (some v) := by
  have h0 : (0, general) ∈ builtinCodes := mem_builtinCodes (s := "General") (by decide)
  have h49 : (49, textCode) ∈ builtinCodes := mem_builtinCodes (s := "@") (by decide)
  refine ⟨h0, h49, ?_, ?_⟩
  · rw [dispatch_eq_run v env hv, plan_builtin h0 rfl]; rfl
  · rw [dispatch_eq_run v env hv, plan_builtin h49 rfl]; rfl

example : dispatch (F := Fix) textCode "-0".toList ⟨⟨0⟩, ⟨0⟩, [], [], []⟩ = .ok .text (some "-0".toList) :=
  (C19_text_no_panic _ _ (by decide +kernel)).2.2.2

/-- the date/time ids: every built-in code whose plan is a date plan -/
theorem C19_dispatch_date_ids :
    (builtinCodes.filter (fun p => match plan p.2 .pos with
      | .date _ _ => true
      | _ => false)).map (·.1) =
      [14, 15, 16, 17, 18, 19, 20, 21, 22, 27, 28, 29, 30, 31, 32, 33, 34, 35, 36, 45, 46, 47, 50, 51, 52, 53, 54, 55,
       56, 57, 58] := by
  have hnd : builtinCodes.all (fun p => (builtinPlan p.1 .pos).all fun pl => !(pl matches .date ..)) = true := by decide +kernel
  have h : ∀ p ∈ builtinCodes, (match plan p.2 .pos with
      | .date _ _ => true
      | _ => false) = (builtinPlan p.1 .pos).isNone := by
    intro p hp
    cases h : builtinPlan p.1 .pos with
    | some pl =>
      have := List.all_eq_true.mp hnd p hp
      rw [h] at this
      rw [plan_builtin hp h]
      cases pl <;> first | rfl | cases this
    | none =>
      obtain ⟨segs, hd, -, -⟩ := plan_builtin_date hp h
      rw [hd]; rfl
  rw [List.filter_congr h]
  decide +kernel

/-- for the 11 date/time codes of `builtinDateCodes` (no quote, no bracket), the strftime string the dispatcher
    computes is the one `strftimeOf` (the model `C19_date_no_panic` is about) computes -/
theorem C19_dispatch_date_agrees :
    (builtinCodes.filter (fun p => (strftimeOf p.2).isSome)).all (fun p => signClasses.all (fun sc =>
      match plan p.2 sc with
      | .date segs false => strftimeOf p.2 == some (flatten segs [])
      | _ => false)) = true := by
  refine List.all_eq_true.mpr fun p hp => List.all_eq_true.mpr fun sc _ => ?_
  obtain ⟨hpb, hsome⟩ := List.mem_filter.mp hp
  obtain ⟨segs, hd, -, hsf⟩ := plan_of_strftimeOf hpb hsome sc
  rw [hd, hsf]
  exact beq_self_eq_true _

end Umya.Thm.C19
