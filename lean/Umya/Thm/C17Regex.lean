/-
  C17 — tie to the source (T), regular expressions: the coordinate regex of helper/coordinate.rs (the one place where the
  tie of `index_from_coordinate` is behavioural: `Umya/Model/Coord.lean` has a hand-written matcher for it), the `is_address`
  regex of helper/address.rs and the quoting test of structs/address.rs are, in the CURRENT source, the expressions the
  model's matchers were written for.
-/
import Umya.Lemmas.RegexGen
namespace Umya.Thm.C17

/-- The texts of the three regular expressions of the coordinate / address codecs,
    regenerated from the source on every run, are the ones recorded next to the model's matchers
    (`Umya/Model/RegexTexts.lean`: the first clause is the whole list, the three memberships name its entries 0, 1, 2).
    A changed expression breaks this obligation; that each matcher behaves like its
    expression is tied by the C17 correspondence stream (10^5 arbitrary strings per run against the real regex). -/
theorem C17_regex_matches_source :
    Umya.Gen.regex_literals = Umya.RegexTexts.texts ∧
    ("src/helper/coordinate.rs#0", "((\\$)?([A-Z]{1,3}))?((\\$)?([0-9]+))?") ∈ Umya.Gen.regex_literals ∧
    ("src/helper/address.rs#0", "^([^\\:\\\\\\?\\[\\]\\/\\*]+\\!)?(\\$?[A-Z]{1,3}\\$?[0-9]+)(\\:\\$?[A-Z]{1,3}\\$?[0-9]+)?$") ∈ Umya.Gen.regex_literals ∧
    ("src/structs/address.rs#0", "[^0-9a-zA-Z]") ∈ Umya.Gen.regex_literals :=
  ⟨Umya.Gen.gen_regex_texts, List.mem_of_getElem? (i := 0) rfl, List.mem_of_getElem? (i := 1) rfl,
    List.mem_of_getElem? (i := 2) rfl⟩

end Umya.Thm.C17
