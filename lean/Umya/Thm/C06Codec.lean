/-
  C06 — data validations and conditional formatting: the element-level codecs round-trip.

  Models: `Umya/Model/AnnotDv.lean`, `Umya/Model/AnnotCf.lean` (element trees as an XML 1.0 reader delivers
  them; the escape / unescape channel below them is `C06_codec_channel`).  The models are of the code after
  commits 707d064, 8c58c57, c319d53, 0f4b522, 8f9bb711, 13062504, bc04409f (`none` spelled `none`; formula text read
  untrimmed; the icon set written as `<iconSet>`; dxf table searched by equality; a colour without attributes written;
  `sqref=""` read as no range; a block without rules not written).  For each repaired defect a `…_unfixed_fails`
  theorem evaluates the model of the UNFIXED code on a witness: its statement is the equation that shows the wrong
  result; the harness witnesses of the same name replay it on the implementation.
  Tied to the code on every run by the `c06 dvs` / `c06 cf` requests (`harness/src/c06codec.rs`,
  `Umya/Driver/C06Codec.lean`): the real `<dataValidations>`, `<conditionalFormatting>` and `<dxfs>` elements of
  the written package, parsed by the independent XML reader, are compared with `write` of the model value the
  harness built through the public setters, and the getters of the reloaded workbook with `read`.
-/
import Umya.Lemmas.AnnotDv
import Umya.Lemmas.AnnotCf
import Umya.Lemmas.XmlAgree
import Umya.Lemmas.XmlChannel
import Umya.Lemmas.AnnotTablesGen
namespace Umya.Thm.C06
open Umya.Coord Umya.Annot Umya.AnnotDv Umya.AnnotCf Umya.Thm.C17
open Umya.Spec.Xml (Node Attr)

/-- What `write_start_tag` / `write_text_node` put into the file for a text `s` is read as `s` again both by an
    XML 1.0 reader (the trees of the models) and by the library's own `get_attribute` / `unescape_text`: the
    models may carry unescaped text in attributes and character data.  (`C02_attr_channel`, `C02_text_channel`,
    `attrRead_attrWrite` restated.) -/
theorem C06_codec_channel (s : List Char) :
    Umya.Spec.Xml.attrValue (Umya.XmlEsc.attrEscape s) = some s ∧
    Umya.XmlEsc.attrRead (Umya.XmlEsc.attrWrite s) = s ∧
    Umya.Spec.Xml.textValue (Umya.XmlEsc.escape s) = some s ∧
    Umya.XmlEsc.unescape (Umya.XmlEsc.escape s) = some s :=
  ⟨Umya.XmlChannel.attrValue_attrEscape s, Umya.XmlEsc.attrRead_attrWrite s, Umya.XmlChannel.textValue_escape s,
   Umya.XmlEsc.unescape_escape s⟩

/-- Every constructor of every enum of the two codecs reads back from its own spelling. -/
theorem C06_dvcf_enum_tables :
    (∀ v, DvType.fromStr (DvType.toStr v) = some v) ∧ (∀ v, DvOp.fromStr (DvOp.toStr v) = some v) ∧
    (∀ v, CfType.fromStr (CfType.toStr v) = some v) ∧ (∀ v, CfOp.fromStr (CfOp.toStr v) = some v) ∧
    (∀ v, TimePeriod.fromStr (TimePeriod.toStr v) = some v) ∧ (∀ v, CfvoType.fromStr (CfvoType.toStr v) = some v) :=
  ⟨dvType_table, dvOp_table, cfType_table, cfOp_table, timePeriod_table, cfvoType_table⟩

/-- The six enum string tables of the two codecs are the source's, as regenerated from
    `src/structs/*_values.rs` on this run: same variants, same spellings, in the same order; the source's `from_str`
    arms are its `get_value_string` arms turned round; the model's `fromStr` maps every `from_str` text to that arm's
    constructor. -/
theorem C06_enum_tables_match_source :
    Umya.Gen.EnumMatches Umya.Gen.dv_type_table
      ["Custom", "Date", "Decimal", "List", "None", "TextLength", "Time", "Whole"] DvType.all DvType.toStr DvType.fromStr ∧
    Umya.Gen.EnumMatches Umya.Gen.dv_operator_table
      ["Between", "Equal", "GreaterThan", "GreaterThanOrEqual", "LessThan", "LessThanOrEqual", "NotBetween", "NotEqual"]
      DvOp.all DvOp.toStr DvOp.fromStr ∧
    Umya.Gen.EnumMatches Umya.Gen.cf_type_table
      ["AboveAverage", "BeginsWith", "CellIs", "ColorScale", "ContainsBlanks", "ContainsErrors", "ContainsText", "DataBar",
       "DuplicateValues", "EndsWith", "Expression", "IconSet", "NotContainsBlanks", "NotContainsErrors", "NotContainsText",
       "TimePeriod", "Top10", "UniqueValues"] CfType.all CfType.toStr CfType.fromStr ∧
    Umya.Gen.EnumMatches Umya.Gen.cf_operator_table
      ["BeginsWith", "Between", "ContainsText", "EndsWith", "Equal", "GreaterThan", "GreaterThanOrEqual", "LessThan",
       "LessThanOrEqual", "NotBetween", "NotContains", "NotEqual"] CfOp.all CfOp.toStr CfOp.fromStr ∧
    Umya.Gen.EnumMatches Umya.Gen.time_period_table
      ["Last7Days", "LastMonth", "LastWeek", "NextMonth", "NextWeek", "ThisMonth", "ThisWeek", "Today", "Tomorrow", "Yesterday"]
      TimePeriod.all TimePeriod.toStr TimePeriod.fromStr ∧
    Umya.Gen.EnumMatches Umya.Gen.cfvo_type_table
      ["Formula", "Max", "Min", "Number", "Percent", "Percentile"] CfvoType.all CfvoType.toStr CfvoType.fromStr :=
  ⟨Umya.Gen.gen_dv_type, Umya.Gen.gen_dv_operator, Umya.Gen.gen_cf_type, Umya.Gen.gen_cf_operator,
   Umya.Gen.gen_time_period, Umya.Gen.gen_cfvo_type⟩

/-- Before fix 707d064 the writer (`toStrOld`) spelled `DataValidationValues::None` as `iso_8859_8_i`, which `from_str` rejects (and
    which is not a value of ST_DataValidationType): a validation of type `none` was written with an attribute no
    reader of the format accepts, and reloaded with the type unset. -/
theorem C06_dv_type_unfixed_fails : DvType.fromStr (DvType.toStrOld .none) = none := by decide +kernel

example : (DvType.all.map fun v => DvType.fromStr (DvType.toStrOld v)) ≠ DvType.all.map some := by decide +kernel

/-- One validation: for every value of the twelve fields (each set or unset; any text in prompts, titles, error
    texts and formulas — XML-special characters, blanks at either end, the empty text; any number of ranges of the
    four printable shapes) the reader applied to the written element returns the validation itself. -/
theorem C06_data_validation_codec (x : Dv) (h : x.WF) : AnnotDv.read (AnnotDv.write x) = .ok x :=
  read_write x h

/-- The whole list: the reloaded list IS the list — same validations, same order, same ranges, none lost,
    duplicated or moved — for any number of validations. -/
theorem C06_data_validations_roundtrip (l : List Dv) (h : ∀ x ∈ l, x.WF) : readList (writeList l) = .ok l := by
  simp only [writeList, readList]
  exact readAll_written l h

/-- no validation takes a sibling's place: position by position -/
theorem C06_data_validations_positions (l : List Dv) (h : ∀ x ∈ l, x.WF) :
    ∃ back, readList (writeList l) = .ok back ∧ back.length = l.length ∧ ∀ i : Nat, back[i]? = l[i]? :=
  ⟨l, C06_data_validations_roundtrip l h, rfl, fun _ => rfl⟩

/-- Before fix 8c58c57 the formulas were read with `trim_text(true)` (`formulaReadOld`): the equation shows the
    blanks at the ends lost. -/
theorem C06_dv_formula_unfixed_fails : formulaReadOld " \"a, b\" ".toList = some "\"a, b\"".toList := by decide +kernel

private theorem rangesOK_witness :
    RangesOK [⟨some ⟨1, false⟩, some ⟨1, false⟩, some ⟨3, true⟩, some ⟨1048576, true⟩⟩, ⟨some ⟨16384, false⟩, some ⟨7, false⟩, none, none⟩,
              ⟨none, some ⟨2, false⟩, none, some ⟨5, false⟩⟩] := by
  intro ρ hρ
  simp only [List.mem_cons, List.mem_nil_iff, or_false] at hρ
  rcases hρ with rfl | rfl | rfl
  · exact ⟨Or.inr (Or.inl (by simp)), by refine ⟨?_, ?_, ?_, ?_⟩ <;> intro x hx <;> injection hx with hx <;> subst hx <;> simp⟩
  · exact ⟨Or.inl (by simp), by refine ⟨?_, ?_, ?_, ?_⟩ <;> intro x hx <;> first | (injection hx with hx; subst hx; simp) | cases hx⟩
  · exact ⟨Or.inr (Or.inr (Or.inl (by simp))), by refine ⟨?_, ?_, ?_, ?_⟩ <;> intro x hx <;> first | (injection hx with hx; subst hx; simp) | cases hx⟩

/-- non-vacuity: a validation with every field set, special characters, outer blanks, three ranges -/
example : Dv.WF
    { type := some .list, operator := some .notBetween, allowBlank := some true, showInput := some false,
      showError := some true, promptTitle := some " R&D <1> ".toList, prompt := some "\"q\"\r\n".toList,
      errorTitle := some [], error := some "it's".toList,
      sqref := [⟨some ⟨1, false⟩, some ⟨1, false⟩, some ⟨3, true⟩, some ⟨1048576, true⟩⟩,
                ⟨some ⟨16384, false⟩, some ⟨7, false⟩, none, none⟩, ⟨none, some ⟨2, false⟩, none, some ⟨5, false⟩⟩],
      formula1 := some " \"a, b\" ".toList, formula2 := some [] } := rangesOK_witness

example : AnnotDv.read (AnnotDv.write
    { type := some .none, allowBlank := some false, prompt := some " <p> ".toList, formula1 := some " 1 ".toList,
      formula2 := some [] })
    = .ok { type := some .none, allowBlank := some false, prompt := some " <p> ".toList, formula1 := some " 1 ".toList,
            formula2 := some [] } :=
  -- no range, so `Dv.WF` holds vacuously
  C06_data_validation_codec _ (fun _ h => nomatch h)

/-- The dxf table: the index handed out for a style denotes that style, and every earlier index keeps denoting
    what it denoted (the table only grows at the end). -/
theorem C06_cf_dxf_table (t : List Sty) (s : Sty) :
    (internSty t s).1[(internSty t s).2]? = some s ∧ ∀ (i : Nat) (x : Sty), t[i]? = some x → (internSty t s).1[i]? = some x :=
  ⟨internSty_get t s, fun _ _ hx => Ext.get (internSty_ext t s) hx⟩

/-- One rule, written when the dxf table is `t` and read against any later state `t'` of the table (`t'` extends
    the table after the rule): the rule itself comes back — type, operator, text, priority, rank, flags, time
    period, the three scale-like children, the formula, and its OWN style. -/
theorem C06_cf_rule_codec (t t' : List Sty) (r : Rule) (h : RuleWF r) (hx : Ext (writeRule t r).1 t')
    (hT : t'.length ≤ 18446744073709551616) : readRule t' (writeRule t r).2 = .ok r :=
  readRule_written t t' r h hx hT

/-- Blocks × rules, any number of each — a block may have no range and may have no rule, a colour of a scale may
    have no attribute —, starting from any dxf table `t0` (the table the workbook was loaded with; empty for a new
    workbook): reading the written blocks against the final table returns the blocks that have a rule
    (`writtenBlocks`: a block without rules holds no conditional format and is not written, fix bc04409f) — same
    blocks in the same order, same ranges (none included, fix 13062504), same rules in the same order with the same
    priorities, the colours of every scale in their places (fix 8f9bb711), every `dxfId` resolving to its own rule's
    style (no swap between siblings, whichever styles coincide or differ); when every block has a rule, all of them. -/
theorem C06_conditional_formatting_roundtrip (t0 : List Sty) (bs : List Block) (h : ∀ b ∈ bs, BlockOK b)
    (hT : (writeBlocks t0 bs).1.length ≤ 18446744073709551616) :
    readBlocks (writeBlocks t0 bs).1 (writeBlocks t0 bs).2 = .ok (writtenBlocks bs) ∧
    ((∀ b ∈ bs, b.rules ≠ []) → readBlocks (writeBlocks t0 bs).1 (writeBlocks t0 bs).2 = .ok bs) := by
  have h1 := readBlocks_written_norm bs t0 _ h (Ext.refl _) hT
  exact ⟨h1, fun hr => by rw [h1, writtenBlocks_self bs hr]⟩

/-- `writtenBlocks` only leaves out the blocks without rules: the others stay, in order, untouched; the rules that
    come back are all the rules there were. -/
theorem C06_cf_written_blocks (bs : List Block) :
    (∀ b, b ∈ writtenBlocks bs ↔ b ∈ bs ∧ b.rules ≠ []) ∧
    (writtenBlocks bs).flatMap (·.rules) = bs.flatMap (·.rules) ∧
    writtenBlocks (writtenBlocks bs) = writtenBlocks bs := by
  refine ⟨fun b => ?_, ?_, ?_⟩
  · simp only [writtenBlocks, List.mem_filter, Bool.not_eq_eq_eq_not, Bool.not_true, List.isEmpty_eq_false_iff]
  · -- the rule lists of the blocks left out are the empty ones, which `flatten` does not see
    rw [List.flatMap_def, List.flatMap_def, ← List.flatten_filter_not_isEmpty (L := bs.map _), List.filter_map]
    rfl
  · simp [writtenBlocks, List.filter_filter]

/-- A well-formed formula reads back as itself from the text it is written as (`Fml.text` = `get_address_str`; no text node
    for the empty text), so `get_address_str` returns afterwards what it returned before. -/
theorem C06_cf_formula_text (f : Fml) (h : FmlWF f) :
    readFmlKids (if f.text = [] then [] else [Node.text f.text]) {} = .ok f := readFml_written f h

/-- Before fix 0f4b522 the table was searched by a hash of field texts concatenated without separators
    (`internStyKey` with a `key` that drops the separators): the equations show the second rule getting the first
    rule's `dxfId`, which denotes its sibling's style. -/
theorem C06_cf_dxf_hash_unfixed_fails :
    let key : Sty → List Char := fun s => s.filter (· ≠ '|')
    let a := internStyKey key [] "Arial1|1".toList
    let b := internStyKey key a.1 "Arial|11".toList
    b.2 = a.2 ∧ b.1[b.2]? = some "Arial1|1".toList := by decide +kernel

/-- Before fix c319d53 an icon set was written as `<dataBar>` (`ruleKidsOld`): the equation shows it reloading
    as a data bar, the icon set gone. -/
theorem C06_cf_iconset_unfixed_fails :
    readRuleKids (ruleKidsOld { iconSet := some ⟨[⟨some .percent, some ['0']⟩, ⟨some .percent, some ['3', '3']⟩], []⟩ }) {}
      = .ok { dataBar := some ⟨[⟨some .percent, some ['0']⟩, ⟨some .percent, some ['3', '3']⟩], []⟩, iconSet := none } := by
  decide +kernel

/-- Before fix 8f9bb711 a colour without any attribute was not written (`writeScaleOld`): the equation shows the
    colour after it moved up. -/
theorem C06_cf_blank_color_unfixed_fails :
    readScaleKids (Node.children (writeScaleOld "colorScale".toList ⟨[], [{}, { argb := some "FFFF0000".toList }]⟩)) {}
      = .ok ⟨[], [{ argb := some "FFFF0000".toList }]⟩ := by decide +kernel

/-- the same scale through `writeScale`: the colour without attributes keeps its place (`c06 reset codecw cf-blank-color`) -/
example : readScaleKids (Node.children (writeScale "colorScale".toList ⟨[], [{}, { argb := some "FFFF0000".toList }]⟩)) {}
      = .ok ⟨[], [{}, { argb := some "FFFF0000".toList }]⟩ := by decide +kernel

/-- Before fix 13062504 (`setSqrefOld`) the `sqref=""` a block without ranges is written with reloaded as one empty
    range (`"".split(' ')` yields one piece) — the first equation; `get_sqref` is the empty text before and after. -/
theorem C06_cf_empty_sqref_unfixed_fails :
    setSqrefOld [] (sqrefText []) = .ok [{}] ∧ sqrefText [{}] = sqrefText [] := by decide

/-- the same block through `readBlock`: no range (`c06 reset codecw cf-empty-sqref`) -/
example : readBlock ["s".toList] (blockElem [] ⟨[], [{ priority := some 1 }]⟩) = .ok ⟨[], [{ priority := some 1 }]⟩ := by
  decide +kernel

/-- Before fix bc04409f a block without rules was written as an empty element (`blockElem`), which the worksheet
    reader (an `Event::Start` arm) does not see: the equation shows the block gone after reload all the same, and the
    file held an element that is not valid (CT_ConditionalFormatting requires a cfRule). -/
theorem C06_cf_no_rules_unfixed_fails :
    readBlocks [] [blockElem [] ⟨[⟨some ⟨1, false⟩, some ⟨1, false⟩, none, none⟩], []⟩,
                   blockElem [] ⟨[⟨some ⟨2, false⟩, some ⟨2, false⟩, none, none⟩], [{ priority := some 1 }]⟩]
      = .ok [⟨[⟨some ⟨2, false⟩, some ⟨2, false⟩, none, none⟩], [{ priority := some 1 }]⟩] := by decide +kernel

/-- the same blocks through `writeBlocks`: nothing is written for the first (`c06 reset codecw cf-no-rules`) -/
example : (writeBlocks [] [⟨[⟨some ⟨1, false⟩, some ⟨1, false⟩, none, none⟩], []⟩,
                           ⟨[⟨some ⟨2, false⟩, some ⟨2, false⟩, none, none⟩], [{ priority := some 1 }]⟩]).2
      = [blockElem [] ⟨[⟨some ⟨2, false⟩, some ⟨2, false⟩, none, none⟩], [{ priority := some 1 }]⟩] := by rfl

/-- Outside `FmlWF`: a text `is_address` accepts is re-printed from the parsed address (`A01` → `A1`,
    `'S'!A1` → `S!A1`): the same reference in canonical spelling. -/
example : (readFmlKids [Node.text ['A', '0', '1']] {}).bind (fun f => .ok f.text) = .ok ['A', '1'] := by decide +kernel

private theorem areaOK_witness : AreaOK ⟨"It's a".toList, ⟨some ⟨1, true⟩, some ⟨1, true⟩, none, none⟩⟩ := by
  refine ⟨⟨⟨by simp, by simp⟩, by decide +kernel⟩, Or.inl ⟨by simp, by simp, by simp, by simp⟩, ?_⟩
  refine ⟨?_, ?_, ?_, ?_⟩ <;> intro x hx <;> first | (injection hx with hx; subst hx; simp) | cases hx

/-- non-vacuity: two blocks, rules sharing and not sharing styles, a scale, formulas of each kind -/
example : ∀ b ∈ ([⟨[⟨some ⟨1, false⟩, some ⟨1, false⟩, some ⟨3, true⟩, some ⟨1048576, true⟩⟩],
      [{ type := some .cellIs, operator := some .greaterThan, style := some "s1".toList, priority := some 2,
         formula := some ⟨⟨[], {}⟩, some " 1+1 ".toList⟩ },
       { type := some .top10, style := some "s2".toList, priority := some (-1), rank := some 10, percent := some true, bottom := some false },
       { type := some .colorScale, priority := some 3,
         colorScale := some ⟨[⟨some .min, none⟩, ⟨some .max, none⟩], [{ argb := some "FFF8696B".toList }, { theme := some 4, tint := some "0.5".toList }]⟩ }]⟩,
     ⟨[⟨some ⟨16384, false⟩, some ⟨7, false⟩, none, none⟩],
      [{ type := some .expression, style := some "s1".toList, priority := some 1,
         formula := some ⟨⟨"It's a".toList, ⟨some ⟨1, true⟩, some ⟨1, true⟩, none, none⟩⟩, none⟩ }]⟩] : List Block), BlockWF b := by
  intro b hb
  simp only [List.mem_cons, List.mem_nil_iff, or_false] at hb
  rcases hb with rfl | rfl
  · refine ⟨fun ρ hρ => rangesOK_witness ρ (by simp only [List.mem_singleton] at hρ; subst hρ; simp), by simp, ?_⟩
    intro r hr
    simp only [List.mem_cons, List.mem_nil_iff, or_false] at hr
    rcases hr with rfl | rfl | rfl
    · refine ⟨by simp [I32], by simp, by simp, by simp, by simp, by simp, ?_⟩
      intro f hf; injection hf with hf; subst hf
      exact FmlWF.text _ (by simp) (by decide +kernel)
    · exact ⟨by simp [I32], by simp, by simp, by simp, by simp, by simp, by simp⟩
    · refine ⟨by simp [I32], by simp, by simp, ?_, by simp, by simp, by simp⟩
      intro s hs; injection hs with hs; subst hs
      refine ⟨fun c hc => ?_⟩
      simp only [List.mem_cons, List.mem_nil_iff, or_false] at hc
      rcases hc with rfl | rfl
      · exact ⟨by simp, by simp, by simp⟩
      · exact ⟨by simp, by simp, by simp⟩
  · refine ⟨fun ρ hρ => rangesOK_witness ρ (by simp only [List.mem_singleton] at hρ; subst hρ; simp), by simp, ?_⟩
    intro r hr
    simp only [List.mem_singleton] at hr; subst hr
    refine ⟨by simp [I32], by simp, by simp, by simp, by simp, by simp, ?_⟩
    intro f hf; injection hf with hf; subst hf
    exact FmlWF.area _ areaOK_witness

/-- non-vacuity of `BlockOK` beyond `BlockWF`, executed: a block without ranges whose colour scale has a colour
    without attributes between two others, a block without rules, a block with both: the first and the third come
    back, as they were -/
example :
    let bs : List Block := [⟨[],
      [{ type := some .colorScale, priority := some 1,
         colorScale := some ⟨[⟨some .min, none⟩, ⟨some .percentile, some "50".toList⟩, ⟨some .max, none⟩],
           [{ argb := some "FFF8696B".toList }, {}, { theme := some 4 }]⟩ }]⟩,
      ⟨[⟨some ⟨1, false⟩, some ⟨1, false⟩, some ⟨3, true⟩, some ⟨1048576, true⟩⟩], []⟩,
      ⟨[⟨some ⟨16384, false⟩, some ⟨7, false⟩, none, none⟩], [{ style := some "s1".toList, priority := some 2 }]⟩]
    (∀ b ∈ bs, BlockOK b) ∧ writtenBlocks bs = [bs[0], bs[2]] ∧
    readBlocks (writeBlocks [] bs).1 (writeBlocks [] bs).2 = .ok [bs[0], bs[2]] := by
  intro bs
  have hok : ∀ b ∈ bs, BlockOK b := by
    intro b hb
    simp only [bs, List.mem_cons, List.mem_nil_iff, or_false] at hb
    rcases hb with rfl | rfl | rfl
    · refine ⟨fun ρ hρ => by simp at hρ, ?_⟩
      intro r hr
      simp only [List.mem_singleton] at hr; subst hr
      refine ⟨by simp [I32], by simp, by simp, ?_, by simp, by simp, by simp⟩
      intro s hs; injection hs with hs; subst hs
      refine ⟨fun c hc => ?_⟩
      simp only [List.mem_cons, List.mem_nil_iff, or_false] at hc
      rcases hc with rfl | rfl | rfl
      · exact ⟨by simp, by simp, by simp⟩
      · exact ⟨by simp, by simp, by simp⟩
      · exact ⟨by simp, by simp, by simp⟩
    · exact ⟨fun ρ hρ => rangesOK_witness ρ (by simp only [List.mem_singleton] at hρ; subst hρ; simp), fun r hr => by simp at hr⟩
    · refine ⟨fun ρ hρ => rangesOK_witness ρ (by simp only [List.mem_singleton] at hρ; subst hρ; simp), ?_⟩
      intro r hr
      simp only [List.mem_singleton] at hr; subst hr
      exact ⟨by simp [I32], by simp, by simp, by simp, by simp, by simp, by simp⟩
  refine ⟨hok, ?hw, (C06_conditional_formatting_roundtrip [] bs hok (by decide +kernel)).1.trans (congrArg _ ?hw)⟩
  decide +kernel

/-- executed: two blocks whose rules share a style; the second block's rule gets `dxfId` 0 again and reads its own style -/
example :
    let bs : List Block := [⟨[⟨some ⟨1, false⟩, some ⟨1, false⟩, none, none⟩],
      [{ style := some "s1".toList, priority := some 2 }, { style := some "s2".toList, priority := some 1 }]⟩,
      ⟨[⟨some ⟨2, false⟩, some ⟨2, false⟩, none, none⟩], [{ style := some "s1".toList, priority := some 3 }]⟩]
    (writeBlocks [] bs).1 = ["s1".toList, "s2".toList] ∧ readBlocks (writeBlocks [] bs).1 (writeBlocks [] bs).2 = .ok bs := by
  decide +kernel

end Umya.Thm.C06
