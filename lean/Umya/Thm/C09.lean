/-
  C09 — Formula text survives the tokenizer; translation shifts only relative refs.
-/
import Umya.Lemmas.FormulaAdjust
import Umya.Lemmas.Passes
import Umya.Lemmas.CleanAst
import Umya.Lemmas.TablesGen
import Umya.Lemmas.FormulaGen
namespace Umya.Thm.C09
open Umya.Coord Umya.Dec Umya.Formula

inductive Fuel (α : Type) where
  | done : α → Fuel α
  | outOfFuel : Fuel α
  deriving Repr, DecidableEq

/-- The main `while index < formula_length` loop of the FIXED code, one unit of fuel per
    iteration: every iteration consumes the character it looks at (`step`). -/
def lexFuel : Nat → List Char → LexSt → Fuel LexSt
  | _, [], st => .done st
  | 0, _ :: _, _ => .outOfFuel
  | f + 1, c :: r, st => lexFuel f r (step st c)

/-- The same loop for the UNCHANGED code: in the `in_range` branch the statement `index;` stands
    where `index += 1;` was meant, so that iteration does not consume its character. -/
def lexFuelOld : Nat → List Char → LexSt → Fuel LexSt
  | _, [], st => .done st
  | 0, _ :: _, _ => .outOfFuel
  | f + 1, c :: r, st =>
    if st.mode = .range then lexFuelOld f (c :: r) (step st c)
    else lexFuelOld f r (step st c)

theorem lexFuel_eq (fuel : Nat) (s : List Char) (st : LexSt) (h : s.length ≤ fuel) :
    lexFuel fuel s st = .done (s.foldl step st) := by
  induction s generalizing fuel st with
  | nil => cases fuel <;> rfl
  | cons c r ih =>
    cases fuel with
    | zero => simp at h
    | succ f => simp only [lexFuel, List.foldl_cons]; exact ih f _ (by simpa using h)

/-- The loop of the fixed code as `lexFuel` models it needs `|s|` iterations on every input, and its result
    is the plain fold `lexRun`.  That every iteration consumes its character is read off the code into the
    definition of `lexFuel`; what is proved is that a loop of that shape ends. -/
theorem C09_terminates (s : List Char) (fuel : Nat) (h : s.length ≤ fuel) :
    lexFuel fuel s {} ≠ .outOfFuel ∧ lexFuel fuel s {} = .done (lexRun s) := by
  rw [lexFuel_eq fuel s {} h]
  exact ⟨by simp, rfl⟩

theorem lexFuelOld_stuck (fuel : Nat) (st : LexSt) (h : st.mode = .range) :
    lexFuelOld fuel ['a'] st = .outOfFuel := by
  induction fuel generalizing st with
  | zero => rfl
  | succ f ih =>
    simp only [lexFuelOld, h, if_true]
    apply ih
    simp [step, h]

/-- The unchanged code does not terminate on `=[a` (e.g. any structured reference
    `=Table1[Col]`): no amount of fuel is enough. -/
theorem C09_terminates_fails : ¬ ∀ s : List Char, ∃ fuel, lexFuelOld fuel s {} ≠ .outOfFuel := by
  intro h
  obtain ⟨fuel, hf⟩ := h ['[', 'a']
  apply hf
  cases fuel with
  | zero => rfl
  | succ f =>
    have : (step {} '[').mode = .range := by decide
    simp only [lexFuelOld]
    rw [if_neg (by decide)]
    exact lexFuelOld_stuck f _ this

-- the hypothesis of `C09_terminates` for `SUM(A1)` and fuel 7
example : (['S', 'U', 'M', '(', 'A', '1', ')'] : List Char).length ≤ 7 := by decide

/-- By induction on the characters, for every state and every input: as long as the
    machine has not panicked, what it has consumed is exactly what its tokens render to plus the
    pending accumulator, where each consumed character contributes itself — except a blank that
    directly follows a blank outside literals (skipped), and the three characters `)` `;` `}` that
    pop the token stack: they contribute what the popped tokens close with (`emitNormal`), which is
    the character itself exactly when `)` closes a parenthesis and `;` / `}` stand directly inside
    the braces of an array constant (`stepNormal_run`; fix f50ad32: the `ARRAY` / `ARRAYROW` pseudo
    functions render as `{` `;` `}`). -/
theorem C09_lex_invariant (s : List Char) (st : LexSt) (hi : Inv st)
    (hnd : (s.foldl step st).mode ≠ .dead) :
    out (s.foldl step st) = out st ++ echo st s ∧ Inv (s.foldl step st) :=
  lex_out s st hi hnd

/-- Pass 1 as a whole: for input that does not end inside a string literal, the pass-1 tokens
    render to the echo of the input. -/
theorem C09_lex1_render (s : List Char) (toks : List Tok) (lv : List Char)
    (h : lex1 s = .ok (toks, lv)) (hclosed : (lexRun s).mode ≠ .str) :
    render1 toks = echo {} s := by
  by_cases hd : (lexRun s).mode = .dead
  · simp [lex1, hd] at h
  · rw [lex1_eq s hd] at h
    injection h with h; injection h with h1 _
    obtain ⟨ho, hi⟩ := lex_out s {} inv_init hd
    rw [← h1, finish_render (lexRun s) hi hclosed]
    have : out ({} : LexSt) = [] := rfl
    rw [this, List.nil_append] at ho
    exact ho

/-- On every input accepted by the independent scanner `Spec.Clean` (closed string
    literals / quoted names / brackets / error literals, balanced and properly nested parentheses
    and braces, commas only inside them, semicolons only directly inside braces — array constants
    included) the tokenizer returns a token list — no `unwrap` on an empty
    stack in pass 1, no `nth(0).unwrap()` in pass 3. -/
theorem C09_no_panic (s : List Char) (h : Spec.Clean s = true) : ∃ toks, parse ('=' :: s) = .ok toks := by
  cases s with
  | nil => exact ⟨[], rfl⟩
  | cons c r =>
    obtain ⟨toks, lv, hl, hall, _, _⟩ := clean_lex1 (c :: r) h
    simp only [parse, hl, pass3, pass2]
    exact pass3Go_ok _ none (pass2_ok1 toks none lv hall)

/-- PARTIAL.  Full statement wanted: for every `Clean s`, with `t := parse ('=' :: s)`:
    `BlankErasure s (render t)` and `parse ('=' :: render t) = t`.
    Proved: the first half — the rendered text is the input with some blanks deleted and nothing
    else changed: every other character (of string literals, sheet qualifiers, names, numbers,
    references, operators, the braces, commas and semicolons of an array constant) is there, in order.
    `BlankErasure` does not say WHERE the deleted blanks stood; that none goes missing inside a
    literal is what `C09_lex_invariant` adds (`emit` is the character itself in the literal modes),
    it is not part of this statement.  For every non-empty `Clean s` (array constants included since fix
    f50ad32), under one explicit side condition on the pass-1 output: no function name starts with
    `@` (pass 3 strips it: `=@SUM(A1)` loses the `@`).
    The second half (re-tokenising the result gives the same tokens) is proved on printed
    expressions only: `C09_identity_print` (`Umya/Thm/C09Lex.lean`); for arbitrary clean text it is
    left to the harness oracle. -/
theorem C09_identity_partial (s : List Char) (h : Spec.Clean s = true) (hne : s ≠ [])
    (toks1 : List Tok) (lv : List Char) (hl : lex1 s = .ok (toks1, lv))
    (hat : ∀ t ∈ toks1, t.ty = .function → t.val.head? ≠ some '@') :
    ∃ toks, parse ('=' :: s) = .ok toks ∧ BlankErasure s (render toks) := by
  obtain ⟨toks, hp⟩ := C09_no_panic s h
  refine ⟨toks, hp, ?_⟩
  obtain ⟨_, _, hl', hall, hlv, he⟩ := clean_lex1 s h
  cases hl.symm.trans hl'
  cases s with
  | nil => exact absurd rfl hne
  | cons c r =>
    simp only [parse, hl, pass3, pass2] at hp
    rw [pass3Go_render none (pass2_stable hall hat hlv) hp]
    exact he.trans (pass2_erasure toks1 none lv)

/-- PARTIAL.  Full statement wanted: `Spec.Clean e.print` for every
    expression of the grammar.  Proved for every expression (unbounded depth: operators, unary
    signs, percent, nested calls with empty arguments, unions, intersections, parentheses, string
    literals with any content, error literals, names, numbers, well-formed references with quoted
    or plain qualifiers, array constants `{a,b;c,d}` of numbers / negative numbers / strings /
    booleans / error literals with any number of rows and elements) WITHOUT opaque atoms:
    structured / unquoted external references are covered only by the `clean` requests of the
    correspondence stream. -/
theorem C09_clean_partial (e : Spec.Expr) (h : e.Lexical) : Spec.Clean e.print = true := by
  obtain ⟨m, h1, h2⟩ := Spec.scan_expr e h []
  simp [Spec.Clean, Spec.scan, h1, h2]

/-- hence the tokenizer never panics on a printed expression of that grammar -/
theorem C09_no_panic_ast (e : Spec.Expr) (h : e.Lexical) : ∃ toks, parse ('=' :: e.print) = .ok toks :=
  C09_no_panic e.print (C09_clean_partial e h)

/-- `IF(A1>=2,"a""b",'My Sheet'!$B$2)` and `SUM({1,-2;"a;b",#N/A}*A1:B2)` are accepted by the
    scanner; `A1,B1`, `{1`, `1;2`, `(1}` and `SUM(1;2)` are not -/
example : Spec.Clean ['I', 'F', '(', 'A', '1', '>', '=', '2', ',', '"', 'a', '"', '"', 'b', '"', ',', '\'', 'M', 'y', ' ',
    'S', '\'', '!', '$', 'B', '$', '2', ')'] = true ∧ Spec.Clean ['A', '1', ',', 'B', '1'] = false ∧
    Spec.Clean "SUM({1,-2;\"a;b\",#N/A}*A1:B2)".toList = true ∧
    Spec.Clean ['{', '1'] = false ∧ Spec.Clean ['1', ';', '2'] = false ∧ Spec.Clean ['(', '1', '}'] = false ∧
    Spec.Clean "SUM(1;2)".toList = false := by
  simp only [toList_lit]
  decide +kernel

/-- Array constants (fix f50ad32): the model of the repaired
    code renders `SUM({1,-2;"a;b",#N/A}*A1:B2)` character for character, a blank inside the braces
    disappears and nothing else, and a function that is literally called `ARRAY` is a function. -/
example :
    (parse "=SUM({1,-2;\"a;b\",#N/A}*A1:B2)".toList).bind (fun t => .ok (render t)) = .ok "SUM({1,-2;\"a;b\",#N/A}*A1:B2)".toList ∧
    (parse "={1, 2; 3}".toList).bind (fun t => .ok (render t)) = .ok "{1,2;3}".toList ∧
    (parse "=ARRAY(ARRAYROW(1,2))".toList).bind (fun t => .ok (render t)) = .ok "ARRAY(ARRAYROW(1,2))".toList := by
  simp only [toList_lit]
  decide +kernel

/-- the array constant of the witness as an expression of the grammar: it is `Lexical`, so
    `C09_clean_partial` / `C09_no_panic_ast` / `C09_identity_partial` apply to it -/
example : (Spec.Expr.array [[.num false ['1'], .num true ['2']], [.str ['a', ';', 'b'], .err .na]]).Lexical ∧
    (Spec.Expr.array [[.num false ['1'], .num true ['2']], [.str ['a', ';', 'b'], .err .na]]).print
      = "{1,-2;\"a;b\",#N/A}".toList := by
  refine ⟨?_, by simp only [toList_lit]; decide +kernel⟩
  intro r hr c hc
  simp at hr
  rcases hr with hr | hr <;> subst hr <;> simp at hc <;> rcases hc with hc | hc <;> subst hc <;>
    simp [Spec.Const.Lexical, Spec.plainText, Spec.isPlainChar]

-- the hypothesis `Inv st` of `C09_lex_invariant` holds of the initial state
example : Inv {} := inv_init

/-- For every well-formed reference — a cell, a cell range,
    whole columns or whole rows, any combination of `$` flags, every column 1..16384 and row
    1..1048576, unqualified or qualified by any (possibly quoted, possibly containing apostrophes,
    blanks, `!`) sheet name — and every offset `(dc, dr)`, the code's translation of the token
    that the reference lexes to is the token of `Spec.translateRef`: `dc`/`dr` added to exactly the
    non-`$` parts, `#REF!` when a part leaves the grid, the qualifier untouched; never a panic. -/
theorem C09_translate_ref (r : Spec.CRef) (hw : r.WF) (dc dr : Int) :
    translateTok dc dr (refTok r) = .ok (exprTok (Spec.translateRef r dc dr)) :=
  (tokMap_translate dc dr).ref r hw

/-- Tokens that are not Range operands (strings, numbers, names of functions, operators, error
    literals, blanks) are returned unchanged by the translation, for every token. -/
theorem C09_translate_nonref (t : Tok) (h : isRangeOperand t = false) (dc dr : Int) :
    translateTok dc dr t = .ok t :=
  (tokMap_translate dc dr).other t h

/-- a token as the token-list theorems see it: any token that is not a Range operand, or the token
    of a well-formed reference -/
inductive SpecTok where
  | other (t : Tok) (h : isRangeOperand t = false)
  | ref (r : Spec.CRef) (hw : r.WF)

def SpecTok.tok : SpecTok → Tok
  | .other t _ => t
  | .ref r _ => refTok r

def SpecTok.translated (dc dr : Int) : SpecTok → Tok
  | .other t _ => t
  | .ref r _ => exprTok (Spec.translateRef r dc dr)

/-- any token-wise adjuster on such a token list; `out` is the caller's name for the `match` of `ho`, as
    `SpecTok.translated` is for the translation -/
theorem SpecTok.mapRes {g : Tok → Res Tok} {F : Spec.CRef → Spec.Expr} (M : TokMap g F) (out : SpecTok → Tok)
    (ho : ∀ a, out a = match a with | .other t _ => t | .ref r _ => exprTok (F r)) (l : List SpecTok) :
    Umya.Formula.mapRes g (l.map SpecTok.tok) = .ok (l.map out) :=
  mapRes_map_ok _ _ _ l fun a _ => by
    rw [ho]
    cases a with
    | other t h => exact M.other t h
    | ref r hw => exact M.ref r hw

/-- If a formula's token list consists of arbitrary non-reference
    tokens and of reference tokens of well-formed references, `adjustment_formula_coordinate` maps
    it token by token as the Spec says.  That `parse ('=' :: e.print)` is such a token list, and the
    whole-text statement `setCoordinate e.print dc dr = .ok (Spec.translate e dc dr).print`, are
    `C09_lex_print` and `C09_translate_text` (`Umya/Thm/C09Lex.lean`, on the fragment `LexOk`). -/
theorem C09_translate_partial (l : List SpecTok) (dc dr : Int) :
    adjustFormulaCoordinate (l.map SpecTok.tok) dc dr = .ok (l.map (SpecTok.translated dc dr)) :=
  SpecTok.mapRes (tokMap_translate dc dr) _ (fun a => by cases a <;> rfl) l

/-- `'It''s'!$B3:XFD$1048576`, a well-formed reference (`exampleRef_wf`) -/
def exampleRef : Spec.CRef :=
  ⟨some ⟨['I', 't', '\'', 's'], true⟩, .two ⟨some ⟨2, true⟩, some ⟨3, false⟩⟩ ⟨some ⟨16384, false⟩, some ⟨1048576, true⟩⟩⟩

theorem exampleRef_wf : exampleRef.WF := by
  refine ⟨⟨Or.inl ⟨rfl, rfl, rfl, rfl⟩, ⟨?_, ?_⟩, ⟨?_, ?_⟩, ?_, ?_⟩, ?_⟩
  all_goals (try (intro x hx; injection hx with hx; subst hx; simp [Spec.maxCol, Spec.maxRow]))
  · intro x y hx hy; injection hx with hx; injection hy with hy; subst hx; subst hy; decide
  · intro x y hx hy; injection hx with hx; injection hy with hy; subst hx; subst hy; decide
  · intro q hq; injection hq with hq; subst hq; exact ⟨by simp, by intro h; cases h⟩

/-- `Lexical` holds of `SUM('It''s'!$B3:XFD$1048576,"a""b",,-1%)` -/
example : (Spec.Expr.call ['S', 'U', 'M'] (.cons (.ref exampleRef) (.cons (.str ['a', '"', 'b'])
    (.skip (.cons (.neg (.pct (.num ['1']))) .nil))))).Lexical := by
  refine ⟨by decide, ⟨exampleRef_wf, ?_⟩, trivial, (by simp [Spec.Expr.Lexical, Spec.plainText, Spec.isPlainChar]), trivial⟩
  intro q hq hquoted
  injection hq with hq; subst hq; cases hquoted

example : exampleRef.WF ∧ exampleRef.text = "'It''s'!$B3:XFD$1048576".toList := by
  exact ⟨exampleRef_wf, by simp only [toList_lit]; decide +kernel⟩

/-- **Tie to the source (T).**  The error-literal table of the tokenizer model is `ERRORS` of
    helper/formula.rs as regenerated from the source. -/
theorem C09_tables_match_source : Umya.Gen.formula_errors.map String.toList = Umya.Formula.errors :=
  Umya.Gen.gen_formula_errors

/-- **Tie to the source (T).**  `translate_part` (a column / row part moved by an offset unless locked; `None`
    when it leaves `1..=max`) and the grid limits `MAX_COLUMN_NUM` / `MAX_ROW_NUM` of helper/formula.rs, as
    regenerated from the source, are the model's `translatePart`, `maxCol`, `maxRow`. -/
theorem C09_kernels_match_source (p : Umya.Formula.Part) (d : Int) (max : Nat) :
    (Umya.Gen.translate_part ((p.1 : Int), p.2) d max).map (fun q => (q.1.toNat, q.2)) = Umya.Formula.translatePart p d max ∧
    Umya.Gen.max_column_num = Umya.Formula.maxCol ∧ Umya.Gen.max_row_num = Umya.Formula.maxRow :=
  ⟨Umya.Gen.gen_translate_part p d max, Umya.Gen.gen_grid_limits.1, Umya.Gen.gen_grid_limits.2⟩

end Umya.Thm.C09
