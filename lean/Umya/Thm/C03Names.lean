/-
  C03 at workbook level: what `Umya/Thm/C03Sheet.lean` states on texts, here through the
  library's own value types, and the whole workbook composed from the parts.

  Model: `Umya/Model/ReaderBook.lean` (merged ranges through `Range::set_range` / `get_range`, defined names through
  `set_address` / `get_address`, the re-homing loop of reader/xlsx/workbook.rs, `join_paths`, table parts).

  Where a name is found after loading (`C03_names_home`) is the scope of the standard for a name with `localSheetId`; for a
  name without, the sheet of its FIRST area is the library's convention, compared with the implementation through the
  model (`c03 model`).
-/
import Umya.Lemmas.ReaderNames
import Umya.Lemmas.ReaderNamesAny
import Umya.Lemmas.ReaderPath
import Umya.Lemmas.ReaderWhole
import Umya.Thm.C03Sheet
import Umya.Thm.C03Book
namespace Umya.Thm.C03
open Umya.Reader Umya.Reader.Lemmas Umya.Spec.Xml Umya.Spec.Sml Umya.Coord
open Umya.Annot (DefName Address AreaOK splitStr isAddress canonText canonArea nameTextAnyB canonNameTextB canonAreaB)

section Merges

/-- For every list of `<mergeCell>` elements whose `ref` is the A1 text of a range (`MergeRefOk`: a
    cell, cell:cell, whole rows or whole columns, `$` allowed, columns ≤ ZZZ, rows < 2^32 — any number of them) the model of
    `MergeCells::set_attributes` (`get_attribute(ref).unwrap()`, `Range::set_range` on a default range) does not panic, and
    `get_merge_cells()` shows, range by range through `Range::get_range`, exactly the `ref` texts — which are the decoder's
    `merges` (`C03_merges_is_decodeSheet`).  From `Range.parse_print` of `Lemmas/CoordRange`, of which `C17_range` is the
    statement as a property. -/
theorem C03_merges (ms : List Node) (h : ∀ m ∈ ms, ∃ v, m.attr? "ref".toList = some v ∧ MergeRefOk v) :
    ∃ rs, readMergeRanges ms = some rs ∧ shownMerges rs = ms.filterMap (·.attr? "ref".toList) := by
  obtain ⟨rs, hrs, hshown⟩ := mapM_view (fun m => (m.attr? "ref".toList).bind fun v => resOpt (Range.parse v))
    (some ∘ Range.print) (·.attr? "ref".toList) ms fun m hm => by
      obtain ⟨v, hv, hok⟩ := h m hm
      obtain ⟨ρ, hp, hpr⟩ := mergeRange_ok v hok
      exact ⟨ρ, by rw [hv, Option.bind_some, hp]; rfl, by rw [hv, Function.comp, hpr]⟩
  refine ⟨rs, hrs, (filterMap_of_map_some _ ms _ ?_).symm⟩
  rw [← hshown, shownMerges, List.map_map]

/-- non-vacuity (edge 14 / edge 13): a block, a block reaching the last column, a block reaching the last row, `$` locks,
    whole columns -/
example :
    let ms : List Node := ["A5:B6", "C5:XFD7", "A9:A1048576", "$B$2:C$3", "A:C"].map fun r =>
      Node.elem "mergeCell".toList [⟨"ref".toList, r.toList⟩] []
    (∀ m ∈ ms, ∃ v, m.attr? "ref".toList = some v ∧ MergeRefOk v) ∧
    (readMergeRanges ms).map shownMerges =
      some ["A5:B6".toList, "C5:XFD7".toList, "A9:A1048576".toList, "$B$2:C$3".toList, "A:C".toList] := by
  simp only [List.map_cons, List.map_nil, toList_lit]
  refine ⟨?_, by decide +kernel⟩
  intro m hm
  simp only [List.mem_cons, List.not_mem_nil, or_false] at hm
  rcases hm with rfl | rfl | rfl | rfl | rfl
  all_goals exact ⟨_, rfl, mergeRefOkB_sound _ (by decide +kernel)⟩

/-- what is outside `MergeRefOk`: a lower-case reference does not match the coordinate pattern (the range stays empty and
    prints as the empty text), a row with a leading zero is printed without it, `set_range` panics on a text with two colons -/
example : (resOpt (Range.parse "a1:b2".toList)).map Range.print = some [] ∧
    (resOpt (Range.parse "A01".toList)).map Range.print = some "A1".toList ∧
    resOpt (Range.parse "A1:B2:C3".toList) = none := by
  simp only [toList_lit]
  decide +kernel

/-- A `ref` text satisfies `MergeRefOk` exactly when it is in the decidable
    grammar `canonRangeB` (`Umya/Model/CoordCanon.lean`): `cell`, `cell:cell`, `col:col` or `row:row`, every part
    `\$?[A-Z]{1,3}` / `\$?(0|[1-9][0-9]*)` with the row below 2^32.  From `canonRange_print` / `canonRange_spec` of `Lemmas/CoordParse`, the two halves of
    `C17_range_bijection`. -/
theorem C03_merge_ref_grammar (v : Text) : MergeRefOk v ↔ canonRangeB v = true := by
  constructor
  · rintro ⟨ρ, hs, hb, rfl⟩
    exact canonRange_print ρ hs hb
  · intro h
    obtain ⟨ρ, hs, hb, e⟩ := canonRange_spec v h
    exact ⟨ρ, hs, hb, e⟩

/-- `C03_merges` for EVERY list of `<mergeCell>` elements whose `ref` is
    a canonical A1 text (`canonRangeB`, evaluated per file by the driver: `merges-canon`): the reader does not panic and
    `get_range()` shows exactly the file's texts.  What `C17_range_parse_print` says of the codec, said of the reader. -/
theorem C03_merges_canonical (ms : List Node) (h : ∀ m ∈ ms, ∃ v, m.attr? "ref".toList = some v ∧ canonRangeB v = true) :
    ∃ rs, readMergeRanges ms = some rs ∧ shownMerges rs = ms.filterMap (·.attr? "ref".toList) :=
  C03_merges ms (fun m hm => by
    obtain ⟨v, hv, hc⟩ := h m hm
    exact ⟨v, hv, (C03_merge_ref_grammar v).2 hc⟩)

/-- non-vacuity; and what stays outside the grammar (the witnesses of the example above): lower case, a leading zero -/
example : (["A5:B6", "C5:XFD7", "$B$2:C$3", "A:C", "2:$3", "D4"].map fun r => canonRangeB r.toList) =
      [true, true, true, true, true, true] ∧
    (["a1:b2", "A01", "A1:B2:C3", "A1:", "", "AAAA1", "A4294967296"].map fun r => canonRangeB r.toList) =
      [false, false, false, false, false, false, false] := by
  simp only [List.map_cons, List.map_nil, toList_lit]
  decide +kernel

end Merges

section Names

/-- what the decoder delivers for a name, on the model's side: `get_name()`, `localSheetId`, `get_address()` -/
def nameViewB (n : NameB) : NameV := NameV.mk n.name n.localSheetId n.body.text

/-- the decoder's name with its text as the library SHOWS it: every sheet qualifier of an area list re-quoted by the
    library's rule (`canonText`), name and scope untouched -/
def canonNameV (n : NameV) : NameV := NameV.mk n.name n.scope (canonText n.text)

/-- `C03_defined_names` under the weaker hypothesis `nameTextAnyB` on the text
    (decidable; evaluated per file by the driver: `names-any-ok`): anything that is NOT a plain list of cell areas (kept
    as it stands), or a list `area,area,…` where every area is `qualifier!cell` or `qualifier!cell:cell` in ANY canonical
    spelling — the qualifier unquoted (a legal sheet name without `' ( ) " ,`: `Sheet1!$A$1`, as Excel writes it) or in
    apostrophes with every apostrophe doubled (`'It''s'!$A$1`), the cells with or without `$`, rows without leading
    zeros.  The reader model does not panic and `get_name()`, `get_local_sheet_id()`, `get_address()` show the decoder's
    name and scope, and the decoder's text RE-QUOTED: `canonText` — the same cells, every qualifier in apostrophes unless
    the name is `[0-9a-zA-Z]+` starting with a lower-case letter (or a digit run ≥ 2^32): `C17_quote_rule` of `Thm/C17Parse`.
    So for the file text `Sheet1!$A$1` the library shows `'Sheet1'!$A$1` (and so does the implementation).
    That `canonText` keeps the MEANING is `C03_canon_text_meaning`. -/
theorem C03_defined_names_any_spelling (ds : List Node) (h : ds.all validDefinedName = true)
    (ht : ∀ d ∈ ds, nameTextAnyB d.ownText = true) :
    ∃ l, readDefinedNamesB ds = some l ∧ l.map nameViewB = ds.map (fun d => canonNameV (specName d)) :=
  mapM_view readDefinedNameB nameViewB (fun d => canonNameV (specName d)) ds fun d hd => by
    obtain ⟨n, hn, h1, h2, h3⟩ := definedNameB_agrees_any d (List.all_eq_true.mp h d hd) (ht d hd)
    exact ⟨n, hn, by simp only [nameViewB, canonNameV, h1, h2, h3]⟩

/-- the hypothesis of `C03_defined_names` is inside the wider one, and `canonText` is the identity there -/
theorem C03_canon_text_library_spelling (v : Text) (h : NameTextOk v) : nameTextAnyB v = true ∧ canonText v = v := by
  rcases h with h | ⟨as, has, rfl⟩
  · exact ⟨by simp [nameTextAnyB, h], by simp [canonText, h]⟩
  · exact ⟨by simp [nameTextAnyB, Umya.Annot.canonNameText_text as has], Umya.Annot.canonText_text as has⟩

/-- For every list of `<definedName>` elements with `validDefinedName` (`localSheetId` an unsigned
    decimal fitting `u32`; content character data without blanks at its ends) whose text is `NameTextOk` — anything that is
    NOT a plain list of cell areas (formulas, constants, whole rows / columns, lists with such parts: kept as text, in
    whatever spelling), or a list of areas in the spelling `get_address_ptn2` prints (`'Data'!$A$1,'S 2'!$B$2:$C$3`: the
    sheet name in apostrophes unless it is `[0-9a-zA-Z]*` starting with a lower-case letter or with a digit run ≥ 2^32
    (`C17_quote_rule`), `''` for an apostrophe) — the model
    of `DefinedName::set_attributes` INCLUDING `set_address` (split at top-level commas, `is_address`, `add_address`,
    `Address::set_address`, `Range::set_range`) does not panic, and the getters `get_name()`, `get_local_sheet_id()`,
    `get_address()` (the text, or the areas printed by `get_address_ptn2` and joined with `,`) show exactly the decoder's
    name, scope and text, name by name in document order.
    The name is what `get_attribute` returns (`C03_attr`: unescaped), the text what `unescape_text` returns (`C03_text`).
    From `setAddress_text` / `setAddress_kept` of `Lemmas/AnnotNames`, of which `C06_defined_name_roundtrip` /
    `C06_defined_name_text_kept` are the statements as properties.
    Outside `NameTextOk`: an area list in ANOTHER spelling of the same references — `Sheet1!$A$1`, as Excel writes a plain
    sheet name: the library prints `'Sheet1'!$A$1` (its quoting rule `index_from_coordinate(name) != None` is an
    unanchored pattern that finds a column letter in almost every name).  Those texts are the subject of
    `C03_defined_names_any_spelling`. -/
theorem C03_defined_names (ds : List Node) (h : ds.all validDefinedName = true) (ht : ∀ d ∈ ds, NameTextOk d.ownText) :
    ∃ l, readDefinedNamesB ds = some l ∧ l.map nameViewB = ds.map specName := by
  obtain ⟨l, hl, hv⟩ := C03_defined_names_any_spelling ds h fun d hd => (C03_canon_text_library_spelling _ (ht d hd)).1
  refine ⟨l, hl, hv.trans (List.map_congr_left fun d hd => ?_)⟩
  show NameV.mk _ _ (canonText d.ownText) = specName d
  rw [(C03_canon_text_library_spelling _ (ht d hd)).2]
  rfl

/-- For every name text of the wider grammar: reading the
    re-quoted text gives the SAME `DefinedName` (same areas: sheets, corners, locks, order — or the same kept text) as
    reading the file's text; re-quoting twice is re-quoting once; and on the texts of `C03_defined_names` (`NameTextOk`: the
    library's own spelling) it is the identity, so `C03_defined_names` is the special case. -/
theorem C03_canon_text_meaning (v : Text) (h : nameTextAnyB v = true) :
    DefName.setAddress {} (canonText v) = DefName.setAddress {} v ∧ canonText (canonText v) = canonText v := by
  obtain ⟨b, h1, _, h3, h4⟩ := setAddress_any v h
  exact ⟨by rw [h1, h3], h4⟩

/-- non-vacuity (Excel's spelling, the library's, quotes that are not needed, an apostrophe, a list in mixed spelling, a
    formula, whole columns) and what is outside `nameTextAnyB`: a row with a leading zero (`set_address` reads it, `get_address`
    prints it without the zero), an unqualified area -/
example :
    (["Sheet1!$A$1", "'Sheet1'!$A$1", "'data'!A1:B2", "'It''s'!$A$1", "Sheet1!$A$1:$B$2,'S 2'!C3,data!D4", "SUM(Sheet1!A1:A2)",
      "Sheet1!$A:$B", ""].map fun t => (nameTextAnyB t.toList, String.ofList (canonText t.toList))) =
      [(true, "'Sheet1'!$A$1"), (true, "'Sheet1'!$A$1"), (true, "data!A1:B2"), (true, "'It''s'!$A$1"),
       (true, "'Sheet1'!$A$1:$B$2,'S 2'!C3,data!D4"), (true, "SUM(Sheet1!A1:A2)"), (true, "Sheet1!$A:$B"), (true, "")] ∧
    nameTextAnyB "Sheet1!$A$01".toList = false ∧ nameTextAnyB "$A$1".toList = false ∧
    ((readDefinedNamesB [Node.elem "definedName".toList [⟨"name".toList, "X".toList⟩]
        [.text "Sheet1!$A$1:$B$2,data!D4".toList]]).map fun l => l.map fun n => String.ofList n.body.text) =
      some ["'Sheet1'!$A$1:$B$2,data!D4"] := by
  simp only [List.map_cons, List.map_nil, toList_lit]
  decide +kernel

/-- … and for a name that IS an area list the areas the library holds (what `get_address_obj()` shows, what the re-homing
    looks at) are the areas written: same sheets, corners, locks, order -/
theorem C03_defined_name_areas (as : List Address) (h : ∀ a ∈ as, AreaOK a) :
    DefName.setAddress {} (DefName.text { areas := as }) = .ok { areas := as } := Umya.Annot.setAddress_text as h

end Names

section Home

/-- For every sheet list and every list of names as `set_attributes` left them, with
    every `localSheetId` inside the sheet list (the decoder reports a file where one is not as outside the domain; the
    library panics on it: `get_sheet_mut(..).unwrap()`), the re-homing loop of reader/xlsx/workbook.rs does not panic, keeps
    every name exactly once and in document order (`l.map (·.1) = names`), and puts
      * a name WITH `localSheetId = i` into the list of sheet `i` — its scope by ECMA-376 18.2.5, whatever sheet its areas
        are on (this half is also compared with the independent decoder per file);
      * a name WITHOUT `localSheetId` (workbook scope in the standard; WHICH list holds it is the library's API convention
        and is compared with the implementation through this model, `c03 model`): into the workbook's list when it has no
        areas (text / formula body) or when no sheet carries the sheet name of its FIRST area; else into the list of the
        FIRST sheet of that name.  Later areas play no role. -/
theorem C03_names_home (sheets : List SheetR) (names : List NameB)
    (h : ∀ n ∈ names, ∀ i, n.localSheetId = some i → i < sheets.length) :
    ∃ l, rehome sheets names = some l ∧ l.map (·.1) = names ∧
      (∀ p ∈ l, ∀ i, p.1.localSheetId = some i → p.2 = .sheet i) ∧
      (∀ p ∈ l, p.1.localSheetId = none → p.1.body.areas = [] → p.2 = .book) ∧
      (∀ p ∈ l, p.1.localSheetId = none → ∀ a rest, p.1.body.areas = a :: rest →
        (p.2 = .book ∧ ∀ s ∈ sheets, s.name ≠ a.sheet) ∨
        (∃ k, ∃ hk : k < sheets.length, p.2 = .sheet k ∧ sheets[k].name = a.sheet ∧
          ∀ j (hj : j < k), (sheets[j]'(Nat.lt_trans hj hk)).name ≠ a.sheet)) := by
  obtain ⟨l, hl, hm, hh⟩ := rehome_spec sheets names h
  refine ⟨l, hl, hm, ?_, ?_, ?_⟩
  · intro p hp i hi
    have := hh p hp
    have hmem : p.1 ∈ names := by rw [← hm]; exact List.mem_map_of_mem hp
    unfold homeOf at this
    simp only [hi, h p.1 hmem i hi, if_true, Option.some.injEq] at this
    exact this.symm
  · intro p hp hn ha
    have := hh p hp
    unfold homeOf at this
    simp only [hn, ha, List.head?_nil, Option.some.injEq] at this
    exact this.symm
  · intro p hp hn a rest ha
    have := hh p hp
    unfold homeOf at this
    simp only [hn, ha, List.head?_cons] at this
    cases hf : sheets.findIdx? (fun s => decide (s.name = a.sheet)) with
    | none =>
      rw [hf] at this
      simp only [Option.some.injEq] at this
      left
      refine ⟨this.symm, ?_⟩
      intro s hs
      have := List.findIdx?_eq_none_iff.mp hf s hs
      simpa using this
    | some k =>
      rw [hf] at this
      simp only [Option.some.injEq] at this
      right
      obtain ⟨hk, hpk, hlt⟩ := List.findIdx?_eq_some_iff_getElem.mp hf
      refine ⟨k, hk, this.symm, by simpa using hpk, ?_⟩
      intro j hj
      have := hlt j hj
      simpa using this

/-- the sheets `Data`, `S 2`, `T&U` of edge 14 -/
def exampleSheets : List SheetR :=
  [⟨"Data".toList, "1".toList, "rId1".toList, none⟩, ⟨"S 2".toList, "2".toList, "rId2".toList, none⟩,
   ⟨"T&U".toList, "3".toList, "rId3".toList, none⟩]

def dnE (name : String) (lsid : Option String) (text : String) : Node :=
  .elem "definedName".toList
    (⟨"name".toList, name.toList⟩ :: (match lsid with | some v => [⟨"localSheetId".toList, v.toList⟩] | none => []))
    [.text text.toList]

/-- the `<definedName>` elements of edge 14 -/
def exampleNames : List Node :=
  [dnE "Loc" (some "2") "'Data'!$A$1", dnE "First" none "'S 2'!$A$1:$B$2,'Data'!$C$3", dnE "Amp" none "'T&U'!$A$1",
   dnE "P&L" none "SUM(Data!$A$1:$A$5)-'S 2'!$B$1", dnE "Txt" none "\"a,b\"", dnE "Gone" none "'Gone'!$A$1",
   dnE "Rows" (some "0") "Data!$1:$2"]

/-- non-vacuity and meaning (edge 14): `Loc` lives on sheet 2 (its scope) although its area is on `Data`; `First` on sheet 1
    (its FIRST area; the last one is on sheet 0); `Amp` on sheet 2; the formula, the constant and the name of a missing
    sheet stay in the workbook's list; `Rows` (whole rows: text) on sheet 0 by its scope -/
example :
    exampleNames.all validDefinedName = true ∧ (∀ d ∈ exampleNames, NameTextOk d.ownText) ∧
    ((readDefinedNamesB exampleNames).bind (rehome exampleSheets)).map (·.map fun p => (String.ofList p.1.name, p.2)) =
      some [("Loc", .sheet 2), ("First", .sheet 1), ("Amp", .sheet 2), ("P&L", .book), ("Txt", .book), ("Gone", .book),
            ("Rows", .sheet 0)] ∧
    ((readDefinedNamesB exampleNames).map fun l => l.map fun n => n.body.text) =
      some (["'Data'!$A$1", "'S 2'!$A$1:$B$2,'Data'!$C$3", "'T&U'!$A$1", "SUM(Data!$A$1:$A$5)-'S 2'!$B$1", "\"a,b\"", "'Gone'!$A$1",
        "Data!$1:$2"].map String.toList) := by
  -- one kernel evaluation for all parts (`readDefinedNamesB exampleNames` is then run once, not once per part); the second part in
  -- its decidable form `nameTextOkB`
  suffices h : _ ∧ exampleNames.all (fun d => nameTextOkB d.ownText) = true ∧ _ from
    ⟨h.1, fun d hd => nameTextOkB_sound _ (List.all_eq_true.mp h.2.1 d hd), h.2.2⟩
  -- the literals as their characters (`toList_lit`): `exampleNames` is unfolded in ONE copy and put back into the goal
  simp only [exampleSheets, List.map_cons, List.map_nil, toList_lit]
  generalize hE : exampleNames = E
  simp only [exampleNames, dnE, toList_lit] at hE
  subst hE
  decide +kernel

end Home

section Paths

/-- The part name of a relationship target.  For every relationship target with
    `targetOk` — EVERY relative target (`worksheets/sheet1.xml`, `../xl/worksheets/sheet1.xml`, `./a//b.xml`, …), and every
    absolute target in normal form (`/xl/worksheets/sheet1.xml`, `/other/s.xml`: no empty, `.` or `..` segment) — the part
    name the library computes (workbook_rels.rs strips a leading `/xl/`, reader/driver.rs `join_paths("xl", ·)` with
    `normalize_path`) is the part name the decoder computes (`resolveTargetL` against the workbook part, OPC Part 2 §8.3). -/
theorem C03_sheet_paths (t : Text) (h : targetOk t = true) :
    joinPaths "xl".toList (stripXl t) = resolveTargetL "xl/workbook.xml".toList t := joinPaths_resolve t h

/-- … composed with the look-up of the relationship, for ANY relationship list (ids unique or not): the
    library reads the sheet from the part of the LAST relationship with the sheet's `r:id` (reader/xlsx.rs: the loop reads
    every match and overwrites; model `sheetRel`), i.e. from the part the decoder's path rule gives for the LAST of the
    decoder's relationships with that Id.  (The decoder itself takes the FIRST and reports a duplicated Id as a
    diagnostic: OPC Part 2 §9.3.2.2 forbids it.) -/
theorem C03_sheet_part_last (rs : List RelR) (srels : List Rel) (hag : RelsAgree rs srels) (s : SheetR)
    (hok : ∀ r, sheetRel rs s = some r → targetOk r.target = true) :
    (sheetPart rs s).map str =
      ((srels.filter (fun r => r.id = str s.rid)).getLast?).map (fun r => resolveTarget "xl/workbook.xml" r.target) := by
  have hf := congrArg List.getLast? (filter_rel rs srels s.rid hag)
  simp only [List.getLast?_map] at hf
  unfold sheetPart
  unfold sheetRel at hok ⊢
  rcases map_eq_map_cases hf with ⟨hs, hr⟩ | ⟨x, r, hs, hr, hxr⟩
  · rw [hr, hs]; rfl
  · rw [hr, hs]
    simp only [Option.map_some, Option.some.injEq]
    rw [C03_sheet_paths r.target (hok r hr), hxr]
    simp [resolveTarget, str]

/-- … and when the sheet's `r:id` names AT MOST ONE relationship (what OPC requires) that is the relationship the decoder
    selects (the first): the sheet's part on both sides -/
theorem C03_sheet_part (rs : List RelR) (srels : List Rel) (hag : RelsAgree rs srels) (s : SheetR)
    (huniq : (rs.filter (·.id = s.rid)).length ≤ 1)
    (hok : ∀ r, rs.find? (·.id = s.rid) = some r → targetOk r.target = true) :
    (sheetPart rs s).map str =
      (srels.find? (fun r => r.id = str s.rid)).map (fun r => resolveTarget "xl/workbook.xml" r.target) := by
  have hlen : (srels.filter (fun r => r.id = str s.rid)).length ≤ 1 := by
    have := congrArg List.length (filter_rel rs srels s.rid hag)
    simp only [List.length_map] at this
    omega
  rw [C03_sheet_part_last rs srels hag s (fun r hr => hok r (by rw [← getLast?_filter_unique huniq]; exact hr)),
    getLast?_filter_unique hlen]

/-- a duplicated relationship id (boundary package edge 15): the library reads the sheet from the LAST relationship's
    part, the decoder's rule (`find?`) names the FIRST -/
example :
    let rs : List RelR := [⟨"rId1".toList, [], "worksheets/sheet1.xml".toList⟩, ⟨"rId1".toList, [], "worksheets/sheet2.xml".toList⟩]
    let s : SheetR := ⟨"S".toList, "1".toList, "rId1".toList, none⟩
    (sheetPart rs s).map str = some "xl/worksheets/sheet2.xml" ∧
    ((rs.find? (·.id = s.rid)).map fun r => str (joinPaths "xl".toList (stripXl r.target))) = some "xl/worksheets/sheet1.xml" := by
  simp only [toList_lit]
  decide +kernel

/-- non-vacuity: the three targets of edge 14 and some more -/
example : (["worksheets/sheet1.xml", "/xl/worksheets/sheet2.xml", "./worksheets/../worksheets/sheet3.xml", "../xl/s.xml",
      "/other/s.xml", ""].map fun t => (targetOk t.toList, String.ofList (joinPaths "xl".toList (stripXl t.toList)))) =
    [(true, "xl/worksheets/sheet1.xml"), (true, "xl/worksheets/sheet2.xml"), (true, "xl/worksheets/sheet3.xml"),
     (true, "xl/s.xml"), (true, "other/s.xml"), (true, "xl")] := by
  simp only [List.map_cons, List.map_nil, toList_lit]
  decide +kernel

/-- outside `targetOk`: an absolute target with a dot segment (the library resolves it, the standard does not allow it) and
    one with an empty segment behind `/xl/` (the library re-reads the rest as absolute) -/
example : targetOk "/xl/../a.xml".toList = false ∧ targetOk "/xl//a.xml".toList = false ∧
    joinPaths "xl".toList (stripXl "/xl//a.xml".toList) = "a.xml".toList ∧
    resolveTargetL "xl/workbook.xml".toList "/xl//a.xml".toList = "xl/a.xml".toList := by
  simp only [toList_lit]
  decide +kernel

end Paths

section Tables

/-- For every `<table>` element whose `<tableColumn>` elements carry a non-empty `name` (required by
    CT_TableColumn; the library drops a column without one) the model of reader/xlsx/table.rs shows the decoder's table name,
    display name and column names in document order (the values as `get_attribute_value` returns them: unescaped,
    `C03_attr`), and, when `ref` is `a:b`, the area `(a, b)` whose two corners joined by `:` are the decoder's `ref`. -/
theorem C03_table_columns (p : Package) (path : String) (t : Node) (hp : (p.part? path).bind (·.xml) = some t)
    (hc : ∀ c ∈ ((t.kid? "tableColumns").map (·.kids "tableColumn")).getD [], (c.attr? "name".toList).getD [] ≠ []) :
    ∃ tv, decodeTable p path = some tv ∧ (readTable t).name = tv.name ∧ (readTable t).displayName = tv.displayName ∧
      (readTable t).columns = tv.columns ∧
      (∀ a b, (readTable t).area = some (a, b) → splitColon tv.ref = [a, b]) := by
  refine ⟨{ name := (t.attr? "name".toList).getD [], displayName := (t.attr? "displayName".toList).getD [],
             ref := (t.attr? "ref".toList).getD [],
             columns := (((t.kid? "tableColumns").map (·.kids "tableColumn")).getD []).map (fun c => (c.attr? "name".toList).getD []) },
    by simp only [decodeTable, hp, Option.map_some], rfl, rfl, ?_, ?_⟩
  · simp only [readTable]
    rw [List.filter_eq_self]
    intro n hn
    obtain ⟨c, hcm, rfl⟩ := List.mem_map.mp hn
    have := hc c hcm
    cases h : (c.attr? "name".toList).getD [] with
    | nil => exact absurd h this
    | cons _ _ => rfl
  · intro a b hab
    simp only [readTable] at hab
    cases hr : t.attr? "ref".toList with
    | none => rw [hr] at hab; cases hab
    | some v =>
      rw [hr] at hab
      simp only [Option.bind_some, splitArea] at hab
      simp only [Option.getD_some]
      split at hab
      · rename_i a' b' heq
        injection hab with hab
        injection hab with h1 h2
        subst h1; subst h2
        exact heq
      · cases hab

example :
    let t : Node := .elem "table".toList [⟨"name".toList, "T1".toList⟩, ⟨"displayName".toList, "T_1".toList⟩, ⟨"ref".toList, "A1:C9".toList⟩]
      [.elem "tableColumns".toList [] [.elem "tableColumn".toList [⟨"id".toList, "1".toList⟩, ⟨"name".toList, "R&D <1>".toList⟩] [],
                                       .elem "tableColumn".toList [⟨"id".toList, "2".toList⟩, ⟨"name".toList, "b".toList⟩] []]]
    readTable t = ⟨"T1".toList, "T_1".toList, some ("A1".toList, "C9".toList), ["R&D <1>".toList, "b".toList]⟩ := by
  simp only [toList_lit]
  decide +kernel

end Tables

section Whole

/-- the per-file step the theorem does not look into: `arv.by_name(name)` + the XML reader give the root element the decoder
    finds under that name in the package -/
def lookupOf (p : Package) : Text → Option Node := fun n => (p.part? (str n)).bind (·.xml)

def rowsOf (root : Node) : List Node := ((root.kid? "sheetData").map (·.kids "row")).getD []
def linksOf (root : Node) : List Node := ((root.kid? "hyperlinks").map (·.kids "hyperlink")).getD []
def mergesOf (root : Node) : List Node := ((root.kid? "mergeCells").map (·.kids "mergeCell")).getD []

/-- what is asked of one `<sheet>` element `se` of the workbook part, given the shared-string items `sis`, the styles
    root `sroot` and the workbook's relationships `wrs` as the library read them:
    its `r:id` names EXACTLY ONE relationship `r` (the relationships with that id are `[r]`: unique, as OPC requires; with a
    duplicate the library reads the last, the decoder the first: `C03_sheet_part_last`), whose target is `targetOk`
    (`C03_sheet_paths`); the part of that name exists (`root`);
    its `<sheetData>` is `validSheetData`; the relationships part of the sheet is found under the reader's name for it
    exactly when the decoder finds it under the standard's name (PER FILE: `relsPartOf` vs `relsNameOf` on this path) and,
    when there, is `validRels`; the hyperlinks are `validHyperlinks`; every merged range is `MergeRefOk`; every cell's `s`,
    when present, is an unsigned decimal inside `cellXfs`. -/
def SheetValid (p : Package) (sis : List Node) (sroot : Node) (wrs : List RelR) (se : Node) : Prop :=
  ∃ (r : RelR) (root : Node),
    wrs.filter (·.id = (se.attr? "r:id".toList).getD []) = [r] ∧ targetOk r.target = true ∧
    lookupOf p (joinPaths "xl".toList (stripXl r.target)) = some root ∧
    validSheetData sis (rowsOf root) = true ∧
    lookupOf p (relsPartOf (joinPaths "xl".toList (stripXl r.target))) =
      (p.part? (relsNameOf (str (joinPaths "xl".toList (stripXl r.target))))).bind (·.xml) ∧
    (∀ rr, lookupOf p (relsPartOf (joinPaths "xl".toList (stripXl r.target))) = some rr → validRels rr = true) ∧
    validHyperlinks ((lookupOf p (relsPartOf (joinPaths "xl".toList (stripXl r.target)))).bind readRels) (linksOf root) = true ∧
    (∀ m ∈ mergesOf root, ∃ v, m.attr? "ref".toList = some v ∧ MergeRefOk v) ∧
    (∀ c ∈ cellNodes root, c.attr? "s".toList = none ∨
      ∃ v, c.attr? "s".toList = some v ∧ uintOk usizeBound v = true ∧ (decodeCell (sis.map rstText) c).1.style < (styleTable sroot).length)

/-- the decoder's style facts of the cells of the sheet `se` (through the same relationship and part look-up as `decode`) -/
def specSheetFacts (cf : Umya.StyleCodec.Tok → Umya.StyleCodec.Tok) (p : Package) (wbPath : String) (tab : List XfV) (sst : List Text)
    (se : Node) : List StyleFacts :=
  match (se.attr? "r:id".toList).bind (fun rid => (relsOf p wbPath).find? (fun (r : Rel) => r.id = str rid)) with
  | none => []
  | some r =>
    match (p.part? (resolveTarget wbPath r.target)).bind (·.xml) with
    | none => []
    | some root => (cellNodes root).map (specFacts cf tab sst)

private theorem cell_facts (cf : Umya.StyleCodec.Tok → Umya.StyleCodec.Tok) (sroot : Node) (hvs : validStyles sroot = true) (made : List StyleR)
    (hmade : readStyleSheet cf sroot = some made) (sst : List Text) (c : Node)
    (hc : c.attr? "s".toList = none ∨
      ∃ v, c.attr? "s".toList = some v ∧ uintOk usizeBound v = true ∧ (decodeCell sst c).1.style < (styleTable sroot).length) :
    ∃ st, cellStyle made c = some st ∧ styleFacts st = specFacts cf (styleTable sroot) sst c := by
  rcases hc with hn | ⟨v, hs, hv, hi⟩
  · refine ⟨{}, (C03_style_cell_unstyled made c hn).1, ?_⟩
    simp only [specFacts, hn]
    exact (C03_style_cell_unstyled made c hn).2
  · obtain ⟨made', st, hm', hst, hf⟩ := C03_style_cell cf sroot hvs sst c v hs hv hi
    rw [hmade] at hm'
    injection hm' with hm'
    subst hm'
    refine ⟨st, hst, ?_⟩
    simp only [specFacts, hs, ← hf, Option.getD_some]

/-- one sheet of the package: the model of reader/xlsx.rs + worksheet.rs for the sheet `se` (with the spec's shared-formula
    translator) and the decoder's `SheetV` for it show the same name, state, cells (position, kind, value, formula, style
    index, in document order), resolved style facts of every cell, merged ranges and hyperlinks.  (`sid`, the `sheetId`, is
    tied to nothing: no view shows it.) -/
theorem C03_book_sheet (cf : Umya.StyleCodec.Tok → Umya.StyleCodec.Tok) (p : Package) (sis : List Node) (sroot : Node)
    (hvs : validStyles sroot = true) (made : List StyleR) (hmade : readStyleSheet cf sroot = some made)
    (wrs : List RelR) (hag : RelsAgree wrs (relsOf p "xl/workbook.xml"))
    (hsst : specSst p "xl/workbook.xml" = sis.map rstText)
    (se : Node) (name sid rid : Text) (hn : se.attr? "name".toList = some name) (hr : se.attr? "r:id".toList = some rid)
    (hv : SheetValid p sis sroot wrs se) :
    ∃ sb, readSheetB specTr (lookupOf p) made (sis.map (stringItem false)) wrs ⟨name, sid, rid, se.attr? "state".toList⟩ = some sb ∧
      viewR sb = viewS (specSheetOf p "xl/workbook.xml" se)
        (specSheetFacts cf p "xl/workbook.xml" (styleTable sroot) (sis.map rstText) se) := by
  -- the one relationship with the sheet's id makes both sides open the same part `path` (`C03_sheet_part`); each component of
  -- `decodeSheet` is then met through its `…_is_decodeSheet`
  obtain ⟨r, root, hfilt, htok, hroot, hdata, hrl, hrv, hhl, hmg, hst⟩ := hv
  simp only [hr, Option.getD_some] at hfilt
  have hfind : wrs.find? (·.id = rid) = some r := by
    rw [← List.head?_filter, hfilt]; rfl
  generalize hpath : joinPaths "xl".toList (stripXl r.target) = path at hroot hrl hrv hhl
  have hpart := C03_sheet_part wrs _ hag ⟨name, sid, rid, se.attr? "state".toList⟩
    (by show (wrs.filter (·.id = rid)).length ≤ 1
        rw [hfilt]; exact Nat.le_refl 1)
    (fun r' hr' => by
      have hr'' : wrs.find? (·.id = rid) = some r' := hr'
      rw [hfind] at hr''
      injection hr'' with e
      subst e
      exact htok)
  have hsp : sheetPart wrs ⟨name, sid, rid, se.attr? "state".toList⟩ = some path := by
    unfold sheetPart sheetRel
    simp only [hfilt, List.getLast?_singleton, Option.map_some, hpath]
  rw [hsp] at hpart
  cases hs : (relsOf p "xl/workbook.xml").find? (fun r => r.id = str rid) with
  | none => rw [hs] at hpart; simp at hpart
  | some r' =>
    rw [hs] at hpart
    simp only [Option.map_some, Option.some.injEq] at hpart
    have hroot' : (p.part? (resolveTarget "xl/workbook.xml" r'.target)).bind (·.xml) = some root := by
      rw [← hpart]; exact hroot
    obtain ⟨outs, hrows, hcells⟩ := C03_sheet_decoder sis (rowsOf root) hdata
    have hlinks : ∃ ls, sheetLinks (lookupOf p) path (linksOf root) = some ls ∧
        ls.map linkViewR = ((linksOf root).map (specLink (relsOf p (str path)))).map linkViewS := by
      unfold sheetLinks
      cases hl : lookupOf p (relsPartOf path) with
      | none =>
        have hrel0 : relsOf p (str path) = [] := by
          unfold relsOf
          rw [← hrl, hl]
        rw [hl] at hhl
        obtain ⟨ls, h1, h2⟩ := C03_hyperlinks none [] (by simp [RelsAgree]) (linksOf root) hhl
        exact ⟨ls, h1, by rw [hrel0]; exact h2⟩
      | some rr =>
        obtain ⟨rs, hrs, hagr⟩ := C03_rels rr (hrv rr hl)
        have hrel1 : relsOf p (str path) = specRels rr := relsOf_eq p (str path) rr (by rw [← hrl, hl])
        rw [hl] at hhl
        simp only [Option.bind_some, hrs] at hhl
        obtain ⟨ls, h1, h2⟩ := C03_hyperlinks (some rs) (specRels rr) hagr (linksOf root) hhl
        refine ⟨ls, ?_, by rw [hrel1]; exact h2⟩
        simp only [Option.map_some, hrs]
        exact h1
    obtain ⟨ls, hl1, hl2⟩ := hlinks
    obtain ⟨mrs, hm1, hm2⟩ := C03_merges (mergesOf root) hmg
    obtain ⟨sts, hs1, hs2⟩ := mapM_view (cellStyle made) styleFacts (specFacts cf (styleTable sroot) (sis.map rstText))
      (cellNodes root) (fun c hc => cell_facts cf sroot hvs made hmade _ c (hst c hc))
    refine ⟨⟨⟨name, sid, rid, se.attr? "state".toList⟩, outs, sts, mrs, ls⟩, ?_, ?_⟩
    · unfold readSheetB
      have hany : ((wrs.filter (·.id = rid)).any (fun r => (lookupOf p (joinPaths "xl".toList (stripXl r.target))).isNone)) = false := by
        rw [hfilt]
        simp only [List.any_cons, List.any_nil, Bool.or_false, hpath, hroot, Option.isNone_some]
      simp only [hany, Bool.false_eq_true, if_false, hsp, Option.bind_some, hroot, Option.map_some]
      simp only [rowsOf, linksOf, mergesOf, cellNodes] at hrows hl1 hm1 hs1
      simp only [hrows, hl1, hm1, hs1]
    · simp only [viewR, viewS, specSheetOf, specSheetFacts, hr, Option.bind_some, hs, hroot', hsst, hn, Option.getD_some]
      rw [C03_sheet_is_decodeSheet p _ _ _ _ root hroot', C03_merges_is_decodeSheet p _ _ _ _ root hroot',
        C03_hyperlinks_is_decodeSheet p _ _ _ _ root hroot', ← hpart]
      unfold rowsOf at hcells
      unfold mergesOf at hm2
      unfold linksOf at hl2
      rw [hcells, hl2, hs2, hm2]

private theorem relsName_workbook : relsNameOf "xl/workbook.xml" = "xl/_rels/workbook.xml.rels" := by decide +kernel

/-- `C03_book` for any way `nv` the library shows the decoder's defined names (the identity in `C03_book`, `canonNameV` in
    `C03_book_any`): `hnames` is what the list of `<definedName>` elements gives.
    Stated for the spec's translator `specTr`; the driver (`c03 model`) runs `readBook codeTr`, which agrees with it only where
    the two translators do (`C03_sheet` holds for both; known finding C03-shared-formula-blanks-dropped is where they differ).
    `hss` and `hsr` ask for BOTH `xl/sharedStrings.xml` and `xl/styles.xml` to be present: a package without one of them is
    outside the theorem, although the library reads it. -/
theorem book_agrees (nv : NameV → NameV) (hscope : ∀ n, (nv n).scope = n.scope)
    (cf : Umya.StyleCodec.Tok → Umya.StyleCodec.Tok) (p : Package) (mr : Rel) (wb wr sstRoot sroot : Node)
    (h1 : (relsOf p "").find? (fun r => r.type.endsWith "/officeDocument") = some mr)
    (hwbp : resolveTarget "" mr.target = "xl/workbook.xml")
    (hwb : lookupOf p "xl/workbook.xml".toList = some wb)
    (hwr : lookupOf p "xl/_rels/workbook.xml.rels".toList = some wr)
    (hss : lookupOf p "xl/sharedStrings.xml".toList = some sstRoot)
    (hsst : specSst p "xl/workbook.xml" = (sstRoot.kids "si").map rstText)
    (hsr : lookupOf p "xl/styles.xml".toList = some sroot)
    (hsty : specStylesRoot p "xl/workbook.xml" = some sroot)
    (hvr : validRels wr = true) (hvs : validStyles sroot = true)
    (hvl : validSheetList (((wb.kid? "sheets").map (·.kids "sheet")).getD []) = true)
    (hsheets : ∀ wrs, readRels wr = some wrs → ∀ se ∈ ((wb.kid? "sheets").map (·.kids "sheet")).getD [],
      SheetValid p (sstRoot.kids "si") sroot wrs se)
    (hnames : ∃ l, readDefinedNamesB (((wb.kid? "definedNames").map (·.kids "definedName")).getD []) = some l ∧
      l.map nameViewB = (((wb.kid? "definedNames").map (·.kids "definedName")).getD []).map (fun d => nv (specName d)))
    (hns : ∀ d ∈ ((wb.kid? "definedNames").map (·.kids "definedName")).getD [], ∀ i, (specName d).scope = some i →
      i < (((wb.kid? "sheets").map (·.kids "sheet")).getD []).length) :
    ∃ b bv, readBook specTr cf (lookupOf p) = some b ∧ (decode p).1 = some bv ∧
      bv.sheets = (((wb.kid? "sheets").map (·.kids "sheet")).getD []).map (specSheetOf p "xl/workbook.xml") ∧
      b.sheets.map viewR = (((wb.kid? "sheets").map (·.kids "sheet")).getD []).map (fun se =>
        viewS (specSheetOf p "xl/workbook.xml" se)
          (specSheetFacts cf p "xl/workbook.xml" bv.xfs (specSst p "xl/workbook.xml") se)) ∧
      b.names.map (fun q => nameViewB q.1) = bv.names.map nv ∧
      (∀ q ∈ b.names, ∀ i, q.1.localSheetId = some i → q.2 = .sheet i) := by
  have hwb' : (p.part? (resolveTarget "" mr.target)).bind (·.xml) = some wb := by rw [hwbp]; exact hwb
  obtain ⟨bv, hdec, hsh, hnm, hxf⟩ := decode_book p mr wb h1 hwb'
  rw [hwbp] at hsh hxf
  rw [hsty] at hxf
  simp only [Option.map_some, Option.getD_some] at hxf
  obtain ⟨wrs, hwrs, hag0⟩ := C03_rels wr hvr
  have hag : RelsAgree wrs (relsOf p "xl/workbook.xml") := by
    rw [relsOf_eq p "xl/workbook.xml" wr (by rw [relsName_workbook]; exact hwr)]
    exact hag0
  have hsl := readSheetList_valid _ hvl
  obtain ⟨made, hmade, _, _⟩ := C03_style_resolution cf sroot hvs
  -- names: every scope is inside the sheet list, so the re-homing loop goes through
  obtain ⟨nl, hnl, hnv⟩ := hnames
  have hin : ∀ n ∈ nl, ∀ i, n.localSheetId = some i →
      i < ((((wb.kid? "sheets").map (·.kids "sheet")).getD []).map toSheetR).length := by
    intro n hn i hi
    have hmem : nameViewB n ∈ nl.map nameViewB := List.mem_map_of_mem hn
    rw [hnv] at hmem
    obtain ⟨d, hd, hde⟩ := List.mem_map.mp hmem
    have : (specName d).scope = some i := by rw [← hscope, hde]; exact hi
    simpa using hns d hd i this
  obtain ⟨homed, hhome, hhn, hhs, _, _⟩ := C03_names_home _ nl hin
  obtain ⟨sbs, hsbs, hsv⟩ := mapM_view
    (readSheetB specTr (lookupOf p) made ((sstRoot.kids "si").map (stringItem false)) wrs ∘ toSheetR) viewR
    (fun se => viewS (specSheetOf p "xl/workbook.xml" se)
      (specSheetFacts cf p "xl/workbook.xml" (styleTable sroot) ((sstRoot.kids "si").map rstText) se))
    (((wb.kid? "sheets").map (·.kids "sheet")).getD [])
    (fun se hse => by
      obtain ⟨n, i, r, hn, hi, hr⟩ := validSheetList_mem hvl hse
      have := C03_book_sheet cf p (sstRoot.kids "si") sroot hvs made hmade wrs hag hsst se n i r hn hr (hsheets wrs hwrs se hse)
      simpa only [Function.comp, toSheetR, hn, hi, hr, Option.getD_some] using this)
  refine ⟨⟨sbs, homed, made⟩, bv, ?_, hdec, hsh, ?_, ?_, hhs⟩
  · unfold readBook
    simp only [hwb, hwr, hss, hwrs, hsl, hnl, hhome, hsr, hmade, readSst, List.mapM_map, hsbs, Option.map_some]
  · rw [hxf, hsst]; exact hsv
  · rw [← hhn, List.map_map] at hnv
    rw [hnm, List.map_map]
    exact hnv

/-- For a package `p` read part by part (`lookupOf p`: zip access by name + XML reader, PER FILE)
    whose parts satisfy the per-part validity predicates, the model of the library's reader (`readBook`, with the spec's
    shared-formula translator) does not panic, `Spec.Sml.decode` delivers a `BookV`, and the two show
      * the same sheet list (names — unescaped —, states, order) and, sheet by sheet, the same cells in document order
        (column, row, kind, value text, formula text incl. expanded shared formulas, style index), the same resolved style
        facts for every cell (through `cellXfs`), the same merged ranges and the same hyperlinks;
      * the same defined names (name, scope, text), every name with `localSheetId = i` in the list of sheet `i`.
    Hypotheses, in order: the package-level relationship names the workbook part under the name the library hard-codes
    (`xl/workbook.xml`) and the parts the library opens by fixed name are the ones the workbook's relationships name
    (`hsst`, `hsty`: PER FILE); `validRels`, `validSheetList`, `validStyles`; per sheet `SheetValid` (`targetOk` target, part
    present, `validSheetData`, relationships part, `validHyperlinks`, `MergeRefOk`, style indices inside `cellXfs`); per name
    `validDefinedName`, `NameTextOk`, scope inside the sheet list.  Translator and the two parts that must exist: see
    `book_agrees`. -/
theorem C03_book (cf : Umya.StyleCodec.Tok → Umya.StyleCodec.Tok) (p : Package) (mr : Rel) (wb wr sstRoot sroot : Node)
    (h1 : (relsOf p "").find? (fun r => r.type.endsWith "/officeDocument") = some mr)
    (hwbp : resolveTarget "" mr.target = "xl/workbook.xml")
    (hwb : lookupOf p "xl/workbook.xml".toList = some wb)
    (hwr : lookupOf p "xl/_rels/workbook.xml.rels".toList = some wr)
    (hss : lookupOf p "xl/sharedStrings.xml".toList = some sstRoot)
    (hsst : specSst p "xl/workbook.xml" = (sstRoot.kids "si").map rstText)
    (hsr : lookupOf p "xl/styles.xml".toList = some sroot)
    (hsty : specStylesRoot p "xl/workbook.xml" = some sroot)
    (hvr : validRels wr = true) (hvs : validStyles sroot = true)
    (hvl : validSheetList (((wb.kid? "sheets").map (·.kids "sheet")).getD []) = true)
    (hsheets : ∀ wrs, readRels wr = some wrs → ∀ se ∈ ((wb.kid? "sheets").map (·.kids "sheet")).getD [],
      SheetValid p (sstRoot.kids "si") sroot wrs se)
    (hvn : (((wb.kid? "definedNames").map (·.kids "definedName")).getD []).all validDefinedName = true)
    (hnt : ∀ d ∈ ((wb.kid? "definedNames").map (·.kids "definedName")).getD [], NameTextOk d.ownText)
    (hns : ∀ d ∈ ((wb.kid? "definedNames").map (·.kids "definedName")).getD [], ∀ i, (specName d).scope = some i →
      i < (((wb.kid? "sheets").map (·.kids "sheet")).getD []).length) :
    ∃ b bv, readBook specTr cf (lookupOf p) = some b ∧ (decode p).1 = some bv ∧
      bv.sheets = (((wb.kid? "sheets").map (·.kids "sheet")).getD []).map (specSheetOf p "xl/workbook.xml") ∧
      b.sheets.map viewR = (((wb.kid? "sheets").map (·.kids "sheet")).getD []).map (fun se =>
        viewS (specSheetOf p "xl/workbook.xml" se)
          (specSheetFacts cf p "xl/workbook.xml" bv.xfs (specSst p "xl/workbook.xml") se)) ∧
      b.names.map (fun q => nameViewB q.1) = bv.names ∧
      (∀ q ∈ b.names, ∀ i, q.1.localSheetId = some i → q.2 = .sheet i) := by
  obtain ⟨b, bv, hb, hd, hs, hv, hn, hh⟩ := book_agrees id (fun _ => rfl) cf p mr wb wr sstRoot sroot h1 hwbp hwb hwr hss hsst hsr hsty
    hvr hvs hvl hsheets (C03_defined_names _ hvn hnt) hns
  exact ⟨b, bv, hb, hd, hs, hv, hn.trans (List.map_id _), hh⟩

/-! a concrete package (two sheets behind a relative and an absolute target, relationship ids in another order than the
    sheets, a hidden sheet with an escaped name, a scoped name, an unscoped name over two sheets, a constant; a styled cell, a
    shared-string cell, a merged range, an internal hyperlink; the styles part `exampleStyles`, the shared strings
    `exampleSst`): the reader model does not panic on it and shows two sheets, the names at home on sheet 1 (scope), sheet 1
    (FIRST area `'R&D'`) and in the workbook's list.  (A kernel-checked instance of ALL hypotheses of `C03_book` is not
    given: `Rel` carries no decidable equality, so the part look-ups cannot be `decide`d; every hypothesis has its
    own example above / in C03Sheet / C03Book, and the harness replays the same shape as edge 14.) -/
def relE (id type target : String) : Node :=
  el "Relationship" [("Id", id), ("Type", type), ("Target", target)] []

def exWb : Node :=
  el "workbook" []
    [el "sheets" [] [el "sheet" [("name", "Data"), ("sheetId", "1"), ("r:id", "rId1")] [],
                     el "sheet" [("name", "R&D"), ("sheetId", "2"), ("r:id", "rId2"), ("state", "hidden")] []],
     el "definedNames" [] [dnE "Loc" (some "1") "'Data'!$A$1", dnE "First" none "'R&D'!$A$1:$B$2,'Data'!$C$3", dnE "K" none "42"]]

def exSheet1 : Node :=
  el "worksheet" []
    [el "sheetData" [] [rowE [("r", "1")] [cE [("r", "A1"), ("s", "1")] [vE "1"], cE [("t", "s")] [vE "0"]]],
     el "mergeCells" [] [el "mergeCell" [("ref", "A5:B6")] []],
     el "hyperlinks" [] [el "hyperlink" [("ref", "A1"), ("location", "'R&D'!A1")] []]]

def examplePkg : Package :=
  [⟨"_rels/.rels", some (el "Relationships" [] [relE "rId1" "http://x/officeDocument" "xl/workbook.xml"]), true⟩,
   ⟨"xl/workbook.xml", some exWb, true⟩,
   ⟨"xl/_rels/workbook.xml.rels", some (el "Relationships" []
      [relE "rId2" "http://x/worksheet" "/xl/worksheets/sheet2.xml", relE "rId1" "http://x/worksheet" "worksheets/sheet1.xml",
       relE "rId3" "http://x/sharedStrings" "sharedStrings.xml", relE "rId4" "http://x/styles" "styles.xml"]), true⟩,
   ⟨"xl/sharedStrings.xml", some exampleSst, true⟩,
   ⟨"xl/styles.xml", some exampleStyles, true⟩,
   ⟨"xl/worksheets/sheet1.xml", some exSheet1, true⟩,
   ⟨"xl/worksheets/sheet2.xml", some (el "worksheet" [] [el "sheetData" [] []]), true⟩]

example :
    ((readBook specTr id (lookupOf examplePkg)).map fun b => b.sheets.map (fun s => (s.sheet.name, shownMerges s.merges))) =
      some [("Data".toList, ["A5:B6".toList]), ("R&D".toList, [])] ∧
    ((readBook specTr id (lookupOf examplePkg)).map fun b => b.sheets.map (fun s => s.cells.map outView)) =
      some [[⟨1, 1, "n", ['1'], none, 1⟩, ⟨2, 1, "s", ['x'], none, 0⟩], []] ∧
    ((readBook specTr id (lookupOf examplePkg)).map fun b => b.sheets.map (fun s => s.links.map linkViewR)) =
      some [[⟨"A1".toList, false, "'R&D'!A1".toList, []⟩], []] ∧
    ((readBook specTr id (lookupOf examplePkg)).map fun b => b.names.map (fun q => (q.1.name, q.2))) =
      some [("Loc".toList, .sheet 1), ("First".toList, .sheet 1), ("K".toList, .book)] ∧
    validSheetData (exampleSst.kids "si") (rowsOf exSheet1) = true ∧
    specSst examplePkg "xl/workbook.xml" = (exampleSst.kids "si").map rstText := by
  -- the literals of the package and of the goal as their characters (`toList_lit`), the package unfolded in ONE copy
  simp only [exSheet1, el, rowE, cE, vE, List.map_cons, List.map_nil, toList_lit]
  generalize hP : examplePkg = P
  simp only [examplePkg, exampleStyles, exWb, exSheet1, el, relE, dnE, rowE, cE, vE, List.map_cons, List.map_nil, toList_lit] at hP
  subst hP
  decide +kernel

end Whole

end Umya.Thm.C03
