/-
  C06 (comments) — text, VML shapes and their join to the comments by the cell a note shape names: no comment
  moves, swaps or is duplicated, in the library's own output and in parts whose shapes are in another order.

  Model: `Umya/Model/AnnotComment.lean` (element-tree level; see its header for what is and is not
  modelled).  `writeComments tbl cs` / `writeVml cs` are the trees an XML 1.0 reader delivers for the two
  parts `writer/xlsx/comment.rs` and `writer/xlsx/vml_drawing.rs` emit for the comment list `cs`;
  `readComments` / `readVml` are `reader/xlsx/comment.rs` / `vml_drawing.rs` on such trees; `joinShapes`
  is the loop of `vml_drawing::read` (fix b524a980: by the cell `x:Row` / `x:Column` name; `joinByPosition` is the
  loop before that fix).  `tbl` is the authors table in whatever order the writer's hash set gave.

  Tie to the code on every run: the `cmt` request family (`harness/src/c06cmt.rs`, `Umya/Driver/C06Comment.lean`):
  the real `comments{n}.xml` and `vmlDrawing{n}.vml` of a saved workbook, lexed by the independent XML reader,
  are tree-equal (modelled slice) to `writeComments` / `writeVml` of the values set through the public API,
  and `joinShapes (readComments …) (readVml …)` of the real parts equals the reloaded getters.
-/
import Umya.Lemmas.AnnotComment
import Umya.Lemmas.XmlChannel
import Umya.Lemmas.CellDecode
namespace Umya.Thm.C06
open Umya.Spec.Xml (Node Attr)
open Umya.AnnotComment

/-- The character channel under the text codec: for every text `t`, what `write_text_node` emits is
    delivered by an XML reader as exactly the child list `txt t` the tree model uses (no child for the
    empty text), and the library's `unescape_text` returns `t` — blanks at the ends, line breaks, carriage
    returns and XML specials included (`C02_text_channel`, `C03_text` composed).  The `<t>` element of the
    model is the `<t>` element proved for shared strings (`Umya.CellNode.tElem`). -/
theorem C06_comment_text_channel (t : List Char) :
    Umya.CellNode.charData (Umya.Xml.escape t) = some (txt t) ∧
    Umya.XmlEsc.textRead (Umya.Xml.escape t) = some t ∧
    writeT t = Umya.CellNode.tElem t :=
  ⟨Umya.CellNode.charData_escape t, Umya.Reader.Lemmas.textRead_of_textValue (Umya.XmlChannel.textValue_escape t), rfl⟩

/-- Every rich text — any number of runs, each with any text (empty, blanks at either
    end: `xml:space="preserve"` is then written, which the untrimmed comments reader does not even need)
    and with or without run properties — reads back as the same runs in the same order; in particular
    every plain text (`set_text_string`). -/
theorem C06_comment_text_codec (t : CommentText) (h : ∀ r ∈ t, r.WF) :
    readText (writeText t) = t ∧
    (∀ s : List Char, readText (writeText (CommentText.plain s)) = CommentText.plain s) := by
  refine ⟨readText_writeText t h, fun s => readText_writeText _ ?_⟩
  intro r hr
  simp only [CommentText.plain, List.mem_singleton] at hr
  subst hr
  simp [Run.WF]

def exRpr : Node := .elem "rPr".toList [] [.elem ['b'] [] [], .elem "sz".toList [⟨"val".toList, "9".toList⟩] []]

/-- non-vacuity: three runs (bold / plain with blanks at both ends and a line break / empty); the blanks
    make the writer add `xml:space` -/
example : readText (writeText [⟨"R&D <1>".toList, some exRpr⟩, ⟨"  two\n lines ".toList, none⟩, ⟨[], none⟩])
      = [⟨"R&D <1>".toList, some exRpr⟩, ⟨"  two\n lines ".toList, none⟩, ⟨[], none⟩] ∧
    writeT "  two\n lines ".toList = .elem ['t'] [⟨"xml:space".toList, "preserve".toList⟩] [.text "  two\n lines ".toList] ∧
    writeT [] = .elem ['t'] [] [] := by
  refine ⟨(C06_comment_text_codec _ (by decide)).1, by decide, by decide⟩

/-- Both writers emit in list order.  The i-th `<comment>` element of the comments part is the i-th
    comment of the sheet's list and the i-th `v:shape` of the VML part (id 1025 + i) is the shape of that
    same comment, with `x:Row` / `x:Column` naming that comment's cell (`Comment.writtenShape`): insertion order
    in both parts, nothing sorted, for any number of comments. -/
theorem C06_comment_vml_order (tbl : List (List Char)) (cs : List Comment) (l : List Node)
    (h : writeCommentList tbl cs = some l) (i : Nat) :
    l[i]? = (cs[i]?).bind (writeComment tbl) ∧
    (shapeNodes (writeVml cs))[i]? = (cs[i]?).map (fun c => shapeElem (1025 + i) c.writtenShape) := by
  refine ⟨writeCommentList_order tbl cs l h i, ?_⟩
  rw [shapeNodes_writeVml]
  exact shapeElems_order 1025 cs i

/-- For ANY list of comments (any number, any cells — adjacent or not, distinct or
    not —, any insertion order, any texts, authors, anchors, hidden / visible mixes, shapes with or without
    `x:Row` / `x:Column`, with targets that name the comment's cell or another one) that is well formed
    (`WF`: the Rust field ranges, authors in the table, the cell a cell), saving and reloading returns the same
    list in the same order up to `norm`: every comment comes back with its own shape, whose `x:Row` / `x:Column`
    name the comment's cell. -/
theorem C06_comment_roundtrip (tbl : List (List Char)) (cs : List Comment) (h : WF tbl cs) :
    reload tbl cs = some (cs.map Comment.norm) := by
  obtain ⟨n, h1, h2⟩ := readComments_write tbl cs h
  have h3 := readVml_write cs (fun c hc => writtenShape_WF c (h.2 c hc).1 (h.2 c hc).2.2.2.2)
  have hv := written_valid cs (fun c hc => ⟨(h.2 c hc).1.1, (h.2 c hc).2.1⟩)
  simp only [reload, h1, h2, h3, joinShapes_valid _ _ hv, written_all_notes, zipShapes_written]

/-- `norm` only sets the cell the shape names (`x:Row` / `x:Column`, zero-based) to the comment's own cell:
    cell, author, text, style, anchor, visibility and the two flags are untouched; for a comment whose shape
    already names its cell (what `new_comment` builds) `norm` changes nothing; `norm` is idempotent. -/
theorem C06_comment_norm (c : Comment) :
    c.norm.cell = c.cell ∧ c.norm.author = c.author ∧ c.norm.text = c.text ∧ c.norm.shape.anchor = c.shape.anchor ∧
    c.norm.shape.style = c.shape.style ∧ c.norm.shape.visible = c.shape.visible ∧
    c.norm.shape.moveWithCells = c.shape.moveWithCells ∧ c.norm.shape.sizeWithCells = c.shape.sizeWithCells ∧
    c.norm.shape.row = some (some (c.cell.row - 1)) ∧ c.norm.shape.col = some (some (c.cell.col - 1)) ∧
    (c.shape.row = some (some (c.cell.row - 1)) → c.shape.col = some (some (c.cell.col - 1)) → c.norm = c) ∧
    c.norm.norm = c.norm := by
  refine ⟨rfl, rfl, rfl, rfl, rfl, rfl, rfl, rfl, rfl, rfl, ?_, rfl⟩
  intro hr hc
  obtain ⟨cell, a, t, ⟨st, mv, sz, an, rw, cl, vs⟩⟩ := c
  simp only at hr hc
  subst hr hc
  rfl

/-- No comment moves, swaps or is duplicated.  After save and reload there are as many comments as
    before, on the same cells in the same order, and the comment found on cell `k` is the comment that was
    on cell `k` — its own author, text, style, anchor and visibility (`C06_comment_norm`). -/
theorem C06_comment_no_swap (tbl : List (List Char)) (cs : List Comment) (h : WF tbl cs) :
    ∃ back, reload tbl cs = some back ∧ back.length = cs.length ∧ back.map (·.cell) = cs.map (·.cell) ∧
      ((cs.map (·.cell)).Nodup → (back.map (·.cell)).Nodup) ∧
      ∀ k c, lookup cs k = some c → lookup back k = some c.norm := by
  have hcells : (cs.map Comment.norm).map (·.cell) = cs.map (·.cell) := by
    rw [List.map_map]; rfl
  refine ⟨cs.map Comment.norm, C06_comment_roundtrip tbl cs h, by simp, hcells, ?_, ?_⟩
  · intro hn; rw [hcells]; exact hn
  · intro k c hk
    simp only [lookup] at hk ⊢
    rw [List.find?_map]
    have : ((fun c : Comment => decide (c.cell = k)) ∘ Comment.norm) = fun c : Comment => decide (c.cell = k) := by
      funext c; rfl
    rw [this, hk]; rfl

/-! non-vacuity: four comments inserted out of order on scattered cells (D9, A1, XFD1048576, B40): one
    rich with blanks at the ends, one with the empty author and a visible shape, one hidden via its style with
    valueless row / column holders, anchors explicit and default; the table in an order of its own -/

def exC1 : Comment := { cell := ⟨4, 9, false, false⟩, author := "Ann".toList, text := CommentText.plain " hi <&> \n".toList, shape := { style := some "position:absolute;visibility:hidden".toList, anchor := ⟨4, 15, 7, 8, 5, 71, 12, 15⟩, row := some (some 8), col := some (some 3), moveWithCells := some none, sizeWithCells := some none } }
def exC2 : Comment := { cell := ⟨1, 1, false, false⟩, author := [], text := [⟨"a".toList, some exRpr⟩, ⟨" b".toList, none⟩, ⟨[], none⟩], shape := { style := some "visibility:visible".toList, anchor := ⟨1, 15, 1, 8, 2, 71, 4, 15⟩, row := some (some 0), col := some (some 0), visible := some none } }
def exC3 : Comment := { cell := ⟨16384, 1048576, false, false⟩, author := "Bob".toList, text := [], shape := { anchor := ⟨0, 0, 0, 0, 4294967295, 0, 0, 0⟩, row := some none, col := some none, visible := some (some false) } }
def exC4 : Comment := { cell := ⟨2, 40, false, false⟩, author := "Ann".toList, text := CommentText.plain "x".toList, shape := { anchor := ⟨2, 15, 38, 8, 3, 71, 43, 15⟩, row := some (some 39), col := some (some 1), visible := some (some true) } }
def exTbl : List (List Char) := ["Bob".toList, [], "Ann".toList]

example : WF exTbl [exC1, exC2, exC3, exC4] ∧ reload exTbl [exC1, exC2, exC3, exC4] = some [exC1, exC2, exC3.norm, exC4] ∧
    exC3.norm.shape.col = some (some 16383) ∧ lookup [exC1, exC2, exC3, exC4] ⟨1, 1, false, false⟩ = some exC2 := by
  have h : WF exTbl [exC1, exC2, exC3, exC4] := by decide +kernel
  refine ⟨h, ?_, by decide, by decide +kernel⟩
  rw [C06_comment_roundtrip _ _ h]
  decide +kernel

/-- A comment built WITHOUT `Comment::new_comment` (`Comment::default()` + coordinate) has no `x:Column` in its
    shape.  The writer names the comment's cell in every shape (fix 26940192), so both comments come back with their
    own shapes, the first with `x:Row` 0 / `x:Column` 0; without that the VML reader takes such a shape for an
    OLE-object shape, and the comment on A1 carried the anchor and style of the comment on C3.  Replayed on the
    implementation by `c06 reset cmtw no-column-target`. -/
theorem C06_comment_no_column_target :
    let a : Comment := { cell := ⟨1, 1, false, false⟩, author := "Ann".toList, text := CommentText.plain "first".toList }
    let b : Comment := { cell := ⟨3, 3, false, false⟩, author := "Ann".toList, text := CommentText.plain "second".toList, shape := { style := some "visibility:hidden".toList, anchor := ⟨3, 15, 1, 8, 4, 71, 5, 15⟩, row := some (some 2), col := some (some 2) } }
    reload ["Ann".toList] [a, b] = some [{ a with shape := { row := some (some 0), col := some (some 0) } }, b] := by
  intro a b
  rw [C06_comment_roundtrip _ _ (by decide +kernel)]
  decide +kernel

/-- A comment created on A1 and then moved to C3 through `get_coordinate_mut` (its shape still says row 0 /
    column 0), next to a comment that IS on A1: each comes back with its own shape — the moved one's anchor
    stays with the moved one —, the stale target replaced by the cell.  Replayed by `c06 reset cmtw stale-target`. -/
example :
    let a : Comment := { cell := ⟨3, 3, false, false⟩, author := "Ann".toList, text := CommentText.plain "moved".toList, shape := { anchor := ⟨1, 15, 0, 8, 2, 71, 4, 15⟩, row := some (some 0), col := some (some 0) } }
    let b : Comment := { cell := ⟨1, 1, false, false⟩, author := "Ann".toList, text := CommentText.plain "stays".toList, shape := { anchor := ⟨7, 7, 7, 7, 7, 7, 7, 7⟩, row := some (some 0), col := some (some 0) } }
    reload ["Ann".toList] [a, b] = some [{ a with shape := { a.shape with row := some (some 2), col := some (some 2) } }, b] := by
  intro a b
  rw [C06_comment_roundtrip _ _ (by decide +kernel)]
  decide +kernel

/-- For ANY comments on distinct cells (as the comments part gave them) and ANY sequence of
    shapes (as the VML part gave them) whose note shapes — those with an `x:Column` —, in whatever order
    (a permutation: Excel does not keep `commentList` order), name exactly the cells of the comments, with any
    other shapes (buttons, form controls, pictures) anywhere between them: the reader's loop computes the join
    by cell (`joinByCell`), no comment is lost, duplicated or re-ordered, and every comment ends up with a
    shape of the part that is a note shape and names the comment's own cell. -/
theorem C06_comment_join_by_cell (cs : List Comment) (ss : List Shape)
    (hd : (cs.map Comment.pos).Nodup)
    (hp : ((ss.filter (·.col.isSome)).map Shape.cell?).Perm (cs.map fun c => some c.pos)) :
    joinShapes cs ss = joinByCell cs ss ∧
    (joinShapes cs ss).map (·.cell) = cs.map (·.cell) ∧
    ∀ c ∈ joinShapes cs ss, c.shape ∈ ss ∧ c.shape.col.isSome = true ∧ c.shape.cell? = some c.pos := by
  have h3 : ((ss.filter (·.col.isSome)).map Shape.cell?).Nodup := by
    rw [hp.nodup_iff]; exact Umya.nodup_map_of_finer hd fun _ _ _ _ => Option.some.inj
  have h2 : ∀ s ∈ ss, s.col.isSome = true → ∃ k ∈ cs.map Comment.pos, s.names k = true := by
    intro s hs hn
    have hm : s.cell? ∈ (ss.filter (·.col.isSome)).map Shape.cell? := List.mem_map.2 ⟨s, List.mem_filter.2 ⟨hs, hn⟩, rfl⟩
    obtain ⟨c, hc, e⟩ := List.mem_map.1 (hp.mem_iff.1 hm)
    exact ⟨c.pos, List.mem_map.2 ⟨c, hc, rfl⟩, by simp [Shape.names, e]⟩
  have hj : joinShapes cs ss = joinByCell cs ss := by
    rw [joinShapes, joinByCell_eq]
    exact joinGo_byCell _ hd ss cs 0 rfl h2 h3
  refine ⟨hj, joinGo_cell cs 0 ss, ?_⟩
  rw [hj, joinByCell_eq]
  intro x hx
  obtain ⟨c, hc, e⟩ := List.mem_map.1 hx
  subst e
  have hm : some c.pos ∈ (ss.filter (·.col.isSome)).map Shape.cell? := hp.mem_iff.2 (List.mem_map.2 ⟨c, hc, rfl⟩)
  obtain ⟨s, hs, e⟩ := List.mem_map.1 hm
  obtain ⟨hs1, hs2⟩ := List.mem_filter.1 hs
  unfold byCell
  cases hf : ss.find? (fun s => s.col.isSome && s.names c.pos) with
  | none =>
    have := List.find?_eq_none.1 hf s hs1
    simp [Shape.names, e, hs2] at this
  | some s' =>
    have hmem := List.mem_of_find?_eq_some hf
    have hprop := List.find?_some hf
    simp only [Bool.and_eq_true, Shape.names, decide_eq_true_eq] at hprop
    exact ⟨hmem, hprop.1, hprop.2⟩

def exNote (col row : Nat) (left : Nat) : Shape := { anchor := ⟨left, 0, 0, 0, 0, 0, 0, 0⟩, row := some (some row), col := some (some col) }
def exButton : Shape := { anchor := ⟨9, 9, 9, 9, 9, 9, 9, 9⟩ }
def exRead (col row : Nat) : Comment := { cell := ⟨col, row, false, false⟩, author := "A".toList }

/-- non-vacuity, the shape of corpus file aaa.xlsx: `commentList` F7, C20; note shapes `x:Row` 19 `x:Column` 2,
    then `x:Row` 6 `x:Column` 5 (a button before and between them): each comment takes the shape that names its
    cell, where the loop before fix b524a980 swapped them -/
example :
    (([exRead 6 7, exRead 3 20].map Comment.pos).Nodup) ∧
    ((([exButton, exNote 2 19 11, exButton, exNote 5 6 22].filter (·.col.isSome)).map Shape.cell?).Perm
      ([exRead 6 7, exRead 3 20].map fun c => some c.pos)) ∧
    joinShapes [exRead 6 7, exRead 3 20] [exButton, exNote 2 19 11, exButton, exNote 5 6 22]
      = [{ exRead 6 7 with shape := exNote 5 6 22 }, { exRead 3 20 with shape := exNote 2 19 11 }] ∧
    joinByPosition [exRead 6 7, exRead 3 20] [exButton, exNote 2 19 11, exButton, exNote 5 6 22]
      = [{ exRead 6 7 with shape := exNote 2 19 11 }, { exRead 3 20 with shape := exNote 5 6 22 }] := by
  refine ⟨by decide, ?_, by decide, by decide⟩
  exact List.Perm.swap _ _ _

/-- three comments, the note shapes rotated (evaluated) -/
example : joinShapes [exRead 1 1, exRead 2 2, exRead 3 3] [exNote 1 1 22, exButton, exNote 2 2 33, exNote 0 0 11]
      = [{ exRead 1 1 with shape := exNote 0 0 11 }, { exRead 2 2 with shape := exNote 1 1 22 }, { exRead 3 3 with shape := exNote 2 2 33 }] := by
  decide +kernel

/-- The fallback is the zip of the note shapes.  For ANY comments and ANY sequence of shapes the loop keeps
    every comment on its cell in its place (nothing lost, duplicated or re-ordered), and when no shape names the
    cell of a comment (note shapes without `x:Row`, or naming cells that carry no comment) it pairs the k-th comment
    with the k-th shape that has an `x:Column` — the rule before fix b524a980; comments beyond the last such shape
    keep the shape they have (the default one, as the comments reader gives them), surplus shapes are dropped. -/
theorem C06_comment_join_is_zip (cs : List Comment) (ss : List Shape) :
    (joinShapes cs ss).map (·.cell) = cs.map (·.cell) ∧
    ((∀ s ∈ ss, ∀ c ∈ cs, s.names c.pos = false) →
      joinShapes cs ss = zipShapes cs (ss.filter fun s => s.col.isSome) ∧ joinShapes cs ss = joinByPosition cs ss) := by
  refine ⟨joinGo_cell cs 0 ss, fun h => ⟨joinShapes_fallback cs ss h, ?_⟩⟩
  rw [joinShapes_fallback cs ss h, joinByPosition_zip]

/-- non-vacuity: two note shapes without `x:Row` (and a button between them) go to the comments by position -/
example :
    let n1 : Shape := { anchor := ⟨1, 0, 0, 0, 0, 0, 0, 0⟩, col := some (some 7) }
    let n2 : Shape := { anchor := ⟨2, 0, 0, 0, 0, 0, 0, 0⟩, col := some (some 0) }
    (∀ s ∈ [n1, exButton, n2], ∀ c ∈ [exRead 1 1, exRead 2 2], s.names c.pos = false) ∧
    joinShapes [exRead 1 1, exRead 2 2] [n1, exButton, n2] = [{ exRead 1 1 with shape := n1 }, { exRead 2 2 with shape := n2 }] := by
  decide +kernel

/-- Under `validCommentParts` — the shapes with an `x:Column`, in document
    order, name the cells of `commentList` in order (what the library writes); any other shapes may stand between
    them; the cells need NOT be distinct — the loop is the zip of the comments with the note shapes and every
    comment ends up with a shape that names the comment's own cell. -/
theorem C06_comment_join_valid (cs : List Comment) (ss : List Shape) (h : validCommentParts cs ss) :
    joinShapes cs ss = zipShapes cs (ss.filter fun s => s.col.isSome) ∧
    ∀ c ∈ joinShapes cs ss, c.shape.cell? = some c.pos := by
  refine ⟨joinShapes_valid cs ss h, ?_⟩
  rw [joinShapes_valid cs ss h]
  unfold validCommentParts at h
  generalize ss.filter (fun s => s.col.isSome) = ns at h
  induction cs generalizing ns with
  | nil => intro c hc; simp [zipShapes_nil_left] at hc
  | cons c r ih =>
    cases ns with
    | nil => simp at h
    | cons s q =>
      simp only [List.map_cons, List.cons.injEq] at h
      intro x hx
      simp only [zipShapes, List.mem_cons] at hx
      rcases hx with e | e
      · subst e; exact h.1
      · exact ih q h.2 x e

/-- inside validity: a button between the two note shapes does not disturb the pairing; two comments on ONE
    cell (not a valid sheet, but the library's own output for such a list) keep their own shapes -/
example : validCommentParts [exRead 1 1, exRead 2 2] [exButton, exNote 0 0 11, exButton, exNote 1 1 22] ∧
    joinShapes [exRead 1 1, exRead 2 2] [exButton, exNote 0 0 11, exButton, exNote 1 1 22]
      = [{ exRead 1 1 with shape := exNote 0 0 11 }, { exRead 2 2 with shape := exNote 1 1 22 }] ∧
    validCommentParts [exRead 1 1, exRead 1 1] [exNote 0 0 11, exNote 0 0 22] ∧
    joinShapes [exRead 1 1, exRead 1 1] [exNote 0 0 11, exNote 0 0 22]
      = [{ exRead 1 1 with shape := exNote 0 0 11 }, { exRead 1 1 with shape := exNote 0 0 22 }] := by
  refine ⟨by decide, by decide, by decide, by decide⟩

/-- The struct holds only the range; the `<autoFilter ref>` element written for it reads back
    as the same range — all four shapes, every column up to ZZZ, every `u32` row, any locks (the C17 hypotheses).
    At the level of the element tree; the attribute's character channel is `C06_view_attr_channel` (`Thm/C06View.lean`), the raw
    `ref` text is tied on every run by the `c06 range` lines.  Filter columns / criteria are not held by the
    library and are outside this theorem. -/
theorem C06_auto_filter_codec (ρ : Umya.Coord.Range) (hs : Umya.Thm.C17.Range.IsShape ρ) (hb : Umya.Thm.C17.Range.InBounds ρ) :
    readAutoFilter (writeAutoFilter ρ) = some (.ok ρ) := by
  simp [readAutoFilter, writeAutoFilter, Umya.AnnotCodec.getAttr, Umya.Thm.C17.Range.parse_print ρ hb]

example : readAutoFilter (writeAutoFilter ⟨some ⟨2, false⟩, some ⟨20, true⟩, some ⟨16384, false⟩, some ⟨1048576, false⟩⟩)
    = some (.ok ⟨some ⟨2, false⟩, some ⟨20, true⟩, some ⟨16384, false⟩, some ⟨1048576, false⟩⟩) :=
  C06_auto_filter_codec _ (by right; left; simp)
    (by refine ⟨?_, ?_, ?_, ?_⟩ <;> intro x hx <;> injection hx with hx <;> subst hx <;> simp)

end Umya.Thm.C06
