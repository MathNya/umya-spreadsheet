/-
  C07 — move_range / copy_range relocate content exactly like the reference grid.

  `Umya.Sheet.moveOrCopy` (`Umya/Model/Sheet.lean`) follows `Worksheet::move_or_copy_range` statement by statement;
  the paste `set_cell`s value and style, and the formula text is part of the value token (`set_obj` assigns
  `cell_value` whole, nothing translates the references inside it).  It is compared with `Umya.Spec.Grid.moveRect` /
  `copyRect`, written from the property text, through the abstraction `content` of `C07_insert_rows` …
  `C07_remove_cols`, on sheets that satisfy the invariant of C10 (every reachable one, `C10_reachable`).

  Beside the content: a move / copy never removes or renumbers a row or column dimension —
  `set_cell` creates the dimension of a destination row / column that had none
  (`C07_move_copy_dimensions_kept`).  Merged ranges, comments, conditional formats and the
  auto-filter are not touched by `move_or_copy_range`: `C07_move_keeps_annotations`
  (`Thm/C07History.lean`, on the worksheet record of `Model/SheetA.lean`).
-/
import Umya.Lemmas.MoveRangeRefine
import Umya.Spec.GridHistory
namespace Umya.Thm.C07
open Umya.Sheet Umya.Coord Umya.Spec.Grid

/-- `Worksheet::move_range(ρ, dr, dc)` on the cell store of one sheet, `d = (dr, dc)` -/
def moveRange (s : Sheet) (ρ : Rect) (d : Int × Int) : Res Sheet := moveOrCopy s ρ.rs ρ.re ρ.cs ρ.ce d.1 d.2 true

/-- `Worksheet::copy_range(ρ, dr, dc)` -/
def copyRange (s : Sheet) (ρ : Rect) (d : Int × Int) : Res Sheet := moveOrCopy s ρ.rs ρ.re ρ.cs ρ.ce d.1 d.2 false

/-- these are the `move` / `copy` steps of the histories of C10 (and of the correspondence stream) -/
theorem C07_move_copy_are_steps (s : Sheet) (ρ : Rect) (d : Int × Int) :
    moveRange s ρ d = step s (.move ρ.rs ρ.re ρ.cs ρ.ce d.1 d.2) ∧
    copyRange s ρ d = step s (.copy ρ.rs ρ.re ρ.cs ρ.ce d.1 d.2) := ⟨rfl, rfl⟩

/-- Move, for every coherent sheet, every rectangle inside the grid and every offset whose image is
    inside the grid (source and destination may overlap): no panic, the store stays coherent, and
    the edit commutes with the reference `moveRect` through the abstraction. -/
theorem C07_move_refines (s : Sheet) (h : Coherent s) (ρ : Rect) (d : Int × Int) (hin : InRange ρ d.1 d.2) :
    ∃ s', moveRange s ρ d = .ok s' ∧ Coherent s' ∧ content s' = moveRect (content s) ρ d.1 d.2 :=
  moveOrCopy_refines s h ρ d.1 d.2 hin true

theorem C07_copy_refines (s : Sheet) (h : Coherent s) (ρ : Rect) (d : Int × Int) (hin : InRange ρ d.1 d.2) :
    ∃ s', copyRange s ρ d = .ok s' ∧ Coherent s' ∧ content s' = copyRect (content s) ρ d.1 d.2 :=
  moveOrCopy_refines s h ρ d.1 d.2 hin false

theorem moveRange_content (s s' : Sheet) (h : Coherent s) (ρ : Rect) (d : Int × Int)
    (hok : moveRange s ρ d = .ok s') : content s' = moveRect (content s) ρ d.1 d.2 :=
  moveOrCopy_content s s' h ρ d.1 d.2 true hok

theorem copyRange_content (s s' : Sheet) (h : Coherent s) (ρ : Rect) (d : Int × Int)
    (hok : copyRange s ρ d = .ok s') : content s' = copyRect (content s) ρ d.1 d.2 :=
  moveOrCopy_content s s' h ρ d.1 d.2 false hok

private theorem hasImage_target (ρ : Rect) (d : Int × Int) (hin : InRange ρ d.1 d.2) (r c : Nat) (hs : ρ.has r c) :
    ρ.hasImage d.1 d.2 ((r : Int) + d.1).toNat ((c : Int) + d.2).toNat ∧
    r = (((((r : Int) + d.1).toNat : Nat) : Int) - d.1).toNat ∧ c = (((((c : Int) + d.2).toNat : Nat) : Int) - d.2).toNat :=
  have ⟨a1, a2, a3, a4⟩ := (has_iff ρ r c).1 hs
  have ⟨_, _, _, _, _, _, hr, _, hc, _⟩ := hin
  have ⟨hI, e⟩ := (target_eq_iff ρ d.1 d.2 hr hc ⟨a1, a2⟩ ⟨a3, a4⟩ _ _).1 rfl
  ⟨hI, Prod.mk.inj e⟩

/-- "Moving a range leaves the source rectangle empty": every position of the source rectangle that
    is not also a position of the destination rectangle is blank afterwards (a position in both
    holds what the move brought there, `C07_move_destination_exact`). -/
theorem C07_move_source_empty (s s' : Sheet) (h : Coherent s) (ρ : Rect) (d : Int × Int) (hin : InRange ρ d.1 d.2)
    (hok : moveRange s ρ d = .ok s') (r c : Nat) (hs : ρ.has r c) (hd : ¬ ρ.hasImage d.1 d.2 r c) :
    content s' r c = none := by
  rw [moveRange_content s s' h ρ d hok]; unfold moveRect; rw [if_neg hd, if_pos hs]

/-- "… and the destination rectangle holding exactly the source cells (value, style and formula
    text as they were) at their translated positions": the image of every position of the source
    rectangle holds afterwards what that position held before — the content token and the style
    token unchanged, blank when it was blank (so a cell that sat in the destination under a blank
    source position is gone).  Every position of the destination rectangle is such an image. -/
theorem C07_move_destination_exact (s s' : Sheet) (h : Coherent s) (ρ : Rect) (d : Int × Int) (hin : InRange ρ d.1 d.2)
    (hok : moveRange s ρ d = .ok s') (r c : Nat) (hs : ρ.has r c) :
    content s' ((r : Int) + d.1).toNat ((c : Int) + d.2).toNat = content s r c := by
  obtain ⟨hI, e1, e2⟩ := hasImage_target ρ d hin r c hs
  rw [moveRange_content s s' h ρ d hok]; unfold moveRect; rw [if_pos hI, ← e1, ← e2]

/-- the destination rectangle is exactly the set of images of positions of the source rectangle -/
theorem C07_destination_is_image (ρ : Rect) (d : Int × Int) (hin : InRange ρ d.1 d.2) (r c : Nat) :
    ρ.hasImage d.1 d.2 r c ↔
      ∃ r0 c0 : Nat, ρ.has r0 c0 ∧ r = ((r0 : Int) + d.1).toNat ∧ c = ((c0 : Int) + d.2).toNat := by
  constructor
  · intro hI
    obtain ⟨hp, e⟩ := hasImage_preimage ρ d.1 d.2 r c hI
    injection e with e1 e2
    exact ⟨_, _, (has_iff ρ _ _).2 (mem_rectPositions.1 hp), e1, e2⟩
  · rintro ⟨r0, c0, hh, rfl, rfl⟩
    exact (hasImage_target ρ d hin r0 c0 hh).1

/-- Move and copy leave every position outside both rectangles as it was. -/
theorem C07_move_elsewhere_unchanged (s s' : Sheet) (h : Coherent s) (ρ : Rect) (d : Int × Int) (hin : InRange ρ d.1 d.2)
    (hok : moveRange s ρ d = .ok s' ∨ copyRange s ρ d = .ok s') (r c : Nat)
    (hs : ¬ ρ.has r c) (hd : ¬ ρ.hasImage d.1 d.2 r c) :
    content s' r c = content s r c := by
  rcases hok with hok | hok
  · rw [moveRange_content s s' h ρ d hok]; unfold moveRect; rw [if_neg hd, if_neg hs]
  · rw [copyRange_content s s' h ρ d hok]; unfold copyRect; rw [if_neg hd]

/-- "copying keeps the source and places every non-blank source cell at its translated position":
    (1) every position outside the destination rectangle — the part of the source rectangle outside
    it included — is unchanged; (2) the image of a non-blank source position holds that cell's value
    and style; (3) under a blank source position the destination keeps what it had. -/
theorem C07_copy_keeps_source (s s' : Sheet) (h : Coherent s) (ρ : Rect) (d : Int × Int) (hin : InRange ρ d.1 d.2)
    (hok : copyRange s ρ d = .ok s') :
    (∀ r c : Nat, ¬ ρ.hasImage d.1 d.2 r c → content s' r c = content s r c) ∧
    (∀ r c : Nat, ρ.has r c → ∀ x, content s r c = some x →
      content s' ((r : Int) + d.1).toNat ((c : Int) + d.2).toNat = some x) ∧
    (∀ r c : Nat, ρ.has r c → content s r c = none →
      content s' ((r : Int) + d.1).toNat ((c : Int) + d.2).toNat = content s ((r : Int) + d.1).toNat ((c : Int) + d.2).toNat) := by
  rw [copyRange_content s s' h ρ d hok]
  refine ⟨fun r c hd => ?_, fun r c hs x hx => ?_, fun r c hs hx => ?_⟩
  · unfold copyRect; rw [if_neg hd]
  · obtain ⟨hI, e1, e2⟩ := hasImage_target ρ d hin r c hs
    unfold copyRect; rw [if_pos hI, ← e1, ← e2, hx]
  · obtain ⟨hI, e1, e2⟩ := hasImage_target ρ d hin r c hs
    unfold copyRect; rw [if_pos hI, ← e1, ← e2, hx]

/-- a stored key / a cell's own coordinate inside the grid `1..1048576 × 1..16384` -/
def InGrid (row col : Nat) : Prop := 1 ≤ row ∧ row ≤ maxRow ∧ 1 ≤ col ∧ col ≤ maxCol

instance (row col : Nat) : Decidable (InGrid row col) := by unfold InGrid; exact inferInstance

/-- a move or a copy writes inside the image only, and the image lies in the grid -/
theorem rect_gridIn {α} (g : Grid α) (hg : GridIn g) (ρ : Rect) (dr dc : Int) (hin : InRange ρ dr dc) (mv : Bool) :
    GridIn (if mv then moveRect g ρ dr dc else copyRect g ρ dr dc) := by
  intro r c hne
  by_cases hI : ρ.hasImage dr dc r c
  · simp only [InRange, maxRow, maxCol] at hin
    simp only [Rect.hasImage, Rect.has] at hI
    simp only [maxRow, maxCol]
    omega
  · refine hg r c fun h0 => hne ?_
    cases mv
    · simp only [Bool.false_eq_true, if_false, copyRect, if_neg hI, h0]
    · simp only [if_true, moveRect, if_neg hI, h0, ite_self]

/-- "None of these operations … produces coordinates outside 1..16384 x 1..1048576 (no row 0, no
    column 0)": on a coherent sheet all of whose cells are inside the grid, a move or copy with
    in-range arguments returns (no panic) a sheet all of whose cells — the key they are stored
    under and the coordinate they carry — are inside the grid. -/
theorem C07_move_copy_in_grid (s : Sheet) (h : Coherent s) (ρ : Rect) (d : Int × Int) (hin : InRange ρ d.1 d.2)
    (hpos : ∀ k ∈ keysOf s, InGrid k.1 k.2) (mv : Bool) :
    ∃ s', (if mv then moveRange s ρ d else copyRange s ρ d) = .ok s' ∧
      ∀ p ∈ s'.cells, InGrid p.1.1 p.1.2 ∧ InGrid p.2.row p.2.col := by
  have hg : GridIn (content s) := fun r c hne => hpos (r, c) ((content_ne_none_iff s r c).1 hne)
  have key : ∀ s', Coherent s' → GridIn (content s') → ∀ p ∈ s'.cells, InGrid p.1.1 p.1.2 ∧ InGrid p.2.row p.2.col := by
    intro s' hco hg' p hp
    have hin' : InGrid p.1.1 p.1.2 :=
      hg' p.1.1 p.1.2 ((content_ne_none_iff s' _ _).2 (List.mem_map.2 ⟨p, hp, rfl⟩))
    have hc := hco.coord p hp
    exact ⟨hin', by rw [hc.1, hc.2]; exact hin'⟩
  obtain ⟨t, ht, hco, hc⟩ := moveOrCopy_refines s h ρ d.1 d.2 hin mv
  exact ⟨t, by cases mv <;> exact ht, key t hco (hc ▸ rect_gridIn _ hg ρ d.1 d.2 hin mv)⟩

/-- Row and column dimensions under a move / copy (any arguments that do not panic): the row table
    and the column list of the sheet are kept entry by entry, in place (nothing is removed,
    renumbered or restyled); new entries may follow them (the dimensions `set_cell` creates for
    destination rows / columns that had none).  Dimensions do not travel with the moved cells. -/
theorem C07_move_copy_dimensions_kept (s s' : Sheet) (ρ : Rect) (d : Int × Int)
    (hok : moveRange s ρ d = .ok s' ∨ copyRange s ρ d = .ok s') :
    s.rows <+: s'.rows ∧ s.cols <+: s'.cols := by
  rcases hok with hok | hok
  · exact moveOrCopy_dims s s' true hok
  · exact moveOrCopy_dims s s' false hok

example : ∃ s s', run {} [.setRowSty 1 4, .setVal 1 1 7] = .ok s ∧ moveRange s ⟨1, 1, 1, 1⟩ (2, 2) = .ok s' ∧
    s.rows = [(1, ⟨1, 4⟩)] ∧ s'.rows = [(1, ⟨1, 4⟩), (3, ⟨3, 0⟩)] ∧ s'.cols = [⟨1, 0⟩, ⟨3, 0⟩] := by
  refine ⟨_, _, rfl, rfl, ?_⟩
  decide +kernel

/-- A sheet with a source cell (row 1, col 1, value 7), a blank source position (row 2, col 2) and a
    styled cell in the destination UNDER that blank position (row 2, col 5), where move and copy
    differ: the move empties (2,5); the copy keeps it. -/
example : ∃ s s' s'', run {} [.setVal 1 1 7, .setCell 5 2 9 3, .setVal 7 7 1] = .ok s ∧ Coherent s ∧
    InRange ⟨1, 2, 1, 2⟩ 0 3 ∧ (∀ k ∈ keysOf s, InGrid k.1 k.2) ∧
    moveRange s ⟨1, 2, 1, 2⟩ (0, 3) = .ok s' ∧ copyRange s ⟨1, 2, 1, 2⟩ (0, 3) = .ok s'' ∧
    content s 1 1 = some (7, 0) ∧ content s 2 2 = none ∧ content s 2 5 = some (9, 3) ∧
    -- the theorem's conclusion on the move: (2,5) is the image of the blank (2,2)
    content s' 2 5 = none ∧ content s' 1 4 = some (7, 0) ∧ content s' 1 1 = none ∧ content s' 7 7 = some (1, 0) ∧
    content s' 2 5 = moveRect (content s) ⟨1, 2, 1, 2⟩ 0 3 2 5 ∧
    -- … and on the copy
    content s'' 2 5 = some (9, 3) ∧ content s'' 1 4 = some (7, 0) ∧ content s'' 1 1 = some (7, 0) ∧
    content s'' 2 5 = copyRect (content s) ⟨1, 2, 1, 2⟩ 0 3 2 5 := by
  refine ⟨_, _, _, rfl, run_coherent [.setVal 1 1 7, .setCell 5 2 9 3, .setVal 7 7 1] coherent_empty rfl,
    by decide +kernel, by decide +kernel, rfl, rfl, ?_⟩
  decide +kernel

/-- overlapping source and destination (rows 1..2 moved down by one): (1,1) empties, (2,1) takes the
    former (1,1), (3,1) takes the former (2,1) -/
example : ∃ s s', run {} [.setVal 1 1 7, .setVal 1 2 8, .setVal 1 3 9] = .ok s ∧ Coherent s ∧
    InRange ⟨1, 2, 1, 1⟩ 1 0 ∧ moveRange s ⟨1, 2, 1, 1⟩ (1, 0) = .ok s' ∧
    content s' 1 1 = none ∧ content s' 2 1 = some (7, 0) ∧ content s' 3 1 = some (8, 0) := by
  refine ⟨_, _, rfl, run_coherent [.setVal 1 1 7, .setVal 1 2 8, .setVal 1 3 9] coherent_empty rfl, by decide +kernel, rfl, ?_⟩
  decide +kernel

/-- negative offset up to the grid edge, and the far corner of the grid -/
example : InRange ⟨3, 4, 2, 5⟩ (-2) (-1) ∧ InRange ⟨1048570, 1048574, 16380, 16382⟩ 2 2 ∧
    ¬ InRange ⟨3, 4, 2, 5⟩ (-3) 0 ∧ ¬ InRange ⟨1048570, 1048574, 16380, 16382⟩ 3 0 := by decide +kernel

end Umya.Thm.C07
