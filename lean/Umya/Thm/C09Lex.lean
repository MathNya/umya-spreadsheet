/-
  C09 — lexer correctness on printed expressions, and the whole-text form of the translation clause.
-/
import Umya.Lemmas.FormulaLexShift
namespace Umya.Thm.C09
open Umya.Coord Umya.Dec Umya.Formula

/-- For every expression `e` of the grammar
    { numbers, string literals (any content), booleans, the seven error literals, defined names,
      cell / range / whole-column / whole-row references with any `$` flags and an optional plain or
      quoted sheet qualifier, unary `-` / `+`, postfix `%`, the twelve infix operators
      `+ - * / ^ & = < > <= >= <>`, parentheses, parenthesised unions `(a,b)`, function calls with
      any number of (possibly empty) arguments }, nested to any depth,
    `parse_to_tokens("=" + print e)` returns exactly `tokensOf e` — never a panic.  `LexOk e` is the
    explicit side condition on the leaves (see its definition): numbers are texts of ordinary
    characters accepted by `parse::<f64>` (an exponent sign is NOT allowed: the tokenizer cuts `1E+5`
    in three — the dead "scientific notation" check of the source), names / function names / unquoted
    qualifiers consist of ordinary characters (no operator, quote, bracket, blank, comma), names are
    not numbers or booleans, function names do not start with `@`.
    Full statement wanted (not proved): the same for intersections (`a b`), array constants and
    structured references; `LexOk` excludes them.
    `LexOk` ASSUMES of every reference that pass 3 classifies its text as Range; `C09_lex_print_wf`
    (`Umya/Thm/C09LexWF.lean`) asks only that it is well-formed and is the version to use. -/
theorem C09_lex_print (e : Spec.Expr) (h : LexOk e) : parse ('=' :: e.print) = .ok (tokensOf e) :=
  parse_print e h

/-- `SUM(A1:$B$2,,"a""b")<=-x%` -/
def lexExample : Spec.Expr :=
  .bin .le
    (.call ['S', 'U', 'M'] (.cons (.ref ⟨none, .two ⟨some ⟨1, false⟩, some ⟨1, false⟩⟩ ⟨some ⟨2, true⟩, some ⟨2, true⟩⟩⟩)
      (.skip (.cons (.str ['a', '"', 'b']) .nil))))
    (.neg (.pct (.name ['x'])))

def lexExampleRef : Spec.CRef :=
  ⟨none, .two ⟨some ⟨1, false⟩, some ⟨1, false⟩⟩ ⟨some ⟨2, true⟩, some ⟨2, true⟩⟩⟩

theorem lexExampleRef_text : lexExampleRef.text = "A1:$B$2".toList := by
  decide +kernel

theorem lexExample_print : lexExample.print = "SUM(A1:$B$2,,\"a\"\"b\")<=-x%".toList := by
  decide +kernel

theorem lexExample_formula : "=SUM(A1:$B$2,,\"a\"\"b\")<=-x%".toList = '=' :: lexExample.print := by
  decide +kernel

theorem lexExample_ok : LexOk lexExample := by
  simp only [lexExample, LexOk, LexOkA]
  exact ⟨⟨by decide +kernel, ⟨⟨by decide +kernel, fun _ hq => nomatch hq⟩, by decide +kernel⟩, trivial, trivial⟩,
    by decide +kernel⟩

/-- the example is inside the fragment; its printed text and its tokens -/
example : LexOk lexExample ∧ lexExample.print = "SUM(A1:$B$2,,\"a\"\"b\")<=-x%".toList ∧
    parse "=SUM(A1:$B$2,,\"a\"\"b\")<=-x%".toList = .ok (tokensOf lexExample) := by
  refine ⟨lexExample_ok, lexExample_print, ?_⟩
  rw [lexExample_formula]
  exact C09_lex_print lexExample lexExample_ok

/-- The second half of the identity clause, which `C09_identity_partial` leaves to the harness, on the
    fragment of `C09_lex_print`: the tokens of
    `print e` render back to `print e` character for character, and tokenising that rendered text
    again gives the same token list.  (`C09_identity_print_wf` has the hypothesis `LexOk'`.) -/
theorem C09_identity_print (e : Spec.Expr) (h : LexOk e) :
    render (tokensOf e) = e.print ∧ parse ('=' :: render (tokensOf e)) = .ok (tokensOf e) := by
  have hr := render_tokensOf e h
  exact ⟨hr, by rw [hr]; exact C09_lex_print e h⟩

example : LexOk lexExample := lexExample_ok

/-- For every expression of the fragment of `C09_lex_print` whose
    references are well-formed and whose names are inert (`RefsOk`: a name contains no `!` and no
    colon-separated piece of it reads as a cell / column / row), and every offset `(dc, dr)`:
    `Cell::set_coordinate` seen from the formula (tokenize, `adjustment_formula_coordinate`, render)
    turns the printed text of `e` into the printed text of `Spec.translate e dc dr` — `dc` / `dr`
    added to exactly the non-`$` parts of every reference, `#REF!` where a part leaves the grid,
    everything else character for character — never a panic.
    (`C09_translate_text_wf` has the hypothesis `LexOk'` and is the version to use.) -/
theorem C09_translate_text (e : Spec.Expr) (h : LexOk e) (hr : RefsOk e) (dc dr : Int) :
    setCoordinate e.print dc dr = .ok (Spec.translate e dc dr).print := by
  simp only [setCoordinate, print_ne e h, if_false, C09_lex_print e h, adjustFormulaCoordinate, Spec.translate]
  exact tokMap_text (tokMap_translate dc dr) e hr

theorem lexExampleRef_wf : lexExampleRef.WF := by
  simp [lexExampleRef, Spec.CRef.WF, Spec.Area.WF, Spec.Corner.InGrid, Spec.refIn, Spec.leOpt, Spec.maxCol,
    Spec.maxRow]

theorem lexExample_refs : RefsOk lexExample := by
  simp only [lexExample, RefsOk, RefsOkA]
  exact ⟨⟨lexExampleRef_wf, trivial, trivial⟩, by decide +kernel⟩

/-- the hypotheses hold for `SUM(A1:$B$2,,"a""b")<=-x%`; the instance for (2, 3) -/
example : LexOk lexExample ∧ RefsOk lexExample ∧
    setCoordinate "SUM(A1:$B$2,,\"a\"\"b\")<=-x%".toList 2 3 = .ok (Spec.translate lexExample 2 3).print := by
  have h1 := C09_translate_text lexExample lexExample_ok lexExample_refs 2 3
  rw [lexExample_print] at h1
  exact ⟨lexExample_ok, lexExample_refs, h1⟩

end Umya.Thm.C09
