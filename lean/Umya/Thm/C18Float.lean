/-
  C18 — the `f64` step: `convert_date` → serial → `excel_to_date_time_object`, with the float operations
  satisfying the STANDARD MODEL of IEEE-754 binary64 arithmetic instead of being exact.

  The hypotheses are `Umya.Lemmas.FloatStd.StdModel F val fin` on an instance of the model's float interface
  `FloatOps F` (`val : F → ℚ` the represented number, `fin` = finite; spelled out at the head of
  `Umya/Lemmas/FloatStd.lean`) and, only for 1900-01-01T00:00:00 (serial exactly `1` = the threshold of a
  comparison), `ExactRepr`: an `add` / `div` whose exact result is a float returns it.

  What is proved: for every such `F` the code's serial `fl(D + fl(T/86400))` is within
  `2958469·2⁻⁵³` day (2.8·10⁻⁵ s) of `D + T/86400`, strictly increasing in `(D, T)`, and the way back
  (three floors, three products, one round, on ANY finite float that close to `D + T/86400`) returns
  exactly day `D`, second `T`.  The floors are not claimed to be the exact ones (each may be off by one
  unit); the sum `86400·days + 3600·hours + 60·minutes + seconds` is what is proved.

  What is NOT proved: that Lean's native `Float` (which the driver executes) or Rust's `f64` satisfy
  `StdModel` / `ExactRepr` — `Float` is opaque to the kernel.  That is the assumption "IEEE-754" of
  tools/props.d/C18.py; the driver's `Float` results are compared bit-for-bit with Rust on every run.
-/
import Umya.Thm.C18
import Umya.Lemmas.FloatDate
namespace Umya.Thm.C18
open Umya.Date Umya.Date.FloatOps Umya.Spec.Calendar Umya.Lemmas.Calendar Umya.Lemmas.FloatStd

section
variable {F : Type} [FloatOps F] {val : F → ℚ} {fin : F → Prop}

/-- `fl(D + fl(T / 86400))`, as `convert_date_crate` computes it, is a finite
    float within `2958469 · 2⁻⁵³` (< 3.3·10⁻¹⁰ day < 2.9·10⁻⁵ s) of the exact serial `D + T/86400`. -/
theorem C18_serial_float_error (h : StdModel F val fin) (D T : Int) (hD : 0 ≤ D ∧ D ≤ 2958465)
    (hT : 0 ≤ T ∧ T < 86400) :
    fin (serialOf F D T) ∧ |val (serialOf F D T) - ((D : ℚ) + (T : ℚ) / 86400)| ≤ 2958469 / 2 ^ 53 := by
  obtain ⟨f, e⟩ := serial_err h D T hD hT
  refine ⟨f, le_trans e (le_of_eq ?_)⟩
  unfold eps0 u; ring

/-- Under the standard model, if `(D, T)` is lexicographically
    smaller than `(D', T')` (days 0 … 2958465, seconds of day) then the float serial is strictly smaller,
    both as a number and for the float comparison. -/
theorem C18_monotone_float (h : StdModel F val fin) (D T D' T' : Int) (hD : 0 ≤ D ∧ D ≤ 2958465)
    (hT : 0 ≤ T ∧ T < 86400) (hD' : 0 ≤ D' ∧ D' ≤ 2958465) (hT' : 0 ≤ T' ∧ T' < 86400)
    (hlt : D < D' ∨ (D = D' ∧ T < T')) :
    val (serialOf F D T) < val (serialOf F D' T') ∧ lt (serialOf F D T) (serialOf F D' T') = true := by
  have hv := serial_lt h D T D' T' hD hT hD' hT' (by omega)
  exact ⟨hv, (h.lt_exact _ _ (serial_err h D T hD hT).1 (serial_err h D' T' hD' hT').1).2 hv⟩

/-- For every finite float within `2958469·2⁻⁵³` of
    `D + T/86400` (`61 ≤ D ≤ 2958465`, i.e. 1900-03-01 … 9999-12-31, `T < 86400`) — the serial computed
    by `convert_date`, but also e.g. the nearest double of the decimal text of a cell — the chain
    `days = floor ts`, `part = ts − days`, `hours = floor (part·24)`, `part·24 − hours`,
    `minutes = floor (…·60)`, `…·60 − minutes`, `seconds = round (…·60)` and the sum
    `1899-12-30 + days + hours + minutes + seconds` give exactly day `D`, second `T`;
    the checked variant returns the same value (no `try_*` / `checked_add_signed` fails). -/
theorem C18_time_float_near (h : StdModel F val fin) (ts : F) (fts : fin ts) (D T : Int)
    (hD : 61 ≤ D ∧ D ≤ 2958465) (hT : 0 ≤ T ∧ T < 86400)
    (he : |val ts - ((D : ℚ) + (T : ℚ) / 86400)| ≤ 2958469 / 2 ^ 53) :
    excelToEpochSeconds ts = (daysFromCivil 1899 12 30 + D) * 86400 + T ∧
    excelToEpochSecondsChecked ts = some ((daysFromCivil 1899 12 30 + D) * 86400 + T) := by
  -- the bound of `he` is `eps0`, written out so that the statement rests on no definition of the lemma modules
  have he' : |val ts - ((D : ℚ) + (T : ℚ) / 86400)| ≤ eps0 := le_trans he (le_of_eq (by unfold eps0 u; ring))
  have h1 : 1 ≤ val ts := by
    have : (61 : ℚ) ≤ D := by exact_mod_cast hD.1
    linarith [(near_day D T hT he').1]
  have k := time_near h ts fts D T ⟨by omega, hD.2⟩ (by omega) hT he' h1
  rw [if_neg (by omega)] at k
  exact k

/-- Round trip of the serial under the standard model.  For every day count `61 ≤ D ≤ 2958465` (1900-03-01 … 9999-12-31) and every second of day `T < 86400`,
    with `ts = fl(D + fl(T / 86400))` as `convert_date_crate` computes it, `excel_to_date_time_object`
    returns 1899-12-30 + `D` days + exactly `T` seconds — the same value as in exact arithmetic
    (`C18_time_exact`). -/
theorem C18_time_float (h : StdModel F val fin) (D T : Int) (hD : 61 ≤ D ∧ D ≤ 2958465)
    (hT : 0 ≤ T ∧ T < 86400) :
    excelToEpochSeconds (serialOf F D T) = (daysFromCivil 1899 12 30 + D) * 86400 + T := by
  obtain ⟨f, e⟩ := C18_serial_float_error h D T ⟨by omega, hD.2⟩ hT
  exact (C18_time_float_near h _ f D T hD hT e).1

/-- the same in the shape of `C18_time_exact`, including the 1900 leap-day window (`D < 60`: base date
    1899-12-31).  `D = 60` (Excel's fictitious 1900-02-29) is excluded; at `D = 1, T = 0`
    (1900-01-01T00:00:00, serial exactly `1`, the threshold of `excel_timestamp < 1`) the error bounds do
    not decide the comparison: correct rounding (`ExactRepr`) is needed there. -/
theorem C18_time_float_1900 (h : StdModel F val fin) (D T : Int) (hD : 1 ≤ D ∧ D ≤ 2958465)
    (hD60 : D ≠ 60) (hT : 0 ≤ T ∧ T < 86400) (hx : ExactRepr F val fin ∨ ¬ (D = 1 ∧ T = 0)) :
    excelToEpochSeconds (serialOf F D T) =
      ((if D < 60 then daysFromCivil 1899 12 31 else daysFromCivil 1899 12 30) + D) * 86400 + T ∧
    excelToEpochSecondsChecked (serialOf F D T) =
      some (((if D < 60 then daysFromCivil 1899 12 31 else daysFromCivil 1899 12 30) + D) * 86400 + T) := by
  obtain ⟨f, e, h1⟩ := serial_near h D T hD hT hx
  exact time_near h _ f D T hD hD60 hT e h1

/-- For every date of the 1900 system
    (1900-01-01 … 9999-12-31) and every time of day, `convert_date` returns a float on which
    `excel_to_date_time_object` (unguarded and checked sums alike) yields the reference day number of
    the date times 86400 plus the second of the day (at 1900-01-01T00:00:00 under correct rounding). -/
theorem C18_convert_epoch_float (h : StdModel F val fin) (y m d hh mi s : Int) (hd : InDomain y m d)
    (ht : ValidTime hh mi s)
    (hx : ExactRepr F val fin ∨ ¬ (y = 1900 ∧ m = 1 ∧ d = 1 ∧ hh = 0 ∧ mi = 0 ∧ s = 0)) :
    ∃ ts : F, convertDateF F y m d hh mi s = some ts ∧
      excelToEpochSeconds ts = daysFromCivil y m d * 86400 + (hh * 3600 + mi * 60 + s) ∧
      excelToEpochSecondsChecked ts = some (daysFromCivil y m d * 86400 + (hh * 3600 + mi * 60 + s)) := by
  obtain ⟨D, e, hD1, hD2, hD60, hone, hbase⟩ := serial_day F y m d hh mi s hd ht
  refine ⟨_, e, ?_⟩
  have hT := ht.secs
  obtain ⟨a0, a1, b0, b1, c0, c1⟩ := ht
  have hx' : ExactRepr F val fin ∨ ¬ (D = 1 ∧ hh * 3600 + mi * 60 + s = 0) :=
    hx.imp_right fun hn ⟨q1, q2⟩ => hn ⟨(hone q1).1, (hone q1).2.1, (hone q1).2.2, by omega, by omega, by omega⟩
  obtain ⟨k1, k2⟩ := C18_time_float_1900 h D _ ⟨hD1, hD2⟩ hD60 hT hx'
  rw [k1, k2, hbase]
  exact ⟨rfl, rfl⟩

/-- Round trip to the second: for every date of the 1900
    system (1900-01-01 … 9999-12-31) and every time of day, `excel_to_date_time_object (convert_date …)`
    with standard-model floats and chrono's calendar = the reference calendar returns the same
    year, month, day, hour, minute, second (at 1900-01-01T00:00:00 under correct rounding). -/
theorem C18_roundtrip_float (h : StdModel F val fin) (y m d hh mi s : Int) (hd : InDomain y m d)
    (ht : ValidTime hh mi s)
    (hx : ExactRepr F val fin ∨ ¬ (y = 1900 ∧ m = 1 ∧ d = 1 ∧ hh = 0 ∧ mi = 0 ∧ s = 0)) :
    (convertDateF F y m d hh mi s).map excelToDateTime =
      some ⟨y, m, d, hh, mi, s, daysFromCivil y m d⟩ := by
  obtain ⟨ts, e1, hsecs, _⟩ := C18_convert_epoch_float h y m d hh mi s hd ht hx
  rw [e1]
  simp only [Option.map_some]
  unfold excelToDateTime
  rw [hsecs, Umya.Lemmas.Date.ofEpochSeconds_civil y m d hh mi s hd.1 ht]

end

/-- exact rational arithmetic is a standard model (`δ = η = 0`, every number finite) -/
theorem stdModel_rat : StdModel Rat id (fun _ => True) where
  ofInt_exact := fun n _ => ⟨trivial, rfl⟩
  add_err := fun a b _ _ _ => ⟨trivial, 0, by simp [u_pos.le], by simp [FloatOps.add]⟩
  sub_err := fun a b _ _ _ => ⟨trivial, 0, by simp [u_pos.le], by simp [FloatOps.sub]⟩
  mul_err := fun a b _ _ _ => ⟨trivial, 0, 0, by simp [u_pos.le], by simp [eta_nonneg], by simp [FloatOps.mul]⟩
  div_err := fun a b _ _ _ _ => ⟨trivial, 0, 0, by simp [u_pos.le], by simp [eta_nonneg], by simp [FloatOps.div]⟩
  floor_exact := fun a _ => ⟨trivial, rfl⟩
  round_exact := fun a _ => ⟨trivial, rfl⟩
  lt_exact := fun a b _ _ => by simp [FloatOps.lt]
  toInt_exact := fun a _ _ => rfl

theorem exactRepr_rat : ExactRepr Rat id (fun _ => True) where
  add_exact := fun _ _ _ _ _ _ e => e
  div_exact := fun _ _ _ _ _ _ _ e => e

/-- the hypotheses of `C18_time_float` / `C18_monotone_float` / `C18_roundtrip_float` are satisfiable -/
example : excelToEpochSeconds (serialOf Rat 45435 18242) = 1716440642 := by
  rw [C18_time_float stdModel_rat 45435 18242 (by decide) (by decide)]; decide

example : (convertDateF Rat 2021 6 2 5 4 2).map excelToDateTime =
    some ⟨2021, 6, 2, 5, 4, 2, daysFromCivil 2021 6 2⟩ :=
  C18_roundtrip_float stdModel_rat 2021 6 2 5 4 2 (by decide) (by decide) (Or.inl exactRepr_rat)

example : (convertDateF Rat 1900 1 1 0 0 0).map excelToDateTime =
    some ⟨1900, 1, 1, 0, 0, 0, daysFromCivil 1900 1 1⟩ :=
  C18_roundtrip_float stdModel_rat 1900 1 1 0 0 0 (by decide) (by decide) (Or.inl exactRepr_rat)

/-- A standard model with NON-ZERO rounding errors: rationals in which every `add sub mul div` returns
    the exact result times `1 + 2⁻⁵³` (the largest relative error the model allows, always upwards). -/
structure QUp where
  q : Rat

instance : FloatOps QUp where
  ofInt n := ⟨(n : Rat)⟩
  add a b := ⟨(a.q + b.q) * (1 + 1 / 2 ^ 53)⟩
  sub a b := ⟨(a.q - b.q) * (1 + 1 / 2 ^ 53)⟩
  mul a b := ⟨(a.q * b.q) * (1 + 1 / 2 ^ 53)⟩
  div a b := ⟨(a.q / b.q) * (1 + 1 / 2 ^ 53)⟩
  floor a := ⟨(a.q.floor : Rat)⟩
  round a := ⟨(ratRound a.q : Rat)⟩
  lt a b := decide (a.q < b.q)
  toInt a := ratTrunc a.q

theorem stdModel_qup : StdModel QUp QUp.q (fun _ => True) where
  ofInt_exact := fun n _ => ⟨trivial, rfl⟩
  add_err := fun a b _ _ _ => ⟨trivial, u, by rw [abs_of_pos u_pos], rfl⟩
  sub_err := fun a b _ _ _ => ⟨trivial, u, by rw [abs_of_pos u_pos], rfl⟩
  mul_err := fun a b _ _ _ => ⟨trivial, u, 0, by rw [abs_of_pos u_pos], by simp [eta_nonneg],
    by simp [FloatOps.mul, u]⟩
  div_err := fun a b _ _ _ _ => ⟨trivial, u, 0, by rw [abs_of_pos u_pos], by simp [eta_nonneg],
    by simp [FloatOps.div, u]⟩
  floor_exact := fun a _ => ⟨trivial, rfl⟩
  round_exact := fun a _ => ⟨trivial, rfl⟩
  lt_exact := fun a b _ _ => by simp [FloatOps.lt]
  toInt_exact := fun a _ _ => rfl

/-- in `QUp` the serial of 2024-05-23T05:04:02 is NOT the exact one, and the round trip still returns
    the date and time to the second -/
example : (serialOf QUp 45435 18242).q ≠ 45435 + 18242 / 86400 := by
  simp only [serialOf, FloatOps.add, FloatOps.div, FloatOps.ofInt]; norm_num
example : excelToEpochSeconds (serialOf QUp 45435 18242) = 1716440642 := by
  rw [C18_time_float stdModel_qup 45435 18242 (by decide) (by decide)]; decide
example : (serialOf QUp 45435 18242).q < (serialOf QUp 45435 18243).q :=
  (C18_monotone_float stdModel_qup 45435 18242 45435 18243 (by decide) (by decide) (by decide) (by decide)
    (Or.inr ⟨rfl, by decide⟩)).1

end Umya.Thm.C18
