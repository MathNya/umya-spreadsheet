/-
  C06 (defined names: where they live, continued) — appended sheets, histories of appends and
  removals, and the sheet of the first area derived from the address text.
  Model: Umya/Model/AnnotNames.lean, Umya/Model/AnnotNamesText.lean.
-/
import Umya.Model.AnnotNamesText
import Umya.Lemmas.AnnotNamesHome
import Umya.Lemmas.ListRel
import Umya.Thm.C06
import Umya.Thm.C06Names
namespace Umya.Thm.C06
open Umya.AnnotNames

/-- Spreadsheet::new_sheet / add_sheet put the sheet at the end;
    a stable book stays stable when no workbook-level name's first area names the new title
    and the new sheet's own names have the new position as destination (`AppendOK`; an empty new
    sheet — what new_sheet makes — satisfies the second half).  Only this direction is stated; that the first half
    cannot be dropped is shown on one book (`C06_defined_names_append_sheet_needs_hyp`). -/
theorem C06_defined_names_append_sheet_stable (b : Book) (s : Sheet) (h : Stable b) (ha : AppendOK b s) :
    Stable (appendSheet s b) := by
  rw [stable_iff] at h ⊢
  rw [show (appendSheet s b).titles = b.titles ++ [s.title] by simp [appendSheet, Book.titles]]
  constructor
  · intro d hd; rw [target_append, h.1 d hd, if_neg fun e => ha.1 d hd e.2]; rfl
  · intro p s' hp d hd
    simp only [appendSheet, List.getElem?_append] at hp
    split at hp
    · rw [target_append, h.2 p s' hp d hd]; rfl
    · obtain ⟨hp0, rfl⟩ : p - b.sheets.length = 0 ∧ s = s' := by simpa [List.getElem?_singleton] using hp
      rw [ha.2 d hd]; congr 1; omega

/-- the hypothesis is needed: a workbook-level name whose first area names the new title moves onto
    the appended sheet. -/
theorem C06_defined_names_append_sheet_needs_hyp :
    let d : DN := ⟨"N".toList, none, "New!$A$1".toList, some "New".toList⟩
    let b : Book := ⟨[d], [⟨"S1".toList, []⟩]⟩
    Stable b ∧ read (appendSheet ⟨"New".toList, []⟩ b).titles (write (appendSheet ⟨"New".toList, []⟩ b))
      = some ⟨[], [⟨"S1".toList, []⟩, ⟨"New".toList, [d]⟩]⟩ := by
  decide +kernel

/-- After any history of appended sheets and remove_sheet calls
    on a stable book — every appended sheet satisfying `AppendOK` for the book it is appended to —
    save + reload returns the book as it stands. -/
theorem C06_defined_names_after_history (b : Book) (ops : List HistOp) (h : Stable b) (hok : HistOK b ops) :
    let b' := ops.foldl applyOp b
    read b'.titles (write b') = some b' := by
  intro b'
  refine C06_defined_names_rehome_roundtrip _ ?_
  have : ∀ (ops : List HistOp) (b : Book), Stable b → HistOK b ops → Stable (ops.foldl applyOp b) := by
    intro ops; induction ops with
    | nil => intro b h _; exact h
    | cons o r ih =>
      intro b h hok
      cases o with
      | append s => exact ih _ (C06_defined_names_append_sheet_stable b s h hok.1) hok.2
      | remove i => exact ih _ (C06_defined_names_remove_sheet_stable b i h) hok
  exact this ops b h hok

/-- non-vacuity: exBook, first sheet removed, a sheet with a scoped and a homed name appended,
    the (new) first sheet removed, an empty sheet appended. -/
def exHist : List HistOp :=
  [.remove 0,
   .append ⟨"S4".toList, [⟨"D".toList, some 2, "S1!$A$1".toList, some "S1".toList⟩, ⟨"E".toList, none, "S4!$B$2".toList, some "S4".toList⟩]⟩,
   .remove 0, .append ⟨"S5".toList, []⟩]

theorem exHist_ok : HistOK exBook exHist := by
  refine ⟨⟨?_, ?_⟩, ⟨?_, ?_⟩, trivial⟩ <;> (intro d hd; revert d; decide +kernel)

example : HistOK exBook exHist := exHist_ok
example : (let b' := exHist.foldl applyOp exBook
           read b'.titles (write b') = some b' ∧ b'.titles = ["S3".toList, "S4".toList, "S5".toList]) :=
  ⟨C06_defined_names_after_history exBook exHist exBook_stable exHist_ok, by decide +kernel⟩

/-- For the address text the library prints for areas a₁,…,aₙ (n ≥ 1) —
    `DefinedName::get_address` = the `get_address_ptn2` texts joined by ',' — the reader's
    `get_address_obj().get(0).get_sheet_name()` is the sheet of a₁, un-quoted and un-doubled.
    Quoting hypothesis = `AreaOK` of every area (Umya/Lemmas/AnnotNames.lean): the sheet name is legal
    (non-empty, not starting with an apostrophe, none of `: \ ? [ ] / *`), the range is a cell or
    cell:cell with column ≤ ZZZ and row < 2^32; the writer quotes every sheet name that is not plain
    (`C17_quote_rule`) and doubles the apostrophes of a quoted one (addressText .. true), so blanks, `!`, `,`, `"`,
    apostrophes inside are covered. -/
theorem C06_defined_names_first_area (a : Umya.Annot.Address) (r : List Umya.Annot.Address)
    (h : ∀ x ∈ a :: r, Umya.Annot.AreaOK x) :
    firstAreaSheet (Umya.Annot.DefName.text { areas := a :: r }) = .ok (some a.sheet) := by
  unfold firstAreaSheet
  rw [C06_defined_name_roundtrip (a :: r) h]
  rfl

/-- any other text (formula, constant, whole rows / columns, a list with such a part): no address
    object, so no first area — such a name is homed by its localSheetId only. -/
theorem C06_defined_names_first_area_text (v : List Char) (h : (Umya.Annot.splitStr v).all Umya.Annot.isAddress = false) :
    firstAreaSheet v = .ok none := by
  unfold firstAreaSheet
  rw [(C06_defined_name_text_kept v h).1]
  rfl

example : firstAreaSheet "'It''s, a!b'!$A$1,'S2'!$B$2:$C$3".toList = .ok (some "It's, a!b".toList)
    ∧ firstAreaSheet "'S 1'!$A:$B".toList = .ok none ∧ firstAreaSheet "SUM(1,2)".toList = .ok none :=
  ⟨by decide +kernel, C06_defined_names_first_area_text _ (by decide +kernel),
    C06_defined_names_first_area_text _ (by decide +kernel)⟩

theorem mapM_parse_forget (l : List DN) (h : ∀ d ∈ l, Derived d) : (l.map DN.forget).mapM DNT.parse = some l := by
  rw [List.mapM_map, mapM_some (DNT.parse ∘ DN.forget) id l, List.map_id]
  intro d hd
  have := h d hd
  unfold Derived at this
  simp [DNT.parse, DN.forget, this]

/-- The round trip restated for the reader that
    works from the `<definedName>` elements alone (name, localSheetId, text) and derives the first
    area from the text: for a stable book all of whose names have `first = firstAreaSheet addr`
    (`Derived`), reading the written elements returns the same book.  With
    C06_defined_names_first_area / _first_area_text, `Derived` holds for every name whose address is
    a printed list of `AreaOK` areas (first = the first area's sheet) or a text is_address rejects
    (first = none). -/
theorem C06_defined_names_rehome_roundtrip_text (b : Book) (h : Stable b)
    (hd : (∀ d ∈ b.wb, Derived d) ∧ ∀ s ∈ b.sheets, ∀ d ∈ s.names, Derived d) :
    readText b.titles (writeText b) = some b := by
  have hall : ∀ d ∈ write b, Derived d := by
    intro d hm
    rcases List.mem_append.mp hm with hm | hm
    · exact hd.1 d hm
    · simp only [flat, List.mem_flatten, List.mem_map] at hm
      obtain ⟨l, ⟨s, hs, rfl⟩, hdl⟩ := hm
      exact hd.2 s hs d hdl
  unfold readText writeText
  rw [mapM_parse_forget (write b) hall]
  exact C06_defined_names_rehome_roundtrip b h

instance (d : DN) : Decidable (Derived d) := by unfold Derived; exact inferInstance

/-- non-vacuity: exBook's names are all derived from their texts -/
example : (∀ d ∈ exBook.wb, Derived d) ∧ ∀ s ∈ exBook.sheets, ∀ d ∈ s.names, Derived d := by
  refine ⟨?_, ?_⟩
  · intro d hd; revert d; decide +kernel
  · intro s hs; revert s; decide +kernel

end Umya.Thm.C06
