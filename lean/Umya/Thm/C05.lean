/-
  C05 — styles and dimensions survive save/reload; interning never merges styles.

  Model: Umya/Model/Style.lean (the style sheet after fix 76f6c24: the font / fill / border tables are
  searched with `==`), Umya/Model/Interning.lean.  Parameters, hypothesised and not modelled:
  * `key` — md5, still used by `NumberingFormats::set_style` (key = md5 of the format code) and by
    `Columns::write_to` (key = md5 of width ‖ hidden ‖ bestFit): assumed injective (`hkey`);
  * `cs : Codecs` — the XML codecs of font / fill / border / alignment / protection / format code:
    "write, then read" is `some ∘ norm` for an idempotent `norm` (part of the `Codec` structure).
    That `norm` preserves the effective value of every attribute is not part of `Codec`; it is proved
    for the concrete codecs in Umya/Thm/C05Codec.lean, and here for the token-level pattern fill
    (after fix 90daeac): `C05_pattern_fill_reload`, `C05_pattern_fill_no_merge`.
  `Inv cs ss` is the invariant of a style sheet (Umya/Lemmas/Style.lean); it holds for the style
  sheet of `new_file()` (`C05_init`) and is preserved by `set_style`.
-/
import Umya.Lemmas.Style
import Umya.Lemmas.StyleCols
import Umya.Lemmas.StyleReload
import Umya.Lemmas.TablesGen
namespace Umya.Thm.C05
open Umya.Style Umya.Interning

/-- the style sheet of `new_file()` satisfies the invariant (base case of every induction below) -/
theorem C05_init (cs : Codecs) (key : Tok → Tok) : Inv cs (initSheet key) := init_inv cs key

/-- set → get: the index `set_style` returns, read back after save + reload
    (`styleAt` = `get_style_by_cell_format` on the reloaded tables), shows the same effective
    formatting as the style that was set; and `set_style` keeps the invariant. -/
theorem C05_get_set (cs : Codecs) (key : Tok → Tok) (hkey : ∀ a b, key a = key b → a = b)
    (ss : Sheet) (h : Inv cs ss) (s : Style) (hs : s.WF) :
    Inv cs (setStyle key ss s).1 ∧
    ∃ st e, styleAt cs (setStyle key ss s).1 (setStyle key ss s).2 = some st ∧
      eff cs (setStyle key ss s).1 st = some e ∧ eff cs (setStyle key ss s).1 s = some e := by
  obtain ⟨h1, _, r⟩ := setStyle_step hkey h hs
  exact ⟨h1, RT_styleAt r⟩

/-- the whole-sheet reader model (`reload`: every table through its codec, then `make_style`) does not
    panic on a style sheet satisfying the invariant, and `get_style(i)` on the result is `styleAt i` -/
theorem C05_reload (cs : Codecs) (ss : Sheet) (h : Inv cs ss) :
    ∃ r, reload cs ss = some r ∧ ∀ i, getStyle r i = styleAt cs ss i := by
  obtain ⟨r, hr⟩ := reload_succeeds cs ss h
  exact ⟨r, hr, reload_getStyle cs ss r hr⟩

/-- save, reload (the whole-sheet reader), `get_style` through the index `set_style` returned: the style read shows the
    effective formatting of the style that was set -/
theorem C05_get_set_reload (cs : Codecs) (key : Tok → Tok) (hkey : ∀ a b, key a = key b → a = b)
    (ss : Sheet) (h : Inv cs ss) (s : Style) (hs : s.WF) :
    ∃ r st e, reload cs (setStyle key ss s).1 = some r ∧ getStyle r (setStyle key ss s).2 = some st ∧
      eff cs (setStyle key ss s).1 st = some e ∧ eff cs (setStyle key ss s).1 s = some e := by
  obtain ⟨h1, st, e, hst, he, hs'⟩ := C05_get_set cs key hkey ss h s hs
  obtain ⟨r, hr, hg⟩ := C05_reload cs _ h1
  exact ⟨r, st, e, hr, by rw [hg]; exact hst, he, hs'⟩

/-- the same for a whole workbook: after ANY sequence of `set_style` calls (any order, any number
    of styles, any table size — induction over the list) every style of the sequence is read back,
    through the index it was given, with its own effective formatting: later insertions never
    change what an earlier index denotes. -/
theorem C05_get_set_all (cs : Codecs) (key : Tok → Tok) (hkey : ∀ a b, key a = key b → a = b)
    (ss : Sheet) (h : Inv cs ss) (l : List Style) (hl : ∀ s ∈ l, s.WF) (k : Nat) (s : Style)
    (hk : l[k]? = some s) :
    ∃ i st e, (setAll key ss l).2[k]? = some i ∧ styleAt cs (setAll key ss l).1 i = some st ∧
      eff cs (setAll key ss l).1 st = some e ∧ eff cs (setAll key ss l).1 s = some e := by
  obtain ⟨_, _, r⟩ := setAll_spec hkey l ss h hl
  obtain ⟨i, hi, hr⟩ := r.get_right hk
  obtain ⟨st, e, h1, h2, h3⟩ := RT_styleAt hr
  exact ⟨i, st, e, hi, h1, h2, h3⟩

/-- no merge: two styles of the sequence with different effective formatting never get the same
    xf index — for any order of insertion and any number of styles. -/
theorem C05_no_merge (cs : Codecs) (key : Tok → Tok) (hkey : ∀ a b, key a = key b → a = b)
    (ss : Sheet) (h : Inv cs ss) (l : List Style) (hl : ∀ s ∈ l, s.WF) (k j : Nat) (s t : Style)
    (hk : l[k]? = some s) (hj : l[j]? = some t)
    (hst : eff cs (setAll key ss l).1 s ≠ eff cs (setAll key ss l).1 t) :
    (setAll key ss l).2[k]? ≠ (setAll key ss l).2[j]? := by
  obtain ⟨_, _, r⟩ := setAll_spec hkey l ss h hl
  obtain ⟨i, hi, hr⟩ := r.get_right hk
  obtain ⟨i', hi', hr'⟩ := r.get_right hj
  intro heq
  rw [hi, hi'] at heq
  cases heq
  exact hst (RT_unique hr hr')

/-- no growth: setting the same style again returns the same index and changes no table
    (so a style used by many cells, or a second save of the same workbook, adds nothing) -/
theorem C05_no_growth (key : Tok → Tok) (ss : Sheet) (s : Style) :
    setStyle key (setStyle key ss s).1 s = setStyle key ss s ∧
    sizes (setStyle key (setStyle key ss s).1 s).1 = sizes (setStyle key ss s).1 := by
  have := setStyle_idem key ss s
  exact ⟨this, by rw [this]⟩

/-- save → reload → save: setting a style that is in `maked_style_list` (premise `hm`: the case of a style a reloaded cell
    carries) leaves the style sheet unchanged -/
theorem C05_no_growth_resave (key : Tok → Tok) (ss : Sheet) (s : Style) (hm : s ∈ ss.made) :
    (setStyle key ss s).1 = ss := setStyle_of_mem key ss s hm

/-- columns: expanding (reader) the merged `<col min max>` runs (writer) of the sorted column list
    gives back the sorted column list — widths, hidden / bestFit flags and styles of every column
    number.  (Holds for any list, sorted or not, duplicates or not.) -/
theorem C05_cols {σ : Type} [DecidableEq σ] (key : Tok → Tok) (hkey : ∀ a b, key a = key b → a = b)
    (cs : List (Col σ)) : expand (mergeCols key (sortCols cs)) = sortCols cs :=
  expand_mergeCols hkey _

/-- the column key (width ‖ hidden ‖ bestFit) is injective even without separators -/
theorem C05_col_key_injective {σ : Type} (c d : Col σ) (h : c.keyText = d.keyText) :
    c.width = d.width ∧ c.hidden = d.hidden ∧ c.bestFit = d.bestFit := Col.keyText_inj h

def arial1_1 : Font := { name := some "Arial1".toList, size := some "1".toList }
def arial_11 : Font := { name := some "Arial".toList, size := some "11".toList }

/-- `Font::get_hash_code` hashes name ‖ size ‖ … without separators: ("Arial1", 1) and ("Arial", 11)
    are different fonts with the same key text (shown for the colour hash `h := id`; for every `h` in
    `C05_key_lookup_merges_fails`) -/
theorem C05_font_key_fails : ¬ (∀ (h : Tok → Tok) (f g : Font), Font.keyText h f = Font.keyText h g → f = g) := by
  intro hinj
  have : arial1_1 = arial_11 := hinj id arial1_1 arial_11 (by decide +kernel)
  exact absurd this (by decide +kernel)

def size1_family12 : Font := { name := some "Arial".toList, size := some "1".toList, family := some "12".toList }
def size11_family2 : Font := { name := some "Arial".toList, size := some "11".toList, family := some "2".toList }
def noName : Font := { size := some "11".toList }
def namedEmpty : Font := { name := some "empty!!".toList, size := some "11".toList }

example : Font.keyText id size1_family12 = Font.keyText id size11_family2 ∧ size1_family12 ≠ size11_family2 := by decide +kernel
example : Font.keyText id noName = Font.keyText id namedEmpty ∧ noName ≠ namedEmpty := by decide +kernel

def argb7_tint61 : Color := { argb := some "FF12345".toList, tint := some "61".toList }
def argb8_tint1 : Color := { argb := some "FF123456".toList, tint := some "1".toList }

/-- `Color::get_hash_code`: indexed ‖ theme ‖ argb ‖ tint -/
theorem C05_color_key_fails : ¬ (∀ c d : Color, c.keyText = d.keyText → c = d) := by
  intro hinj
  exact absurd (hinj argb7_tint61 argb8_tint1 (by decide +kernel)) (by decide +kernel)

/-- look-up by key (the unfixed code): interning `arial_11` after `arial1_1` leaves the table as `arial1_1` left it, whatever
    the table and the colour hash — the second font is not added, so its index is that of an entry already there (two
    cells, one font).  Stated: the equality of the two tables. -/
theorem C05_key_lookup_merges_fails (h : Tok → Tok) (t : List Font) :
    (internKey (Font.keyText h) (internKey (Font.keyText h) t arial1_1).1 arial_11).1 =
      (internKey (Font.keyText h) t arial1_1).1 :=
  (internKey_merges (Font.keyText h) t arial1_1 arial_11 (by
    show Font.keyText h arial1_1 = Font.keyText h arial_11
    simp [Font.keyText, arial1_1, arial_11, Umya.Style.hs])).1

/-- with look-up by equality (the fixed code) the two fonts get different indices, whatever the table -/
theorem C05_eq_lookup_separates (t : List Font) :
    (internEq t arial1_1).2 ≠ (internEq (internEq t arial1_1).1 arial_11).2 :=
  internEq_no_merge t arial1_1 arial_11 (by decide +kernel)

def idCodec (α : Type) : Codec α := { rt := some, norm := id, rt_eq := fun _ => rfl, idem := fun _ => rfl }
def idCodecs : Codecs :=
  { font := idCodec _, fill := idCodec _, borders := idCodec _, alignment := idCodec _,
    protection := idCodec _, code := idCodec _ }

def sA : Style := { font := some arial1_1 }
def sB : Style := { font := some arial_11 }
def sC : Style := { font := some arial_11, numFmt := some (NumFmt.ofCode "0.000".toList),
                    alignment := some { horizontal := some "center".toList } }
def sD : Style := { numFmt := some (NumFmt.ofCode "0.00".toList) }

-- the hypotheses of the theorems are satisfiable: `key := id` is injective, the style sheet of
-- `new_file()` satisfies `Inv`, the styles are well-formed
example : ∀ a b : Tok, id a = id b → a = b := fun _ _ h => h
example : Inv idCodecs (initSheet id) := C05_init idCodecs id
/-- the number formats of `sC` and `sD`: one scan of the built-in table each, done here once.  999999 is the id
    `NumFmt.ofCode` gives a code that is not built in (Umya/Model/Style.lean; `set_style` replaces it by `maxId + 1`). -/
theorem demo_codes : NumFmt.ofCode "0.000".toList = ⟨999999, "0.000".toList, false⟩ ∧
    NumFmt.ofCode "0.00".toList = ⟨2, "0.00".toList, true⟩ := by
  -- `rw`, not `unfold`: the kernel checks a definitional unfolding of the `match` by running the scan
  rw [NumFmt.ofCode, NumFmt.ofCode]
  simp only [builtinCodes, List.map_cons, List.map_nil, toList_lit]
  decide +kernel

theorem wf_list : ∀ s ∈ [sA, sB, sC, sD, sA], s.WF := by
  intro s hs v hv
  simp only [List.mem_cons, List.mem_nil_iff, or_false] at hs
  rcases hs with rfl | rfl | rfl | rfl | rfl <;>
    simp only [sA, sB, sC, sD, demo_codes, Option.some.injEq, reduceCtorEq] at hv <;> subst hv <;>
    unfold NumFmt.WF <;> decide +kernel

-- the colliding fonts get two different xf indices and two font entries; a repeat adds nothing
example : (setAll id (initSheet id) [sA, sB, sC, sD, sA]).2 = [2, 3, 4, 5, 2] := by decide +kernel
example : sizes (setAll id (initSheet id) [sA, sB, sC, sD, sA]).1 = (1, 3, 2, 1, 6, 6) := by
  simp only [sC, sD, demo_codes]; decide +kernel
example : eff idCodecs (initSheet id) sA ≠ eff idCodecs (initSheet id) sB := by decide +kernel
-- custom number formats are numbered from 176; a built-in code keeps its built-in id
example : ((setAll id (initSheet id) [sC, sD]).1.xfs.map (·.numFmtId)) = [0, 0, 176, 2] := by
  simp only [sC, sD, demo_codes]; decide +kernel

-- columns: three adjacent equal columns and a different one become two runs and expand back
def cols4 : List (Col Nat) :=
  [⟨3, "10".toList, false, false, 7⟩, ⟨1, "10".toList, false, false, 7⟩, ⟨2, "10".toList, false, false, 7⟩,
   ⟨4, "10".toList, true, false, 7⟩]
example : (mergeCols id (sortCols cols4)).map (fun r => (r.min, r.max)) = [(1, 3), (4, 4)] := by decide +kernel
example : expand (mergeCols id (sortCols cols4)) = sortCols cols4 := C05_cols id (fun _ _ h => h) cols4

/-! The token-level pattern fill after fix 90daeac.  `PatternFill.norm` is idempotent because each colour comes back as `Color.rt`,
  which fixes what it returns; that is wanted by `patternFillCodec` only, the two theorems read off the definitions. -/

theorem _root_.Umya.Style.Color.norm_idem (c : Color) : c.norm.norm = c.norm := by
  unfold Color.norm
  cases c.theme <;> cases c.indexed <;> simp

theorem _root_.Umya.Style.Color.norm_isBlank (c : Color) : c.norm.isBlank = c.isBlank := by
  unfold Color.norm Color.isBlank
  cases c.theme <;> cases c.indexed <;> simp

theorem _root_.Umya.Style.Color.rt_rt (c d : Color) (h : c.rt = some d) : d.rt = some d := by
  unfold Color.rt at h ⊢
  split at h
  · cases h
  · rename_i hb
    cases h
    rw [Color.norm_isBlank, Color.norm_idem]
    simp [hb]

theorem _root_.Umya.Style.optColor_rt_idem (o : Option Color) : (o.bind Color.rt).bind Color.rt = o.bind Color.rt := by
  cases o with
  | none => rfl
  | some c =>
    cases h : c.rt with
    | none => simp [h]
    | some d => simp [h, Color.rt_rt c d h]

theorem _root_.Umya.Style.PatternFill.norm_idem (p : PatternFill) : p.norm.norm = p.norm := by
  simp [PatternFill.norm, PatternFill.read, PatternFill.write, optColor_rt_idem]

/-- A pattern fill survives save + reload.  For every pattern fill — any patternType (set or unset,
    `none` included), any foreground / background colour — what the reader builds from what the writer
    wrote has the same `patternType` (hence the same effective pattern: no none → solid), and each colour
    is the colour that was written (`Color.rt`: the attribute the writer prefers, `theme` over `indexed`
    over `rgb`, and the tint; a colour without any attribute is not written and comes back absent).
    patternType none / unset with a foreground colour is the case a reader built on the public setter gets
    wrong (`C05_setter_auto_solid`; the defect repaired by fix 90daeac).  The model of `write_to` /
    `set_attributes` is tied to the code by the harness' save / reload oracle (every attribute compared
    through the public getters), not by the driver's dump. -/
theorem C05_pattern_fill_reload (p : PatternFill) :
    p.norm.patternType = p.patternType ∧ p.norm.effPattern = p.effPattern ∧
    p.norm.fg = p.fg.bind Color.rt ∧ p.norm.bg = p.bg.bind Color.rt := by
  simp [PatternFill.norm, PatternFill.read, PatternFill.write, PatternFill.effPattern]

/-- no merge through the codec: two pattern fills that differ in their effective pattern still differ
    after save + reload (none + colour and solid + the same colour stay apart) -/
theorem C05_pattern_fill_no_merge (p q : PatternFill) (h : p.effPattern ≠ q.effPattern) :
    p.norm ≠ q.norm := by
  intro e
  apply h
  have hp := (C05_pattern_fill_reload p).2.1
  have hq := (C05_pattern_fill_reload q).2.1
  rw [← hp, ← hq, e]

/-- `PatternFill.norm` packaged as a `Codec` (`rt = some ∘ norm`, `norm` idempotent).  It is a codec of the pattern-fill
    component only: `Codecs.fill` is a `Codec Fill`, so this value is not what the interning theorems take for `cs.fill`
    (that is `fillCodec`, Umya/Lemmas/StyleCodecBridge.lean). -/
def patternFillCodec : Codec PatternFill :=
  { rt := fun p => some p.norm, norm := PatternFill.norm, rt_eq := fun _ => rfl, idem := PatternFill.norm_idem }

def redFg : Color := { argb := some "FFFF0000".toList }
def noneRed : PatternFill := { patternType := some "none".toList, fg := some redFg }
def unsetRed : PatternFill := { fg := some redFg }
def solidRed : PatternFill := { patternType := some "solid".toList, fg := some redFg }

-- pattern none / unset / solid with the same foreground colour: each comes back as it is; none and solid stay apart
example : noneRed.norm = noneRed ∧ unsetRed.norm = unsetRed ∧ solidRed.norm = solidRed := by decide +kernel
example : noneRed.effPattern ≠ solidRed.effPattern ∧ noneRed.norm ≠ solidRed.norm := by
  refine ⟨?h, C05_pattern_fill_no_merge _ _ ?h⟩
  decide +kernel
-- a colour with several attributes comes back with the one the writer prefers; a blank colour is dropped
example : ({ fg := some { theme := some "1".toList, argb := some "FF000000".toList }, bg := some {} } : PatternFill).norm
    = { fg := some { theme := some "1".toList } } := by decide +kernel

/-- the public setter still applies the auto rule (unchanged API): this is why the reader must not go
    through it — a reader built on it turns none + colour into solid -/
theorem C05_setter_auto_solid (c : Color) :
    (PatternFill.setForegroundColor { patternType := some "none".toList } c).effPattern = "solid".toList ∧
    (PatternFill.setForegroundColor {} c).effPattern = "solid".toList ∧
    (PatternFill.setForegroundColor { patternType := some "gray125".toList } c).effPattern = "gray125".toList := by
  refine ⟨?_, ?_, ?_⟩ <;> simp [PatternFill.setForegroundColor, PatternFill.effPattern] <;> decide

example : (PatternFill.setForegroundColor { patternType := some "none".toList } redFg) = solidRed := by decide +kernel

/-- Tie to the source (T).  The built-in number-format table the model uses is the one
    `tools/extract_tables.py` regenerated from `FILL_BUILT_IN_FORMAT_CODES` on this run. -/
theorem C05_tables_match_source :
    Umya.Gen.builtin_format_codes.map (fun p => (p.1, p.2.toList)) = Umya.Style.builtinCodes :=
  Umya.Gen.gen_builtin_formats

end Umya.Thm.C05
