/-
  C19 — tie to the source (T): `excel_to_date_time_object_checked` of src/helper/date.rs (fix d30eec7), the
  conversion `format_as_date` rests on, compiled to Lean from the CURRENT source on every run (tools/extract_fns.py →
  Umya/Model/Gen/Fns.lean), equals the hand model the C19 date theorems are about, for all arguments.
-/
import Umya.Lemmas.FnsGenDate
namespace Umya.Thm.C19
open Umya.Date

/-- `excel_to_date_time_object_checked` as it is in the source — the three base dates
    with the thresholds 1 and 60, the floor / subtract / ×24 / floor / ×60 / floor / ×60 / round chain, the
    saturating `as i64`, then `base_date.checked_add_signed(Duration::try_days(..)?)?` … `try_hours`, `try_minutes`,
    `try_seconds`, every `?` an early `None` — is, for every float interface `F`, every value and every (unused)
    time-zone argument, the model's `excelToEpochSecondsChecked` (`none` = the function returns `None`); the
    run-time library's `TimeDelta` / `NaiveDateTime` bounds are the model's `trySeconds` / `tryUnits` /
    `checkedAddSigned` / `chronoMinSec` / `chronoMaxSec` (second clause: both sides are hand-written, `Model/GenPrelude.lean` and
    `Model/Date.lean`, and no regenerated text enters it); chrono's calendar = the reference calendar.
    Last clause: the end of `format_as_date` (src/helper/number_format/date_formater.rs) as it is in the source —
    `match excel_to_date_time_object_checked(value, None) { Some(v) => v, None => return value.to_string() }`, then
    chrono's rendering — followed by the trimming of `to_formatted_string`, is the model's `formatAsDateChecked`
    (`g` = `f64::to_string(value)`; chrono's `format` represented by the model's `strftime`). -/
theorem C19_date_checked_matches_source :
    (∀ (F : Type) [FloatOps F] (ts : F) (tz : Option (List Char)),
      Umya.Gen.excel_to_date_time_object_checked F Umya.Gen.refChrono ts tz = excelToEpochSecondsChecked ts) ∧
    (Umya.Gen.rt_try_units = tryUnits ∧ Umya.Gen.rt_try_seconds = trySeconds ∧
     (∀ t d, Umya.Gen.rt_checked_add_signed Umya.Gen.refChrono t d = checkedAddSigned t d) ∧
     Umya.Gen.Chrono.midnight Umya.Gen.refChrono (-262143) 1 1 = chronoMinSec ∧
     Umya.Gen.Chrono.midnight Umya.Gen.refChrono 262142 12 31 + 86399 = chronoMaxSec) ∧
    (∀ (F : Type) [FloatOps F] (f g sf : List Char) (ts : F), strftimeOf f = some sf →
      (Umya.Gen.format_as_date_tail F Umya.Gen.refChrono (fun t s => strftime (ofEpochSeconds t) s (s.length + 1))
          (fun _ => g) ts sf).map trimBlanks = formatAsDateChecked f g ts) :=
  ⟨fun F _ ts tz => Umya.Gen.gen_excel_to_date_time_object_checked F ts tz,
   ⟨rfl, rfl, fun _ _ => rfl, rfl, rfl⟩,
   fun F _ f g sf ts h => Umya.Gen.gen_format_as_date_tail F f g sf ts h⟩

/-- instances: inside chrono's range, beyond `NaiveDateTime::MAX`, beyond `TimeDelta` -/
example : Umya.Gen.excel_to_date_time_object_checked Fix Umya.Gen.refChrono ⟨86400 * 45435 + 3600⟩ none = some 1716426000 := by decide
example : Umya.Gen.excel_to_date_time_object_checked Fix Umya.Gen.refChrono ⟨86400 * 95051806⟩ none = none := by decide
example : Umya.Gen.excel_to_date_time_object_checked Fix Umya.Gen.refChrono ⟨86400 * 200000000000000⟩ none = none := by decide

end Umya.Thm.C19
