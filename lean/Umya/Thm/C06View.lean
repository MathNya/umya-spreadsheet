/-
  C06 — the attribute-level codecs.

  Models: `Umya/Model/AnnotCodec.lean`, `AnnotProt.lean`, `AnnotView.lean`, `AnnotPage.lean` (records with
  the fields the Rust structs hold; `write` = the element tree an XML 1.0 reader delivers for what
  `write_to` emits; `read` = `set_attributes`).  Each theorem says: for EVERY storable value,
  `read (write x) = x`, or `= norm x` with `norm` explicit and idempotent.  On a sheet view the getters do
  not see `norm` (`C06_sheet_view_norm`); on the tab colour they do: `normTab` keeps the first present of
  theme / indexed / rgb and drops an object without a value (`C06_tab_color_empty_object_fails`).
  Outer `some` = "no Rust panic on the way".

  The step between the decoded attribute / text values used here and the bytes of the part is the
  character-level channel proved for every text in C02 / C03; `C06_view_attr_channel` and
  `C06_header_footer_text_channel` restate it for the two writers used by these elements.

  Tie to the code on every run: the `view` / `page` / `prot` request families of `harness/src/c06_view.rs`
  and `Umya/Driver/C06View.lean` (the real elements of the written part, lexed by `Umya.Spec.Xml.parse`,
  against `write x`; `read` of the real element against the reloaded getters; `write (read ..)` against
  the element of a second save), and `C06_view_tables_match_source` (enum and field ↔ attribute tables
  regenerated from the Rust source).
-/
import Umya.Lemmas.AnnotProt
import Umya.Lemmas.AnnotView
import Umya.Lemmas.AnnotPage
import Umya.Lemmas.TablesGenView
import Umya.Lemmas.XmlAgree
import Umya.Lemmas.XmlChannel
import Umya.Lemmas.CellDecode
namespace Umya.Thm.C06
open Umya.Spec.Xml (Node Attr)
open Umya.Dec Umya.AnnotCodec Umya.AnnotProt Umya.AnnotView Umya.AnnotPage Umya.Coord

/-- a concrete float-token instance for the non-vacuity examples: two tokens, `0` and `1` -/
def exFmt : Umya.Num.NumFmt where
  Num := Bool
  fmt := fun b => if b then ['1'] else ['0']
  parse := fun t => if t = ['1'] then some true else if t = ['0'] then some false else none
  deq := inferInstance

def exZ : NumZ := ⟨exFmt, false⟩

theorem exFmt_sound : exFmt.Sound :=
  ⟨fun n => by cases n <;> rfl, fun n => by cases n <;> simp [exFmt], fun n c hc => by cases n <;> simp_all [exFmt, Umya.Num.numChar]⟩

/-- Attribute values (`write_start_tag` … `get_attribute`): every stored text comes back, both through
    an XML 1.0 reader and through the library's own reader. -/
theorem C06_view_attr_channel (s : List Char) :
    Umya.Spec.Xml.attrValue (Umya.XmlEsc.attrEscape s) = some s ∧ Umya.XmlEsc.attrRead (Umya.XmlEsc.attrWrite s) = s :=
  ⟨Umya.XmlChannel.attrValue_attrEscape s, Umya.XmlEsc.attrRead_attrWrite s⟩

/-- Header / footer text (`write_text_node` … `unescape_text`): the element content an XML reader
    delivers for the written bytes is exactly `txt t` (no child for the empty text), and the library's
    reader returns `t` — for every text, blanks at either end included (the header / footer readers do not
    trim since fix cd8e1b4). -/
theorem C06_header_footer_text_channel (t : List Char) :
    Umya.CellNode.charData (Umya.Xml.escape t) = some (Umya.AnnotPage.txt t) ∧
    Umya.XmlEsc.textRead (Umya.Xml.escape t) = some t :=
  ⟨Umya.CellNode.charData_escape t, Umya.Reader.Lemmas.textRead_of_textValue (Umya.XmlChannel.textValue_escape t)⟩

example : Umya.XmlEsc.textRead (Umya.Xml.escape " &L&\"Arial,Bold\"&12 a<b>&amp; \r\n ".toList)
    = some " &L&\"Arial,Bold\"&12 a<b>&amp; \r\n ".toList := (C06_header_footer_text_channel _).2

/-- Every storable `SheetProtection` — any texts for algorithm / hash / salt /
    legacy password, any `u32` spin count, each of the sixteen flags absent, false or true,
    independently — reloads as itself, including which fields have a value. -/
theorem C06_sheet_protection_codec (x : SheetProtection) (h : x.WF) : SheetProtection.read x.write = some x :=
  SheetProtection.read_write x h

/-- No two of the 21 fields share an attribute, and so distinct flags have
    distinct attributes. -/
theorem C06_sheet_protection_flags_distinct :
    sheetProtectionKeys.Nodup ∧ (∀ f g : Flag, f.attr = g.attr → f = g) :=
  ⟨sheetProtectionKeys_nodup, fun f g =>
    inj_of_nodup_map (List.nodup_append.mp sheetProtectionKeys_nodup).2.1 (flag_mem_all f) (flag_mem_all g)⟩

/-- Each flag has its own attribute: the attribute named after flag `f` in the written element carries
    exactly `f`'s value, whatever all the other fields hold. -/
theorem C06_sheet_protection_flag_attr (x : SheetProtection) (f : Flag) :
    getAttr x.write.attrs f.attr = (x.flags f).map boolStr :=
  getAttr_render _ x.fields_nodup (x.flag_mem f)

/-- a non-trivial value: hash fields, a spin count, one flag on, one explicitly off, the others absent -/
def exSheetProtection : SheetProtection where
  algorithmName := some "SHA-512".toList
  hashValue := some "q1+a/b&<\"'==".toList
  spinCount := some 100000
  flags := fun f => if f = Flag.formatRows then some true else if f = Flag.sheet then some false else none

example : exSheetProtection.WF ∧ SheetProtection.read exSheetProtection.write = some exSheetProtection := by
  have h : exSheetProtection.WF := by intro n h; injection h with h; omega
  exact ⟨h, C06_sheet_protection_codec _ h⟩

example : getAttr exSheetProtection.write.attrs "formatRows".toList = some ['1'] ∧
    getAttr exSheetProtection.write.attrs "formatColumns".toList = none ∧
    getAttr exSheetProtection.write.attrs "sheet".toList = some ['0'] :=
  ⟨C06_sheet_protection_flag_attr _ .formatRows, C06_sheet_protection_flag_attr _ .formatColumns,
   C06_sheet_protection_flag_attr _ .sheet⟩

/-- All thirteen fields reload as stored. -/
theorem C06_workbook_protection_codec (x : WorkbookProtection) (h : x.WF) : WorkbookProtection.read x.write = some x :=
  WorkbookProtection.read_write x h

theorem C06_workbook_protection_attrs_distinct : workbookProtectionKeys.Nodup := workbookProtectionKeys_nodup

example : WorkbookProtection.read (WorkbookProtection.write
    { lockStructure := some true, lockWindows := some false, workbookPassword := some "ABCD".toList,
      revisionsSpinCount := some 4294967295 })
    = some { lockStructure := some true, lockWindows := some false, workbookPassword := some "ABCD".toList,
             revisionsSpinCount := some 4294967295 } :=
  C06_workbook_protection_codec _ ⟨by simp, by intro n h; injection h with h; omega⟩

/-- A sheet with a tab-colour object reloads with `normTab` of it: the first present of
    theme / indexed / rgb plus the tint; an object without any value is not written and is gone. -/
theorem C06_tab_color_codec {Z : NumZ} (hs : Z.F.Sound) (c : Color Z)
    (h3 : ∀ n, c.theme = some n → n < 4294967296) (h4 : ∀ n, c.indexed = some n → n < 4294967296) :
    readSheetPr (writeSheetPr [] (some c)) = some (normTab (some c)) :=
  Color.read_writeTab hs c h3 h4

/-- for every colour the public setters can build (`set_argb`, `set_indexed`, `set_theme_index`, `set_tint`
    keep at most one of the three sources) that has some value, that is the identity -/
theorem C06_tab_color_reachable {Z : NumZ} (hs : Z.F.Sound) (c : Color Z) (h : c.WF) (hne : c.isEmpty = false) :
    readSheetPr (writeSheetPr [] (some c)) = some (some c) := by
  rw [C06_tab_color_codec hs c h.2.2.1 h.2.2.2]
  simp [normTab, hne, Color.norm_of_WF c h]

/-- and a sheet without the object stays without -/
theorem C06_tab_color_none {Z : NumZ} : readSheetPr (Z := Z) (writeSheetPr (Z := Z) [] none) = some none := rfl

theorem C06_tab_color_norm_idem {Z : NumZ} (c : Color Z) : c.norm.norm = c.norm := Color.norm_idem c

example : Color.WF (Z := exZ) { theme := some 9, tint := some true } ∧
    Color.isEmpty (Z := exZ) { theme := some 9, tint := some true } = false := by
  refine ⟨⟨by simp, by simp, ?_, by simp⟩, rfl⟩
  intro n h; injection h with h; omega

/-- the residual: `get_tab_color_mut()` without setting anything leaves an object that does not survive -/
theorem C06_tab_color_empty_object_fails :
    ¬ (readSheetPr (Z := exZ) (writeSheetPr (Z := exZ) [] (some {}))).map (·.isSome) = some true := by decide

/-- `activeTab` reloads (absent stays absent). -/
theorem C06_active_tab (v : WorkbookView) (h : ∀ n, v.activeTab = some n → n < 4294967296) :
    WorkbookView.read v.write = some v :=
  WorkbookView.read_write v h

example : WorkbookView.read (WorkbookView.write ⟨some 5⟩) = some ⟨some 5⟩ :=
  C06_active_tab _ (by intro n h; injection h with h; omega)

/-- `name`, `localSheetId` (the sheet a name is scoped to) and `hidden`
    reload; a name object that never had a name gets the empty one. -/
theorem C06_defined_name_attrs (d : DnAttrs) (h : ∀ n, d.localSheetId = some n → n < 4294967296) :
    DnAttrs.read d.writeAttrs = some d.norm ∧ (d.name.isSome → d.norm = d) := by
  refine ⟨DnAttrs.read_write d h, ?_⟩
  intro hn
  obtain ⟨n, l, hd⟩ := d
  cases n with
  | none => simp at hn
  | some t => rfl

example : DnAttrs.read (DnAttrs.writeAttrs ⟨some "_xlnm.Print_Area".toList, some 3, some true⟩)
    = some ⟨some "_xlnm.Print_Area".toList, some 3, some true⟩ :=
  (C06_defined_name_attrs _ (by intro n h; injection h with h; omega)).1

/-- `from_str (get_value_string v) = Ok(v)` for every constructor of the four enums, and `from_str` accepts
    nothing else -/
theorem C06_enum_tables :
    (∀ v : PaneV, PaneV.fromStr v.toStr = some v) ∧ (∀ v : PaneState, PaneState.fromStr v.toStr = some v) ∧
    (∀ v : ViewV, ViewV.fromStr v.toStr = some v) ∧ (∀ v : Orientation, Orientation.fromStr v.toStr = some v) ∧
    (∀ t v, PaneV.fromStr t = some v → t = v.toStr) ∧ (∀ t v, PaneState.fromStr t = some v → t = v.toStr) ∧
    (∀ t v, ViewV.fromStr t = some v → t = v.toStr) ∧ (∀ t v, Orientation.fromStr t = some v → t = v.toStr) := by
  refine ⟨PaneV.fromStr_toStr, PaneState.fromStr_toStr, ViewV.fromStr_toStr, Orientation.fromStr_toStr, ?_, ?_, ?_, ?_⟩
  · intro t v h; unfold PaneV.fromStr at h; (repeat' split at h) <;> cases h <;> subst_vars <;> rfl
  · intro t v h; unfold PaneState.fromStr at h; (repeat' split at h) <;> cases h <;> subst_vars <;> rfl
  · intro t v h; unfold ViewV.fromStr at h; (repeat' split at h) <;> cases h <;> subst_vars <;> rfl
  · intro t v h; unfold Orientation.fromStr at h; (repeat' split at h) <;> cases h <;> subst_vars <;> rfl

/-- the spelling the library uses for the fourth pane is not the schema's (`topRight`): a part written by
    another producer loses the value (observation; the library agrees with itself) -/
theorem C06_pane_top_right_spelling : PaneV.fromStr "topRight".toList = none ∧ PaneV.toStr .topRight = "TopRight".toList := by
  decide +kernel

/-- Splits (float tokens), top-left cell (any cell up to column ZZZ, any `u32` row, any
    locks), active pane and state reload; the two enum fields have their default as VALUE afterwards. -/
theorem C06_pane_codec {Z : NumZ} (hs : Z.F.Sound) (p : Pane Z) (h : p.WF) :
    ∃ n, p.write = some n ∧ Pane.read n = some p.norm :=
  Pane.read_write hs p h

/-- `norm` is idempotent and the getters (`get_active_pane`, `get_state`: value or default) do not see it -/
theorem C06_pane_norm {Z : NumZ} (p : Pane Z) :
    p.norm.norm = p.norm ∧ p.norm.activePane.getD PaneV.dflt = p.activePane.getD PaneV.dflt ∧
    p.norm.state.getD PaneState.dflt = p.state.getD PaneState.dflt ∧ p.norm.xSplit = p.xSplit ∧
    p.norm.ySplit = p.ySplit ∧ p.norm.topLeft = p.topLeft := by
  simp [Pane.norm]

example : Pane.WF (Z := exZ) { xSplit := some true, topLeft := ⟨2, 7, false, true⟩, activePane := some PaneV.topRight, state := some PaneState.frozen } := by
  simp [Pane.WF, Coord.WF]

/-- Pane, active cell and the sequence of references (any number of ranges of the four
    shapes, in order) reload exactly. -/
theorem C06_selection_codec (s : Selection) (h : s.WF) : ∃ n, s.write = some n ∧ Selection.read n = some s :=
  Selection.read_write s h

/-- a selection with a pane, an active cell and two ranges -/
def exSelection : Selection where
  pane := some PaneV.topRight
  activeCell := some ⟨3, 4, false, false⟩
  sqref := [⟨some ⟨3, false⟩, some ⟨4, false⟩, none, none⟩, ⟨some ⟨1, false⟩, some ⟨1, false⟩, some ⟨2, false⟩, some ⟨9, false⟩⟩]

theorem exSelection_WF : exSelection.WF := by
  refine ⟨?_, ?_⟩
  · intro c h; injection h with h; subst h; simp [Coord.WF]
  · intro ρ h
    simp only [exSelection, List.mem_cons, List.not_mem_nil, or_false] at h
    rcases h with rfl | rfl
    · refine ⟨Or.inl (by simp), ?_, ?_, ?_, ?_⟩ <;> intro x hx <;> (try injection hx with hx) <;> (try subst hx) <;> simp_all
    · refine ⟨Or.inr (Or.inl (by simp)), ?_, ?_, ?_, ?_⟩ <;> intro x hx <;> (try injection hx with hx) <;> (try subst hx) <;> simp_all

example : exSelection.WF := exSelection_WF

/-- observation (not visible after reload, the reader ignores the attribute): the writer finds the range of
    the active cell by SUBSTRING search on the range texts, so for active cell `A1` and `sqref="AA10:AB12 A1"`
    it writes no `activeCellId` (index 0) although the cell lies in the second range.  The model follows the
    code; the tie compares the attribute. -/
example : activeCellId "A1".toList
    [⟨some ⟨27, false⟩, some ⟨10, false⟩, some ⟨28, false⟩, some ⟨12, false⟩⟩, ⟨some ⟨1, false⟩, some ⟨1, false⟩, none, none⟩] = 0 := by
  simp [activeCellId, containsSub, Range.print, optText, colRefText, rowRefText, indexToAlpha, alphaRev, letter, decDigits, digitChar, List.isPrefixOf]

/-- Every attribute, the pane and ANY NUMBER of selections in their order reload as
    `norm`: `tabSelected = Some(false)` becomes "no value", `workbookViewId` gets the value 0 when it had
    none, the pane is normalised as above. -/
theorem C06_sheet_view_codec {Z : NumZ} (hs : Z.F.Sound) (v : SheetView Z) (h : v.WF) :
    ∃ n, v.write = some n ∧ SheetView.read n = some v.norm := by
  obtain ⟨n, h1, _, _, h2⟩ := SheetView.read_write hs v h
  exact ⟨n, h1, h2⟩

/-- `norm` is idempotent; it keeps every getter's answer, the selections and all other fields -/
theorem C06_sheet_view_norm {Z : NumZ} (v : SheetView Z) :
    v.norm.norm = v.norm ∧ v.norm.tabSelected.getD false = v.tabSelected.getD false ∧
    v.norm.workbookViewId.getD 0 = v.workbookViewId.getD 0 ∧ v.norm.selections = v.selections ∧
    v.norm.showGridLines = v.showGridLines ∧ v.norm.view = v.view ∧ v.norm.zoomScale = v.zoomScale ∧
    v.norm.zoomScaleNormal = v.zoomScaleNormal ∧ v.norm.zoomScalePageLayoutView = v.zoomScalePageLayoutView ∧
    v.norm.zoomScaleSheetLayoutView = v.zoomScaleSheetLayoutView ∧ v.norm.topLeftCell = v.topLeftCell ∧
    v.norm.pane = v.pane.map Pane.norm := by
  refine ⟨SheetView.norm_idem v, ?_, ?_, rfl, rfl, rfl, rfl, rfl, rfl, rfl, rfl, rfl⟩
  · cases h : v.tabSelected.getD false <;> simp [SheetView.norm, h]
  · simp [SheetView.norm]

/-- All views of a sheet, any number, in order. -/
theorem C06_sheet_views_codec {Z : NumZ} (hs : Z.F.Sound) (vs : List (SheetView Z)) (hne : vs ≠ [])
    (h : ∀ v ∈ vs, v.WF) :
    ∃ n, writeViews vs = some [n] ∧ readViews n = some (vs.map SheetView.norm) :=
  writeViews_readViews hs vs hne h

/-- the plain identity does NOT hold: an explicit `tabSelected = false` is not written
    (witness: the view whose only value is `tabSelected = Some(false)`) -/
theorem C06_sheet_view_strict_fails :
    ¬ ∀ v : SheetView exZ, v.WF → ∀ n, v.write = some n → SheetView.read n = some v := by
  intro h
  have wf : SheetView.WF (Z := exZ) { tabSelected := some false } :=
    ⟨by simp, by simp, by simp, by simp, by simp, by simp, by simp⟩
  obtain ⟨n, h1, h2⟩ := C06_sheet_view_codec exFmt_sound { tabSelected := some false } wf
  have h3 := h _ wf n h1
  rw [h2] at h3
  have h4 := congrArg (Option.map (·.tabSelected)) h3
  simp [SheetView.norm] at h4

/-- `Worksheet::set_active_cell` is lost (known finding `C06-worksheet-active-cell-not-saved`; replayed by the
    harness witness `active-cell`).  The model states it and does not derive it: `writeActiveCell` and
    `readActiveCell` are constant by definition, since the writer has no code for the field and the reader's
    arms for it are unreachable. -/
theorem C06_active_cell_fails : ¬ ∀ c : Text, readActiveCell (writeActiveCell c) = c := by
  intro h
  exact absurd (h "B2".toList) (by decide)

/-- Paper size, orientation, scale, fit-to, dpi reload, and the printer settings blob
    too provided the sheet's relationships map the written id to it (the package writer's job, observed
    by the harness through `get_object_data`); a sheet without any page-setup value writes no element and
    reloads as the default. -/
theorem C06_page_setup_codec {Tok : Type} (rels : Text → Option Tok) (p : PageSetup Tok) (rid : Nat) (h : p.WF)
    (hrel : ∀ d, p.objectData = some d → rels (ridText rid) = some d) :
    PageSetup.read rels (p.write rid).1 = some p :=
  PageSetup.read_write rels p rid h hrel

example : PageSetup.read (Tok := Nat) (fun t => if t = ['r', 'I', 'd', '3'] then some 77 else none)
    (PageSetup.write { paperSize := some 9, orientation := some .landscape, horizontalDpi := some 4294967295, objectData := some 77 } 3).1
    = some { paperSize := some 9, orientation := some .landscape, horizontalDpi := some 4294967295, objectData := some 77 } :=
  C06_page_setup_codec _ _ 3 ⟨by intro n h; injection h with h; omega, by simp, by simp, by simp,
    by intro n h; injection h with h; omega, by simp⟩ (by intro d h; injection h with h; subst h; simp [ridText, decDigits, digitChar])

/-- The six margins reload; a margin without value comes back as the value zero
    (`norm`, idempotent, invisible to the getters which return zero for "no value"). -/
theorem C06_page_margins_codec {Z : NumZ} (hs : Z.F.Sound) (m : PageMargins Z) :
    PageMargins.read m.write = some m.norm ∧ m.norm.norm = m.norm ∧
    m.norm.left.getD Z.zero = m.left.getD Z.zero ∧ m.norm.right.getD Z.zero = m.right.getD Z.zero ∧
    m.norm.top.getD Z.zero = m.top.getD Z.zero ∧ m.norm.bottom.getD Z.zero = m.bottom.getD Z.zero ∧
    m.norm.header.getD Z.zero = m.header.getD Z.zero ∧ m.norm.footer.getD Z.zero = m.footer.getD Z.zero :=
  ⟨PageMargins.read_write hs m, PageMargins.norm_idem m, rfl, rfl, rfl, rfl, rfl, rfl⟩

theorem C06_print_options_codec (p : PrintOptions) : PrintOptions.read p.write = p := PrintOptions.read_write p

example : PrintOptions.read (PrintOptions.write ⟨some false, some true⟩) = ⟨some false, some true⟩ := C06_print_options_codec _

/-- Odd header and odd footer reload character for character — `&L&"Arial"` codes,
    XML-special characters, blanks at either end (fix cd8e1b4: the readers do not trim) — with one
    normalisation: an EMPTY text is "no value" afterwards; `get_value()` returns `""` for both. -/
theorem C06_header_footer_codec (h : HeaderFooter) :
    HeaderFooter.read h.write = h.norm ∧ h.norm.norm = h.norm ∧
    h.norm.headerText = h.headerText ∧ h.norm.footerText = h.footerText :=
  ⟨HeaderFooter.read_write h, HeaderFooter.norm_idem h, (HeaderFooter.norm_text h).1, (HeaderFooter.norm_text h).2⟩

/-- non-empty texts: the identity -/
theorem C06_header_footer_nonempty (h : HeaderFooter) (h1 : h.oddHeader ≠ some []) (h2 : h.oddFooter ≠ some []) :
    HeaderFooter.read h.write = h := by
  rw [(C06_header_footer_codec h).1]
  obtain ⟨a, b⟩ := h
  rcases a with _ | _ | ⟨c, r⟩ <;> rcases b with _ | _ | ⟨c', r'⟩ <;> simp_all [HeaderFooter.norm]

example : HeaderFooter.read (HeaderFooter.write ⟨some " &L&\"Arial,Bold\"&12 <a> ".toList, some "&CTitle with trailing blank ".toList⟩)
    = ⟨some " &L&\"Arial,Bold\"&12 <a> ".toList, some "&CTitle with trailing blank ".toList⟩ :=
  C06_header_footer_nonempty _ (by decide +kernel) (by decide +kernel)

/-- the plain identity does not hold for the empty text -/
theorem C06_header_footer_empty_fails : HeaderFooter.read (HeaderFooter.write ⟨some [], none⟩) ≠ ⟨some [], none⟩ := by decide +kernel

/-- The enum string tables (`get_value_string` arms, `from_str` arms,
    `Default`) of `pane_values.rs`, `pane_state_values.rs`, `sheet_view_values.rs`, `orientation_values.rs`
    and the field ↔ attribute tables of `sheet_protection.rs` / `workbook_protection.rs` (`set_attributes`
    macro lines; `write_to`: the field tested, the attribute pushed, the field whose text is pushed), as
    regenerated from the Rust source on this run, are the hand model's. -/
theorem C06_view_tables_match_source :
    Umya.Gen.pane_values_to_str = PaneV.all.map (fun v => (v.nameS, v.toStrS)) ∧
    Umya.Gen.pane_values_from_str = PaneV.all.map (fun v => (v.toStrS, v.nameS)) ∧
    Umya.Gen.pane_values_default = PaneV.dflt.nameS ∧
    Umya.Gen.pane_state_values_to_str = PaneState.all.map (fun v => (v.nameS, v.toStrS)) ∧
    Umya.Gen.pane_state_values_from_str = PaneState.all.map (fun v => (v.toStrS, v.nameS)) ∧
    Umya.Gen.pane_state_values_default = PaneState.dflt.nameS ∧
    Umya.Gen.sheet_view_values_to_str = ViewV.all.map (fun v => (v.nameS, v.toStrS)) ∧
    Umya.Gen.sheet_view_values_from_str = ViewV.all.map (fun v => (v.toStrS, v.nameS)) ∧
    Umya.Gen.sheet_view_values_default = ViewV.dflt.nameS ∧
    Umya.Gen.orientation_values_to_str = Orientation.all.map (fun v => (v.nameS, v.toStrS)) ∧
    Umya.Gen.orientation_values_from_str = Orientation.all.map (fun v => (v.toStrS, v.nameS)) ∧
    Umya.Gen.orientation_values_default = Orientation.default.nameS ∧
    Umya.Gen.sheet_protection_read_table = sheetProtectionTable ∧
    Umya.Gen.sheet_protection_write_table = sheetProtectionTable.map (fun p => (p.1, p.2, p.1)) ∧
    Umya.Gen.workbook_protection_read_table = workbookProtectionTable ∧
    Umya.Gen.workbook_protection_write_table = workbookProtectionTable.map (fun p => (p.1, p.2, p.1)) :=
  Umya.Gen.view_tables_match

end Umya.Thm.C06
