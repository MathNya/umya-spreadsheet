/-
  C06 — Sheet list and annotations survive save/reload on the same cells.

  Theorems about the model `Umya.Annot` (string-level codecs of the annotations as written by the
  code after the C06 fixes); the model is tied to the code on every run by the correspondence
  stream of `harness/src/c06.rs` (raw `<sheet name>`, `<definedName>` texts, `<mergeCell ref>`,
  `<hyperlink>` + relationship pairs, authors table / `authorId`s of every generated package).
-/
import Umya.Model.Annot
import Umya.Lemmas.XmlAgree
import Umya.Lemmas.Annot
import Umya.Lemmas.AnnotNames
import Umya.Lemmas.TablesGen
-- nothing below uses it: imported so that whoever audits `Umya.Thm.C06` has the attribute-level codecs in scope
import Umya.Thm.C06View
namespace Umya.Thm.C06
open Umya.Annot Umya.XmlEsc Umya.Coord

/-- The sheet list reloads with the same entries in the same order: names (any text) and states. -/
theorem C06_sheet_list (l : List SheetEntry) : sheetListReload l = l := by
  rw [sheetListReload, List.map_map]
  exact List.map_id'' (fun s => by simp [sheetRead, sheetWrite, attrRead_attrWrite]) l

example : sheetListReload [⟨"R&D <1>".toList, "hidden".toList⟩, ⟨"It's \"q\"".toList, "veryHidden".toList⟩]
    = [⟨"R&D <1>".toList, "hidden".toList⟩, ⟨"It's \"q\"".toList, "veryHidden".toList⟩] := C06_sheet_list _

/-- A merged range (or the auto-filter range) reads back as the same range: all four shapes,
    every column up to ZZZ, every `u32` row, any locks. -/
theorem C06_merge_roundtrip (ρ : Range) (hs : Umya.Thm.C17.Range.IsShape ρ) (hb : Umya.Thm.C17.Range.InBounds ρ) :
    rangeRead (rangeWrite ρ) = .ok ρ := by
  simp only [rangeRead, rangeWrite, attrRead_attrWrite]
  exact Umya.Thm.C17.Range.parse_print ρ hb

example : rangeRead (rangeWrite ⟨some ⟨2, false⟩, some ⟨20, false⟩, some ⟨16384, false⟩, some ⟨1048576, false⟩⟩)
    = .ok ⟨some ⟨2, false⟩, some ⟨20, false⟩, some ⟨16384, false⟩, some ⟨1048576, false⟩⟩ :=
  C06_merge_roundtrip _ (by right; left; simp)
    (by refine ⟨?_, ?_, ?_, ?_⟩ <;> intro x hx <;> injection hx with hx <;> subst hx <;> simp)

/-- Whatever order the writer's hash set gives the authors table (`tbl`: any list containing every
    author used, duplicates allowed), every comment reloads on its own cell with its own author,
    in the same order: no swap, no loss, no duplicate — for any number of comments and authors,
    the empty author included. -/
theorem C06_comment_authors (tbl : List Text) (cs : List Cmt) (h : ∀ c ∈ cs, c.author ∈ tbl) :
    reloadComments true tbl cs = .ok cs := by
  simp only [reloadComments, readAuthors_written]
  exact readCmts_written tbl cs h

/-- An equation of the model of the reader BEFORE fix 059ef33 (`reset = false`), showing the defect: a comment with
    an empty author comes back with the text event seen last — the newline after the XML declaration … -/
theorem C06_comment_authors_unfixed_fails :
    reloadComments false [[]] [⟨['A', '1'], []⟩] = .ok [⟨['A', '1'], ['\r', '\n']⟩] := by decide +kernel

/-- … or (same unfixed reader, again an equation showing what it returns) with the previous author of the table,
    i.e. another comment's author. -/
theorem C06_comment_authors_unfixed_swap_fails :
    reloadComments false ["Ann".toList, []] [⟨['A', '1'], "Ann".toList⟩, ⟨['B', '2'], []⟩]
      = .ok [⟨['A', '1'], "Ann".toList⟩, ⟨['B', '2'], "Ann".toList⟩] := by decide +kernel

example : (∀ c ∈ ([⟨['A', '1'], "B&C".toList⟩, ⟨['B', '2'], []⟩, ⟨['C', '3'], "B&C".toList⟩] : List Cmt), c.author ∈ [[], "B&C".toList]) ∧
    reloadComments true [[], "B&C".toList] [⟨['A', '1'], "B&C".toList⟩, ⟨['B', '2'], []⟩, ⟨['C', '3'], "B&C".toList⟩]
      = .ok [⟨['A', '1'], "B&C".toList⟩, ⟨['B', '2'], []⟩, ⟨['C', '3'], "B&C".toList⟩] := by
  refine ⟨?h, C06_comment_authors _ _ ?h⟩
  decide +kernel

/-- Both parts walk the same ordered collection: the reloaded list of links IS the list of links —
    every link on its own cell with its own target, kind and tooltip, none lost, none duplicated —
    for any number of links, any mixture of external and internal ones, any first relationship id. -/
theorem C06_hyperlink_reload (ls : List Link) (k0 : Nat) : reloadLinks ls k0 = .ok ls :=
  reloadLinks_self ls k0

/-- the corollary in the form of the property: each link of the sheet (in whatever order the cells
    are stored) comes back, and nothing else does -/
theorem C06_hyperlink_pairing (ls : List Link) :
    ∃ back, reloadLinks (walkOrder ls) 1 = .ok back ∧ back.Perm ls ∧ ∀ l, l ∈ back ↔ l ∈ ls := by
  refine ⟨walkOrder ls, reloadLinks_self _ 1, walkOrder_perm ls, fun l => (walkOrder_perm ls).mem_iff⟩

example : reloadLinks (walkOrder [⟨['B', '2'], true, "http://x/?a=1&b=2".toList, "t<ip".toList⟩, ⟨['A', '1', '0'], false, "'It''s'!A1".toList, []⟩,
      ⟨['A', '2'], true, "http://y/".toList, []⟩]) 1
    = .ok [⟨['A', '1', '0'], false, "'It''s'!A1".toList, []⟩, ⟨['A', '2'], true, "http://y/".toList, []⟩,
      ⟨['B', '2'], true, "http://x/?a=1&b=2".toList, "t<ip".toList⟩] := by
  -- the reload is the identity on the walk order (`reloadLinks_self`); what is evaluated is only the walk order of the three links
  simp only [toList_lit]
  exact (reloadLinks_self _ 1).trans (congrArg _ (by decide +kernel))

/-- `str::replace("''", "'")` undoes `replace("'", "''")`, whatever follows. -/
theorem C06_undouble_double (s t : Text) : undouble (replaceApos s ++ t) = s ++ undouble t :=
  undouble_double s t

/-- A defined name made of cell areas: reading the written text gives back the same areas —
    same sheets (quoted or not, with apostrophes, blanks, `!`, `"`, `,`, parentheses, non-ASCII),
    same corners and `$` locks, same order — for any number of areas.
    `AreaOK a`: the sheet name is legal (non-empty, not starting with an apostrophe, none of
    `: \ ? [ ] / *`), the range is a cell or cell:cell, columns ≤ ZZZ, rows < 2^32. -/
theorem C06_defined_name_roundtrip (as : List Address) (h : ∀ a ∈ as, AreaOK a) :
    DefName.setAddress {} (DefName.text { areas := as }) = .ok { areas := as } :=
  setAddress_text as h

/-- Any other text (a formula, a constant, whole rows / columns, a list with such a part) is kept
    as it stands, and is what `get_address` returns. -/
theorem C06_defined_name_text_kept (v : Text) (h : (splitStr v).all isAddress = false) :
    DefName.setAddress {} v = .ok { areas := [], str := some v } ∧
    DefName.text { areas := [], str := some v } = v :=
  setAddress_kept v h

/-- Through the XML text node (`partial_escape` on write; trimmed and unescaped on read): the name
    reloads, provided the written text has no outer blank (the reader trims text events). -/
theorem C06_defined_name_channel (d : DefName) (hb : trimXml (dnWrite d) = dnWrite d)
    (h : DefName.setAddress {} d.text = .ok d) : dnRead (dnWrite d) = .ok d := by
  unfold dnRead
  simp only [hb]
  simp only [dnWrite, unescape_partialEscape, h]

/-- `setAddressOld` is `set_address` before fix 84704ba; the equation shows what it returned: a string constant
    lost its double quotes … -/
theorem C06_defined_name_unfixed_quotes_fails :
    DefName.setAddressOld {} "\"a\"&\"b\"".toList = .ok { areas := [], str := some "a&b".toList } := by decide +kernel

/-- … and (same unfixed function) a Print_Titles list kept only its last part. -/
theorem C06_defined_name_unfixed_list_fails :
    DefName.setAddressOld {} "S1!$A:$B,S1!$1:$2".toList = .ok { areas := [], str := some "S1!$1:$2".toList } := by decide +kernel

/-- whole rows are not accepted by `is_address`: such a name takes the text path -/
example : (splitStr "'My Sheet'!$1:$3".toList).all isAddress = false := by decide +kernel

/-- Print_Titles: a list whose parts are whole columns / rows is kept whole -/
example : (DefName.setAddress {} "S1!$A:$B,S1!$1:$2".toList) = .ok { areas := [], str := some "S1!$A:$B,S1!$1:$2".toList } :=
  (C06_defined_name_text_kept _ (by decide +kernel)).1

example : undouble (replaceApos "It's a ''test''".toList ++ "'!$A$1".toList) = "It's a ''test''".toList ++ "'!$A$1".toList :=
  (C06_undouble_double _ _).trans (congrArg _ (by decide +kernel))

example : AreaOK ⟨"It's (a) \"q\", b!".toList, ⟨some ⟨3, true⟩, some ⟨7, false⟩, some ⟨16384, false⟩, some ⟨1048576, true⟩⟩⟩ := by
  refine ⟨⟨⟨by simp, by simp⟩, by decide +kernel⟩, Or.inr ⟨by simp, by simp, by simp, by simp⟩, ?_⟩
  refine ⟨?_, ?_, ?_, ?_⟩ <;> intro x hx <;> injection hx with hx <;> subst hx <;> simp

/-- The attribute channel every annotation goes through is the source's, as
    regenerated on this run (see `C04_channels_match_source`). -/
theorem C06_channels_match_source (s : List Char) :
    Umya.Gen.write_start_tag_escape.run Umya.XmlEsc.escapeOld Umya.XmlEsc.partialEscapeOld s = Umya.XmlEsc.attrWrite s ∧
    Umya.Gen.applySteps Umya.Gen.get_attribute_value_normalise s = Umya.XmlEsc.attrNorm s :=
  ⟨Umya.Gen.gen_write_start_tag s, Umya.Gen.gen_get_attribute_value s⟩

end Umya.Thm.C06
