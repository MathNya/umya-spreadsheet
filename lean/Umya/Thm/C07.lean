/-
  C07 — Structural edits relocate content exactly like a reference grid.

  The code is modelled in `Umya/Model/Sheet.lean` (cells, row table, column list) and `Umya/Model/Book.lean`
  (ranges, comments, conditional formats, auto-filter, workbook level); the reference grid is `Umya/Spec/Grid.lean`,
  written from the property text.
-/
import Umya.Lemmas.ShiftGen
import Umya.Lemmas.CoherentRun
import Umya.Lemmas.Refine
import Umya.Model.Book
namespace Umya.Thm.C07
open Umya.Sheet Umya.Book Umya.Coord Umya.Spec.Grid

/-- Inserting `n ≥ 1` rows at `p` on a coherent sheet: every cell at or beyond row `p` moves down by
    exactly `n`, the band `[p, p+n)` is empty, everything before `p` is untouched
    (value and style travel with the cell). No panic: the operation is total. -/
theorem C07_insert_rows (s : Sheet) (h : Coherent s) (p n : Nat) (hn : n ≠ 0) :
    content (insertAdj s 0 0 p n) = insertRows (content s) p n := by
  rw [content_insertAdj h, insertCols_zero]

theorem C07_insert_cols (s : Sheet) (h : Coherent s) (p n : Nat) (hn : n ≠ 0) :
    content (insertAdj s p n 0 0) = insertCols (content s) p n := by
  rw [content_insertAdj h, insertRows_zero]

/-- Removing `n ≥ 1` rows at `p ≥ 1` never panics and deletes exactly the band: rows before `p`
    are untouched, row `r ≥ p` afterwards holds what row `r + n` held. -/
theorem C07_remove_rows (s : Sheet) (h : Coherent s) (p n : Nat) (hp : 1 ≤ p) (hn : n ≠ 0) :
    ∃ t, removeAdj s 0 0 p n = .ok t ∧ Coherent t ∧ content t = removeRows (content s) p n := by
  have := removeAdj_refines h 0 0 p n (Or.inr rfl) (Or.inl hp)
  rwa [removeCols_zero] at this

theorem C07_remove_cols (s : Sheet) (h : Coherent s) (p n : Nat) (hp : 1 ≤ p) (hn : n ≠ 0) :
    ∃ t, removeAdj s p n 0 0 = .ok t ∧ Coherent t ∧ content t = removeCols (content s) p n := by
  have := removeAdj_refines h p n 0 0 (Or.inl hp) (Or.inr rfl)
  rwa [removeRows_zero] at this

/-- Remove undoes insert (cells): after inserting `n` rows at `p` and removing `n` rows at `p`
    every position holds what it held before. -/
theorem C07_remove_undoes_insert_rows (s : Sheet) (h : Coherent s) (p n : Nat) (hp : 1 ≤ p) (hn : n ≠ 0) :
    ∃ t, removeAdj (insertAdj s 0 0 p n) 0 0 p n = .ok t ∧ content t = content s :=
  removeAdj_insertAdj h 0 0 p n (Or.inr rfl) (Or.inl hp)

theorem C07_remove_undoes_insert_cols (s : Sheet) (h : Coherent s) (p n : Nat) (hp : 1 ≤ p) (hn : n ≠ 0) :
    ∃ t, removeAdj (insertAdj s p n 0 0) p n 0 0 = .ok t ∧ content t = content s :=
  removeAdj_insertAdj h p n 0 0 (Or.inl hp) (Or.inr rfl)

/-- No row 0 / column 0 is produced by a row remove (`removeAdj s 0 0 p n`) on an in-grid sheet
    (`p ≥ 1`): surviving coordinates stay ≥ 1.  The column remove has no theorem of this kind. -/
theorem C07_remove_keeps_positive (s t : Sheet) (h : Coherent s) (p n : Nat) (hp : 1 ≤ p) (hn : n ≠ 0)
    (hpos : ∀ k ∈ keysOf s, 1 ≤ k.1 ∧ 1 ≤ k.2) (ht : removeAdj s 0 0 p n = .ok t) :
    ∀ k ∈ keysOf t, 1 ≤ k.1 ∧ 1 ≤ k.2 := by
  intro k hk
  have hne := (content_ne_none_iff t k.1 k.2).2 hk
  rw [content_removeAdj h ht, removeCols_apply, removeRows_apply, removeSrc_zero] at hne
  have := hpos _ ((content_ne_none_iff s _ _).1 hne)
  unfold removeSrc at this
  split at this <;> omega

/-- a rectangle with its four corners, as merged ranges, the auto-filter and conditional-format ranges have them -/
def fullRect (cs rs ce re : Nat) (l1 l2 l3 l4 : Bool) : Range :=
  { startCol := some ⟨cs, l1⟩, startRow := some ⟨rs, l2⟩, endCol := some ⟨ce, l3⟩, endRow := some ⟨re, l4⟩ }

/-- Insert: both row corners follow the reference interval, columns untouched. -/
theorem C07_range_insert_rows (cs rs ce re : Nat) (l1 l2 l3 l4 : Bool) (p n : Nat) (hn : n ≠ 0) :
    rangeInsert (fullRect cs rs ce re l1 l2 l3 l4) 0 0 p n =
      fullRect cs (intervalInsert rs re p n).1 ce (intervalInsert rs re p n).2 l1 l2 l3 l4 := by
  simp [rangeInsert, fullRect, refIns, adjIns, intervalInsert, hn]

theorem refRem_some (x : Nat) (l : Bool) (p n : Nat) (hp : 1 ≤ p ∨ n = 0) :
    refRemStart (some ⟨x, l⟩) p n = .ok (some ⟨if x < p then x else if x < p + n then p else x - n, l⟩) ∧
    refRemEnd (some ⟨x, l⟩) p n = .ok (some ⟨if x < p then x else if x < p + n then p - 1 else x - n, l⟩) := by
  unfold refRemStart refRemEnd
  by_cases hb : p ≤ x ∧ x < p + n
  · simp only [isRem_eq, decide_eq_true (⟨by omega, hb⟩ : p ≠ 0 ∧ p ≤ x ∧ x < p + n), if_true,
      if_neg (show ¬ x < p by omega), if_pos hb.2, and_self]
  · -- any other corner is shifted like a cell, and does not underflow
    simp only [isRem_eq, decide_eq_false fun h : p ≠ 0 ∧ p ≤ x ∧ x < p + n => hb h.2, Bool.false_eq_true, if_false,
      adjRem_eq, if_neg (fun h : p ≤ x ∧ x < n => hb ⟨h.1, by omega⟩), adjRemT]
    by_cases a1 : x < p
    · simp only [if_pos a1, and_self]
    · simp only [if_neg a1, if_neg (show ¬ x < p + n by omega), and_self]

theorem axisInside_eq (a b : Nat) (l l' : Bool) (p n : Nat) (hp : 1 ≤ p ∨ n = 0) :
    axisInside (some ⟨a, l⟩) (some ⟨b, l'⟩) p n = (intervalRemove a b p n).isNone := by
  simp only [axisInside, isRem_eq, intervalRemove]
  by_cases h1 : (p ≤ a ∧ a < p + n) ∧ (p ≤ b ∧ b < p + n)
  · rw [if_pos h1, decide_eq_true (⟨by omega, h1.1⟩ : p ≠ 0 ∧ p ≤ a ∧ a < p + n),
      decide_eq_true (⟨by omega, h1.2⟩ : p ≠ 0 ∧ p ≤ b ∧ b < p + n)]; rfl
  · rw [if_neg h1]
    by_cases ha : p ≤ a ∧ a < p + n
    · rw [decide_eq_false (fun h : p ≠ 0 ∧ p ≤ b ∧ b < p + n => h1 ⟨ha, h.2⟩), Bool.and_false]; rfl
    · rw [decide_eq_false (fun h : p ≠ 0 ∧ p ≤ a ∧ a < p + n => ha h.2), Bool.false_and]; rfl

theorem refRem_interval (a b : Nat) (l l' : Bool) (p n : Nat) (hp : 1 ≤ p ∨ n = 0) (i : Nat × Nat)
    (hi : intervalRemove a b p n = some i) :
    refRemStart (some ⟨a, l⟩) p n = .ok (some ⟨i.1, l⟩) ∧ refRemEnd (some ⟨b, l'⟩) p n = .ok (some ⟨i.2, l'⟩) := by
  unfold intervalRemove at hi
  by_cases hin : (p ≤ a ∧ a < p + n) ∧ (p ≤ b ∧ b < p + n)
  · rw [if_pos hin] at hi; cases hi
  · rw [if_neg hin] at hi; cases hi
    exact ⟨(refRem_some a l p n hp).1, (refRem_some b l' p n hp).2⟩

/-- The row and the column theorems are the instances with the other axis at `(0, 0)`. -/
theorem rangeRemove_fullRect (cs rs ce re : Nat) (l1 l2 l3 l4 : Bool) (pc nc pr nr : Nat)
    (hc : 1 ≤ pc ∨ nc = 0) (hr : 1 ≤ pr ∨ nr = 0) :
    (rangeIsRemove (fullRect cs rs ce re l1 l2 l3 l4) pc nc pr nr =
      ((intervalRemove cs ce pc nc).isNone || (intervalRemove rs re pr nr).isNone)) ∧
    (∀ i j, intervalRemove cs ce pc nc = some i → intervalRemove rs re pr nr = some j →
      rangeRemove (fullRect cs rs ce re l1 l2 l3 l4) pc nc pr nr = .ok (fullRect i.1 j.1 i.2 j.2 l1 l2 l3 l4)) := by
  constructor
  · rw [← axisInside_eq cs ce l1 l3 pc nc hc, ← axisInside_eq rs re l2 l4 pr nr hr]; rfl
  · intro i j hi hj
    have hi := refRem_interval cs ce l1 l3 pc nc hc i hi
    have hj := refRem_interval rs re l2 l4 pr nr hr j hj
    simp only [rangeRemove, fullRect, hi.1, hi.2, hj.1, hj.2]

/-- Remove: the range disappears exactly when the reference interval does, otherwise its row
    corners are the reference interval's (shrunk when it straddles the band); no panic.
    By `Spec.Grid.intervalRemove_spec` that interval is the image of the surviving lines of `[rs, re]`
    under the renumbering the cells follow. -/
theorem C07_range_remove_rows (cs rs ce re : Nat) (l1 l2 l3 l4 : Bool) (p n : Nat) (hp : 1 ≤ p) (hn : n ≠ 0) :
    (rangeIsRemove (fullRect cs rs ce re l1 l2 l3 l4) 0 0 p n = (intervalRemove rs re p n).isNone) ∧
    (∀ i, intervalRemove rs re p n = some i →
      rangeRemove (fullRect cs rs ce re l1 l2 l3 l4) 0 0 p n = .ok (fullRect cs i.1 ce i.2 l1 l2 l3 l4)) := by
  have h := rangeRemove_fullRect cs rs ce re l1 l2 l3 l4 0 0 p n (Or.inr rfl) (Or.inl hp)
  rw [intervalRemove_zero] at h
  exact ⟨h.1, fun i hi => h.2 (cs, ce) i rfl hi⟩

theorem C07_range_remove_cols (cs rs ce re : Nat) (l1 l2 l3 l4 : Bool) (p n : Nat) (hp : 1 ≤ p) (hn : n ≠ 0) :
    (rangeIsRemove (fullRect cs rs ce re l1 l2 l3 l4) p n 0 0 = (intervalRemove cs ce p n).isNone) ∧
    (∀ i, intervalRemove cs ce p n = some i →
      rangeRemove (fullRect cs rs ce re l1 l2 l3 l4) p n 0 0 = .ok (fullRect i.1 rs i.2 re l1 l2 l3 l4)) := by
  have h := rangeRemove_fullRect cs rs ce re l1 l2 l3 l4 p n 0 0 (Or.inl hp) (Or.inr rfl)
  rw [intervalRemove_zero] at h
  exact ⟨h.1.trans (Bool.or_false _), fun i hi => h.2 i (rs, re) hi rfl⟩

/-- The defect repaired by /repo 3166b7b2, on one instance (a merged range on row 3, columns 2..4;
    row 3 removed): the unrepaired `is_remove` rule (before that commit: all four corners must lie in
    the band of *both* axes; written out in the second clause) keeps the range, the reference and
    the repaired rule delete it. -/
theorem C07_old_rule_fails :
    let ρ := fullRect 2 3 4 3 false false false false
    -- rows 3..3 removed: the reference deletes the range …
    intervalRemove 3 3 3 1 = none ∧
    -- … the old conjunction over both axes does not (the column axis is never "in the band")
    (isRem 2 0 0 && isRem 3 3 1 && isRem 4 0 0 && isRem 3 3 1) = false ∧
    -- … the repaired rule does
    rangeIsRemove ρ 0 0 3 1 = true := by decide

theorem modifyNth_other {α} {l : List α} {i j : Nat} {f : α → α} (h : i ≠ j) :
    (modifyNth l i f)[j]? = l[j]? := by
  induction l generalizing i j with
  | nil => simp [modifyNth]
  | cons x xs ih =>
    cases i with
    | zero =>
      cases j with
      | zero => exact absurd rfl h
      | succ j => simp [modifyNth]
    | succ i =>
      cases j with
      | zero => simp [modifyNth]
      | succ j => simp only [modifyNth, List.getElem?_cons_succ]; exact ih (by omega)

theorem C07_other_sheets_untouched (b : Book) (i j : Nat) (h : i ≠ j) (rc oc rr or_ : Nat) :
    (bookInsert b i rc oc rr or_).sheets[j]? = b.sheets[j]? ∧
    (∀ b', bookRemove b i rc oc rr or_ = .ok b' → b'.sheets[j]? = b.sheets[j]?) := by
  constructor
  · exact modifyNth_other h
  · intro b' hb
    unfold bookRemove at hb
    split at hb
    · injection hb with hb; subst hb; rfl
    · split at hb
      · injection hb with hb; subst hb; exact modifyNth_other h
      · simp at hb

/-- on a reachable sheet, two rows inserted at row 2 take the cell of row 3 to row 5 -/
example : ∃ s, run {} [.setVal 2 3 7, .setCell 5 1 4 2, .setVal 2 9 1] = .ok s ∧ Coherent s ∧
    content s 3 2 = some (7, 0) ∧ content (insertAdj s 0 0 2 2) 5 2 = some (7, 0) ∧ content (insertAdj s 0 0 2 2) 3 2 = none := by
  refine ⟨_, rfl, run_coherent [.setVal 2 3 7, .setCell 5 1 4 2, .setVal 2 9 1] coherent_empty rfl, ?_, ?_, ?_⟩ <;> decide +kernel

/-- rows 3..4 removed: an interval around the band shrinks, one inside it goes, one that starts in it is cut and shifted -/
example : intervalRemove 2 5 3 2 = some (2, 3) ∧ intervalRemove 3 4 3 2 = none ∧ intervalRemove 4 9 3 2 = some (3, 7) := by decide +kernel

/-- (T) `Umya.Gen.kernels_match_source`, cited for C07: the kernels under `insertAdj`, `removeAdj`, `rangeInsert`
    and `rangeRemove` are those of the current source. -/
theorem C07_kernels_match_source (n r o : Nat) :
    Umya.Gen.adjustment_insert_coordinate n r o = .ok (Umya.Sheet.adjIns n r o) ∧
    Umya.Gen.adjustment_remove_coordinate n r o = Umya.Sheet.adjRem n r o ∧
    Umya.Gen.is_remove_coordinate n r o = .ok (Umya.Sheet.isRem n r o) ∧
    Umya.Gen.row_adjustment_insert_value n r o = .ok (Umya.Sheet.adjInsV n r o) ∧
    Umya.Gen.row_adjustment_remove_value n r o = Umya.Sheet.adjRemV n r o ∧
    Umya.Gen.row_is_remove_value n r o = Umya.Sheet.isRemV n r o ∧
    Umya.Gen.column_adjustment_insert_value n r o = .ok (Umya.Sheet.adjInsV n r o) ∧
    Umya.Gen.column_adjustment_remove_value n r o = Umya.Sheet.adjRemV n r o ∧
    Umya.Gen.column_is_remove_value n r o = Umya.Sheet.isRemV n r o :=
  Umya.Gen.kernels_match_source n r o

end Umya.Thm.C07
