/-
  C03 — the reader agrees with an independent decoder on valid xlsx files (namespace `Umya.Thm.C03`).  This module gathers
  the cell, sheet and style levels (`C03Cell`, `C03Sheet`, `C03Book`).  The workbook level builds on them in `C03Names`,
  `C03Store` and `C03StoreSorted`, which an audit imports by their own names; `C03Gen` ties `guess_typed_data` to the source.
-/
import Umya.Thm.C03Cell
import Umya.Thm.C03Sheet
import Umya.Thm.C03Book
