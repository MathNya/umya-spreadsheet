/-
  C19 — Formatted values show the correctly rounded number.

  The model (`Umya/Model/NumFmt.lean`) is of the code after the fixes 103c143 (fixed-decimal and percentage formats rounded
  on the decimal text) and 7cc69f1 (text cells shown unchanged).
  The arithmetic specification (`Umya/Spec/Round.lean`) is independent of the digit surgery.

  Scope, stated once: these are theorems about the model fragment
    * format codes `General`, `@`, and the grammar `(#,##)? 0 (. 0+)? %?`;
    * numbers given by their decimal text `-?D*(.D*)?` (what `f64::to_string` prints).
  The clause "formatting never panics for any built-in format code" is the subject of `Thm/C19Dispatch.lean`
  (`C19_builtin_no_panic`: all 58 built-in ids, on the model of the dispatcher).  The date/time section here is about the
  direct model of `format_as_date` (`Umya.Date.formatAsDateChecked`, after fix d30eec7: the conversion is checked against
  chrono's bounds) and the 11 built-in codes that model reads (ids 14–22, 30, 45: no quoted literal, no `[..]` prefix);
  that the dispatcher computes the same strftime string for them is `C19_dispatch_date_agrees`.
  Between the two, section `BuiltinTable` evaluates the dispatcher's `plan` once on every code of the regenerated table
  against a table by id (`builtinPlan`, `builtin_plans`); `Thm/C19Dispatch.lean` and `C19_date_codes_covered` read that.

  Sign rule (chosen, applied alike in the fix, the model, the spec `render` and the harness oracle):
  the output starts with `-` exactly when the number's decimal text does — also when the rounded
  magnitude is zero (`-0.001` under `0.00` is `-0.00`, as Excel shows it; `-0` stays `-0`, as under General).
-/
import Umya.Lemmas.NumFmtDispatch
import Umya.Model.Gen.Tables
namespace Umya.Thm.C19
open Umya.NumFmt Umya.Spec Umya.Dec

/-- **Fixed-decimal patterns.**  For every sign, all digit lists `I` (before the point) and `F` (after the
    point) — any lengths, leading/trailing zeros allowed — every number of decimals `n` and both settings of
    the thousands flag, the rendered text is the `render` of the arithmetic rounding half away from zero of
    `N / 10^k` (`N` = value of the digits `I ++ F`, `k = |F|`) to `n` decimals. -/
theorem C19_fixed (sgn : Bool) (I F : List Digit) (n : Nat) (thousands : Bool) :
    formatFixed ⟨sgn, I, F⟩ n thousands
      = render sgn (roundHalfAway (valOf (I ++ F)) F.length n) n thousands := by
  have h := formatDecimal_eq ⟨sgn, I, F⟩ 0 n thousands
  simpa [formatFixed] using h

example : formatFixed ⟨false, [1], [9, 9, 9]⟩ 2 false = "2.00".toList := by decide
example : roundHalfAway (valOf ([1] ++ [9, 9, 9])) 3 2 = 200 := by decide

/-- **Percentage patterns**: the same with the number times 100 (point moved two places), `%` appended. -/
theorem C19_percent (sgn : Bool) (I F : List Digit) (n : Nat) (thousands : Bool) :
    formatPercent ⟨sgn, I, F⟩ n thousands
      = render sgn (roundHalfAway (100 * valOf (I ++ F)) F.length n) n thousands ++ ['%'] := by
  have h := formatDecimal_eq ⟨sgn, I, F⟩ 2 n thousands
  simp only [formatPercent, h]
  norm_num

example : formatPercent ⟨false, [0], [1, 2, 3, 4]⟩ 2 false = "12.34%".toList := by decide
example : formatPercent ⟨true, [0], [0, 0, 5]⟩ 0 true = "-1%".toList := by decide

/-- The same on texts, for `cellFormattedValue`, which hands the value text of a numeric cell straight to `formatNumber`
    (the `classify` step of `toFormattedString` is not part of this statement): a numeric cell
    whose value text splits into `t = (sign, I, F)` and whose format code is in the grammar shows the rounded
    number. -/
theorem C19_pattern (v fmt : List Char) (p : Pattern) (t : DecText)
    (hp : parsePattern fmt = some p) (ht : parseDecText v = some t) :
    cellFormattedValue (.number v) fmt = some (
      if p.percent then
        render t.neg (roundHalfAway (100 * valOf (t.int ++ t.frac)) t.frac.length p.decimals) p.decimals p.thousands ++ ['%']
      else
        render t.neg (roundHalfAway (valOf (t.int ++ t.frac)) t.frac.length p.decimals) p.decimals p.thousands) := by
  have hg : fmt ≠ general := by
    intro h; rw [h, show parsePattern general = none by decide] at hp; cases hp
  have hx : fmt ≠ textCode := by
    intro h; rw [h, show parsePattern textCode = none by decide] at hp; cases hp
  simp only [cellFormattedValue, formatNumber, if_neg hg, if_neg hx, hp, formatDecimalText, ht]
  split
  · exact congrArg some (C19_percent t.neg t.int t.frac _ _)
  · exact congrArg some (C19_fixed t.neg t.int t.frac _ _)

example : parsePattern "#,##0.00".toList = some ⟨true, 2, false⟩ ∧
    parseDecText "-1234567.895".toList = some ⟨true, [1, 2, 3, 4, 5, 6, 7], [8, 9, 5]⟩ ∧
    cellFormattedValue (.number "-1234567.895".toList) "#,##0.00".toList = some "-1,234,567.90".toList := by
  decide +kernel

/-- **Shape of the output**, for every number text and every pattern of the grammar (fixed-decimal case;
    a percentage output is the same followed by `%`):
    it is `sign ++ integer part ++ ('.' ++ decimals)` where
    * the sign is `-` exactly when the number's text has it (sign kept),
    * the decimals are exactly `n` digits (and there is no point when `n = 0`),
    * the integer part is the decimal text of the rounded integer part `m` — so a carry out of the
      decimals and through nines has been propagated — without leading zeros, and
    * when separators are asked for, it is that text with commas such that, counting from the right,
      exactly every fourth character is a comma (groups of three), and removing them gives the text back. -/
theorem C19_shape (sgn : Bool) (I F : List Digit) (n : Nat) (thousands : Bool) :
    ∃ (m : Nat) (ip fp : List Char),
      formatFixed ⟨sgn, I, F⟩ n thousands
        = (if sgn then ['-'] else []) ++ ip ++ (if n = 0 then [] else '.' :: fp)
      ∧ m = roundHalfAway (valOf (I ++ F)) F.length n / 10 ^ n
      ∧ fp.length = n ∧ fp.all isDigit = true
      ∧ ip.filter (· ≠ ',') = decDigits m
      ∧ (thousands = false → ip = decDigits m)
      ∧ (thousands = true → ∀ i, i < ip.length → (ip.reverse[i]? = some ',' ↔ i % 4 = 3)) := by
  refine ⟨roundHalfAway (valOf (I ++ F)) F.length n / 10 ^ n,
    intText (roundHalfAway (valOf (I ++ F)) F.length n / 10 ^ n) thousands,
    padLeft n (roundHalfAway (valOf (I ++ F)) F.length n % 10 ^ n), ?_, rfl, padLeft_length _ _,
    padLeft_all_digit _ _, ?_, ?_, ?_⟩
  · rw [C19_fixed]; rfl
  · cases thousands
    · exact filter_comma_digits (decDigits_all_digit _)
    · simp only [intText, if_true]; exact groupNat_filter _
  · intro h; subst h; rfl
  · intro h i hi; subst h
    simp only [intText, if_true] at hi ⊢
    exact groupNat_commas _ i hi

/-- carry chains, new leading digit, separators after a carry, sign of a value that rounds to zero -/
example : formatFixed ⟨false, [9, 9, 9], [9, 9, 9, 5]⟩ 3 true = "1,000.000".toList := by decide
example : formatFixed ⟨false, [9], [5]⟩ 0 false = "10".toList := by decide
example : formatFixed ⟨true, [0], [0, 0, 1]⟩ 2 false = "-0.00".toList := by decide
example : formatFixed ⟨false, [1], [0, 0, 5]⟩ 2 false = "1.01".toList := by decide
example : formatFixed ⟨false, [1], [5]⟩ 2 false = "1.50".toList := by decide
example : formatFixed ⟨false, [1], [7]⟩ 0 false = "2".toList := by decide
example : formatFixed ⟨false, [0], [0, 5]⟩ 1 false = "0.1".toList := by decide
example : formatFixed ⟨false, [1, 2, 3, 4, 5, 6, 7], []⟩ 1 true = "1,234,567.0".toList := by decide

/-- **No hidden underflow.**  The model writes the Rust `usize` subtraction `text.len() - decimals` (the
    `split_at` position) with truncating `Nat` subtraction; this theorem shows the subtraction is never
    truncated (so `split_at` cannot panic): the rounded digit string always has at least `n` digits.
    The other index of the function, `digits[keep]`, is guarded in the code by `digits.len() > keep`
    (model: `ds[keep]?`), and the loops are iterator loops (model: structural recursion). -/
theorem C19_split_in_range (t : DecText) (shift n : Nat) :
    n ≤ (roundDigits (t.int ++ t.frac) (t.int.length + shift + n)).length := by
  have := length_roundDigits (t.int ++ t.frac) (t.int.length + shift + n)
  omega

example : (roundDigits (([] : List Digit) ++ []) (0 + 0 + 3)).length = 3 := by decide

/-- **General / text.**  Under `General` (and `@`) `to_formatted_string` returns its argument unchanged for
    the empty string, for every string that is not a number in Rust's `f64::from_str` grammar, and for every
    shortest-form decimal text of at most 15 significant digits (for which `parse::<f64>` → `to_string` is the
    identity — trusted, see the props file).  Numeric-looking strings that are not in shortest form
    (`1.50`, `1e5`, `+3`) are excluded: at this entry point the library normalises them (`1.5`, `100000`, `3`),
    by design — it cannot know that the caller meant text. -/
theorem C19_general (t : List Char) (h : classify t ≠ .otherNumeric) :
    toFormattedString t general = some t ∧ toFormattedString t textCode = some t := by
  unfold toFormattedString
  cases hc : classify t with
  | empty => simp
  | notNumber => simp
  | shortest => simp [formatNumber, general, textCode]
  | otherNumeric => exact absurd hc h

example : classify "abc".toList = .notNumber ∧ classify "1,5".toList = .notNumber ∧
    classify "-1234.5678".toList = .shortest ∧ classify "1.50".toList = .otherNumeric ∧
    classify "1e5".toList = .otherNumeric := by decide +kernel

/-- **Cells.**  A text cell is shown unchanged under every format code (so text that looks like a number
    is not re-formatted), and a numeric cell under `General` shows its shortest decimal text. -/
theorem C19_general_cell (t fmt : List Char) :
    cellFormattedValue (.text t) fmt = some t ∧ cellFormattedValue (.number t) general = some t := by
  simp [cellFormattedValue, formatNumber]

example : cellFormattedValue (.text "1.50".toList) "0.0".toList = some "1.50".toList := (C19_general_cell _ _).1

section BuiltinTable
open Umya.NumFmtDispatch Umya.Date Umya.Lemmas.NumFmtDispatch Umya.Lemmas.DateFmt

/-- the built-in table (regenerated from the source on every run), codes as character lists -/
def builtinCodes : List (Nat × List Char) :=
  Umya.Gen.builtin_format_codes.map (fun p => (p.1, p.2.toList))

def signClasses : List SignClass := [.pos, .neg, .zero]

theorem forall_signs {α : Type} {l : List α} {P : α → SignClass → Bool}
    (h : l.all (fun a => signClasses.all (P a)) = true) (a : α) (ha : a ∈ l) (sc : SignClass) : P a sc = true :=
  List.all_eq_true.mp (List.all_eq_true.mp h a ha) sc (by cases sc <;> simp [signClasses])

/-- an entry of the regenerated table is an entry of `builtinCodes` (the id finds it; no text is compared) -/
theorem mem_builtinCodes {id : Nat} {s : String} (h : (id, s) ∈ Umya.Gen.builtin_format_codes) :
    (id, s.toList) ∈ builtinCodes :=
  List.mem_map_of_mem h

/-- the plan of every built-in code that is not a date/time code, by id (`none`: a date/time code, or no built-in id);
    only the accounting code 44 has sections that tell the signs apart -/
def builtinPlan (id : Nat) (sc : SignClass) : Option Plan :=
  match id with
  | 0 => some .general
  | 49 => some .text
  | 1 | 59 => some (.number (some 0) false [] false)
  | 2 | 60 | 11 => some (.number (some 2) false [] false)
  | 48 => some (.number (some 1) false [] false)
  | 3 | 61 => some (.number (some 0) true [] false)
  | 4 | 62 => some (.number (some 2) true [] false)
  | 9 | 67 => some (.percent 0 false false)
  | 10 | 68 => some (.percent 2 false false)
  | 12 | 13 | 69 | 70 => some (.fraction [] false)
  | 37 | 38 => some (.number (some 0) true [] true)
  | 39 | 40 => some (.number (some 2) true [] true)
  | 44 =>
    some (match sc with
      | .pos => .number (some 2) true "$ ".toList true
      | .neg => .number (some 2) true "$ (".toList true
      | .zero => .number none false "$ -??".toList true)
  | _ => none

/-- the date/time ids whose code the direct model `strftimeOf` reads (no quoted literal, no `[..]` prefix) -/
def directDateIds : List Nat := [14, 15, 16, 17, 18, 19, 20, 21, 22, 30, 45]

/-- The table, evaluated once.  `.date segs false`: a date plan of the value itself, not of its absolute value. -/
theorem builtin_plans :
    builtinCodes.all (fun p => signClasses.all fun sc =>
      match builtinPlan p.1 sc with
      | some pl => plan p.2 sc == pl && (strftimeOf p.2).isNone
      | none =>
        match plan p.2 sc with
        | .date segs false =>
          segsOk segs && strftimeOf p.2 == if directDateIds.contains p.1 then some (flatten segs []) else none
        | _ => false) = true := by
  -- the codes' characters by expansion of the literals (`toList_lit`), so that the kernel evaluates on character lists only
  generalize hN : builtinCodes = N
  simp only [builtinCodes, Umya.Gen.builtin_format_codes, List.map_cons, List.map_nil, toList_lit] at hN
  subst hN
  decide +kernel

theorem plan_builtin {p : Nat × List Char} (hp : p ∈ builtinCodes) {sc : SignClass} {pl : Plan}
    (h : builtinPlan p.1 sc = some pl) : plan p.2 sc = pl := by
  have hs := forall_signs builtin_plans p hp sc
  simp only [h, Bool.and_eq_true, beq_iff_eq] at hs
  exact hs.1

theorem strftimeOf_builtin {p : Nat × List Char} (hp : p ∈ builtinCodes) {sc : SignClass} {pl : Plan}
    (h : builtinPlan p.1 sc = some pl) : strftimeOf p.2 = none := by
  have hs := forall_signs builtin_plans p hp sc
  simp only [h, Bool.and_eq_true, Option.isNone_iff_eq_none] at hs
  exact hs.2

theorem plan_builtin_date {p : Nat × List Char} (hp : p ∈ builtinCodes) {sc : SignClass}
    (h : builtinPlan p.1 sc = none) :
    ∃ segs, plan p.2 sc = .date segs false ∧ segsOk segs = true ∧
      strftimeOf p.2 = if directDateIds.contains p.1 then some (flatten segs []) else none := by
  have hs := forall_signs builtin_plans p hp sc
  simp only [h] at hs
  split at hs
  · simp only [Bool.and_eq_true, beq_iff_eq] at hs
    exact ⟨_, ‹_›, hs⟩
  · cases hs

theorem plan_of_strftimeOf {p : Nat × List Char} (hp : p ∈ builtinCodes) (hsf : (strftimeOf p.2).isSome = true)
    (sc : SignClass) :
    ∃ segs, plan p.2 sc = .date segs false ∧ segsOk segs = true ∧ strftimeOf p.2 = some (flatten segs []) := by
  cases h : builtinPlan p.1 sc with
  | some pl => rw [strftimeOf_builtin hp h] at hsf; cases hsf
  | none =>
    obtain ⟨segs, hd, hs, hf⟩ := plan_builtin_date hp h
    refine ⟨segs, hd, hs, ?_⟩
    split at hf
    · exact hf
    · rw [hf] at hsf; cases hsf

theorem strftimeOf_isSome {p : Nat × List Char} (hp : p ∈ builtinCodes) :
    (strftimeOf p.2).isSome = directDateIds.contains p.1 := by
  cases h : builtinPlan p.1 .pos with
  | some pl =>
    have hid : directDateIds.all (fun i => (builtinPlan i .pos).isNone) = true := by decide
    rw [strftimeOf_builtin hp h]
    cases hc : directDateIds.contains p.1 with
    | false => rfl
    | true =>
      have := List.all_eq_true.mp hid _ (List.contains_iff_mem.mp hc)
      rw [h] at this; cases this
  | none =>
    obtain ⟨segs, -, -, hsf⟩ := plan_builtin_date hp h
    rw [hsf]; split <;> simp_all

end BuiltinTable

section DateCodes
open Umya.Date Umya.Lemmas.DateFmt

/-- the built-in date/time codes — entries of the table regenerated from `numbering_format.rs` on every
    run — whose dispatch the model covers (`strftimeOf` answers): no quoted literal, no `[..]` prefix -/
def builtinDateCodes : List (Nat × List Char) :=
  (Umya.Gen.builtin_format_codes.map (fun p => (p.1, p.2.toList))).filter (fun p => (strftimeOf p.2).isSome)

theorem C19_date_codes_covered :
    builtinDateCodes.map (·.1) = [14, 15, 16, 17, 18, 19, 20, 21, 22, 30, 45] := by
  show (builtinCodes.filter _).map _ = _
  rw [List.filter_congr fun p hp => strftimeOf_isSome hp]
  decide

/-- Where the checked conversion returns a date-time it is the one the unguarded sum gives (the function
    the C18 theorems are about), and it lies inside chrono's range; for every float model `F`, every value. -/
theorem C19_date_checked_agrees {F : Type} [FloatOps F] (ts : F) (t : Int)
    (h : excelToEpochSecondsChecked ts = some t) :
    t = excelToEpochSeconds ts ∧ chronoMinSec ≤ t ∧ t ≤ chronoMaxSec :=
  checked_agrees ts t h

example : excelToEpochSecondsChecked (F := Fix) ⟨86400 * 45435 + 3600⟩ = some 1716426000 := by decide
example : (chronoMinSec, chronoMaxSec) = (-8334601228800, 8210266876799) := by decide

theorem formatAsDateChecked_isSome {F : Type} [FloatOps F] (f sf g : List Char) (ts : F)
    (hf : strftimeOf f = some sf) (hok : ∀ t, Renders (ofEpochSeconds t) sf) :
    ∃ s, formatAsDateChecked f g ts = some s := by
  unfold formatAsDateChecked
  rw [hf]
  cases excelToEpochSecondsChecked ts with
  | none => exact ⟨_, rfl⟩
  | some t =>
    obtain ⟨s, hs⟩ := hok t _ (Nat.lt_succ_self _)
    exact ⟨trimBlanks s, by simp [hs]⟩

/-- **No panic, a text for every value.**  For every built-in date/time code the model covers (ids 14–22,
    30, 45 of the regenerated table), every float model `F` (the driver runs `Float`, the C18 theorems `Rat` /
    `Fix`), EVERY value `ts : F` — finite or not, any magnitude, any sign — and every General text `g` of that
    value, the repaired `format_as_date` returns a text: chrono's rendering where the serial is a date chrono
    can hold, the number's General text otherwise (`C19_date_out_of_range` below).  The model's formatter has
    no panic outcome left: its only partial step is the checked conversion, and `none` there is handled; the
    public `excel_to_date_time_object` panics there (`excelToDateTimeObject`, example below).
    Covered: `DATE_FORMAT_REPLACEMENTS*` (regenerated, `C19_date_tables_match_source`), the conversion with
    chrono's `TimeDelta` / `NaiveDateTime` bounds, chrono's rendering of the specifiers that can arise, for
    every year of chrono's range.  Not covered: the regex stages (identity on these codes; tied by the
    harness), the other built-in codes. -/
theorem C19_date_no_panic {F : Type} [FloatOps F] (p : Nat × List Char) (hp : p ∈ builtinDateCodes)
    (g : List Char) (ts : F) :
    ∃ s, formatAsDateChecked p.2 g ts = some s := by
  obtain ⟨hpb, hsome⟩ := List.mem_filter.mp hp
  obtain ⟨segs, -, hs, hsf⟩ := plan_of_strftimeOf hpb hsome .pos
  exact formatAsDateChecked_isSome p.2 _ g ts hsf fun t =>
    Umya.Lemmas.NumFmtDispatch.flatten_ok _ (ofEpochSeconds_month t) segs [] hs rfl

/-- non-vacuity, and the three regimes: an ordinary date, a serial beyond chrono's years (fix d30eec7),
    a huge negative one -/
example : (14, "m/d/yyyy".toList) ∈ builtinDateCodes :=
  List.mem_filter.mpr ⟨mem_builtinCodes (by decide), by decide +kernel⟩
example : formatAsDateChecked (F := Fix) "m/d/yyyy".toList "45435".toList ⟨86400 * 45435⟩
    = some "5/23/2024".toList := by decide +kernel
example : formatAsDateChecked (F := Fix) "m/d/yyyy h:mm".toList "100000000".toList ⟨86400 * 100000000⟩
    = some "100000000".toList := by decide +kernel
example : formatAsDateChecked (F := Fix) "h:mm:ss AM/PM".toList "-100000000000000000000".toList ⟨-86400 * 10 ^ 20⟩
    = some "-100000000000000000000".toList := by decide +kernel
/-- a serial inside chrono's range but beyond year 9999 is rendered by chrono with a sign -/
example : formatAsDateChecked (F := Fix) "m/d/yyyy".toList "5000000".toList ⟨86400 * 5000000⟩
    = some "7/13/+15589".toList := by decide +kernel

/-- **Out of range = the plain number.**  Where the checked conversion fails, every modelled date format
    shows the General text of the number (trimmed, as `to_formatted_string` does with every result). -/
theorem C19_date_out_of_range {F : Type} [FloatOps F] (f sf g : List Char) (ts : F)
    (hf : strftimeOf f = some sf) (h : excelToEpochSecondsChecked ts = none) :
    formatAsDateChecked f g ts = some (trimBlanks g) := by
  simp [formatAsDateChecked, hf, h]

example : strftimeOf "d-mmm-yy".toList = some "%-d-%b-%y".toList ∧
    excelToEpochSecondsChecked (F := Fix) ⟨86400 * 95051806⟩ = none ∧
    excelToEpochSecondsChecked (F := Fix) ⟨86400 * 95051805⟩ = some (chronoMaxSec - 86399) := by decide +kernel

/-- the public `excel_to_date_time_object` (`…_checked(..).expect(..)`) panics there -/
example : excelToDateTimeObject (F := Fix) ⟨86400 * 100000000⟩ = none ∧
    (excelToDateTimeObject (F := Fix) ⟨86400 * 45435⟩).map (fun d => (d.year, d.month, d.day)) = some (2024, 5, 23) := by
  decide

/-- the replacement tables of the model are the ones in `date_formater.rs` (regenerated on every run) -/
theorem C19_date_tables_match_source :
    Umya.Gen.date_format_replacements = dateReplacements ∧
    Umya.Gen.date_format_replacements_24 = dateReplacements24 ∧
    Umya.Gen.date_format_replacements_12 = dateReplacements12 := ⟨rfl, rfl, rfl⟩

end DateCodes

end Umya.Thm.C19
