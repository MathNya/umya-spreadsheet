/-
  C14 — from the two STREAMS of the compound file: the EncryptionInfo stream is read back, by an independent reader,
  to the descriptor the encryptor filled in; with that, the statements of `Thm/C14.lean` hold for the decryptor
  applied to the stream contents (EncryptionInfo bytes, EncryptedPackage bytes) instead of the descriptor record.

  Writer side: `Umya.Crypt.buildEncryptionInfo i` — the 8-byte version / flags prefix and the XML text of
  `build_encryption_info` (`C14_info_matches_source` ties that text to the compiled source).
  Reader side: `Umya.Spec.Agile.parseInfo` — header check, then the XML 1.0 reader of `Umya/Spec/XmlLex.lean` and a walk
  over the element tree with namespace resolution (written from MS-OFFCRYPTO §2.3.4.10 and the XML recommendations,
  not from the Rust, not from quick-xml).

  Scope:
  * hypothesis `InfoWF i`: the texts of the descriptor are printable ASCII without `& < > " '` (decidable; evaluated by the
    driver on every real descriptor).  For the descriptors `encrypt` makes it follows from `B64Plain P` (base64 text is
    plain), an explicit hypothesis on the abstract `P` that is a THEOREM for the executable base64
    (`C14_base64_plain`), as is `unb64 (b64 x) = some x` (`C14_base64_roundtrip`);
  * AES / SHA-512 / HMAC stay abstract with the laws `P.Lawful`;
  * bytes ↔ characters is the byte-wise (Latin-1 = ASCII here) reading on both sides;
  * the CFB container around the two streams is outside the model; freshness is not a functional property.
-/
import Umya.Lemmas.AgileInfoParse
import Umya.Lemmas.Base64
import Umya.Thm.C14
namespace Umya.Thm.C14
open Umya.Crypto Umya.Crypt Umya.Agile
open Umya.Spec.Agile (parseInfo decryptFile verifyFile)

/-- what the round trip asks of a descriptor: its thirteen texts (three algorithm names and a base64 salt per key-data
    block, five more base64 values) are `plain` — printable ASCII without `& < > " '`.  Numbers are unrestricted. -/
def InfoWF (i : Info) : Prop := infoPlain i = true

instance (i : Info) : Decidable (InfoWF i) := by unfold InfoWF; infer_instance

/-- base64 text is plain (a law of the real alphabet `A–Z a–z 0–9 + / =`; hypothesis on the abstract `P`) -/
def B64Plain (P : Prims) : Prop := ∀ x, plain (P.b64 x) = true

/-- The stream is what the writer calls leave in the buffer: the bytes of `build_encryption_info` are the prefix
    followed by `renderDoc` of the writer-call tree `infoW i` (declaration, new line, `write_start_tag` /
    `write_end_tag` calls with the attribute escape of `writer/driver.rs`), character for character. -/
theorem C14_info_text_is_writer_calls (i : Info) (h : InfoWF i) :
    buildEncryptionInfo i = infoStreamW i ∧ Umya.XmlWrite.renderDoc (infoW i) = encryptionInfoXml i := by
  have e := renderDoc_infoW i h
  exact ⟨by unfold buildEncryptionInfo infoStreamW charsToBytes; rw [e], e⟩

/-- the element tree in between: what the XML reader delivers for the stream's text, and what the walk over it returns -/
theorem C14_info_tree (i : Info) (h : InfoWF i) :
    Umya.Spec.Xml.parse (encryptionInfoXml i) = some (infoNode i) ∧ Umya.Spec.Agile.infoOfTree (infoNode i) = some i := by
  rw [← renderDoc_infoW i h]
  exact ⟨parse_infoW i h, infoOfTree_infoNode i⟩

/-- The independent reader returns the descriptor.  For EVERY descriptor `i` with plain texts — any salt / verifier /
    key blobs (as base64 text), any algorithm names, any numbers — `parseInfo` applied to the bytes
    `build_encryption_info` writes returns exactly `i`: all 8 + 2 + 1 + 8 + 3 fields. -/
theorem C14_info_parses (i : Info) (h : InfoWF i) : parseInfo (buildEncryptionInfo i) = some i := by
  have hb := chars_bytes_chars (encryptionInfoXml i) (encryptionInfoXml_ascii i h)
  unfold charsToBytes at hb
  rw [buildEncryptionInfo, parseInfo_prefix, hb, (C14_info_tree i h).1, Option.bind_some]
  exact (C14_info_tree i h).2

/-- non-vacuity: a descriptor with every kind of plain text (base64 with `+ / =`, names with digits and a dash,
    numbers of several lengths, an empty value) satisfies `InfoWF` -/
def demoInfo : Info :=
  { keyData := ⟨16, 16, 256, 64, aes, cbc, sha512Name, "q83vEjRWeJCrze8SNFZ4kA==".toList⟩
    encryptedHmacKey := "AAEC+/8=".toList, encryptedHmacValue := [], spinCount := 100000
    key := ⟨0, 7, 1234567, 64, "AES".toList, "x-y".toList, "SHA-1".toList, "Zm9v".toList⟩
    encryptedVerifierHashInput := "Zg==".toList, encryptedVerifierHashValue := "Zm8=".toList
    encryptedKeyValue := "a b".toList }

theorem demoInfo_wf : InfoWF demoInfo := by decide +kernel

example : InfoWF demoInfo := demoInfo_wf
example : parseInfo (buildEncryptionInfo demoInfo) = some demoInfo := C14_info_parses _ demoInfo_wf

/-- `InfoWF` does exclude something: a quote inside a value is not plain -/
example : ¬ InfoWF { demoInfo with encryptedHmacKey := ['"'] } := by decide +kernel

/-- base64 decoding inverts encoding for every byte string (the executable `Prims.b64` / `unb64` of the driver):
    the law `unb64_b64` of `P.Lawful` is a theorem for it. -/
theorem C14_base64_roundtrip (bs : Bytes) : Umya.Base64.decode (Umya.Base64.encode bs) = some bs :=
  Umya.Base64.decode_encode bs

/-- … and its output is plain: `B64Plain` is a theorem for it. -/
theorem C14_base64_plain (bs : Bytes) : plain (Umya.Base64.encode bs) = true := Umya.Base64.encode_plain bs

/-- the toy primitives of `Thm/C14.lean` with the REAL base64: every law holds, and base64 text is plain -/
def toy64 : Prims := { toy with b64 := Umya.Base64.encode, unb64 := Umya.Base64.decode }

theorem toy64_lawful : toy64.Lawful where
  sha_len := toy_lawful.sha_len
  hmac_len := toy_lawful.hmac_len
  enc_len := toy_lawful.enc_len
  dec_enc := toy_lawful.dec_enc
  unb64_b64 := C14_base64_roundtrip

theorem toy64_plain : B64Plain toy64 := C14_base64_plain

theorem algorithmNames_plain : plain aes = true ∧ plain cbc = true ∧ plain sha512Name = true := by decide

/-- every descriptor `encrypt` fills in is well formed, whatever the package, password, random draws and spin count -/
theorem C14_encrypt_info_wf (P : Prims) (hb : B64Plain P) (spin : Nat) (data : Bytes) (pw : List Char) (ρ : Randoms) :
    InfoWF (encInfo P spin data pw ρ) := by
  simp only [InfoWF, infoPlain, keyDataPlain, encInfo, hb _, algorithmNames_plain.1, algorithmNames_plain.2.1, algorithmNames_plain.2.2, Bool.and_self]

/-- stated for `encryptWith`: `encrypt` is `encryptWith` at spin count 100000 -/
theorem encrypt_info_parses (P : Prims) (hP : P.Lawful) (hb : B64Plain P) {spin : Nat} {data : Bytes} {pw : List Char}
    {ρ : Randoms} (hρ : ρ.wellFormed) {info : Info} {pkg : Bytes} (he : encryptWith P spin data pw ρ = some (info, pkg)) :
    parseInfo (buildEncryptionInfo info) = some info := by
  have hi : encInfo P spin data pw ρ = info :=
    congrArg Prod.fst (Option.some.inj ((encryptWith_eq P hP spin data pw ρ hρ).symm.trans he))
  subst hi
  exact C14_info_parses _ (C14_encrypt_info_wf P hb spin data pw ρ)

/-- The file decrypts to exactly the package, from its two streams: `C14_decrypts` with the descriptor record replaced by
    the BYTES of the `EncryptionInfo` stream `build_encryption_info` writes for it.  The specification's reader parses the
    descriptor from those bytes first and then goes through the stages of `C14_decrypts` on the bytes of the
    `EncryptedPackage` stream; it returns the package, byte for byte. -/
theorem C14_decrypts_text (P : Prims) (hP : P.Lawful) (hb : B64Plain P) (data : Bytes) (pw : List Char) (ρ : Randoms)
    (hρ : ρ.wellFormed) (hn : data.length < 4294967296) :
    ∃ info pkg, encrypt P data pw ρ = some (info, pkg) ∧
      decryptFile P (buildEncryptionInfo info) pkg pw = some data := by
  obtain ⟨info, pkg, he, hd⟩ := C14_decrypts P hP data pw ρ hρ hn
  exact ⟨info, pkg, he, (decryptFile_of_parse (encrypt_info_parses P hP hb hρ he) pkg pw).trans hd⟩

/-- the hypotheses of `C14_decrypts_text` are jointly satisfiable (real base64, toy cipher / hash) -/
example : toy64.Lawful ∧ B64Plain toy64 ∧ toyRandoms.wellFormed ∧ (List.replicate 5000 (9 : UInt8)).length < 4294967296 :=
  ⟨toy64_lawful, toy64_plain, toyRandoms_wf, by rw [List.length_replicate]; omega⟩

/-- Verifier, HMAC, length — from the streams: the descriptor read from the stream is the one written, the password
    verifier run on the stream matches, the key it unwraps is the package key, the HMAC over the entire
    `EncryptedPackage` stream verifies under it, and the declared StreamSize is the package length. -/
theorem C14_verifier_hmac_len_text (P : Prims) (hP : P.Lawful) (hb : B64Plain P) (data : Bytes) (pw : List Char)
    (ρ : Randoms) (hρ : ρ.wellFormed) (hn : data.length < 4294967296) :
    ∃ info pkg hn', encrypt P data pw ρ = some (info, pkg) ∧
      parseInfo (buildEncryptionInfo info) = some info ∧
      verifyFile P (buildEncryptionInfo info) pw = some hn' ∧
      Umya.Spec.Agile.packageKey P info hn' = some ρ.packageKey ∧
      Umya.Spec.Agile.integrityOk P info ρ.packageKey pkg = true ∧
      Umya.Spec.Agile.declaredSize pkg = data.length := by
  obtain ⟨info, pkg, hn', he, hv, hk, hi, hl⟩ := C14_verifier_hmac_len P hP data pw ρ hρ hn
  have hp := encrypt_info_parses P hP hb hρ he
  exact ⟨info, pkg, hn', he, hp, (verifyFile_of_parse hp pw).trans hv, hk, hi, hl⟩

/-- A different password fails verification — from the streams (under `VerifierRejects`, as in
    `C14_wrong_password`): the verifier run on the EncryptionInfo stream rejects `pw'`, and the reader of the two streams
    returns nothing. -/
theorem C14_wrong_password_text (P : Prims) (hP : P.Lawful) (hb : B64Plain P) (spin : Nat) (data : Bytes)
    (pw pw' : List Char) (ρ : Randoms) (hρ : ρ.wellFormed) (h : VerifierRejects P spin pw pw' ρ) :
    ∃ info pkg, encryptWith P spin data pw ρ = some (info, pkg) ∧
      verifyFile P (buildEncryptionInfo info) pw' = none ∧
      decryptFile P (buildEncryptionInfo info) pkg pw' = none := by
  obtain ⟨info, pkg, he, hv, hd⟩ := C14_wrong_password P hP spin data pw pw' ρ hρ h
  have hp := encrypt_info_parses P hP hb hρ he
  exact ⟨info, pkg, he, (verifyFile_of_parse hp pw').trans hv, (decryptFile_of_parse hp pkg pw').trans hd⟩

/-- the hypotheses of `C14_wrong_password_text` are jointly satisfiable with the real base64 (`VerifierRejects` does not
    mention base64: the witness of `Thm/C14.lean` carries over) -/
example : toy64.Lawful ∧ B64Plain toy64 ∧ toyRandoms.wellFormed ∧ VerifierRejects toy64 0 ['a'] ['b'] toyRandoms := by
  refine ⟨toy64_lawful, toy64_plain, toyRandoms_wf, ?_⟩
  unfold VerifierRejects
  decide

end Umya.Thm.C14
