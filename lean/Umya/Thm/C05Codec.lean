/-
  C05 — the XML codecs of the style components, concretely.

  Model: Umya/Model/StyleCodec.lean (`write` = the element tree `write_to` emits, `read` = `set_attributes`;
  `none` = a Rust panic).  Parameter `cf : Tok → Tok`: "parse a float attribute (`parse::<f64>().unwrap_or_default()`),
  display it again"; a token `t` is a float text iff `cf t = t` (trusted: Rust's f64 Display/FromStr round trip).
  `Range` predicates say that numbers fit their Rust types and float fields hold float texts (every value a Rust
  struct can hold satisfies them, NaN / -0 aside); `OneForm` / `WF` say that colours are in one of the forms the
  public setters produce.  For every component:  `read (write x) = some (norm x)` with `norm` explicit and
  idempotent, and `eff (norm x) = eff x` where `eff` lists the attributes the property names as the getters
  show them.  `hz : cf zeroTok = zeroTok` (`0` is a float text) is asked wherever a gradient is read back: an unset
  degree / stop position is written as `0`.  The component codecs then stand for the codec parameters of the interning theorems
  of Thm/C05.lean (`concreteCodecs`, `C05_codecs_instantiate`), which gives `C05_effective_formatting_survives`: what is set is
  what is shown after save and reload, in the attribute values `effView` reads off a style.  (The fill reader of the crate stores `fgColor` without `auto_set_pattern_type` since 90daeac, so
  `C05_fill_codec` has no exception for pattern none + fgColor.)
-/
import Umya.Lemmas.StyleCodecFont
import Umya.Lemmas.StyleCodecFill
import Umya.Lemmas.StyleCodecBorder
import Umya.Lemmas.StyleCodecMisc
import Umya.Lemmas.StyleCodecRange
import Umya.Lemmas.StyleCodecGen
import Umya.Lemmas.StyleCodecBridge
import Umya.Thm.C05
namespace Umya.Thm.C05
open Umya.StyleCodec
open Umya.Spec.Xml (Node Attr)

/-- every enum string table is inverted by its `FromStr`: `from_str(get_value_string(v)) = Ok(v)` for every constructor
    (underline, font scheme, vertAlign, pattern, border style, horizontal and vertical alignment) -/
theorem C05_enum_codec :
    (∀ v : Underline, Underline.fromStr v.toStr.toList = some v) ∧
    (∀ v : FontScheme, FontScheme.fromStr v.toStr.toList = some v) ∧
    (∀ v : VertRun, VertRun.fromStr v.toStr.toList = some v) ∧
    (∀ v : Pattern, Pattern.fromStr v.toStr.toList = some v) ∧
    (∀ v : BorderStyle, BorderStyle.fromStr v.toStr.toList = some v) ∧
    (∀ v : HAlign, HAlign.fromStr v.toStr.toList = some v) ∧
    (∀ v : VAlign, VAlign.fromStr v.toStr.toList = some v) :=
  ⟨Underline.fromStr_toStr, FontScheme.fromStr_toStr, VertRun.fromStr_toStr, Pattern.fromStr_toStr,
   BorderStyle.fromStr_toStr, HAlign.fromStr_toStr, VAlign.fromStr_toStr⟩

/-- an unknown word is rejected (the reader then keeps the previous value) -/
example : BorderStyle.fromStr "Thin".toList = none ∧ Pattern.fromStr "".toList = none := by decide +kernel

/-- colour: what `Color::write_to` writes (theme, else indexed, else rgb; tint) is read back as the colour itself when
    it is in one of the forms the setters produce; in general as `norm` (only the written form survives) -/
theorem C05_color_codec (cf : Tok → Tok) (c : Color) (h : c.Range cf) :
    Color.readInto cf {} c.attrs = some c.norm ∧ c.norm.norm = c.norm ∧
    (c.OneForm = true → c.norm = c ∧ c.norm.eff = c.eff) :=
  ⟨Color.read_attrs cf c h, Color.norm_idem c, fun h1 => ⟨Color.norm_of_oneForm c h1, by rw [Color.norm_of_oneForm c h1]⟩⟩

/-- `set_argb` (with its conversion of the 56 indexed colours to `indexed`) is invisible through `get_argb`, and its
    result, like that of `set_indexed` / `set_theme_index`, is in one form -/
theorem C05_color_set_argb (c : Color) (s : Tok) :
    (c.setArgb s).getArgb = s ∧ (c.setArgb s).OneForm = true ∧
    (∀ i, (c.setIndexed i).OneForm = true) ∧ (∀ i, (c.setTheme i).OneForm = true) := by
  refine ⟨?_, ?_, fun _ => rfl, fun _ => rfl⟩
  · unfold Color.setArgb
    cases hp : position s indexedToks with
    | none => simp [Color.getArgb]
    | some i => simp [Color.getArgb, position_get s _ i hp]
  · unfold Color.setArgb
    cases position s indexedToks <;> simp [Color.OneForm]

/-- `set_argb` on the colours of the examples below that are not among the 56 indexed ones: one search of the table for all -/
theorem demo_argb : ∀ s ∈ ["F34F8080", "FF112233", "FF123456"], ({} : Color).setArgb s.toList = { argb := some s.toList } := by
  simp only [List.mem_cons, List.not_mem_nil, or_false, forall_eq_or_imp, forall_eq]
  rw [Color.setArgb, Color.setArgb, Color.setArgb]
  simp only [indexedToks, indexedColors, List.map_cons, List.map_nil, toList_lit]
  decide +kernel

example : (({} : Color).setArgb "FFFF8080".toList).indexed = some 29 := by decide +kernel
example : ((({} : Color).setArgb "F34F8080".toList).setTint "-0.5".toList).attrs =
    [mkAttr "rgb" "F34F8080".toList, mkAttr "tint" "-0.5".toList] := by
  rw [demo_argb "F34F8080" (by simp)]; decide +kernel
example : Color.Range id ((({} : Color).setTheme 4).setTint "0.25".toList) := by decide +kernel

/-- font: name, size, family, bold, italic, underline, strike, colour, charset, scheme, vertAlign.
    `norm` turns bold / italic `Some(false)` into "unset" (no `<b val="0"/>` is written) and the colour into its written form. -/
theorem C05_font_codec (cf : Tok → Tok) (f : Font) (h : f.Range cf) :
    Font.read cf f.write = some f.norm ∧ f.norm.norm = f.norm ∧ (f.color.OneForm = true → f.norm.eff = f.eff) :=
  ⟨Font.read_write cf f h, Font.norm_idem f, Font.eff_norm f⟩

def fontA : Font :=
  { name := some "Arial & <Co>".toList, size := some "10.5".toList, family := some 2, bold := some true,
    italic := some false, underline := some .doubleAccounting, strike := some false,
    color := (({} : Color).setArgb "FF00FF00".toList).setTint "0.4".toList, charset := some (-1), scheme := some .minor,
    vertAlign := some .superscript }
theorem fontA_range : fontA.Range id := by decide +kernel
example : Font.read id fontA.write = some fontA.norm := (C05_font_codec id fontA fontA_range).1
example : fontA.norm ≠ fontA ∧ fontA.norm.eff = fontA.eff :=
  ⟨by decide +kernel, (C05_font_codec id fontA fontA_range).2.2 (by decide +kernel)⟩
example : fontA.write.children.length = 10 := by decide +kernel

/-- fill (pattern fill with fg / bg colours, gradient fill with its stops).  `norm` keeps the pattern type as it is
    (since fix 90daeac the reader stores `fgColor` without `auto_set_pattern_type`); what it does change: colours in
    written form, a colour without any attribute (never written) comes back absent, a gradient gets degree /
    positions 0 when unset.  None of this is visible through the getters for fills the setters produce (`Fill.WF`:
    colours in one form; pattern fill or gradient, not both). -/
theorem C05_fill_codec (cf : Tok → Tok) (hz : cf zeroTok = zeroTok) (f : Fill) (h : f.Range cf) :
    Fill.read cf f.write = some f.norm ∧ f.norm.norm = f.norm ∧ (f.WF = true → f.norm.eff = f.eff) :=
  ⟨Fill.read_write cf hz f h, Fill.norm_idem f, Fill.eff_norm f⟩

/-- for a pattern fill whose colours are in one form and carry at least one attribute the codec is the identity -/
theorem C05_pattern_fill_codec_exact (cf : Tok → Tok) (p : PatternFill) (h : p.Range cf) (h1 : p.OneForm = true)
    (hfg : ∀ c, p.fg = some c → c.attrs ≠ []) (hbg : ∀ c, p.bg = some c → c.attrs ≠ []) :
    PatternFill.read cf p.write = some p := by
  rw [PatternFill.read_write cf p h]
  simp only [PatternFill.OneForm, Bool.and_eq_true] at h1
  have e : ∀ o : Option Color, optOneForm o = true → (∀ c, o = some c → c.attrs ≠ []) → normOptColor o = o := by
    intro o ho hne
    cases o with
    | none => rfl
    | some c => simp [normOptColor, isEmpty_attrs (hne c rfl), Color.norm_of_oneForm c ho]
  simp [PatternFill.norm, e p.fg h1.1 hfg, e p.bg h1.2 hbg]

/-- pattern `none` with a foreground colour (the input of the defect repaired by fix 90daeac) comes back as it is -/
def fillNoneFg : Fill :=
  { pattern := some { patternType := some .none, fg := some (({} : Color).setArgb "FF112233".toList) } }
theorem fillNoneFg_nf : fillNoneFg = { pattern := some { patternType := some .none, fg := some { argb := some "FF112233".toList } } } := by
  rw [fillNoneFg, demo_argb "FF112233" (by simp)]
theorem fillNoneFg_range : fillNoneFg.Range id := by rw [fillNoneFg_nf]; decide +kernel
example : Fill.read id fillNoneFg.write = some fillNoneFg := by
  rw [(C05_fill_codec id rfl fillNoneFg fillNoneFg_range).1, fillNoneFg_nf]; decide +kernel
example : fillNoneFg.WF = true := by rw [fillNoneFg_nf]; decide +kernel
-- the public setter still turns none + colour into solid (in memory, before any save); the codec does not
example : (({ patternType := some .none } : PatternFill).setFg {}).patternType = some Pattern.solid := by decide +kernel

/-- the pattern type seen by the token-level pattern-fill model of Umya/Model/Style.lean (`effPattern`, theorems
    `C05_pattern_fill_reload` / `C05_pattern_fill_no_merge`) is the one `eff` shows here -/
theorem pattern_views_agree (p : PatternFill) :
    Umya.Style.PatternFill.effPattern (patternToTok p) = p.eff.patternType.toStr.toList := by
  cases h : p.patternType <;> simp [Umya.Style.PatternFill.effPattern, patternToTok, PatternFill.eff, h] <;> rfl

def fillB : Fill :=
  { pattern := some { patternType := some .darkTrellis, fg := some (({} : Color).setTheme 3),
                      bg := some ((({} : Color).setIndexed 64).setTint "-0.25".toList) } }
example : fillB.WF = true ∧ fillB.norm = fillB := by decide +kernel
example : fillB.Range id := by decide +kernel
def gradA : Fill :=
  { gradient := some { degree := some "90".toList,
                       stops := [{ position := some "0".toList, color := ({} : Color).setArgb "FF123456".toList },
                                 { position := some "1".toList, color := ({} : Color).setTheme 4 }] } }
example : gradA.WF = true ∧ gradA.norm = gradA := by rw [gradA, demo_argb "FF123456" (by simp)]; decide +kernel
example : gradA.Range id := by rw [gradA, demo_argb "FF123456" (by simp)]; decide +kernel

/-- borders: every edge (left, right, top, bottom, diagonal, vertical, horizontal: style and colour) and the two diagonal
    flags.  `norm`: colours in written form; a vertical / horizontal edge that hashes like `Border::default()` is not written. -/
theorem C05_border_codec (cf : Tok → Tok) (b : Borders) (h : b.Range cf) :
    Borders.read cf b.write = some b.norm ∧
    (b.WF = true → b.norm.norm = b.norm ∧ b.norm.eff = b.eff) :=
  ⟨Borders.read_write cf b h, fun hw => ⟨Borders.norm_idem b hw, Borders.eff_norm b hw⟩⟩

def bordersA : Borders :=
  { left := { style := some .thin, color := ({} : Color).setArgb "FFFF0000".toList },
    right := { style := some .mediumDashDotDot }, top := { color := ({} : Color).setTheme 2 },
    diagonal := { style := some .double, color := (({} : Color).setIndexed 10).setTint "0.5".toList },
    vertical := { style := some .none }, horizontal := { style := some .hair },
    diagonalDown := some true, diagonalUp := some false }
example : bordersA.WF = true := by decide +kernel
example : bordersA.Range id := by decide +kernel
example : bordersA.norm.vertical = {} ∧ bordersA.norm.horizontal = bordersA.horizontal ∧ bordersA.norm.eff = bordersA.eff :=
  ⟨by decide +kernel, by decide +kernel, Borders.eff_norm _ (by decide +kernel)⟩
example : bordersA.write.children.length = 6 := by decide +kernel
/-- why `NoMark` is part of `Borders.WF`: the colour text `empty!!` hashes like "no colour" -/
example : (Border.normSkippable { color := { argb := some "empty!!".toList } }).eff ≠
    (Border.eff { color := { argb := some "empty!!".toList } }) := by decide +kernel

theorem C05_alignment_codec (a : Alignment) (h : a.Range) : Alignment.read a.write = some a :=
  Alignment.read_write a h
example : Alignment.Range { horizontal := some .centerContinuous, vertical := some .justify, wrapText := some false, textRotation := some 255 } := by
  decide +kernel

theorem C05_protection_codec (p : Protection) : Protection.read p.write = some p := Protection.read_write p
example : (Protection.write { locked := some false, hidden := some true }).attrs =
    [mkAttr "locked" "0".toList, mkAttr "hidden" "1".toList] := by decide +kernel

/-- a custom number format: id and format code (any text: the attribute channel is C02_attr_channel / C03_attr) -/
theorem C05_numfmt_codec (v : NumFmt) (h : u32Range v.id) : NumFmt.read v.write = some v := NumFmt.read_write v h
example : u32Range (NumFmt.id { id := 176, code := "0.0\"x\" & <y>".toList }) := by decide +kernel

/-- row: number, height (`ht`, not written when 0), customHeight, hidden, thickBot, descent and the style index `s`
    (written, with customFormat, when the row style's xf index is > 0) -/
theorem C05_row_codec (cf : Tok → Tok) (r : Row) (h : r.Range cf) (xf : Nat) (hxf : u32Range xf) (spans : Option Tok)
    (kids : List Node) (last : Nat) :
    Row.read cf last (r.write xf spans kids) = some (r.norm, if xf > 0 then some xf else none) ∧
    r.norm.norm = r.norm ∧ r.norm.eff = r.eff :=
  ⟨Row.read_write cf r h xf hxf spans kids last, Row.norm_idem r, Row.eff_norm r⟩

def rowA : Row := { num := 7, height := some "22.5".toList, customHeight := some true, hidden := some false }
example : rowA.Range id := by decide +kernel
example : (rowA.write 3 (some "1:4".toList) []).attrs.length = 6 ∧ rowA.norm.hidden = none ∧ rowA.norm.eff = rowA.eff :=
  ⟨by decide +kernel, by decide +kernel, Row.eff_norm _⟩

/-- column run: min, max, width, hidden, bestFit and the style index -/
theorem C05_column_codec (cf : Tok → Tok) (c : Col) (hw : cf c.width = c.width) (mn mx xf : Nat)
    (h1 : u32Range mn) (h2 : u32Range mx) (h3 : u32Range xf) :
    Col.read cf (c.write mn mx xf) = some (c.norm, mn, mx, if xf > 0 then some xf else none) ∧
    c.norm.norm = c.norm ∧ c.norm.eff = c.eff :=
  ⟨Col.read_write cf c hw mn mx xf h1 h2 h3, Col.norm_idem c, Col.eff_norm c⟩

example : (Col.write { width := "12.5".toList, hidden := some true } 2 5 0).attrs.length = 5 := by decide +kernel

/-- Tie to the source (T).  The string tables of the seven style enums the model uses (`get_value_string`, the arms of
    `from_str` in their order, the `Default` variant) are the ones `tools/extract_tables.py` regenerated from
    `src/structs/*_values.rs` on this run.  (That `all` lists every constructor is `enums_all_complete`.) -/
theorem C05_enum_tables_match_source :
    Umya.Gen.enum_underline_values = enumSpec Underline.all Underline.ctor Underline.toStr Underline.fromTable .single ∧
    Umya.Gen.enum_font_scheme_values = enumSpec FontScheme.all FontScheme.ctor FontScheme.toStr FontScheme.fromTable .none ∧
    Umya.Gen.enum_vertical_alignment_run_values = enumSpec VertRun.all VertRun.ctor VertRun.toStr VertRun.fromTable .baseline ∧
    Umya.Gen.enum_pattern_values = enumSpec Pattern.all Pattern.ctor Pattern.toStr Pattern.fromTable .none ∧
    Umya.Gen.enum_border_style_values = enumSpec BorderStyle.all BorderStyle.ctor BorderStyle.toStr BorderStyle.fromTable .none ∧
    Umya.Gen.enum_horizontal_alignment_values = enumSpec HAlign.all HAlign.ctor HAlign.toStr HAlign.fromTable .general ∧
    Umya.Gen.enum_vertical_alignment_values = enumSpec VAlign.all VAlign.ctor VAlign.toStr VAlign.fromTable .bottom :=
  gen_style_enums

/-- `concreteCodecs cf hz : Umya.Style.Codecs` is a value of the parameter type of `C05_get_set`, … (so "round trip =
    `some ∘ norm`, `norm` idempotent" is discharged, not assumed), and on the token record of every typed value in range
    it IS the modelled `read ∘ write`, with the modelled `norm` — for borders: of every typed value in range AND in `Borders.WF`.
    (Left unchanged by these codecs: records no Rust struct can hold; fills carrying a gradient — one opaque token in
    Umya/Model/Style.lean; borders outside `Borders.WF`, which the struct can hold — the reader sets `theme` / `indexed` / `rgb`
    of a colour independently — and on which the modelled `Borders.read ∘ write` is not the identity.)
    `fontCodec` … `protectionCodec` in the proof are those of Umya/Lemmas/StyleCodecBridge.lean (`Umya.Style.Codec`s on token records);
    Thm/C04Fix has `Umya.Resave.Codec`s on typed values under the same short names. -/
theorem C05_codecs_instantiate (cf : Tok → Tok) (hz : cf zeroTok = zeroTok) :
    (∀ f : Font, f.Range cf →
      (concreteCodecs cf hz).font.rt (fontToTok f) = (Font.read cf f.write).map fontToTok ∧
      (concreteCodecs cf hz).font.norm (fontToTok f) = fontToTok f.norm) ∧
    (∀ f : Fill, f.Range cf → f.gradient = none →
      (concreteCodecs cf hz).fill.rt (fillToTok f) = (Fill.read cf f.write).map fillToTok ∧
      (concreteCodecs cf hz).fill.norm (fillToTok f) = fillToTok f.norm) ∧
    (∀ b : Borders, b.Range cf → b.WF = true →
      (concreteCodecs cf hz).borders.rt (bordersToTok b) = (Borders.read cf b.write).map bordersToTok ∧
      (concreteCodecs cf hz).borders.norm (bordersToTok b) = bordersToTok b.norm) ∧
    (∀ a : Alignment, a.Range →
      (concreteCodecs cf hz).alignment.rt (alignmentToTok a) = (Alignment.read a.write).map alignmentToTok ∧
      (concreteCodecs cf hz).alignment.norm (alignmentToTok a) = alignmentToTok a) ∧
    (∀ p : Protection,
      (concreteCodecs cf hz).protection.rt (protectionToTok p) = (Protection.read p.write).map protectionToTok ∧
      (concreteCodecs cf hz).protection.norm (protectionToTok p) = protectionToTok p) ∧
    (∀ c : Tok, (concreteCodecs cf hz).code.rt c = some c ∧ (concreteCodecs cf hz).code.norm c = c) :=
  ⟨(fontBridge cf).codec_of (fontCodec cf) rfl, fun f h hg => (fillBridge cf).codec_of (fillCodec cf hz) rfl f ⟨h, hg⟩,
   fun b h hw => (bordersBridge cf).codec_of (bordersCodec cf) rfl b ⟨h, hw⟩, alignmentBridge.codec_of alignmentCodec rfl,
   fun p => protectionBridge.codec_of protectionCodec rfl p trivial,
   fun c => ⟨(concreteCodecs cf hz).code.rt_eq c, rfl⟩⟩

/-- the attributes the property names, read off a style of the interning model (token records): each component is decoded
    to the typed value it denotes and shown through `eff` after the codec's normal form (`none` = not the text of a typed
    value in range, or a fill with a gradient, or borders outside `Borders.WF`); absent font / fill / border = entry 0 of its table, absent number format = General -/
structure EffView where
  font : Option FontEff
  fill : Option FillEff
  borders : Option BordersEff
  alignment : Option (Option AlignmentEff)
  code : Tok
  protection : Option (Option Protection)

def effView (cf : Tok → Tok) (ss : Umya.Style.Sheet) (s : Umya.Style.Style) : Option EffView :=
  match ss.fonts[0]?, ss.fills[0]?, ss.borders[0]? with
  | some f0, some fi0, some b0 =>
    some { font := (fontBridge cf).effTok Font.norm Font.eff (s.font.getD f0),
           fill := (fillBridge cf).effTok Fill.norm Fill.eff (s.fill.getD fi0),
           borders := (bordersBridge cf).effTok Borders.norm Borders.eff (s.borders.getD b0),
           alignment := s.alignment.map (alignmentBridge.effTok id Alignment.eff),
           code := (s.numFmt.map (·.code)).getD Umya.Style.general,
           protection := s.protection.map (protectionBridge.effTok id id) }
  | _, _, _ => none

/-- the attribute values shown by an effective formatting of the interning theorems (token records in the codecs' normal forms) -/
def EffView.ofEff (cf : Tok → Tok) (e : Umya.Style.Eff) : EffView :=
  { font := ((fontBridge cf).ofTok e.font).map Font.eff
    fill := ((fillBridge cf).ofTok e.fill).map Fill.eff
    borders := ((bordersBridge cf).ofTok e.borders).map Borders.eff
    alignment := e.alignment.map fun a => (alignmentBridge.ofTok a).map Alignment.eff
    code := e.code
    protection := e.protection.map fun p => (protectionBridge.ofTok p).map id }

/-- `effView` is a function of `Umya.Style.eff` under the concrete codecs, so equal formatting there is equal attribute values here -/
theorem effView_eq (cf : Tok → Tok) (hz : cf zeroTok = zeroTok) (ss : Umya.Style.Sheet) (s : Umya.Style.Style) :
    effView cf ss s = (Umya.Style.eff (concreteCodecs cf hz) ss s).map (EffView.ofEff cf) := by
  unfold effView Umya.Style.eff
  cases ss.fonts[0]? <;> cases ss.fills[0]? <;> cases ss.borders[0]? <;> try rfl
  simp only [Option.map_some, EffView.ofEff, Option.map_map, Function.comp_def]
  rw [(fontBridge cf).effTok_eq (fontCodec cf) rfl, (fillBridge cf).effTok_eq (fillCodec cf hz) rfl,
    (bordersBridge cf).effTok_eq (bordersCodec cf) rfl, funext (alignmentBridge.effTok_eq alignmentCodec rfl Alignment.eff),
    funext (protectionBridge.effTok_eq protectionCodec rfl id)]
  rfl

/-- Composite.  With the concrete codecs in place of the codec parameters: after ANY sequence of `set_style` calls on a
    style sheet satisfying the invariant, every style of the sequence, read back after save + reload through the index it
    was given, shows the same effective attribute values (font name, size, bold, italic, underline, strike, colour, …;
    fill; every border edge; alignment; format code; protection) as the style that was set.  No codec hypothesis is left;
    what remains assumed is listed in the props file (md5 injective `hkey`, float texts `cf`, the invariant for the
    initial sheet, `Style.WF`).  The view is taken after the codecs' normal forms; by `C05_font_codec`, `C05_fill_codec`,
    `C05_border_codec` a normal form shows the same getter values as the value itself for everything the public setters
    produce (`OneForm` / `Fill.WF` / `Borders.WF`).
    What the statement does NOT say: a component of `EffView` is `none` for a token record that is not the text of
    a typed value, for a fill with a gradient and for borders outside `Borders.WF` (a loaded colour with two of theme / indexed /
    rgb), and `Bridge.codec` is the identity on such records; so for such a style the equality of that component
    is `none = none`; and the last conjunct only says that the three tables have an entry 0. -/
theorem C05_effective_formatting_survives (cf : Tok → Tok) (hz : cf zeroTok = zeroTok)
    (key : Umya.Style.Tok → Umya.Style.Tok) (hkey : ∀ a b, key a = key b → a = b)
    (ss : Umya.Style.Sheet) (h : Umya.Style.Inv (concreteCodecs cf hz) ss) (l : List Umya.Style.Style)
    (hl : ∀ s ∈ l, s.WF) (k : Nat) (s : Umya.Style.Style) (hk : l[k]? = some s) :
    ∃ i st, (Umya.Style.setAll key ss l).2[k]? = some i ∧
      Umya.Style.styleAt (concreteCodecs cf hz) (Umya.Style.setAll key ss l).1 i = some st ∧
      effView cf (Umya.Style.setAll key ss l).1 st = effView cf (Umya.Style.setAll key ss l).1 s ∧
      (effView cf (Umya.Style.setAll key ss l).1 s).isSome = true := by
  obtain ⟨i, st, e, hi, hst, he1, he2⟩ := C05_get_set_all (concreteCodecs cf hz) key hkey ss h l hl k s hk
  exact ⟨i, st, hi, hst, by rw [effView_eq cf hz, effView_eq cf hz, he1, he2], by rw [effView_eq cf hz, he2]; rfl⟩

-- the invariant holds for the style sheet of `new_file()` under the concrete codecs; `cf := id` fixes `0`
example : Umya.Style.Inv (concreteCodecs id rfl) (Umya.Style.initSheet id) := C05_init (concreteCodecs id rfl) id
example : (concreteCodecs id rfl).font.norm (fontToTok fontA) = fontToTok fontA.norm :=
  ((C05_codecs_instantiate id rfl).1 fontA fontA_range).2
example : (fontBridge id).effTok Font.norm Font.eff (fontToTok fontA) = some fontA.eff := by
  have h := fontOfTok_toTok id fontA fontA_range
  have e : fontA.norm.eff = fontA.eff := (C05_font_codec id fontA fontA_range).2.2 (by decide +kernel)
  simp [Bridge.effTok, fontBridge, h, e]

end Umya.Thm.C05
