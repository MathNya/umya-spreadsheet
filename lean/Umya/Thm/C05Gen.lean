/-
  C05 — tie to the source (T), a stateful method: `NumberingFormats::set_style` of
  src/structs/numbering_formats.rs (with `set_numbering_format`, the struct `NumberingFormat` and its getters / setter),
  compiled to Lean by state passing from the CURRENT source on every run (tools/extract_fns.py → Umya/Model/Gen/Fns.lean),
  equals the number-format id allocation of the hand model the C05 interning theorems are about.
-/
import Umya.Lemmas.FnsGenStyle
namespace Umya.Thm.C05
open Umya.Style

/-- Number-format id allocation: `NumberingFormats::set_style` as it is in the source —
    `None` ↦ 0; a built-in format ↦ its own id; otherwise one loop over the table that leaves with the id of an entry whose
    code hash equals the style's and keeps the running maximum of the ids from 175, then `max + 1`, the format cloned under
    that id and inserted — compiled by state passing (the `HashMap<u32, NumberingFormat>` field is the list of its entries
    in the iteration order of the call; `HashMap::insert` = replace-or-append; the loop with `return` = a fold with early
    exit), returns, for EVERY table `t` (hence every iteration order), every optional number format `o` and every hash
    function `key` (`get_hash_code` = `key` of the format code: md5 in the crate), exactly the table and the id of the
    model's `nfSetStyle`.  The lifted loop body and `set_numbering_format` are tied by their own clauses. -/
theorem C05_numfmt_alloc_matches_source :
    (∀ (key : Tok → Tok) (t : List (Nat × NumFmt)) (o : Option NumFmt),
      Umya.Gen.numbering_formats_set_style (Umya.Gen.hashOf key) (Umya.Gen.tableOf t) (o.map Umya.Gen.recOf) =
        (Umya.Gen.tableOf (nfSetStyle key t o).1, (nfSetStyle key t o).2)) ∧
    (∀ (gh : Umya.Gen.NumberingFormat_rec → List Char) (hc : List Char) (id index : Nat) (nf : Umya.Gen.NumberingFormat_rec),
      (Umya.Gen.numbering_formats_set_style_loop_0 gh hc id index nf).1 = (if decide (gh nf = hc) then some index else none) ∧
      (decide (gh nf = hc) = false →
        (Umya.Gen.numbering_formats_set_style_loop_0 gh hc id index nf).2 = if id < index then index else id)) ∧
    (∀ (m : List (Nat × Umya.Gen.NumberingFormat_rec)) (v : Umya.Gen.NumberingFormat_rec),
      Umya.Gen.numbering_formats_set_numbering_format m v = Umya.Gen.rt_map_insert m v.number_format_id v) :=
  ⟨Umya.Gen.gen_numfmt_set_style, Umya.Gen.gen_numfmt_loop, Umya.Gen.gen_numfmt_set_numbering_format⟩

/-- instances: a table with a gap (176, 200), a new code gets 201; a registered code keeps its id; a built-in keeps its own -/
example : (Umya.Gen.numbering_formats_set_style (Umya.Gen.hashOf id)
    (Umya.Gen.tableOf [(176, ⟨176, ['a'], false⟩), (200, ⟨200, ['b'], false⟩)]) (some ⟨999999, ['c'], false⟩)).2 = 201 := by decide
example : (Umya.Gen.numbering_formats_set_style (Umya.Gen.hashOf id)
    (Umya.Gen.tableOf [(176, ⟨176, ['a'], false⟩), (200, ⟨200, ['b'], false⟩)]) (some ⟨999999, ['b'], false⟩)).2 = 200 := by decide
example : (Umya.Gen.numbering_formats_set_style (Umya.Gen.hashOf id) [] (some ⟨14, ['m'], true⟩)).2 = 14 := by decide
example : (Umya.Gen.numbering_formats_set_style (Umya.Gen.hashOf id) [] (some ⟨999999, ['x'], false⟩)) =
    ([(176, ⟨176, ['x'], false⟩)], 176) := by decide

end Umya.Thm.C05
