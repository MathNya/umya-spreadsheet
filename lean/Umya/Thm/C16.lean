/-
  C16 — Concurrent saves of a workbook or its clones equal sequential saves.

  After the per-save table fix the savers share no mutable state: each `make_buffer` registers its
  strings in a table of its own.  The model runs any schedule of atomic steps (a registration, or
  the final dump) of any number of savers; the theorem says every saver ends with exactly what it
  would have produced alone.  Real lock poisoning and OS scheduling are outside the model.
-/
import Umya.Lemmas.SharedStrings
namespace Umya.Thm.C16
open Umya.Sst

/-- `n` steps of one saver -/
def iter : Nat → Saver → Saver
  | 0, s => s
  | n + 1, s => iter n s.step

/-- how many steps the schedule `σ` gives saver `i` -/
def count (i : Nat) (σ : List Nat) : Nat := (σ.filter (· = i)).length

theorem count_eq (i : Nat) (σ : List Nat) : count i σ = σ.count i :=
  (List.countP_eq_length_filter ..).symm

theorem stepAt_eq_modify : ∀ (ss : List Saver) (i : Nat), stepAt ss i = ss.modify i Saver.step
  | [], _ => (List.modify_nil ..).symm
  | _ :: _, 0 => rfl
  | s :: ss, i + 1 => congrArg (s :: ·) (stepAt_eq_modify ss i)

theorem runSched_get (ss : List Saver) (σ : List Nat) (j : Nat) :
    (runSched ss σ)[j]? = (ss[j]?).map (iter (count j σ)) := by
  induction σ generalizing ss with
  | nil => exact (Option.map_id' ..).symm
  | cons i σ ih =>
    rw [runSched, List.foldl_cons, ← runSched, ih, stepAt_eq_modify, count_eq, count_eq, List.count_cons]
    by_cases h : i = j
    · subst h
      rw [List.getElem?_modify_eq, beq_self_eq_true, if_pos rfl]
      cases ss[i]? <;> rfl
    · rw [List.getElem?_modify_ne _ _ h, if_neg (by simpa using h)]; rfl

theorem iter_of_step_eq (n : Nat) (s : Saver) (h : s.step = s) : iter n s = s := by
  induction n with
  | zero => rfl
  | succ n ih => rw [iter, h, ih]

theorem solo_done (todo : List Text) (t : Table) (got : List Nat) (k : Nat) (hk : todo.length + 1 ≤ k) :
    iter k { todo := todo, table := t, got := got } =
      { todo := [], table := (internAll t todo).1, got := got ++ (internAll t todo).2,
        dumped := some (internAll t todo).1 } := by
  induction todo generalizing t got k with
  | nil =>
    cases k with
    | zero => simp at hk
    | succ k =>
      simpa [iter, internAll, Saver.step] using iter_of_step_eq k { todo := [], table := t, got := got, dumped := some t } rfl
  | cons x xs ih =>
    cases k with
    | zero => simp at hk
    | succ k =>
      simp only [iter, Saver.step]
      rw [ih _ _ k (Nat.le_of_succ_le_succ hk)]
      simp [internAll, List.append_assoc]

/-- Any interleaving: for any number of savers with any string lists, each starting from a private copy of
    the loaded table (`make_buffer`: non-empty only for a lazily read workbook that still has a raw sheet), and any
    schedule that lets saver `j` finish (at least `#strings + 1` of its steps), saver `j`'s file has exactly the
    content its save alone would have produced from that table: the table of a sequential registration, the same
    indices — hence every text cell shows its own string.  The savers of the model have private tables by
    construction (`stepAt` touches one saver): what carries the claim over to the crate is the frame assumption that
    a save shares no mutable state, tied to the source by `tools/shared_state.py` (DESIGN.md 0.1) and the `c16 stress`
    runs; the theorem adds that nothing else in a saver's run depends on the schedule. -/
theorem C16_any_schedule_loaded (loaded : Table) (progs : List (List Text)) (σ : List Nat) (j : Nat) (todo : List Text)
    (hj : progs[j]? = some todo) (hfin : todo.length + 1 ≤ count j σ) :
    (runSched (progs.map (fun p => ({ todo := p, table := loaded } : Saver))) σ)[j]? =
      some { todo := [], table := (internAll loaded todo).1, got := (internAll loaded todo).2,
             dumped := some (internAll loaded todo).1 } := by
  rw [runSched_get]
  simp only [List.getElem?_map, hj, Option.map_some]
  rw [solo_done todo loaded [] _ hfin]
  simp

/-- `C16_any_schedule_loaded` for savers of fully deserialized workbooks, which start from the empty table -/
theorem C16_any_schedule (progs : List (List Text)) (σ : List Nat) (j : Nat) (todo : List Text)
    (hj : progs[j]? = some todo) (hfin : todo.length + 1 ≤ count j σ) :
    (runSched (progs.map (fun p => ({ todo := p } : Saver))) σ)[j]? =
      some { todo := [], table := (internAll [] todo).1, got := (internAll [] todo).2,
             dumped := some (internAll [] todo).1 } :=
  C16_any_schedule_loaded [] progs σ j todo hj hfin

/-- the loaded table stays in front, so the indices of the raw sheets (copied verbatim) keep their strings -/
theorem C16_loaded_prefix (loaded : Table) (todo : List Text) (i : Nat) (x : Text) (hx : loaded[i]? = some x) :
    (internAll loaded todo).1[i]? = some x :=
  internAll_get_old loaded todo hx

/-- what a saver wrote decodes to its own strings: its k-th index resolves, in its table, to its k-th text -/
theorem C16_decodes (todo : List Text) (k : Nat) (x : Text) (hx : todo[k]? = some x) :
    ∃ i : Nat, (internAll [] todo).2[k]? = some i ∧ (internAll [] todo).1[i]? = some x :=
  internAll_get [] todo k x hx

/-- No step ever blocks in the model: every partial schedule can be extended to one in which every
    saver finishes (there is no lock to wait for between savers). -/
theorem C16_progress (progs : List (List Text)) (σ : List Nat) :
    ∃ σ', ∀ j todo, progs[j]? = some todo → todo.length + 1 ≤ count j (σ ++ σ') := by
  refine ⟨(List.range progs.length).flatMap (fun j => List.replicate ((progs[j]?.getD []).length + 1) j), ?_⟩
  intro j todo hj
  have hjlt : j < progs.length := (List.getElem?_eq_some_iff.1 hj).1
  have hmem : j ∈ List.range progs.length := List.mem_range.2 hjlt
  obtain ⟨l1, l2, hl⟩ := List.append_of_mem hmem
  rw [hl]
  simp only [count_eq, List.flatMap_append, List.flatMap_cons, List.count_append, hj, Option.getD_some, List.count_replicate_self]
  omega

/-- two savers interleaved: the first ends with its own table and indices -/
example : (runSched [{ todo := [['a'], ['b']] }, { todo := [['b'], ['a'], ['c']] }] [1, 0, 1, 1, 0, 0, 1])[0]? =
    some { todo := [], table := [['a'], ['b']], got := [0, 1], dumped := some [['a'], ['b']] } := by decide +kernel

end Umya.Thm.C16
