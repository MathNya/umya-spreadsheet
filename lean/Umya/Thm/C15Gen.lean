/-
  C15 — tie to the source (T): `convert_password_to_hash` and the three `encrypt_*_protection` setters of
  src/helper/crypt.rs, compiled from the CURRENT source on every run (`Umya/Model/Gen/Fns.lean`), are the hand model's
  (`Umya/Model/PwHash.lean`) for all arguments; and the literals of the setters are the model's constants.
-/
import Umya.Lemmas.FnsGenCrypt
import Umya.Lemmas.FnsGenCryptPw
namespace Umya.Thm.C15
open Umya.Gen Umya.Crypto Umya.PwHash

/-- `key_spin_count` of `encrypt_sheet_protection`, `encrypt_workbook_protection` and
    `encrypt_revisions_protection` is the model's `spinCountConst`; `key_hash_algorithm` is the model's `algName`. -/
theorem C15_constants_match_source :
    crypt_protection_literals_ints.map (·.2) = [Umya.PwHash.spinCountConst, Umya.PwHash.spinCountConst, Umya.PwHash.spinCountConst] ∧
    crypt_protection_literals_strs.map (fun p => p.2.toList) = [Umya.PwHash.algName, Umya.PwHash.algName, Umya.PwHash.algName] ∧
    crypt_protection_literals_ints.map (·.1) =
      ["encrypt_sheet_protection.key_spin_count", "encrypt_workbook_protection.key_spin_count", "encrypt_revisions_protection.key_spin_count"] :=
  gen_protection_literals

/-- `convert_password_to_hash` as compiled from the source, calling the compiled
    `hash` (the hasher state is the bytes fed so far, `finalize` is `P.sha512`); `Err` of `hash` is unwrapped, so a panic (`none`). -/
theorem C15_hash_fn_matches_source (P : Prims) (pw alg : List Char) (salt : Bytes) (spin : Nat) :
    crypt_convert_password_to_hash P.sha512 [] shaUpd pw alg salt spin =
      if algOk alg then some (convertPasswordToHash P pw salt spin) else none :=
  gen_convert_password_to_hash P pw alg salt spin

/-- both branches occur -/
example : algOk algName ∧ ¬ algOk ['M', 'D', '5'] := ⟨algOk_sha_512, by decide⟩

/-- The three setters as compiled from the source: `draw 0` is the one `gen_random_16()` call; the object is `rt_Obj` (its `StringValue` /
    `UInt32Value` fields by name), of which `sheetView` / `workbookView` read the model's records.  The field a struct setter writes is
    read from the struct's source file. -/
theorem C15_setters_match_source (P : Prims) (draw : Nat → Bytes) (pw : List Char) (o : rt_Obj) :
    (∃ o', crypt_encrypt_sheet_protection P.b64 draw P.sha512 [] shaUpd pw o = some o' ∧
      sheetView o' = setSheetPassword P pw (draw 0) (sheetView o) ∧
      sameOutside ["algorithm_name", "hash_value", "salt_value", "spin_count", "password"] o o') ∧
    (∃ o', crypt_encrypt_workbook_protection P.b64 draw P.sha512 [] shaUpd pw o = some o' ∧
      workbookView o' = setWorkbookPassword P pw (draw 0) (workbookView o) ∧
      sameOutside ["workbook_algorithm_name", "workbook_hash_value", "workbook_salt_value", "workbook_spin_count", "workbook_password"] o o') ∧
    (∃ o', crypt_encrypt_revisions_protection P.b64 draw P.sha512 [] shaUpd pw o = some o' ∧
      workbookView o' = setRevisionsPassword P pw (draw 0) (workbookView o) ∧
      sameOutside ["revisions_algorithm_name", "revisions_hash_value", "revisions_salt_value", "revisions_spin_count", "revisions_password"] o o') :=
  ⟨gen_encrypt_sheet_protection P draw pw o, gen_encrypt_workbook_protection P draw pw o, gen_encrypt_revisions_protection P draw pw o⟩

/-- the views distinguish the kinds: an object with a legacy workbook password and a revisions salt has them in different records -/
example : (workbookView ⟨fun f => if f = "workbook_password" then some ['x'] else if f = "revisions_salt_value" then some ['y'] else none,
      fun _ => none⟩).workbook.password = some ['x'] ∧
    (workbookView ⟨fun f => if f = "workbook_password" then some ['x'] else if f = "revisions_salt_value" then some ['y'] else none,
      fun _ => none⟩).revisions.saltValue = some ['y'] := by
  constructor <;> simp [workbookView, pwView]

end Umya.Thm.C15
