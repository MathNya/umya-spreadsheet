/-
  C03 — tie to the source (T): `CellValue::guess_typed_data` of src/structs/cell_value.rs (and the enum
  `CellRawValue` of src/structs/cell_raw_value.rs with its payloads), compiled to Lean from the CURRENT source on every
  run (tools/extract_fns.py → Umya/Model/Gen/Fns.lean), equals the hand model the C03 value theorems are about.
-/
import Umya.Lemmas.FnsGenReader
namespace Umya.Thm.C03
open Umya.Reader

/-- `guess_typed_data` as it is in the source — upper-casing, the `match` on `""` /
    `"TRUE"` / `"FALSE"`, then `CellErrorType::from_str` on the upper-cased text, then `parse::<f64>` on the text
    itself, else a string — is the model's `guessTyped` for every text, as seen through `rawView`: the same constructor with
    the same payload, except that `rawView` also shows a `Lazy` text as a string and any `RichText` as the empty string
    (that `guess_typed_data` returns neither is not part of the statement)
    (an error value and a number are represented by their texts: `from_str` = membership in `errorLits`,
    `parse::<f64>` = `parseF64Ok`; `to_uppercase` on its documented ASCII domain). -/
theorem C03_guess_matches_source :
    ∀ v : List Char,
      Umya.Gen.rawView (Umya.Gen.guess_typed_data (List Char) (List Char) Unit Umya.Gen.errorFromStr Umya.Gen.parseF64Text v) =
        guessTyped v :=
  Umya.Gen.gen_guess_typed_data

example : Umya.Gen.rawView (Umya.Gen.guess_typed_data (List Char) (List Char) Unit Umya.Gen.errorFromStr Umya.Gen.parseF64Text
    ['t', 'r', 'u', 'e']) = .bool true := by decide +kernel
example : Umya.Gen.rawView (Umya.Gen.guess_typed_data (List Char) (List Char) Unit Umya.Gen.errorFromStr Umya.Gen.parseF64Text
    ['#', 'n', '/', 'a']) = .err ['#', 'N', '/', 'A'] := by decide +kernel

end Umya.Thm.C03
