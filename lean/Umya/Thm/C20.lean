/-
  C20 — CSV export is a faithful rectangular rendering of the active sheet.

  The model (`Umya/Model/Csv.lean`) is of `writer/csv.rs::write_writer` AFTER the repair of the quoting and of UTF-16
  (commit c7db9f8 of the repository) and of the sheet list AFTER the repair of `remove_sheet` (commit 649e69a).
  The reader (`Umya/Spec/Rfc4180.lean`) is written from RFC 4180.
-/
import Umya.Lemmas.Csv
import Umya.Lemmas.Utf16
import Umya.Lemmas.CsvBook
import Umya.Lemmas.ListFacts
namespace Umya.Thm.C20
open Umya.Csv Umya.Rfc4180 Umya.Lemmas.Csv Umya.Lemmas.Utf16 Umya.Lemmas.CsvBook

/-- The grid of the property text: one record per row `1 … highest row`, one field per column
    `1 … highest column`, each the cell's value text (empty for a missing cell), trimmed if the
    options say so.  (Wrapping is part of the rendering, not of the recovered value.) -/
def expected (g : Grid) (o : Opts) : List Record :=
  (List.range (highestRow g)).map fun i =>
    (List.range (highestCol g)).map fun j =>
      if o.trim then trim (g.get (i + 1) (j + 1)) else g.get (i + 1) (j + 1)

/-- the quote character of the reader: the configured wrap character, `"` when none is configured -/
abbrev quoteOf := Umya.Lemmas.Csv.quoteOf

/-- the quote character is usable by a CSV reader at all -/
def UsableQuote (o : Opts) : Prop := quoteOf o ≠ ',' ∧ quoteOf o ≠ '\r' ∧ quoteOf o ≠ '\n'

/-- the sheet has no row without a column (true for every sheet whose cells sit at columns ≥ 1) -/
def HasColumns (g : Grid) : Prop := highestRow g = 0 ∨ 0 < highestCol g

/-- cell coordinates are 1-based -/
def OneBased (g : Grid) : Prop := ∀ e ∈ g, 1 ≤ e.1.1 ∧ 1 ≤ e.1.2

instance (g : Grid) : Decidable (OneBased g) := by unfold OneBased; infer_instance

/-- `highestRow`/`highestCol` bound every cell and are attained (or are 0 for a store without
    cells at positive coordinates). -/
theorem C20_highest (g : Grid) :
    (∀ e ∈ g, e.1.1 ≤ highestRow g ∧ e.1.2 ≤ highestCol g) ∧
    (highestRow g = 0 ∨ ∃ e ∈ g, e.1.1 = highestRow g) ∧
    (highestCol g = 0 ∨ ∃ e ∈ g, e.1.2 = highestCol g) :=
  have hr := foldl_max_spec (fun e : (Nat × Nat) × Text => e.1.1) g 0
  have hc := foldl_max_spec (fun e : (Nat × Nat) × Text => e.1.2) g 0
  ⟨fun e he => ⟨hr.2.1 e he, hc.2.1 e he⟩, hr.2.2, hc.2.2⟩

example : highestRow [((2, 5), ['x']), ((7, 1), [])] = 7 ∧ highestCol [((2, 5), ['x']), ((7, 1), [])] = 5 := by decide +kernel

theorem hasColumns_of_oneBased (g : Grid) (h : OneBased g) : HasColumns g := by
  cases g with
  | nil => left; rfl
  | cons e g =>
    right
    have h1 := (h e (by simp)).2
    have h2 := ((C20_highest (e :: g)).1 e (by simp)).2
    omega

theorem rows_ne_nil (g : Grid) (hg : HasColumns g) :
    ∀ row ∈ (List.range (highestRow g)).map (fun i => (List.range (highestCol g)).map fun j => g.get (i + 1) (j + 1)),
      row ≠ [] := by
  intro row hrow
  simp only [List.mem_map, List.mem_range] at hrow
  obtain ⟨i, hi, rfl⟩ := hrow
  rw [Ne, List.map_eq_nil_iff, List.range_eq_nil]
  rcases hg with h | h <;> omega

/-- For every sheet `g` (any values: delimiters, quotes, CR, LF, blanks, any scalar
    value) and every option set `o` whose quote character is usable, the RFC 4180 reader configured
    with delimiter `,` and quote `quoteOf o` recovers from the text written by the model exactly the
    expected grid.  `HasColumns` excludes only stores with a cell at a row ≥ 1 and every cell at column 0. -/
theorem C20_parse_back (g : Grid) (o : Opts) (hq : UsableQuote o) (hg : HasColumns g) :
    parse ',' (quoteOf o) (csvText g o) = some (expected g o) := by
  obtain ⟨hq1, hq2, hq3⟩ := hq
  have hv : validConfig ',' (quoteOf o) = true := by
    simp only [validConfig, Bool.and_eq_true, bne_iff_ne, ne_eq]
    exact ⟨⟨⟨⟨fun h => hq1 h.symm, by decide⟩, by decide⟩, hq2⟩, hq3⟩
  unfold parse
  rw [if_pos hv, csvText, ← List.flatMap_map]
  -- the arguments of `rows_read`: a written field followed by `,` is read (`hsep`), followed by CRLF (`heol`), the text
  -- after a delimiter or line break has `P` (`hP`; this reader needs nothing of it, `P` is `True`), the end (`hend`)
  refine (rows_read (R := run ',' (quoteOf o) .start []) (g := fieldValue o) (P := fun _ => True)
    (fun v rec out rest _ => ?_) (fun v rec out rest _ => ?_) (fun _ _ => trivial) (fun out => by simp [run])
    _ (rows_ne_nil g hg) []).trans (by simp [expected, fieldValue, List.map_map, Function.comp_def])
  all_goals obtain ⟨m, hm, hrun⟩ := run_field o v rec out
  · rw [hrun, run_delim ',' _ m hm (fun h => hq1 h.symm)]
  · rw [hrun, run_crlf ',' _ m hm (by decide) hq2]

/-- Parse-back for what the property quantifies over: sheets with 1-based cells (they have `HasColumns`) and the three
    wrap settings none, `"`, `'` (they are usable). -/
theorem C20_parse_back_std (g : Grid) (o : Opts) (hw : o.wrap = none ∨ o.wrap = some '"' ∨ o.wrap = some '\'')
    (hg : OneBased g) : parse ',' (quoteOf o) (csvText g o) = some (expected g o) := by
  apply C20_parse_back g o _ (hasColumns_of_oneBased g hg)
  unfold UsableQuote quoteOf Umya.Lemmas.Csv.quoteOf
  rcases hw with h | h | h <;> rw [h] <;> decide

/-- a sparse sheet with a gap, a delimiter, a quote, a line break and outer blanks -/
def demoGrid : Grid :=
  [((1, 1), "a,b".toList), ((2, 3), " q\"r ".toList), ((3, 2), "x\r\ny".toList), ((3, 3), "'😀'".toList)]

example : OneBased demoGrid := by decide +kernel
example : UsableQuote ⟨.utf8, true, none⟩ ∧ UsableQuote ⟨.utf16le, false, some '\''⟩ := by
  simp only [UsableQuote, quoteOf, Umya.Lemmas.Csv.quoteOf]; decide
example : csvText demoGrid ⟨.utf8, true, none⟩ = "\"a,b\",,\r\n,,\"q\"\"r\"\r\n,\"x\r\ny\",'😀'\r\n".toList := by
  -- for `rw` a literal is `String.ofList [chars]`, so each `"…".toList` becomes its characters; the kernel would evaluate
  -- `"…".toList` through the UTF-8 encoder and decoder, at a cost quadratic in the length (`toList_lit`, Lemmas/ListFacts.lean)
  repeat rw [String.toList_ofList]
  decide +kernel
example : parse ',' '"' (csvText demoGrid ⟨.utf8, true, none⟩)
    = some [["a,b".toList, [], []], [[], [], "q\"r".toList], [[], "x\r\ny".toList, "'😀'".toList]] := by
  repeat rw [String.toList_ofList]
  decide +kernel
example : csvText demoGrid ⟨.utf8, false, some '\''⟩
    = "'a,b','',''\r\n'','',' q\"r '\r\n'','x\r\ny','''😀'''\r\n".toList := by
  repeat rw [String.toList_ofList]
  decide +kernel

/-- One record per row up to the highest row, and every record has one field per column up to
    the highest column.  This and `C20_cell` are about `expected` alone; they speak of the written text through
    `C20_parse_back`. -/
theorem C20_rect (g : Grid) (o : Opts) :
    (expected g o).length = highestRow g ∧ ∀ r ∈ expected g o, r.length = highestCol g := by
  constructor
  · simp [expected]
  · intro r hr
    simp only [expected, List.mem_map, List.mem_range] at hr
    obtain ⟨i, _, rfl⟩ := hr
    simp

/-- The field of `expected` at (row `i+1`, column `j+1`) is the (trimmed) value of that cell. -/
theorem C20_cell (g : Grid) (o : Opts) (i j : Nat) (hi : i < highestRow g) (hj : j < highestCol g) :
    ((expected g o)[i]?.bind (·[j]?)) = some (fieldValue o (g.get (i + 1) (j + 1))) := by
  simp [expected, hi, hj, fieldValue]

example : (expected demoGrid ⟨.utf8, true, none⟩).length = 3 := (C20_rect _ _).1.trans (by decide +kernel)

/-- With a wrap character every field is wrapped in it (occurrences inside doubled); without one a
    field is written verbatim unless it contains `,`, `"`, CR or LF, in which case it is wrapped in `"`. -/
theorem C20_wrap (o : Opts) (v : Text) :
    (∀ q, o.wrap = some q → renderField o v = [q] ++ escape q (fieldValue o v) ++ [q]) ∧
    (o.wrap = none → needsQuote (fieldValue o v) = false → renderField o v = fieldValue o v) ∧
    (o.wrap = none → needsQuote (fieldValue o v) = true →
        renderField o v = ['"'] ++ escape '"' (fieldValue o v) ++ ['"']) := by
  refine ⟨fun q h => ?_, fun h hn => ?_, fun h hn => ?_⟩ <;> simp [renderField, quoted, *]

example : renderField ⟨.utf8, true, some '\''⟩ " it's ".toList = "'it''s'".toList := by
  repeat rw [String.toList_ofList]
  decide +kernel
example : renderField ⟨.utf8, false, none⟩ "plain text".toList = "plain text".toList := by
  repeat rw [String.toList_ofList]
  decide +kernel

/-- `trim v` is `v` without a leading and a trailing run of white space (Unicode `White_Space`,
    as `char::is_whitespace`), and it neither starts nor ends with white space. -/
theorem C20_trim (v : Text) :
    ∃ a b, v = a ++ trim v ++ b ∧ a.all isWhitespace = true ∧ b.all isWhitespace = true ∧
      (∀ x, (trim v).head? = some x → isWhitespace x = false) ∧
      (∀ x, (trim v).getLast? = some x → isWhitespace x = false) := by
  -- `a` is the leading white-space run of `v`, `b` the reverse of the leading run of the reversed remainder; that `trim v`
  -- neither starts nor ends with white space is `head?_dropWhile_false` twice, the second time on the reversed list
  let m := v.dropWhile isWhitespace
  let t := m.reverse.takeWhile isWhitespace
  let d := m.reverse.dropWhile isWhitespace
  have hv : v = v.takeWhile isWhitespace ++ m := (List.takeWhile_append_dropWhile).symm
  have hm : m = d.reverse ++ t.reverse := by
    have : m.reverse = t ++ d := (List.takeWhile_append_dropWhile).symm
    have := congrArg List.reverse this
    simpa using this
  have htrim : trim v = d.reverse := rfl
  refine ⟨v.takeWhile isWhitespace, t.reverse, ?_, List.all_takeWhile, ?_, ?_, ?_⟩
  · rw [htrim, List.append_assoc, ← hm]; exact hv
  · rw [List.all_reverse]; exact List.all_takeWhile
  · intro x hx
    rw [htrim] at hx
    have hmx : m.head? = some x := by
      rw [hm, List.head?_append, hx]; rfl
    exact head?_dropWhile_false isWhitespace v x hmx
  · intro x hx
    rw [htrim, List.getLast?_reverse] at hx
    exact head?_dropWhile_false isWhitespace m.reverse x hx

example : trim " \t\u00a0a b\u3000\r\n".toList = "a b".toList := by
  repeat rw [String.toList_ofList]
  decide +kernel
example : trim " \u200b ".toList = "\u200b".toList := by
  repeat rw [String.toList_ofList]
  decide +kernel

/-- The empty sheet is written as the empty text, which has no records. -/
theorem C20_empty_sheet (o : Opts) : csvText [] o = [] ∧ expected [] o = [] := by
  constructor <;> rfl

/-- A one-column sheet whose cells are all empty, no wrap character: every line is empty.
    The RFC grammar reads an empty line as a record with one empty field, so the grid is
    recovered (this is `C20_parse_back`); a reader that SKIPS blank lines (several popular ones do)
    would lose these rows.  With a wrap character the lines are `""` and nothing is ambiguous. -/
theorem C20_single_empty_column :
    csvText [((2, 1), [])] ⟨.utf8, false, none⟩ = "\r\n\r\n".toList ∧
    parse ',' '"' "\r\n\r\n".toList = some [[[]], [[]]] ∧
    csvText [((2, 1), [])] ⟨.utf8, false, some '"'⟩ = "\"\"\r\n\"\"\r\n".toList := by
  repeat rw [String.toList_ofList]
  decide +kernel

/-- `HasColumns` is needed: the cell store accepts a cell at column 0 (`get_cell_mut((0, 1))`);
    if that is the only column, the writer emits one empty line per row, which reads back as
    one (empty) field, not zero fields. -/
theorem C20_zero_columns_fails :
    ¬ ∀ (g : Grid) (o : Opts), UsableQuote o → parse ',' (quoteOf o) (csvText g o) = some (expected g o) := by
  intro h
  have := h [((1, 0), ['x'])] ⟨.utf8, false, none⟩ (by simp only [UsableQuote, quoteOf, Umya.Lemmas.Csv.quoteOf]; decide)
  revert this
  decide

/-- UTF-16LE and UTF-16BE: the strict decoder inverts the encoder on every text
    (every Unicode scalar value, including those above U+FFFF). -/
theorem C20_utf16 (bigEndian : Bool) (s : Text) : decodeUtf16 bigEndian (encodeUtf16 bigEndian s) = some s :=
  decode_encode bigEndian s

example : encodeUtf16 false "a😀".toList = [0x61, 0x00, 0x3D, 0xD8, 0x00, 0xDE] := by
  repeat rw [String.toList_ofList]
  decide +kernel
example : encodeUtf16 true "a😀".toList = [0x00, 0x61, 0xD8, 0x3D, 0xDE, 0x00] := by
  repeat rw [String.toList_ofList]
  decide +kernel
example : decodeUtf16 true [0xD8, 0x3D] = none := by
  decide +kernel

/-- UTF-8 (the encoder is Lean core's `String.ofList`, a `String` being its validated UTF-8 bytes). -/
theorem C20_utf8 (s : Text) : decodeUtf8 (encodeUtf8 s) = some s := decodeUtf8_encodeUtf8 s

def isLegacy : Enc → Bool
  | .utf8 | .utf16le | .utf16be => false
  | _ => true

/-- the decoder matching `encodeWith` -/
def decodeWith (legacyDecode : Enc → List UInt8 → Option Text) (e : Enc) (b : List UInt8) : Option Text :=
  match e with
  | .utf8 => decodeUtf8 b
  | .utf16le => decodeUtf16 false b
  | .utf16be => decodeUtf16 true b
  | e => legacyDecode e b

/-- If a sheet is active, `write_writer` does not panic, and decoding its bytes in
    the selected encoding and reading them with the RFC 4180 reader gives the expected grid.
    For the seven legacy code pages (a parameter) this needs the hypothesis that the code page
    round-trips the text that was written ("the text is representable"); for UTF-8/UTF-16 nothing. -/
theorem C20_end_to_end (legacy : Enc → Text → List UInt8) (legacyDecode : Enc → List UInt8 → Option Text)
    (b : Book) (g : Grid) (o : Opts) (hact : b.activeSheet = some g) (hq : UsableQuote o) (hg : HasColumns g)
    (hleg : isLegacy o.enc = true → legacyDecode o.enc (legacy o.enc (csvText g o)) = some (csvText g o)) :
    ∃ bytes, writeWriter legacy b o = some bytes ∧
      (decodeWith legacyDecode o.enc bytes).bind (parse ',' (quoteOf o)) = some (expected g o) := by
  refine ⟨encodeWith legacy o.enc (csvText g o), by simp [writeWriter, hact], ?_⟩
  have hdec : decodeWith legacyDecode o.enc (encodeWith legacy o.enc (csvText g o)) = some (csvText g o) := by
    cases he : o.enc <;> simp only [decodeWith, encodeWith, C20_utf8, C20_utf16] <;>
      (rw [he] at hleg; exact hleg rfl)
  rw [hdec]
  exact C20_parse_back g o hq hg

/-- the legacy hypothesis can be met: any codec that is injective on this text satisfies it (here: UTF-8
    standing in for a code page) -/
example : ∃ bytes, writeWriter (fun _ => encodeUtf8) ⟨[demoGrid], 0⟩ ⟨.gbk, true, some '"'⟩ = some bytes ∧
    (decodeWith (fun _ => decodeUtf8) .gbk bytes).bind (parse ',' '"') = some (expected demoGrid ⟨.gbk, true, some '"'⟩) :=
  C20_end_to_end (fun _ => encodeUtf8) (fun _ => decodeUtf8) ⟨[demoGrid], 0⟩ demoGrid ⟨.gbk, true, some '"'⟩ rfl
    (by simp only [UsableQuote, quoteOf, Umya.Lemmas.Csv.quoteOf]; decide) (hasColumns_of_oneBased _ (by decide))
    (fun _ => C20_utf8 _)

/-- API calls that change the sheet list / the active tab / cells -/
inductive Op
  | newSheet
  | removeSheet (i : Nat)
  | setActive (i : Nat)
  | setCell (sheet row col : Nat) (v : Text)

/-- One call.  `none` = the CALLER broke an obligation: `set_active_sheet` with an index outside the
    sheet list, or removing the last remaining sheet (the crate accepts that call: `remove_sheet` returns `Ok` and
    leaves an empty sheet list with the active tab clamped to 0, on which `get_active_sheet` panics).  A call that
    returns `Err`/finds no sheet leaves the workbook unchanged. -/
def step (b : Book) : Op → Option Book
  | .newSheet => some b.newSheet
  | .removeSheet i =>
    if b.sheets.length < 2 then none
    else match b.removeSheet i with
      | some b' => some b'
      | none => some b
  | .setActive i => if i < b.sheets.length then some (b.setActive i) else none
  | .setCell s r c v =>
    match b.setCell s r c v with
    | some b' => some b'
    | none => some b

def steps : Book → List Op → Option Book
  | b, [] => some b
  | b, op :: ops =>
    match step b op with
    | some b' => steps b' ops
    | none => none

theorem step_inv (b b' : Book) (op : Op) (h : Inv b) (hs : step b op = some b') : Inv b' := by
  cases op with
  | newSheet => cases hs; exact inv_newSheet b h
  | removeSheet i =>
    simp only [step] at hs
    split at hs
    · cases hs
    · split at hs <;> cases hs
      · exact inv_removeSheet b i (by omega) ‹_›
      · exact h
  | setActive i =>
    simp only [step] at hs
    split at hs <;> cases hs
    exact inv_setActive b i ‹_›
  | setCell s r c v =>
    simp only [step] at hs
    split at hs <;> cases hs
    · exact inv_setCell h ‹_›
    · exact h

theorem steps_inv (b b' : Book) (ops : List Op) (h : Inv b) (hs : steps b ops = some b') : Inv b' := by
  induction ops generalizing b with
  | nil => cases hs; exact h
  | cons op ops ih =>
    simp only [steps] at hs
    split at hs
    · exact ih _ (step_inv b _ op h ‹_›) hs
    · cases hs

/-- After any history of sheet additions, removals (also of the active sheet or of
    sheets before it), in-range activations and cell writes starting from `new_file()`, the active
    tab points into the sheet list and `write_writer` returns bytes for that sheet.  (`b.sheets[b.active]?` is
    `b.activeSheet`, the hypothesis of `C20_end_to_end`, unfolded.) -/
theorem C20_active (ops : List Op) (b : Book) (hs : steps Book.new ops = some b)
    (legacy : Enc → Text → List UInt8) (o : Opts) :
    ∃ g, b.sheets[b.active]? = some g ∧ writeWriter legacy b o = some (encodeWith legacy o.enc (csvText g o)) := by
  obtain ⟨g, hg⟩ := activeSheet_of_inv b (steps_inv Book.new b ops inv_new hs)
  exact ⟨g, hg, by simp [writeWriter, hg]⟩

/-- activate the last of three sheets, remove it, remove the first: still exported -/
example : ∃ b, steps Book.new [.newSheet, .newSheet, .setCell 1 1 1 ['x'], .setActive 2, .removeSheet 2, .removeSheet 0] = some b
    ∧ b.active = 0 ∧ b.sheets = [[((1, 1), ['x'])]] := ⟨_, rfl, rfl, rfl⟩

/-- `set_active_sheet` is not range-checked by the crate: an out-of-range index makes the export
    panic (`get_active_sheet` unwraps).  This is the caller obligation excluded by `step`. -/
theorem C20_set_active_unchecked (legacy : Enc → Text → List UInt8) (o : Opts) :
    writeWriter legacy (Book.new.setActive 1) o = none := rfl

end Umya.Thm.C20
