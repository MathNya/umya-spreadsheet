/-
  C12 — A saved file contains only content of the workbook being saved.

  Model: `Umya/Model/SharedStrings.lean` (the string side of `make_buffer` after the per-save
  table fix).  Workbooks are values; `Clone` is copying a value; a save is a function of the
  workbook value and returns the package's shared-string part and the cell indices.
-/
import Umya.Lemmas.SharedStrings
namespace Umya.Thm.C12
open Umya.Sst

theorem save_table (b : BookS) : (save b).table = (internAll (if b.hasRaw then b.loaded else []) b.texts).1 := rfl

/-- All sheets deserialized: the shared-string part holds exactly the text reachable from the
    workbook at that moment — every reachable string once, nothing else — whatever was overwritten,
    deleted, registered by earlier saves or lives in other workbook objects; `count` is the number
    of text cells. -/
theorem C12_exact (b : BookS) (h : b.hasRaw = false) :
    (save b).table.Nodup ∧ (∀ y, y ∈ (save b).table ↔ y ∈ b.texts) ∧ (save b).count = b.texts.length := by
  rw [save_table, h]
  exact ⟨internAll_nodup [] b.texts List.nodup_nil, fun y => (internAll_mem [] b.texts y).trans (by simp), rfl⟩

/-- Every `t="s"` cell shows its own string: the j-th registered text resolves, through the j-th index the
    registration hands out, to itself in the written table.  (The indices are those of the flat registration
    sequence; `Saved.sheetIdx` cuts them per sheet by `splitBy`, of which no theorem speaks: the two `example`s below.) -/
theorem C12_resolves (b : BookS) (j : Nat) (x : Text) (hx : b.texts[j]? = some x) :
    let base := if b.hasRaw then b.loaded else []
    ∃ i : Nat, (internAll base b.texts).2[j]? = some i ∧ (save b).table[i]? = some x := by
  intro base
  rw [save_table]
  exact internAll_get base b.texts j x hx

/-- While some sheet is still raw (lazily opened, never deserialized) its verbatim XML indexes the
    loaded table, so that table stays in front — unchanged, as a prefix — and only strings of the
    workbook that are not already in it are appended.  (Stale strings of the *loaded file* may
    therefore remain in this case; this is the clause recorded in DESIGN.md, section C12, "Unchanged tree".) -/
theorem C12_raw (b : BookS) (h : b.hasRaw = true) :
    ∃ ext, (save b).table = b.loaded ++ ext ∧ (∀ y ∈ ext, y ∈ b.texts ∧ y ∉ b.loaded) ∧
      (∀ (i : Nat) (x : Text), b.loaded[i]? = some x → (save b).table[i]? = some x) := by
  rw [save_table, h]
  obtain ⟨ext, he, hn⟩ := internAll_ext b.loaded b.texts
  exact ⟨ext, he, hn, fun i x hi => internAll_get_old b.loaded b.texts hi⟩

/-- a heap of workbook objects and the operations of the property's histories -/
inductive HOp where
  | put (w : Nat) (b : BookS)          -- any edit: the object now has this value
  | clone (w w2 : Nat)                 -- `obj[w2] = obj[w].clone()`
  | save (w : Nat)
  deriving Repr

def setAt {α} (l : List α) (i : Nat) (x : α) : List α := if i < l.length then l.set i x else l ++ [x]

def stepH (heap : List BookS) : HOp → List BookS × Option Saved
  | .put w b => (setAt heap w b, none)
  | .clone w w2 => (match heap[w]? with | some b => setAt heap w2 b | none => heap, none)
  | .save w => (heap, (heap[w]?).map save)

def runH (heap : List BookS) : List HOp → List BookS × List Saved
  | [] => (heap, [])
  | op :: ops =>
    let (h1, o) := stepH heap op
    let (h2, os) := runH h1 ops
    (h2, match o with | some s => s :: os | none => os)

/-- A save step changes no workbook object, and the same step repeated gives the same content.  This holds by the
    shape of `stepH` (a save returns the heap it was given and `save` of one object): the substance is the frame
    assumption behind that shape — a save reads and writes only the workbook it is given —, tied to the source by
    `tools/shared_state.py` (DESIGN.md 0.1), not a fact about histories (no theorem and no driver speaks of `runH`, nor of the `put` and `clone` steps). -/
theorem C12_pure (heap : List BookS) (w : Nat) :
    (stepH heap (.save w)).1 = heap ∧
    (stepH (stepH heap (.save w)).1 (.save w)).2 = (stepH heap (.save w)).2 := by
  simp [stepH]

/-- What a save step of object `w` writes depends only on the value of `w` in the heap it is run on: two heaps that
    agree at `w` — whatever else they hold, however they came about — give the same content.  Again by the shape of
    `stepH`; see `C12_pure`. -/
theorem C12_depends_only_on_value (heap heap' : List BookS) (w : Nat) (h : heap[w]? = heap'[w]?) :
    (stepH heap (.save w)).2 = (stepH heap' (.save w)).2 := by
  simp [stepH, h]

/-- With ONE table kept across saves (`make_buffer` before commit be3a028 registered in the workbook's shared table)
    a string that was overwritten before the second save is still written; with the table `save` builds it is not. -/
theorem C12_persistent_table_fails :
    let t1 := (internAll [] [['o', 'l', 'd']]).1           -- first save registers "old"
    let t2 := (internAll t1 [['n', 'e', 'w']]).1           -- cell overwritten, second save on the same table
    ['o', 'l', 'd'] ∈ t2 ∧ ['o', 'l', 'd'] ∉ (save { sheets := [.cells [['n', 'e', 'w']]] }).table := by
  decide +kernel

/-- all sheets deserialized: first occurrence wins, the indices follow -/
example : (save { sheets := [.cells [['a'], ['b'], ['a']], .cells [['c'], ['b']]] }).table = [['a'], ['b'], ['c']] ∧
    (save { sheets := [.cells [['a'], ['b'], ['a']], .cells [['c'], ['b']]] }).sheetIdx = [[0, 1, 0], [2, 1]] ∧
    (BookS.hasRaw { sheets := [.cells [['a'], ['b'], ['a']], .cells [['c'], ['b']]] }) = false := by decide +kernel

/-- a raw sheet: the loaded table stays in front, its indices are copied -/
example : (save { sheets := [.raw [1, 0], .cells [['z'], ['y']]], loaded := [['x'], ['y']] }).table = [['x'], ['y'], ['z']] ∧
    (save { sheets := [.raw [1, 0], .cells [['z'], ['y']]], loaded := [['x'], ['y']] }).sheetIdx = [[1, 0], [2, 1]] := by decide +kernel

end Umya.Thm.C12
