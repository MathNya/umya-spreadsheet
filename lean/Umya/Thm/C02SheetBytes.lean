/-
  C02 — one worksheet, from CHARACTERS to the decoded sheet; and the sheet's cell writer is C01's.

  `C02_sheet_decodes` (Thm/C02Sheet.lean) is about element trees; `C02_bytes_parse_tree` (Thm/C02Bytes.lean)
  goes from the characters the tag-level writer model emits to the tree.  Here they are composed: the
  package part of a sheet is what the independent XML reader returns on the CHARACTERS
  `renderDoc (ofNode … root)` of the rendered `<worksheet>` (and likewise for the relationships part), and the
  independent decoder returns the sheet.  The composition needs that the rendered trees are in the reader's
  normal form (`renderSheet_isNF`, `relsRoot_isNF`, from
  `cellNode_isNF`), so `parse` returns them exactly.

  Hypotheses (all decidable, all evaluated by the tie on every real part): the frame hypotheses of
  `C02_sheet_decodes`; `Frame.nf` / `isNFKids rest` (the opaque children are themselves in normal form — any
  tree an XML reader delivered is); `wfNodes` of the two trees (names are XML Names, attribute names distinct,
  every character of every value and text is an XML 1.0 `Char` — the character-legality clause of C02, which
  `write_*` does not enforce: a control character is emitted raw, see C02 under "Unchanged tree" in DESIGN.md).
-/
import Umya.Lemmas.SheetNodeNF
import Umya.Thm.C02Bytes
import Umya.Thm.C02Sheet
namespace Umya.Thm.C02
open Umya.CellXml Umya.CellNode Umya.SheetNode Umya.Num Umya.XmlWrite
open Umya.Spec.Sml (decodeSheet relsOf relsNameOf Package Part)
open Umya.Spec.Xml (Node Attr parse)

/-- a package part as the reader side builds it from the characters of an XML part (`Driver/C02.lean`):
    the tree is whatever the independent XML reader returns -/
def partOfChars (name : String) (cs : List Char) : Part := { name := name, xml := parse cs, isXml := true }

/-- The sheet's cell writer is C01's: the row loop of worksheet.rs threads the shared-string table
    through the rows; for a well-formed sheet that is `writeCells` (the writer C01 proves the round trip for and
    ties to the code) on the sheet's cells in order: same final table, and the `<c>` facts of the rows,
    concatenated, are exactly its facts; each written row carries its row-table entry and its cells. -/
theorem C02_rows_are_cells (F : NumFmt) (tbl : Table) (s : SheetW F.Num) (hwf : s.WF) (t : Table) (ws : List (RowX F.Num))
    (h : writeRows F tbl (rowGroups s.rows s.cells) = some (t, ws)) :
    writeCells F tbl s.cells = some (t, ws.flatMap (·.xs)) ∧ ws.map (·.row) = s.rows ∧ ws.flatMap (·.cells) = s.cells := by
  obtain ⟨h1, h2⟩ := writeRows_eq_writeCells F _ tbl t ws h
  rw [rowGroups_cells F s hwf] at h1
  refine ⟨h1, ?_, ?_⟩
  · have := congrArg (List.map (·.1)) h2
    rw [rowGroups_rows, List.map_map] at this
    exact this
  · have := congrArg (List.flatMap (·.2)) h2
    rw [rowGroups_cells F s hwf, List.flatMap_map] at this
    exact this

theorem C02_cells_are_rows (F : NumFmt) (tbl : Table) (s : SheetW F.Num) (hwf : s.WF) (t : Table) (xs : List CellX)
    (h : writeCells F tbl s.cells = some (t, xs)) :
    ∃ ws, writeRows F tbl (rowGroups s.rows s.cells) = some (t, ws) ∧ ws.flatMap (·.xs) = xs := by
  rw [← rowGroups_cells F s hwf] at h
  exact writeRows_of_writeCells F _ tbl t xs h

theorem C02_sheet_normal_form (F : NumFmt) (xf : List Char → Nat) (fr : Frame) (tbl : Table) (s : SheetW F.Num)
    (tbl' : Table) (root : Node) (h : renderSheet F xf fr tbl s = some (tbl', root)) (hfr : fr.ok = true) (hnf : fr.nf = true)
    (rest : List Node) (hrest : isNFKids rest = true) :
    isNF root = true ∧ ∀ rr, relsRoot s.links rest = some rr → isNF rr = true :=
  ⟨renderSheet_isNF F xf fr tbl s tbl' root h hfr hnf, fun rr hr => relsRoot_isNF s.links rest rr hr hrest⟩

/-- The sheet, from characters.  For every well-formed sheet `s` that the model of worksheet.rs writes
    (`renderSheet`), in every package whose part `path` is what the independent XML reader returns on the
    characters of the rendered worksheet part (`renderDoc (ofNode sc root)`: XML declaration, new line, the tree
    written through `write_start_tag` / `write_text_node` / `write_end_tag`, childless elements in either form) and
    whose part `relsNameOf path` is, likewise, the reading of the characters of the rendered relationships part
    (absent when there is no relationship), the independent decoder returns exactly the sheet — cells, merged
    ranges, hyperlinks with their targets, row table — and NO diagnostic, against every later state of the
    shared-string table. -/
theorem C02_sheet_bytes_decode (F : NumFmt) (xf : List Char → Nat) (fr : Frame) (tbl : Table) (s : SheetW F.Num) (hwf : s.WF)
    (tbl' : Table) (root : Node) (h : renderSheet F xf fr tbl s = some (tbl', root))
    (nXf nDxf : Nat) (hn : 0 < nXf) (hxf : ∀ ref, xf ref < nXf) (rest : List Node)
    (hfr : fr.ok = true) (hcols : fr.colsOk nXf = true) (hdxf : fr.dxfOk nDxf = true)
    (hrid : fr.ridsOk (relIds (relWalk 1 s.links ++ rest)) = true)
    (hnf : fr.nf = true) (hrestnf : isNFKids rest = true)
    (hchars : wfNodes [root] = true) (hrelchars : ∀ rr, relsRoot s.links rest = some rr → wfNodes [rr] = true)
    (sc sc' : Bool) (p : Package) (path : String)
    (hp : p.part? path = some (partOfChars path (renderDoc (ofNode sc root))))
    (hr : p.part? (relsNameOf path) = (relsRoot s.links rest).map (fun rr => partOfChars (relsNameOf path) (renderDoc (ofNode sc' rr)))) :
    ∀ sst : Table, Extends sst tbl' →
      decodeSheet p path (sst.map itemText) nXf nDxf =
        ({ cells := cellViews F xf s.cells, merges := s.merges, links := s.links.map linkView,
           cols := colVsOf fr.colNodes, rows := s.rows.map rowView, tables := [], noR := false }, []) := by
  obtain ⟨sd, _, _, hroot⟩ := renderSheet_shape F xf fr tbl s tbl' root h
  have hp' : (p.part? path).bind (·.xml) = some root := by
    simp only [hp, Option.bind_some, partOfChars]
    exact parse_render_nf sc root (hroot ▸ rfl) hchars (renderSheet_isNF F xf fr tbl s tbl' root h hfr hnf)
  have hr' : (p.part? (relsNameOf path)).bind (·.xml) = relsRoot s.links rest := by
    rw [hr]
    cases hrr : relsRoot s.links rest with
    | none => rfl
    | some rr =>
      have he : rr.isElem = true := by rw [relsRoot_some hrr]; rfl
      simp only [Option.map_some, Option.bind_some, partOfChars]
      exact parse_render_nf sc' rr he (hrelchars rr hrr) (relsRoot_isNF s.links rest rr hrr hrestnf)
  exact C02_sheet_decodes F xf fr tbl s hwf tbl' root h nXf nDxf hn hxf rest hfr hcols hdxf hrid p path hp' hr'

example : demoFrame.nf = true ∧ isNFKids demoRest = true := by
  simp [demoFrame, demoRest, Frame.nf, isNFKids, nRelationship]

example : ∃ tbl' root, renderSheet demoFS (fun _ => 2) demoFrame [] demoSheet = some (tbl', root) ∧ isNF root = true := by
  obtain ⟨tbl', root, h⟩ := C02_sheet_written demoFS (fun _ => 2) demoFrame [] demoSheet (by decide)
  exact ⟨tbl', root, h, renderSheet_isNF demoFS _ demoFrame [] demoSheet tbl' root h (by decide +kernel) (by simp [demoFrame, Frame.nf, isNFKids])⟩

example : ∀ rr, relsRoot demoSheet.links demoRest = some rr → wfNodes [rr] = true := by
  intro rr h
  cases relsRoot_some h
  have e2 : rIdText (1 + 1) = ['r', 'I', 'd', '2'] := rIdText_2
  have e3 : rIdText (1 + 1 + 1) = ['r', 'I', 'd', '3'] := rIdText_3
  simp only [demoSheet, demoRest, relWalk, relNode, rIdText_1, e2, e3, List.cons_append, List.nil_append, wfNodes,
    Bool.false_eq_true, if_false, if_true]
  decide

end Umya.Thm.C02
