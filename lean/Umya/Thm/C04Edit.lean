/-
  C04 — edits that change WHICH cells exist: a value set at an empty position (`get_cell_mut` creates the cell and
  the records of its row and column), `remove_cell`, an edit that leaves the cell blank without a style (the writer drops it),
  and a style edit that interns a NEW xf.

  Models: `Umya/Model/CellEdit.lean` (`createSheet`, `deleteSheet`, `lookup`, `ensureRow`, `ensureCol`), the workbook projection
  `BookP` and its explicit normal form `normBook` of `Umya/Thm/C04Fix.lean` (one save + load IS `normBook`:
  `C04_workbook_resave_defined`), the style sheet of C05 (`setAll` = the writer's `set_style` over all cells).
  The `<dimension ref>` attribute is not a field of the projection (the writer computes it from the cells, the
  reader does not keep it): what changes of it is determined by the cell list, stated here by `lookup`.
-/
import Umya.Thm.C04Fix
import Umya.Lemmas.ResaveEdit
import Umya.Lemmas.ResaveStrings
import Umya.Thm.C05
namespace Umya.Thm.C04
open Umya.Resave

section Edit
open Umya.AnnotCodec Umya.AnnotProt Umya.AnnotView Umya.AnnotPage Umya.Annot Umya.AnnotDv Umya.AnnotCf Umya.Coord
open Umya.Num Umya.CellXml

variable (cf : Umya.StyleCodec.Tok → Umya.StyleCodec.Tok) (hz : cf Umya.StyleCodec.zeroTok = Umya.StyleCodec.zeroTok)
variable {Z : NumZ} (hs : Z.F.Sound) (F : NumFmt) (hF : F.Sound) (e : SaveEnv)

/-- the row record of row `r` exists afterwards (`get_row_dimension_mut`) -/
def SheetP.withRow (s : SheetP Z) (r x : Nat) : SheetP Z := { s with rows := ensureRow r x s.rows }

/-- the column record of column `k` exists afterwards (`get_column_dimension_by_number_mut`) -/
def SheetP.withCol (s : SheetP Z) (k y : Nat) : SheetP Z := { s with cols := ensureCol k y s.cols }

/-- `get_cell_mut` at an empty position of sheet `i`, then a setter: the new cell `c` is in the sheet's collection
    (after the first `n` cells: any place), and row `c.row` and column `c.col` have a record (`x`, `y` = the xf indices
    given to the default style of the new row / column record) -/
def BookP.createCell (b : BookP F Z) (i n : Nat) (c : Cell F.Num) (x y : Nat) : BookP F Z :=
  { b with cells := onSheet F b.cells i (createSheet F n c),
           sheets := onIdx b.sheets i (fun s => (s.withRow c.row x).withCol c.col y) }

/-- `remove_cell` on sheet `i` (the row record stays) -/
def BookP.deleteCell (b : BookP F Z) (i : Nat) (k : Nat × Nat) : BookP F Z :=
  { b with cells := onSheet F b.cells i (deleteSheet F k) }

theorem sheetCodec_WF_records (s : SheetP Z) (h : (sheetCodec cf hs e).WF s) (rows : List (Umya.StyleCodec.Row × Nat))
    (cols : List (Umya.StyleCodec.Col × Nat × Nat × Nat))
    (hrows : (rowCodec cf e.spans e.kids e.last).list.WF s.rows → (rowCodec cf e.spans e.kids e.last).list.WF rows)
    (hcols : (colCodec cf).list.WF s.cols → (colCodec cf).list.WF cols) :
    (sheetCodec cf hs e).WF { s with rows := rows, cols := cols } := by
  -- unfolded first, so that the components are stated on the fields of `s`: taken as they come, the kernel compares
  -- the two thirteen-tuples under every projection
  dsimp only [sheetCodec, Codec.transport, Codec.prod] at h ⊢
  obtain ⟨a1, a2, a3, a4, a5, a6, a7, a8, a9, a10, a11, hr, hc⟩ := h
  exact ⟨a1, a2, a3, a4, a5, a6, a7, a8, a9, a10, a11, hrows hr, hcols hc⟩

theorem BookP.WF_createCell (b : BookP F Z) (i n : Nat) (c : Cell F.Num) (x y : Nat) (h : BookP.WF cf hz hs F hF e b)
    (hcells : CellsWF F e.light (onSheet F b.cells i (createSheet F n c)))
    (hw : cf Umya.StyleCodec.defaultWidth = Umya.StyleCodec.defaultWidth)
    (hr : Umya.StyleCodec.u32Range c.row) (hx : Umya.StyleCodec.u32Range x)
    (hk : Umya.StyleCodec.u32Range c.col) (hy : Umya.StyleCodec.u32Range y) :
    BookP.WF cf hz hs F hF e (b.createCell F i n c x y) := by
  obtain ⟨h1, _, hsheets, rest⟩ := h
  refine ⟨h1, hcells, forall_mem_onIdx hsheets fun s0 h0 => ?_, rest⟩
  exact sheetCodec_WF_records cf hs e s0 (hsheets s0 (List.mem_of_getElem? h0)) _ _
    (fun h => forall_mem_ite_append h ⟨⟨hr, fun _ ht => (nomatch ht), fun _ ht => (nomatch ht)⟩, hx⟩)
    (fun h => forall_mem_ite_append h ⟨hw, hk, hk, hy⟩)

theorem BookP.WF_deleteCell (b : BookP F Z) (i : Nat) (k : Nat × Nat) (h : BookP.WF cf hz hs F hF e b)
    (hcells : CellsWF F e.light (onSheet F b.cells i (deleteSheet F k))) :
    BookP.WF cf hz hs F hF e (b.deleteCell F i k) :=
  ⟨h.1, hcells, h.2.2⟩

theorem normBook_createCell (b : BookP F Z) (i n : Nat) (c : Cell F.Num) (x y : Nat) (s : List (Cell F.Num))
    (hs' : b.cells[i]? = some s) (hc : blankUnstyled F c = false) :
    normBook F (b.createCell F i n c x y) = (normBook F b).createCell F i (keptBefore F s n) (Cell.resolved F c) x y := by
  have h1 : normalize F (onSheet F b.cells i (createSheet F n c))
      = onSheet F (normalize F b.cells) i (createSheet F (keptBefore F s n) (Cell.resolved F c)) :=
    normalize_onSheet F b.cells i _ _ (fun s0 h0 => by
      rw [hs'] at h0; cases h0; exact normS_createSheet F n c s hc)
  have h2 : (onIdx b.sheets i (fun s => (s.withRow c.row x).withCol c.col y)).map normSheet
      = onIdx (b.sheets.map normSheet) i (fun s => (s.withRow c.row x).withCol c.col y) :=
    map_onIdx (fun a _ => by
      simp only [normSheet, SheetP.withCol, SheetP.withRow, ensureCol_map_norm, ensureRow_map_norm])
  simp only [normBook, BookP.createCell, h1, h2]
  rfl

theorem normBook_deleteCell (b : BookP F Z) (i : Nat) (k : Nat × Nat) :
    normBook F (b.deleteCell F i k) = (normBook F b).deleteCell F i k := by
  have h1 : normalize F (onSheet F b.cells i (deleteSheet F k)) = onSheet F (normalize F b.cells) i (deleteSheet F k) :=
    normalize_onSheet F b.cells i _ _ (fun s0 _ => normS_deleteSheet F k s0)
  simp only [normBook, BookP.deleteCell, h1]

/-- A value set at an empty position.  Sheet `i` holds the cells `s`, none of them at the coordinate of `c`
    (`hnew`); `c` is what the setter left there, something the writer writes (`hc`: a value, a formula or a style).
    Then load → edit → save → load is: the reloaded workbook with the (resolved) new cell inserted and the row
    record ensured (1, 2).  Consequently (3) every other sheet — its cells and its records — is untouched; (4) on
    sheet `i` exactly one cell more is read, the new coordinate reads the new cell, every other coordinate reads
    what it read without the edit; (5) every row record that was there is there unchanged, at most one is added (a
    default one for the new cell's row), the same for the column records (at most one default record, for the new
    cell's column, pushed at the end), every other annotation of the sheet is unchanged;
    (6) styles, names, protection: unchanged.  (The used range / `<dimension ref>` follows the cell list.) -/
theorem C04_edit_local_book_create (b : BookP F Z) (i n : Nat) (c : Cell F.Num) (x y : Nat) (s : List (Cell F.Num))
    (hs' : b.cells[i]? = some s) (hc : blankUnstyled F c = false) (hnew : lookup F s (c.row, c.col) = none)
    (h : BookP.WF cf hz hs F hF e b) (h' : BookP.WF cf hz hs F hF e (b.createCell F i n c x y)) :
    resave cf hz hs F hF e (b.createCell F i n c x y)
      = (resave cf hz hs F hF e b).map (fun g => g.createCell F i (keptBefore F s n) (Cell.resolved F c) x y) ∧
    normBook F (b.createCell F i n c x y) = (normBook F b).createCell F i (keptBefore F s n) (Cell.resolved F c) x y ∧
    (∀ i', i' ≠ i → (normBook F (b.createCell F i n c x y)).cells[i']? = (normBook F b).cells[i']? ∧
      (normBook F (b.createCell F i n c x y)).sheets[i']? = (normBook F b).sheets[i']?) ∧
    (∃ s1, (normBook F (b.createCell F i n c x y)).cells[i]? = some s1 ∧ (normBook F b).cells[i]? = some (normS F s) ∧
      s1.length = (normS F s).length + 1 ∧ lookup F s1 (c.row, c.col) = some (Cell.resolved F c) ∧
      ∀ k, k ≠ (c.row, c.col) → lookup F s1 k = lookup F (normS F s) k) ∧
    (∀ sh, (normBook F b).sheets[i]? = some sh →
      (normBook F (b.createCell F i n c x y)).sheets[i]? = some ((sh.withRow c.row x).withCol c.col y) ∧
      (∀ (j : Nat) (p : Umya.StyleCodec.Row × Nat), sh.rows[j]? = some p → ((sh.withRow c.row x).withCol c.col y).rows[j]? = some p) ∧
      ((sh.withRow c.row x).withCol c.col y).rows.length ≤ sh.rows.length + 1 ∧
      (∀ (j : Nat) (p : Umya.StyleCodec.Col × Nat × Nat × Nat), sh.cols[j]? = some p →
        ((sh.withRow c.row x).withCol c.col y).cols[j]? = some p) ∧
      ((sh.withRow c.row x).withCol c.col y).cols.length ≤ sh.cols.length + 1 ∧
      { (sh.withRow c.row x).withCol c.col y with rows := sh.rows, cols := sh.cols } = sh) ∧
    { normBook F (b.createCell F i n c x y) with cells := (normBook F b).cells, sheets := (normBook F b).sheets } = normBook F b := by
  have e0 := normBook_createCell F b i n c x y s hs' hc
  have hn : (normBook F b).cells[i]? = some (normS F s) := by
    show (normalize F b.cells)[i]? = _
    simp [normalize_eq_map, hs']
  have hnew' : lookup F (normS F s) ((Cell.resolved F c).row, (Cell.resolved F c).col) = none :=
    lookup_normS_none F s _ hnew
  refine ⟨?_, e0, ?_, ?_, ?_, ?_⟩
  · exact resave_edit cf hz hs F hF e (·.createCell F i n c x y) b h h' e0
  · intro i' hne
    rw [e0]
    exact ⟨onSheet_other F _ i i' _ hne, onIdx_other _ i i' _ hne⟩
  · refine ⟨createSheet F (keptBefore F s n) (Cell.resolved F c) (normS F s), ?_, hn, length_createSheet F, ?_, ?_⟩
    · rw [e0]; exact onSheet_self F _ i _ _ hn
    · exact lookup_createSheet_self F hnew'
    · exact fun k hk => lookup_createSheet_other F hk
  · intro sh hsh
    refine ⟨?_, ensureRow_old c.row x sh.rows, length_ite_append_le _ sh.rows _, ensureCol_old c.col y sh.cols,
      length_ite_append_le _ sh.cols _, by cases sh; rfl⟩
    rw [e0]; exact onIdx_self _ i _ sh hsh
  · rw [e0]; rfl

/-- A cell removed.  Load → `remove_cell` → save → load is the reloaded workbook with that cell removed: every other
    sheet is untouched, on sheet `i` the coordinate reads nothing and every other coordinate reads what it read
    without the edit; all records (rows — the removed cell's row record stays —, columns, annotations), styles, names:
    unchanged.  No hypothesis on the coordinate: removing where nothing is changes nothing. -/
theorem C04_edit_local_book_delete (b : BookP F Z) (i : Nat) (k : Nat × Nat)
    (h : BookP.WF cf hz hs F hF e b) (h' : BookP.WF cf hz hs F hF e (b.deleteCell F i k)) :
    resave cf hz hs F hF e (b.deleteCell F i k) = (resave cf hz hs F hF e b).map (fun g => g.deleteCell F i k) ∧
    normBook F (b.deleteCell F i k) = (normBook F b).deleteCell F i k ∧
    (∀ i', i' ≠ i → (normBook F (b.deleteCell F i k)).cells[i']? = (normBook F b).cells[i']?) ∧
    (∀ s0, (normBook F b).cells[i]? = some s0 → ∃ s1, (normBook F (b.deleteCell F i k)).cells[i]? = some s1 ∧
      lookup F s1 k = none ∧ (∀ k', k' ≠ k → lookup F s1 k' = lookup F s0 k') ∧ s1.length ≤ s0.length) ∧
    { normBook F (b.deleteCell F i k) with cells := (normBook F b).cells } = normBook F b := by
  have e0 := normBook_deleteCell F b i k
  refine ⟨?_, e0, ?_, ?_, ?_⟩
  · exact resave_edit cf hz hs F hF e (·.deleteCell F i k) b h h' e0
  · intro i' hne; rw [e0]; exact onSheet_other F _ i i' _ hne
  · intro s0 h0
    refine ⟨deleteSheet F k s0, ?_, lookup_deleteSheet_self F k s0, fun k' hk => lookup_deleteSheet_other F k k' s0 hk,
      List.length_filter_le _ _⟩
    rw [e0]; exact onSheet_self F _ i _ s0 h0
  · rw [e0]; rfl

/-- A cell made blank without a style (`set_blank` on an unstyled cell, `remove_style` on a blank one …: `hf`):
    the writer drops it — the normal form of the edited workbook is that of the workbook `remove_cell` gives.  Stated on
    `normBook` alone, without `resave` or `BookP.WF`: for a well-formed projection `C04_workbook_resave_defined` turns
    either side into one save + load -/
theorem C04_edit_local_book_blank (b : BookP F Z) (i : Nat) (k : Nat × Nat) (f : Cell F.Num → Cell F.Num)
    (hf : ∀ c, blankUnstyled F (f c) = true) :
    normBook F (b.editCell F i k f) = normBook F (b.deleteCell F i k) ∧
    normBook F (b.editCell F i k f) = (normBook F b).deleteCell F i k := by
  have h1 : normalize F (editCells F b.cells i k f) = onSheet F (normalize F b.cells) i (deleteSheet F k) := by
    rw [editCells_eq_onSheet]
    exact normalize_onSheet F b.cells i _ _ fun s _ => (normS_editSheet_blank F k f hf s).trans (normS_deleteSheet F k s)
  have h2 : normBook F (b.editCell F i k f) = (normBook F b).deleteCell F i k := by
    simp only [normBook, BookP.editCell, BookP.deleteCell, h1]
  exact ⟨h2.trans (normBook_deleteCell F b i k).symm, h2⟩

end Edit

section Strings
open Umya.Num Umya.CellXml Umya.InternC01

variable (F : NumFmt)

/-- The shared-string table when a cell is created.  The table a save writes is: the items the cells register
    (`regOf`: a written cell with a non-empty value of type `s`), in writing order, interned one after the other —
    first occurrence wins (`writeBook_sst`).  With the new cell `c` written after the items `pre` and before the items
    `post`: the new table is `internList [] (pre ++ [new] ++ post)` against `internList [] (pre ++ post)`.  So:
    the strings first used before the new cell keep their indices (both tables start with the table of `pre`); if the
    new string occurs in `pre` nothing changes at all; otherwise it takes the next index after `pre`'s, and the strings
    first used after it move up by one (or, if the new string also occurs later, the ones between move up and the rest
    stay) — indices of OTHER cells can move.  What does not move: (set) the new table holds exactly the old items plus
    the new one, both without duplicates — it grows by at most that one string —; (resolution) reading the written
    file back through the NEW table gives every cell its own value: the reloaded sheets are `normalize` of the edited
    ones, i.e. (by `C04_edit_local_book_create`) the old reloaded cells plus the new one. -/
theorem C04_edit_create_strings (hF : F.Sound) (light : Bool) (cells : List (List (Cell F.Num))) (i n : Nat)
    (c : Cell F.Num) (s : List (Cell F.Num)) (hs : cells[i]? = some s)
    (hok : ∀ s ∈ cells, ∀ c ∈ s, cellOK F c = true) (hc : cellOK F c = true) :
    ∃ b0 b1 pre post,
      writeBook F light cells = some b0 ∧ writeBook F light (onSheet F cells i (createSheet F n c)) = some b1 ∧
      itemsOf F cells = pre ++ post ∧
      itemsOf F (onSheet F cells i (createSheet F n c)) = pre ++ (regOf F c).toList ++ post ∧
      b0.sst = (internList [] (pre ++ post)).map siOf ∧
      b1.sst = (internList [] (pre ++ (regOf F c).toList ++ post)).map siOf ∧
      (∃ e0 e1, internList [] (pre ++ post) = internList [] pre ++ e0 ∧
        internList [] (pre ++ (regOf F c).toList ++ post) = internList [] pre ++ e1) ∧
      (∀ it, it ∈ internList [] (pre ++ (regOf F c).toList ++ post) ↔ it ∈ internList [] (pre ++ post) ∨ regOf F c = some it) ∧
      (internList [] (pre ++ post)).Nodup ∧ (internList [] (pre ++ (regOf F c).toList ++ post)).Nodup ∧
      (b1.sst.length < 18446744073709551616 →
        readBook F b1 = some (normalize F (onSheet F cells i (createSheet F n c)))) := by
  have hok' : ∀ s' ∈ onSheet F cells i (createSheet F n c), ∀ c' ∈ s', cellOK F c' = true := by
    rw [onSheet_eq_onIdx]
    refine forall_mem_onIdx hok fun s0 h0 c' hc' => ?_
    rcases List.mem_cons.1 ((createSheet_perm F n c s0).mem_iff.1 hc') with rfl | h2
    · exact hc
    · exact hok s0 (List.mem_of_getElem? h0) c' h2
  obtain ⟨b0, hw0, _⟩ := writeBook_readBook F hF light cells hok
  obtain ⟨b1, hw1, hr1⟩ := writeBook_readBook F hF light _ hok'
  obtain ⟨A, B, eA, eB⟩ := flatten_onIdx cells i s (createSheet F n c) hs
  rw [← onSheet_eq_onIdx] at eB
  let pre := (A ++ s.take n).filterMap (regOf F)
  let post := (s.drop n ++ B).filterMap (regOf F)
  have i0 : itemsOf F cells = pre ++ post := by
    show cells.flatten.filterMap (regOf F) = _
    rw [eA, ← List.filterMap_append]
    congr 1
    rw [List.append_assoc, List.append_assoc, ← List.append_assoc (s.take n), List.take_append_drop]
  have i1 : itemsOf F (onSheet F cells i (createSheet F n c)) = pre ++ (regOf F c).toList ++ post := by
    show (onSheet F cells i (createSheet F n c)).flatten.filterMap (regOf F) = _
    rw [eB]
    simp only [createSheet, pre, post, List.filterMap_append, List.filterMap_cons, List.append_assoc]
    cases regOf F c <;> simp
  refine ⟨b0, b1, pre, post, hw0, hw1, i0, i1, ?_, ?_, ?_, ?_, ?_, ?_, hr1⟩
  · rw [writeBook_sst F light cells b0 hw0, i0]
  · rw [writeBook_sst F light _ b1 hw1, i1]
  · obtain ⟨e0, h0⟩ := internList_prefix post (internList [] pre)
    obtain ⟨e1, h1⟩ := internList_prefix ((regOf F c).toList ++ post) (internList [] pre)
    exact ⟨e0, e1, by rw [internList_append]; exact h0, by rw [List.append_assoc, internList_append]; exact h1⟩
  · intro it
    simp only [internList_mem, List.mem_append, List.not_mem_nil, false_or, Option.mem_toList]
    exact or_right_comm
  · exact internList_nodup List.nodup_nil
  · exact internList_nodup List.nodup_nil

end Strings

section NewStyle
open Umya.Style Umya.Interning Umya.Thm.C05

/-- A new style on one cell.  The writer interns the cells' styles in cell order (`setAll` over the list `l`); a
    style edit on cell `k` replaces `l[k]` by a style `s'` (any: one the tables have never seen included).  The xf
    INDEX another cell `j` is written with may be a different one than without the edit (if the replaced style was
    used by cell `k` only, its xf is no longer allocated and later ones move down; a new `s'` is appended at the
    place of its first use) — see the example below.  Stated: in each of the two saves taken by itself — with the
    edit, and without it — the index written for cell `j` denotes, in the tables of THAT save, a style whose effective
    formatting is that of `j`'s own style `s` evaluated against the same tables; and with the edit the index of cell
    `k` denotes that of `s'`.  (The two effective values are taken against two different sets of tables; that they
    coincide is not part of the statement.) -/
theorem C04_edit_new_style_local (cs : Codecs) (key : Tok → Tok) (hkey : ∀ a b, key a = key b → a = b)
    (ss : Sheet) (h : Inv cs ss) (l : List Style) (hl : ∀ s ∈ l, s.WF) (k : Nat) (s' : Style) (hs' : s'.WF) (hk : k < l.length) :
    (∀ (j : Nat) (s : Style), j ≠ k → l[j]? = some s →
      (∃ i st ef, (setAll key ss (l.set k s')).2[j]? = some i ∧ styleAt cs (setAll key ss (l.set k s')).1 i = some st ∧
        eff cs (setAll key ss (l.set k s')).1 st = some ef ∧ eff cs (setAll key ss (l.set k s')).1 s = some ef) ∧
      (∃ i st ef, (setAll key ss l).2[j]? = some i ∧ styleAt cs (setAll key ss l).1 i = some st ∧
        eff cs (setAll key ss l).1 st = some ef ∧ eff cs (setAll key ss l).1 s = some ef)) ∧
    (∃ i st ef, (setAll key ss (l.set k s')).2[k]? = some i ∧ styleAt cs (setAll key ss (l.set k s')).1 i = some st ∧
      eff cs (setAll key ss (l.set k s')).1 st = some ef ∧ eff cs (setAll key ss (l.set k s')).1 s' = some ef) := by
  have hl' : ∀ s ∈ l.set k s', s.WF := by
    intro s hs
    rcases List.mem_or_eq_of_mem_set hs with h1 | h1
    · exact hl s h1
    · rw [h1]; exact hs'
  refine ⟨fun j s hne hj => ⟨?_, C05_get_set_all cs key hkey ss h l hl j s hj⟩, ?_⟩
  · refine C05_get_set_all cs key hkey ss h _ hl' j s ?_
    rw [List.getElem?_set_ne (Ne.symm hne)]; exact hj
  · refine C05_get_set_all cs key hkey ss h _ hl' k s' ?_
    simp [hk]

end NewStyle

section DemoEdit
open Umya.Num Umya.CellXml Umya.Thm.C01

def exSheet : List (Cell natFmt.Num) :=
  [{ col := 1, row := 1, raw := .str ['a'] }, { col := 2, row := 1 }, { col := 1, row := 3, raw := .lazy ['7'] }]
def exNew : Cell natFmt.Num := { col := 2, row := 2, raw := .str "CREATED<&>".toList }

/-- the hypotheses of `C04_edit_local_book_create` on the cell side hold of `exSheet` and `exNew` (on a whole
    `BookP.WF` projection: `demoBook_create_WF` below); the created cell lands between kept cells, after a dropped one -/
example : lookup natFmt exSheet (exNew.row, exNew.col) = none ∧ blankUnstyled natFmt exNew = false ∧
    keptBefore natFmt exSheet 2 = 1 ∧
    (normS natFmt (createSheet natFmt 2 exNew exSheet)).map (fun c => (c.row, c.col)) = [(1, 1), (2, 2), (3, 1)] ∧
    (ensureRow 2 0 [({ num := 1 }, 0), ({ num := 3 }, 0)]).map (·.1.num) = [1, 3, 2] ∧
    (ensureRow 3 0 [({ num := 1 }, 0), ({ num := 3 }, 0)]).map (·.1.num) = [1, 3] := by decide +kernel
/-- delete / blank: the cell at row 3 goes, the rest stays; `setBlank` satisfies `hf` on unstyled cells of this sheet -/
example : (normS natFmt (deleteSheet natFmt (3, 1) exSheet)).map (fun c => (c.row, c.col)) = [(1, 1)] ∧
    normS natFmt (editSheet natFmt (3, 1) (fun c => { c with raw := .empty, formula := none, styled := false }) exSheet)
      = normS natFmt (deleteSheet natFmt (3, 1) exSheet) := by decide +kernel
example : ∀ c : Cell natFmt.Num, blankUnstyled natFmt { c with raw := .empty, formula := none, styled := false } = true := by
  intro c; simp [blankUnstyled, blankCore, Cell.resolved, resolveRaw, RawValue.isEmpty]
/-- the delete theorem's hypotheses on a whole projection -/
example : ∃ b : BookP natFmt Umya.Thm.C06.exZ, BookP.WF id rfl Umya.Thm.C06.exFmt_sound natFmt natFmt_sound demoEnv b ∧ b.cells ≠ [] :=
  ⟨demoBook, demoBook_WF demoEnv demoEnv_ok, by decide +kernel⟩

/-- `C04_edit_create_strings`: a text cell created between two text cells — the string first used after it moves from
    index 1 to index 2, the one before keeps index 0; the same string again adds nothing -/
example :
    let a : Cell natFmt.Num := { col := 1, row := 1, raw := .str ['a'] }
    let b : Cell natFmt.Num := { col := 3, row := 1, raw := .str ['b'] }
    let x : Cell natFmt.Num := { col := 2, row := 1, raw := .str ['x'] }
    let a' : Cell natFmt.Num := { col := 2, row := 1, raw := .str ['a'] }
    cellOK natFmt x = true ∧ regOf natFmt x = some { text := some ['x'] } ∧
    internList [] (itemsOf natFmt [[a, b]]) = [{ text := some ['a'] }, { text := some ['b'] }] ∧
    internList [] (itemsOf natFmt (onSheet natFmt [[a, b]] 0 (createSheet natFmt 1 x)))
      = [{ text := some ['a'] }, { text := some ['x'] }, { text := some ['b'] }] ∧
    internList [] (itemsOf natFmt (onSheet natFmt [[a, b]] 0 (createSheet natFmt 1 a')))
      = [{ text := some ['a'] }, { text := some ['b'] }] := by decide +kernel

/-- `C04_edit_new_style_local`, the renumbering of the docstring (styles of `Umya/Thm/C05.lean`, well-formed by
    `wf_list`): cells styled [sA, sA, sC] are written with xf [2, 2, 3]; a NEW style sD on the second cell gives
    [2, 3, 4] — the third cell's index moves up —; on [sA, sB, sC] ↦ [2, 3, 4], replacing sB (used by that cell only)
    by sA gives [2, 2, 3] — the third cell's index moves down -/
example : (Umya.Style.setAll id (Umya.Style.initSheet id) [Umya.Thm.C05.sA, Umya.Thm.C05.sA, Umya.Thm.C05.sC]).2 = [2, 2, 3] ∧
    (Umya.Style.setAll id (Umya.Style.initSheet id) ([Umya.Thm.C05.sA, Umya.Thm.C05.sA, Umya.Thm.C05.sC].set 1 Umya.Thm.C05.sD)).2 = [2, 3, 4] ∧
    (Umya.Style.setAll id (Umya.Style.initSheet id) [Umya.Thm.C05.sA, Umya.Thm.C05.sB, Umya.Thm.C05.sC]).2 = [2, 3, 4] ∧
    (Umya.Style.setAll id (Umya.Style.initSheet id) ([Umya.Thm.C05.sA, Umya.Thm.C05.sB, Umya.Thm.C05.sC].set 1 Umya.Thm.C05.sA)).2 = [2, 2, 3] := by
  decide +kernel

/-- the hypotheses of `C04_edit_local_book_delete` on a whole projection: `demoBook` with the cell at row 1, column 1
    of its first sheet removed -/
theorem demoBook_delete_WF :
    BookP.WF id rfl Umya.Thm.C06.exFmt_sound natFmt natFmt_sound demoEnv (demoBook.deleteCell natFmt 0 (1, 1)) :=
  BookP.WF_deleteCell id rfl _ natFmt natFmt_sound demoEnv demoBook 0 (1, 1) (demoBook_WF demoEnv demoEnv_ok)
    ⟨by decide +kernel, fun b hb => (by decide +kernel : ∀ b ∈ writeBook natFmt false
      (onSheet natFmt demo 0 (deleteSheet natFmt (1, 1))), b.sst.length < 18446744073709551616) b hb⟩

/-- … and of `C04_edit_local_book_create`: a text cell created at row 2, column 5 of the first sheet (no cell there;
    the row has no record yet: one is made; a column record is made too, although the run 2–5 of `demoSheet1.cols`
    covers column 5: `ensureCol` looks for a record whose `min` is 5, the in-memory records being one per column
    (`Umya/Model/CellEdit.lean`), which the demo run is not) -/
def exCreated : Cell natFmt.Num := { col := 5, row := 2, raw := .str "CREATED<&>".toList }
example : lookup natFmt demo[0] (exCreated.row, exCreated.col) = none ∧ blankUnstyled natFmt exCreated = false ∧
    ((demoSheet1.withRow 2 0).withCol 5 0).rows.length = demoSheet1.rows.length + 1 ∧
    ((demoSheet1.withRow 2 0).withCol 5 0).cols.length = demoSheet1.cols.length + 1 := by decide +kernel

theorem demoBook_create_WF :
    BookP.WF id rfl Umya.Thm.C06.exFmt_sound natFmt natFmt_sound demoEnv (demoBook.createCell natFmt 0 1 exCreated 0 0) :=
  BookP.WF_createCell id rfl _ natFmt natFmt_sound demoEnv demoBook 0 1 exCreated 0 0 (demoBook_WF demoEnv demoEnv_ok)
    ⟨by decide +kernel, fun b hb => (by decide +kernel : ∀ b ∈ writeBook natFmt false
      (onSheet natFmt demo 0 (createSheet natFmt 1 exCreated)), b.sst.length < 18446744073709551616) b hb⟩
    rfl (by decide) (by decide) (by decide) (by decide)

end DemoEdit

end Umya.Thm.C04
