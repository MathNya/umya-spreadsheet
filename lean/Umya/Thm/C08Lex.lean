/-
  C08 — the whole-text form of the insert / remove clauses: on the printed text of an expression,
  `CellFormula::adjustment_{insert,remove}_coordinate_with_2sheet` (tokenize, adjust, render)
  returns the printed text of the Spec's shifted expression.
-/
import Umya.Thm.C08
import Umya.Thm.C09Lex
namespace Umya.Thm.C08
open Umya.Coord Umya.Dec Umya.Formula

/-- For every expression of the fragment of `C09_lex_print` (`LexOk`) whose
    references are well-formed and whose names are inert (`RefsOk`), every axis, insertion point and
    count `n ≠ 0`, edited sheet and own sheet: the formula text `print e` becomes
    `print (Spec.shiftInsert e self edited ax at_ n)` — every reference that concerns the edited
    sheet shifted / cut off at the grid edge / `#REF!` as `C08_insert` says, every other character
    unchanged — never a panic.  (`C08_insert_text_wf`, `Umya/Thm/C08LexWF.lean`, has the
    hypothesis `LexOk'` — references well-formed — and is the version to use.) -/
theorem C08_insert_text (e : Spec.Expr) (h : LexOk e) (hr : RefsOk e) (ax : Spec.Axis) (at_ n : Nat)
    (edited self : List Char) (hed : edited ≠ []) (hn : n ≠ 0) :
    editFormula .insert e.print (axisArgs ax at_ n).1 (axisArgs ax at_ n).2.1 (axisArgs ax at_ n).2.2.1
        (axisArgs ax at_ n).2.2.2 edited self
      = .ok (Spec.shiftInsert e self edited ax at_ n).print := by
  simp only [editFormula, Umya.Thm.C09.C09_lex_print e h, adjustInsert, Spec.shiftInsert]
  exact tokMap_text (tokMap_insert ax at_ n hn edited self hed) e hr

/-- As `C08_insert_text` for the removal of the `n` lines from `at_`
    (`1 ≤ at_`, `n ≠ 0`, `at_ + n` within `u32`): `print e` becomes
    `print (Spec.shiftRemove e self edited ax at_ n)` — surviving references shifted, ranges that
    lose an end clamped, deleted targets `#REF!` — never a panic.  (`C08_remove_text_wf` has the
    hypothesis `LexOk'` and is the version to use.) -/
theorem C08_remove_text (e : Spec.Expr) (h : LexOk e) (hr : RefsOk e) (ax : Spec.Axis) (at_ n : Nat)
    (edited self : List Char) (hed : edited ≠ []) (h1 : 1 ≤ at_) (hn : n ≠ 0)
    (ho : at_ + n ≤ 4294967295) :
    editFormula .remove e.print (axisArgs ax at_ n).1 (axisArgs ax at_ n).2.1 (axisArgs ax at_ n).2.2.1
        (axisArgs ax at_ n).2.2.2 edited self
      = .ok (Spec.shiftRemove e self edited ax at_ n).print := by
  simp only [editFormula, Umya.Thm.C09.C09_lex_print e h, adjustRemove, Spec.shiftRemove]
  exact tokMap_text (tokMap_remove ax at_ n h1 hn ho edited self hed) e hr

/-- the hypotheses hold for `SUM(A1:$B$2,,"a""b")<=-x%` on sheet `S`, two columns
    inserted at B / rows 1..2 removed -/
example : LexOk Umya.Thm.C09.lexExample ∧ RefsOk Umya.Thm.C09.lexExample ∧
    editFormula .insert "SUM(A1:$B$2,,\"a\"\"b\")<=-x%".toList 2 2 0 0 ['S'] ['S']
      = .ok (Spec.shiftInsert Umya.Thm.C09.lexExample ['S'] ['S'] .col 2 2).print ∧
    editFormula .remove "SUM(A1:$B$2,,\"a\"\"b\")<=-x%".toList 0 0 1 2 ['S'] ['S']
      = .ok (Spec.shiftRemove Umya.Thm.C09.lexExample ['S'] ['S'] .row 1 2).print := by
  have h1 := C08_insert_text _ Umya.Thm.C09.lexExample_ok Umya.Thm.C09.lexExample_refs .col 2 2 ['S'] ['S']
    (by simp) (by simp)
  have h2 := C08_remove_text _ Umya.Thm.C09.lexExample_ok Umya.Thm.C09.lexExample_refs .row 1 2 ['S'] ['S']
    (by simp) (by simp) (by simp) (by simp)
  rw [Umya.Thm.C09.lexExample_print] at h1 h2
  exact ⟨Umya.Thm.C09.lexExample_ok, Umya.Thm.C09.lexExample_refs, h1, h2⟩

end Umya.Thm.C08
