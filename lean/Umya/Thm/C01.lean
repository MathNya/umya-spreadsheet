/-
  C01 — Cell content survives save and reload.

  Model (of the code AS FIXED by fix_1 … fix_6; fix 5: a rich text cached under a formula is a shared-string
  item; fix 6: an unresolved lazy value is written as the typed value it stands for): `Umya/Model/Xml.lean` (quick-xml escaping, unescaping,
  text events and trimming), `Umya/Model/Num.lean` (numbers as opaque tokens), `Umya/Model/CellXml.lean`
  (typed values, `Cell::write_to`, `Cell::set_attributes`, the shared-string part, the package as facts),
  `Umya/Model/InternC01.lean` (find-or-append), and the row loop of C10 (`Umya/Model/Sheet.lean`).

  Characters: text is `List Char`, i.e. ANY sequence of Unicode scalar values — including `& < > " '`,
  CR, LF, TAB, every other C0 control (U+0000 too), U+00A0, U+2028, U+FFFE/U+FFFF and non-BMP code
  points.  No theorem below restricts the characters of value text, run text or formula text.
  (Whether such a file is well-formed XML for OTHER readers is C02's business and, for texts that are not XML
  `Char`s, `C01_non_xml_char_partial` of `Umya/Thm/C01Chars.lean`.)

  Numbers: the theorems hold for every `NumFmt` that satisfies `NumFmt.Sound` (print-then-parse is the
  identity; printed numbers are non-empty over `-0123456789.eE+infNa`).  That Rust's `f64` `Display` /
  `FromStr` satisfy this is trusted and sampled by the harness; it is not proved here.

  In this file XML is handled as lexed facts (element, attributes, raw text content).  The same round trip through
  element trees and through the characters of the written parts is `Umya/Thm/C01Chars.lean`.
-/
import Umya.Lemmas.BookRoundTrip
import Umya.Thm.C10
import Umya.Lemmas.TablesGen
import Umya.Lemmas.XmlChannel
namespace Umya.Thm.C01
open Umya.Xml Umya.Num Umya.CellXml Umya.Sheet Umya.Dec

/-- `unescape(escape(s)) = Ok(s)` for every text (`write_text_node` then `BytesText::unescape`) -/
theorem C01_unescape_escape (s : List Char) : unescape (escape s) = some s := unescape_escape s

/-- `unescape(partial_escape(s)) = Ok(s)` for every text (`write_text_node_conversion`) -/
theorem C01_unescape_partial_escape (s : List Char) : unescape (partialEscape s) = some s :=
  unescape_partialEscape s

/-- the reader's `unescape_text` (line-end normalisation of XML 1.0 2.11, then `unescape`) undoes
    both writers for every text: the writers emit no literal carriage return -/
theorem C01_unescape_text_escape (s : List Char) :
    unescapeText (escape s) = some s ∧ unescapeText (partialEscape s) = some s :=
  ⟨unescapeText_escape s, unescapeText_partialEscape s⟩

/-- Text written to a `<t>` of the shared-string part (any text: padded, blank-only, empty, with line
    breaks) is read back character for character by the shared-string reader (`trim_text(false)`);
    so are the text of a `t="str"` cell and formula text by the sheet reader after fix 3 / fix 4. -/
theorem C01_text_nodes (s : List Char) :
    readTX (writeText s) = some s ∧ readText false (partialEscape s) = some s :=
  ⟨readTX_writeText s, readText_false_partialEscape s⟩

/-- Why fix 3 / fix 4 were needed: read under `trim_text(true)` (the sheet reader's default), padded text
    loses its padding. -/
theorem C01_trimmed_read_fails : ¬ (readText true (partialEscape [' ', 'x', ' ']) = some [' ', 'x', ' ']) := by
  decide

/-- For every cell of every kind — blank, text, rich text (≥ 1 run), number, boolean, error, or a value stored
    with `set_value_lazy` and never resolved —, with or without a formula (any formula text; also over a rich
    text), styled or not, anywhere in the 16384 × 1048576 grid, and for every state of the string table: a cell
    that is blank and unstyled (once its value is resolved) is not written and changes nothing; any other cell is
    written as exactly one `<c>` (the table only grows, by well-formed items), and the reader turns that `<c>`
    back into the SAME cell — coordinate, kind, value (text / runs / number token / boolean / error code),
    formula text, styled flag — against any string table that extends the writer's (i.e. whatever later cells
    register).  "The same cell" is `Cell.resolved F c`: `c` itself unless its value is lazy (`C01_resolved`), and
    for a lazy value the cell holding what `get_value_lazy` would make of the text, formula kept.
    Of the value kinds `cellOK` excludes exactly one: a rich text with zero runs (see `C01_rich_no_runs_fails`). -/
theorem C01_cell_roundtrip (F : NumFmt) (hF : F.Sound) (tbl : Table) (c : Cell F.Num) (hc : cellOK F c = true) :
    ∃ tbl' ox, writeTo F tbl c = some (tbl', ox) ∧
      (∃ ext, tbl' = tbl ++ ext ∧ ∀ it ∈ ext, ItemOK it) ∧
      (blankUnstyled F c = true → ox = none) ∧
      (blankUnstyled F c = false → ∃ x, ox = some x ∧
        ∀ sst : Table, sst.length < 18446744073709551616 → Extends sst tbl' →
          readCell F sst x = some (Cell.resolved F c)) :=
  writeTo_readCell F hF tbl c hc

/-- What `Cell.resolved` is: the cell itself unless its value is an unresolved lazy one; then the same cell
    (coordinate, formula, style) holding `guess_typed_data` of the text — the conversion `get_value_lazy` performs:
    "" → blank, TRUE / FALSE (any case) → boolean, an error code (any case) → error, a text `f64::from_str`
    accepts → number, anything else → that text. -/
theorem C01_resolved (F : NumFmt) (c : Cell F.Num) :
    ((∀ s, c.raw ≠ .lazy s) → Cell.resolved F c = c) ∧
    (∀ s, c.raw = .lazy s → Cell.resolved F c = { c with raw := guess F s }) ∧
    (∀ s, guess F s = .empty ∨ (∃ b, guess F s = .bool b) ∨ (∃ e, guess F s = .err e) ∨ (∃ n, guess F s = .num n) ∨
      guess F s = .str s) := by
  refine ⟨fun h => resolved_of_not_lazy F ?_, fun s h => by simp [Cell.resolved, h, resolveRaw], guess_cases F⟩
  cases hr : c.raw <;> first | rfl | exact absurd hr (h _)

/-- The index a text / rich-text cell is written with resolves to its own item in the table as written
    (the interning lemma: find-or-append returns an index that holds the item), and that item reads back
    as itself from the shared-string part. -/
theorem C01_index_resolves (tbl : Table) (it : Item) (h : ItemOK it) :
    (Umya.InternC01.intern tbl it).1[(Umya.InternC01.intern tbl it).2]? = some it ∧ readSi (siOf it) = some it :=
  ⟨(Umya.InternC01.intern_spec tbl it).2, readSi_siOf it h⟩

/-- Saving and reloading a workbook (any number of sheets; per sheet the cells in the order the row loop
    emits them) gives back every sheet with exactly its non-blank-or-styled cells, each equal to the
    stored one (a lazy value as the typed value it stands for: `normalize`, `C01_normalize`), in the same order.  `light` is the writer flavour (`write_writer` / `write_writer_light`):
    the two differ only in the zip compression method, which no part of the cell codec sees, so the
    statement holds for both by construction.  The side condition bounds the number of distinct strings
    by the range of `usize` (the reader parses the index with `parse::<usize>()`). -/
theorem C01_roundtrip (F : NumFmt) (hF : F.Sound) (light : Bool) (sheets : List (List (Cell F.Num)))
    (h : ∀ s ∈ sheets, ∀ c ∈ s, cellOK F c = true) :
    ∃ b, writeBook F light sheets = some b ∧
      (b.sst.length < 18446744073709551616 → readBook F b = some (normalize F sheets)) :=
  writeBook_readBook F hF light sheets h

/-- The writer flavour is irrelevant to the content. -/
theorem C01_light_same (F : NumFmt) (sheets : List (List (Cell F.Num))) :
    writeBook F true sheets = writeBook F false sheets := rfl

/-- What "non-blank" means: `normalize` drops exactly the cells whose (resolved) value is empty, that have no
    formula and whose style is empty (`Cell::write_to`'s early return), keeps every other cell in order, unchanged
    except that a lazy value is replaced by the typed value it stands for (`C01_resolved`). -/
theorem C01_normalize (F : NumFmt) (sheets : List (List (Cell F.Num))) :
    (normalize F sheets).length = sheets.length ∧
    (∀ (i : Nat) (s : List (Cell F.Num)), sheets[i]? = some s →
      ∃ kept : List (Cell F.Num), kept.Sublist s ∧
        (∀ c, c ∈ kept ↔ (c ∈ s ∧ ¬ (resolveRaw F c.raw = .empty ∧ c.formula = none ∧ c.styled = false))) ∧
        (normalize F sheets)[i]? = some (kept.map (Cell.resolved F))) := by
  refine ⟨by simp [normalize], ?_⟩
  intro i s hi
  refine ⟨s.filter (fun c => !blankUnstyled F c), List.filter_sublist, ?_, by simp [normalize, hi]⟩
  intro c
  rw [List.mem_filter, Bool.not_eq_true', ← Bool.not_eq_true, blankUnstyled_iff]

/-- the cells of a C10 sheet as the cell writer sees them; `body` interprets C10's opaque content
    token (value and optional formula), `sty ≠ 0` is "style not empty" -/
def cellsOf (F : NumFmt) (body : Nat → RawValue F.Num × Option (List Char)) (l : List CellM) : List (Cell F.Num) :=
  l.map (fun m => { col := m.col, row := m.row, raw := (body m.val).1, formula := (body m.val).2,
                    styled := decide (m.sty ≠ 0) })

/-- In any coherent sheet state (C10: every state reachable through the public API) whose cells lie in
    the grid and hold covered values: the writer's row loop hands every stored cell to `Cell::write_to`
    exactly once, in strictly ascending (row, column) order (`C10_saved`); the package written from them
    reads back as exactly the cells that are not blank-and-unstyled, each equal to the stored cell and
    therefore at its own coordinate; those coordinates are strictly ascending, so no reloaded cell
    overwrites another in the reader's coordinate-keyed store.  `hval`: no rich text with zero runs. -/
theorem C01_sheet_roundtrip (F : NumFmt) (hF : F.Sound) (light : Bool) (s : Sheet) (hs : Coherent s)
    (body : Nat → RawValue F.Num × Option (List Char))
    (hgrid : ∀ k ∈ keysOf s, 1 ≤ k.2 ∧ k.2 ≤ 16384 ∧ 1 ≤ k.1 ∧ k.1 ≤ 1048576)
    (hval : ∀ m ∈ sortedCells s, rawOK F (body m.val).1 = true) :
    cellsOf F body (emitted s) = cellsOf F body (sortedCells s) ∧
    (cellsOf F body (emitted s)).map (fun c => (c.row, c.col)) = s.rowIdx ∧
    SSorted s.rowIdx ∧
    ∃ b, writeBook F light [cellsOf F body (emitted s)] = some b ∧
      (b.sst.length < 18446744073709551616 →
        readBook F b = some [((cellsOf F body (emitted s)).filter (keep F)).map (Cell.resolved F)] ∧
        ((((cellsOf F body (emitted s)).filter (keep F)).map (Cell.resolved F)).map (fun c => (c.row, c.col))).Sublist s.rowIdx) := by
  obtain ⟨e1, e2, _⟩ := Umya.Thm.C10.C10_saved s hs
  have hkeys : (cellsOf F body (emitted s)).map (fun c => (c.row, c.col)) = s.rowIdx := by
    rw [e1, ← e2]; simp [cellsOf, List.map_map, Function.comp_def]
  have hok : ∀ sh ∈ [cellsOf F body (emitted s)], ∀ c ∈ sh, cellOK F c = true := by
    intro sh hsh c hc
    simp only [List.mem_singleton] at hsh
    subst hsh
    simp only [cellsOf, List.mem_map] at hc
    obtain ⟨m, hm, rfl⟩ := hc
    rw [e1] at hm
    have hk : (m.row, m.col) ∈ keysOf s := by
      rw [← hs.rmem, ← e2]; exact List.mem_map.2 ⟨m, hm, rfl⟩
    have hg := hgrid _ hk
    exact (cellOK_iff F).2 ⟨hg, hval m hm⟩
  obtain ⟨b, hb, hr⟩ := C01_roundtrip F hF light [cellsOf F body (emitted s)] hok
  refine ⟨by rw [e1], hkeys, hs.rsorted, b, hb, fun hlen => ⟨?_, ?_⟩⟩
  · have h2 := hr hlen
    simp only [normalize, List.map_cons, List.map_nil] at h2
    exact h2
  · rw [← hkeys, List.map_map]
    exact List.Sublist.map _ List.filter_sublist

/-! Witnesses on a concrete number format.  The rich text without runs does not survive: a known finding, which
    the harness replays. -/

/-- a concrete sound number format (naturals in decimal) for the witnesses and non-vacuity examples -/
def natFmt : NumFmt where
  Num := Nat
  fmt := decDigits
  parse := fun s => if s ≠ [] ∧ s.all isDigit = true then some (parseDec s) else none
  deq := inferInstance

instance : DecidableEq natFmt.Num := inferInstanceAs (DecidableEq Nat)

theorem natFmt_sound : natFmt.Sound where
  parse_fmt := fun (n : Nat) => by
    show (if decDigits n ≠ [] ∧ (decDigits n).all isDigit = true then some (parseDec (decDigits n)) else none) = some n
    rw [if_pos ⟨decDigits_ne_nil n, decDigits_all_digit n⟩, parseDec_decDigits]
  fmt_ne := fun n => decDigits_ne_nil n
  fmt_chars := fun n => decDigits_forall _ (by decide) n

/-- Fix 6 (commit 6a765cc; known_findings.json, `fixed`: C01-lazy-unresolved): a value stored with `set_value_lazy` and
    never resolved is written as the typed value it stands for — lazy "a" as the text "a" — and reads back as it, from any table
    that extends the writer's. -/
theorem C01_lazy_repaired :
    ∃ tbl' x, writeTo natFmt [] { col := 1, row := 1, raw := .lazy ['a'] } = some (tbl', some x) ∧
      ∀ sst : Table, sst.length < 18446744073709551616 → Extends sst tbl' →
        readCell natFmt sst x = some { col := 1, row := 1, raw := .str ['a'] } :=
  writeTo_kept natFmt natFmt_sound [] _ (by decide) (by decide)

/-- Fix 5 (commit 7a40a5e; known_findings.json, `fixed`: C01-rich-text-under-formula): a rich text cached under a formula is
    written with the data type `s` (a shared-string item next to the `<f>`), and reads back as the same runs under
    the same formula. -/
theorem C01_rich_under_formula_repaired :
    tAttrOf (dataTypeOf natFmt (.rich [{ text := ['a'] }, { text := ['b'], font := some 1 }]) (some ['A', '1'])) = tS ∧
    ∃ tbl' x, writeTo natFmt [] { col := 1, row := 1, raw := .rich [{ text := ['a'] }, { text := ['b'], font := some 1 }], formula := some ['A', '1'] }
        = some (tbl', some x) ∧
      ∀ sst : Table, sst.length < 18446744073709551616 → Extends sst tbl' →
        readCell natFmt sst x
          = some { col := 1, row := 1, raw := .rich [{ text := ['a'] }, { text := ['b'], font := some 1 }], formula := some ['A', '1'] } :=
  ⟨by decide, writeTo_kept natFmt natFmt_sound [] _ (by decide) (by decide)⟩

/-- A rich text with zero runs is written as an `<si>` without `<t>` and without `<r>`; read back, that
    item has neither text nor runs, and such an item leaves the cell's value empty: the cell reloads blank. -/
theorem C01_rich_no_runs_fails :
    siOf (itemOf natFmt (.rich [])) = { t := none, runs := [] } ∧
    readSi { t := none, runs := [] } = some { text := none, rich := none } ∧
    setSharedStringItem natFmt { text := none, rich := none } .empty none = (.empty, none) := by
  decide

/-- the hypotheses of `C01_roundtrip` are satisfiable: a two-sheet workbook with every kind -/
def demo : List (List (Cell natFmt.Num)) :=
  [[{ col := 1, row := 1, raw := .str [' ', '&', '<', '\r', '\n', ' '] },
    { col := 16384, row := 1, raw := .num (42 : Nat), formula := some [' ', 'A', '1', '<', 'B', '1', ' '] },
    { col := 2, row := 2 },
    { col := 3, row := 2, styled := true },
    { col := 1, row := 1048576, raw := .err .na }],
   [{ col := 1, row := 1, raw := .rich [{ text := [' ', 'a'], font := some 1 }, { text := [] }] },
    { col := 2, row := 1, raw := .bool true, formula := some [] },
    { col := 3, row := 1, raw := .str [' ', '&', '<', '\r', '\n', ' '] },
    { col := 4, row := 1, raw := .str [' ', 'x', ' '], formula := some ['A', '1'] },
    -- a formula with a two-run rich cached value (fix 5)
    { col := 5, row := 1, raw := .rich [{ text := ['x', ' '] }, { text := ['y'], font := some 2 }], formula := some ['B', '1', '&', 'C', '1'] },
    -- unresolved lazy values "123", "TRUE", "abc", "", without and with a formula (fix 6)
    { col := 6, row := 1, raw := .lazy ['1', '2', '3'] },
    { col := 7, row := 1, raw := .lazy ['T', 'R', 'U', 'E'] },
    { col := 8, row := 1, raw := .lazy ['a', 'b', 'c'] },
    { col := 9, row := 1, raw := .lazy [] },
    { col := 10, row := 1, raw := .lazy ['1', '2', '3'], formula := some ['A', '1'] },
    { col := 11, row := 1, raw := .lazy ['t', 'r', 'u', 'e'], formula := some ['A', '1'] },
    { col := 12, row := 1, raw := .lazy ['a', 'b', 'c'], formula := some ['A', '1'] }]]

example : ∀ s ∈ demo, ∀ c ∈ s, cellOK natFmt c = true := by decide +kernel

example : ∃ b, writeBook natFmt true demo = some b ∧
    (b.sst.length < 18446744073709551616 → readBook natFmt b = some (normalize natFmt demo)) :=
  C01_roundtrip natFmt natFmt_sound true demo (by decide +kernel)

example : (normalize natFmt demo).map List.length = [4, 11] := by decide +kernel

/-- what the rich text under a formula and the lazy values reload as: the two runs under the formula; 123 as a number, TRUE as a boolean,
    "abc" as text, lazy "" not at all; the same under a formula, formula kept -/
example : ((normalize natFmt demo)[1]?.map (fun s => (s.drop 4).map (fun c => (c.col, c.raw, c.formula)))) = some
    [(5, .rich [{ text := ['x', ' '] }, { text := ['y'], font := some 2 }], some ['B', '1', '&', 'C', '1']),
     (6, .num (123 : Nat), none), (7, .bool true, none), (8, .str ['a', 'b', 'c'], none),
     (10, .num (123 : Nat), some ['A', '1']), (11, .bool true, some ['A', '1']), (12, .str ['a', 'b', 'c'], some ['A', '1'])] := by
  decide +kernel

/-- `C01_cell_roundtrip` on a rich text under a formula and on lazy values: the hypotheses hold, the cells are written, and `Cell.resolved`
    is the typed cell -/
example : cellOK natFmt { col := 5, row := 1, raw := .rich [{ text := ['x'] }, { text := ['y'], font := some 2 }], formula := some ['B', '1'] } = true ∧
    cellOK natFmt { col := 6, row := 1, raw := .lazy ['1', '2', '3'] } = true ∧
    blankUnstyled natFmt { col := 6, row := 1, raw := .lazy ['1', '2', '3'] } = false ∧
    Cell.resolved natFmt { col := 6, row := 1, raw := .lazy ['1', '2', '3'] } = { col := 6, row := 1, raw := .num (123 : Nat) } ∧
    Cell.resolved natFmt { col := 7, row := 1, raw := .lazy ['T', 'R', 'U', 'E'] } = { col := 7, row := 1, raw := .bool true } ∧
    Cell.resolved natFmt { col := 8, row := 1, raw := .lazy ['a', 'b', 'c'] } = { col := 8, row := 1, raw := .str ['a', 'b', 'c'] } ∧
    Cell.resolved natFmt { col := 12, row := 1, raw := .lazy ['a', 'b', 'c'], formula := some ['A', '1'] }
      = { col := 12, row := 1, raw := .str ['a', 'b', 'c'], formula := some ['A', '1'] } ∧
    blankUnstyled natFmt { col := 9, row := 1, raw := .lazy [] } = true := by
  decide +kernel

/-- `C01_cell_roundtrip`: a padded text cell under a formula at XFD1048576 -/
example : cellOK natFmt { col := 16384, row := 1048576, raw := .str [' ', 'x', ' '], formula := some ['A', '1', ' '] } = true := by
  decide

/-- `C01_sheet_roundtrip`: a coherent sheet reached through the API (C10), in the grid -/
example : ∃ s', run {} [.setVal 2 3 7, .setCell 5 1 4 2, .getMut 1 1] = .ok s' ∧ Coherent s' ∧
    (∀ k ∈ keysOf s', 1 ≤ k.2 ∧ k.2 ≤ 16384 ∧ 1 ≤ k.1 ∧ k.1 ≤ 1048576) := by
  refine ⟨_, rfl, Umya.Thm.C10.C10_reachable [.setVal 2 3 7, .setCell 5 1 4 2, .getMut 1 1] _ rfl, by decide⟩

/-- Tie to the source (T).  Regenerated from the source on this run and proved equal to the model:
    the text pipelines of writer/driver.rs (`write_text_node` = quick-xml `escape` then `\r` ↦ `&#13;`,
    `write_text_node_conversion` = `partial_escape` then the same), the line-end normalisation of
    `reader/driver.rs::unescape_text`, and the `CellErrorType` text tables (Display and FromStr inverse). -/
theorem C01_channels_match_source (s : List Char) :
    Umya.Gen.write_text_node_escape.run Umya.XmlEsc.escapeOld Umya.XmlEsc.partialEscapeOld s = escape s ∧
    Umya.Gen.write_text_node_conversion_escape.run Umya.XmlEsc.escapeOld Umya.XmlEsc.partialEscapeOld s = partialEscape s ∧
    Umya.Gen.applySteps Umya.Gen.unescape_text_normalise s = normEol s ∧
    Umya.Gen.cell_error_from_str = Umya.Gen.cell_error_display.map (fun p => (p.2, p.1)) ∧
    Umya.Gen.cell_error_display.map (fun p => p.2.toList) = Umya.CellXml.ErrT.all.map Umya.CellXml.ErrT.text := by
  refine ⟨?_, ?_, Umya.Gen.gen_unescape_text s, Umya.Gen.gen_cell_errors.1, Umya.Gen.gen_cell_errors.2.1⟩
  · rw [Umya.XmlChannel.xml_escape_eq s]; exact Umya.Gen.gen_write_text_node s
  · rw [Umya.XmlChannel.xml_partialEscape_eq s]; exact Umya.Gen.gen_write_text_node_conversion s

end Umya.Thm.C01
