/-
  C17 — the PARSE-THEN-PRINT direction of the codecs (`print (parse t) = t` for every text `t` of an explicit, decidable
  grammar of canonical spellings — `Umya/Model/CoordCanon.lean`), the bijection it gives with the print-then-parse
  theorems of `Umya/Thm/C17.lean`, the library's re-quoting of sheet qualifiers (`canonArea`), and the round trip of
  `get_address_ptn2` for sheet names with apostrophes.
-/
import Umya.Lemmas.CoordParseAddr
import Umya.Lemmas.CoordParseQuote
import Umya.Thm.C17
namespace Umya.Thm.C17
open Umya.Coord Umya.Dec Umya.Annot

/-- Letters → index → letters, in the grammar's terms (`canonLettersB s`: the text is `[A-Z]{1,3}`): the link to
    `C17_index_alpha`, with the bound of the value made explicit. -/
theorem C17_column_parse_print (s : List Char) (h : canonLettersB s = true) :
    ∃ n, columnIndexFromString s = .ok n ∧ (1 ≤ n ∧ n ≤ 18278) ∧ indexToAlpha n = s :=
  ⟨_, canonLetters_spec h⟩

example : canonLettersB "XFD".toList = true ∧ canonLettersB "xfd".toList = false ∧ canonLettersB "AAAA".toList = false := by
  repeat rw [String.toList_ofList]
  decide +kernel

/-- Coordinate text → index → text.  For every text `t` of the grammar `\$?[A-Z]{1,3}\$?(0|[1-9][0-9]*)` (anchored;
    the row without a leading zero and below 2^32 — `canonCellB`, decidable), `index_from_coordinate` delivers a column in
    1 … 18278, a row, both lock flags, and `coordinate_from_index_with_lock` of them prints `t` again, without panic. -/
theorem C17_coord_parse_print (t : List Char) (h : canonCellB t = true) :
    ∃ c r lc lr, indexFromCoordinate t = (some c, some r, some lc, some lr) ∧ (1 ≤ c ∧ c ≤ 18278) ∧ r < 4294967296 ∧
      coordinateFromIndexWithLock? c r lc lr = some t ∧ coordinateFromIndexWithLock c r lc lr = t := by
  obtain ⟨c, r, hc, hr, e⟩ := canonCell_spec t h
  have et : coordinateFromIndexWithLock c.num r.num c.lock r.lock = t := by
    rw [e]; simp [coordinateFromIndexWithLock, colRefText, rowRefText]
  -- the text is the print of an in-bounds value: print-then-parse (`C17_coord`) says the rest
  obtain ⟨h1, h2⟩ := C17_coord c.num r.num c.lock r.lock hc hr
  rw [et] at h1 h2
  exact ⟨_, _, _, _, h2, hc, hr, h1, et⟩

theorem C17_coord_reprint (t : List Char) (h : canonCellB t = true) : coordReprint t = some t := by
  obtain ⟨c, r, lc, lr, h1, _, _, h2, _⟩ := C17_coord_parse_print t h
  simp only [coordReprint, h1, h2]

/-- What the parser does with a longer text: the pattern is unanchored, so whatever follows a complete
    coordinate (anything not starting with a digit) is IGNORED: `print (parse (t ++ rest)) = t`.  On such texts the parser
    is not an inverse of the printer (witness `A1B` below). -/
theorem C17_coord_trailing_ignored (t rest : List Char) (h : canonCellB t = true)
    (hrest : ∃ ch rs, rest = ch :: rs ∧ isDigit ch = false) :
    indexFromCoordinate (t ++ rest) = indexFromCoordinate t ∧ coordReprint (t ++ rest) = some t ∧
      coordReprint (t ++ rest) ≠ some (t ++ rest) := by
  obtain ⟨c, r, hc, hr, e⟩ := canonCell_spec t h
  have hp := indexFromCoordinate_suffix c r rest hc hr (Or.inr hrest)
  have hp0 := indexFromCoordinate_suffix c r [] hc hr (Or.inl rfl)
  have e1 : indexFromCoordinate (t ++ rest) = indexFromCoordinate t := by
    rw [e, hp]; simpa using hp0.symm
  have e2 : coordReprint (t ++ rest) = some t := by
    unfold coordReprint
    rw [e1]
    exact C17_coord_reprint t h
  refine ⟨e1, e2, ?_⟩
  obtain ⟨ch, rs, rfl, _⟩ := hrest
  rw [e2]
  intro hc'
  simpa using congrArg List.length (Option.some.inj hc')

/-- witnesses: `A1B` re-prints as `A1`; a row with a leading zero re-prints without it; a lower-case text does not parse -/
example : coordReprint "A1B".toList = some "A1".toList ∧ coordReprint "A01".toList = some "A1".toList ∧
    coordReprint "a1".toList = none ∧ coordReprint "AAAA1".toList = none ∧
    canonCellB "A1B".toList = false ∧ canonCellB "A01".toList = false ∧ canonCellB "a1".toList = false := by
  repeat rw [String.toList_ofList]
  decide +kernel

/-- non-vacuity: the last cell of the grid with both locks, a cell with row 0, the largest column and row of the codec -/
example : canonCellB "$XFD$1048576".toList = true ∧ canonCellB "A0".toList = true ∧
    canonCellB "ZZZ4294967295".toList = true ∧ canonCellB "ZZZ4294967296".toList = false := by
  repeat rw [String.toList_ofList]
  decide +kernel

/-- Range text → range → text.  For every text of the grammar `canonRangeB` — `cell`, `cell:cell`, `col:col`,
    `row:row` with every part in canonical spelling (`$` optional, 1–3 upper-case letters, rows `0|[1-9][0-9]*` below
    2^32) — `Range::set_range` on a default range does not panic, delivers a range of one of the four shapes inside the
    bounds, and `get_range` prints the text again. -/
theorem C17_range_parse_print (t : List Char) (h : canonRangeB t = true) :
    ∃ ρ, Range.parse t = .ok ρ ∧ Range.IsShape ρ ∧ Range.InBounds ρ ∧ ρ.print = t := by
  obtain ⟨ρ, hs, hb, e⟩ := canonRange_spec t h
  exact ⟨ρ, by rw [e]; exact Range.parse_print ρ hb, hs, hb, e.symm⟩

theorem C17_range_reprint (t : List Char) (h : canonRangeB t = true) : rangeReprint t = .ok t := by
  obtain ⟨ρ, h1, _, _, h2⟩ := C17_range_parse_print t h
  simp only [rangeReprint, h1, h2]

/-- Parse and print are mutually inverse bijections between the canonical texts (`canonRangeB`) and the ranges of the
    four shapes inside the bounds (`IsShape`, `InBounds`): print maps the ranges INTO the grammar and parse inverts it
    there (`C17_range`); parse maps the grammar INTO those ranges and print inverts it there. -/
theorem C17_range_bijection :
    (∀ ρ : Range, Range.IsShape ρ → Range.InBounds ρ → canonRangeB ρ.print = true ∧ Range.parse ρ.print = .ok ρ) ∧
    (∀ t : List Char, canonRangeB t = true →
      ∃ ρ, Range.parse t = .ok ρ ∧ Range.IsShape ρ ∧ Range.InBounds ρ ∧ ρ.print = t) :=
  ⟨fun ρ hs hb => ⟨canonRange_print ρ hs hb, C17_range ρ hs hb⟩, C17_range_parse_print⟩

/-- non-vacuity: the four shapes -/
example : canonRangeB "$B$2:XFD$1048576".toList = true ∧ canonRangeB "C7".toList = true ∧
    canonRangeB "$A:XFD".toList = true ∧ canonRangeB "1:$1048576".toList = true := by
  repeat rw [String.toList_ofList]
  decide +kernel

/-- outside the grammar (and NOT fixed points of print ∘ parse): lower case, a leading zero, a mixed pair, three parts
    (panic) -/
example : canonRangeB "a1:b2".toList = false ∧ rangeReprint "a1:b2".toList = .ok [] ∧
    canonRangeB "A01".toList = false ∧ rangeReprint "A01".toList = .ok "A1".toList ∧
    canonRangeB "A1:5".toList = false ∧
    canonRangeB "A1:B2:C3".toList = false ∧ rangeReprint "A1:B2:C3".toList = .panic := by
  repeat rw [String.toList_ofList]
  decide +kernel

/-- `join_address (split_address t)`: which texts come back, in which spelling.
    * a text without `!` (no qualifier) comes back as it is;
    * `q!a` whose qualifier `q` is not wrapped in apostrophes (`strip_sheet_quote q = q`: every unquoted name) comes back
      as it is;
    * `'n'!a` comes back WITHOUT the apostrophes, `n!a` — `join_address` never quotes, and nothing is un-doubled here
      (`''` inside `n` stays `''`); the quoting printer is `Address::get_address_ptn2`, see `C17_address_canon`. -/
theorem C17_address_parse_print :
    (∀ t : List Char, '!' ∉ t → addrRejoin t = t) ∧
    (∀ q a : List Char, q ≠ [] → stripSheetQuote q = q → '!' ∉ a → addrRejoin (q ++ '!' :: a) = q ++ '!' :: a) ∧
    (∀ n a : List Char, n ≠ [] → '!' ∉ a →
      addrRejoin (('\'' :: (n ++ ['\''])) ++ '!' :: a) = n ++ '!' :: a) := by
  refine ⟨?_, ?_, ?_⟩
  · intro t h
    simp [addrRejoin, splitAddress, rsplitBang_none t h, joinAddress]
  · intro q a hq hs ha
    simp only [addrRejoin, splitAddress_qual q a ha, hs, joinAddress, List.isEmpty_eq_false_iff.2 hq,
      Bool.false_eq_true, if_false, List.append_assoc, List.singleton_append]
  · intro n a hn ha
    simp only [addrRejoin, splitAddress_qual _ a ha, stripSheetQuote_quoted, joinAddress,
      List.isEmpty_eq_false_iff.2 hn, Bool.false_eq_true, if_false, List.append_assoc, List.singleton_append]

/-- clauses 1 and 2 as one decidable hypothesis on the text (`addrPlainB`, evaluated by the driver) -/
theorem C17_address_rejoin (t : List Char) (h : addrPlainB t = true) : addrRejoin t = t := by
  unfold addrPlainB at h
  split at h
  · rename_i hn
    simp [addrRejoin, splitAddress, hn, joinAddress]
  · rename_i q a hs
    simp only [Bool.and_eq_true, Bool.not_eq_true', decide_eq_true_eq] at h
    obtain ⟨ht, ha⟩ := rsplitBang_some_eq t q a hs
    rw [ht]
    exact C17_address_parse_print.2.1 q a (by intro e; rw [e] at h; simp at h) h.2 ha

example : addrRejoin "Sheet1!$A$1".toList = "Sheet1!$A$1".toList ∧
    addrRejoin "'My Sheet'!A1".toList = "My Sheet!A1".toList ∧ addrRejoin "'It''s'!A1".toList = "It''s!A1".toList ∧
    addrRejoin "A1:B2".toList = "A1:B2".toList := by
  repeat rw [String.toList_ofList]
  decide +kernel

/-- The exact set of names printed without apostrophes.  `get_address_ptn2` quotes a sheet name unless it is made of
    `[0-9a-zA-Z]` only and `index_from_coordinate(name)` finds nothing, so the names printed bare are exactly
    `plainByLibraryB`: `[0-9a-zA-Z]*` starting with a lower-case letter, or with a run of digits whose value is ≥ 2^32
    (or the empty name, which prints no qualifier at all). -/
theorem C17_quote_rule (n : List Char) : needsQuote n = !plainByLibraryB n := needsQuote_eq n

example : needsQuote "Sheet1".toList = true ∧ needsQuote "sheet1".toList = false ∧ needsQuote "a_b".toList = true ∧
    needsQuote "123".toList = true ∧ needsQuote "99999999999".toList = false ∧ needsQuote "x1".toList = false ∧
    needsQuote "R1C1".toList = true := by
  repeat rw [String.toList_ofList]
  decide +kernel

/-- `get_address_ptn2` = re-quoted name, `!`, range text -/
theorem C17_address_text (a : Address) (h : a.sheet ≠ []) : a.text = quoteName a.sheet ++ '!' :: a.range.print :=
  addressText_quoteName h

/-- One area, text → area → text.  For every text `t = qualifier!cell` or `qualifier!cell:cell` of the grammar
    `canonAreaB` — the qualifier EITHER unquoted (a legal sheet name without `' ( ) " ,`) OR `'…'` around a legal name with
    every apostrophe doubled; the cells in canonical spelling — `add_address` (un-doubling, `split_address`,
    `Range::set_range`) reads an area `a` with a legal sheet name and a range inside the bounds, and
    `get_address_ptn2` prints `canonArea t`: the same cells behind the qualifier RE-QUOTED by the library's own rule
    (`C17_quote_rule`).  `canonArea` is idempotent and keeps the meaning: `canonArea t` parses to the same area. -/
theorem C17_address_canon (t : Text) (h : canonAreaB t = true) :
    ∃ a : Address, AreaOK a ∧ Address.parse (undouble t) = .ok a ∧ a.text = canonArea t ∧
      canonAreaB (canonArea t) = true ∧ canonArea (canonArea t) = canonArea t ∧
      Address.parse (undouble (canonArea t)) = .ok a := by
  obtain ⟨a, hok, _, _, _, hp, ht⟩ := canonArea_piece t h
  obtain ⟨h1, h2⟩ := canonArea_text a hok
  refine ⟨a, hok, hp, ht, ?_, ?_, ?_⟩
  · rw [← ht]; exact h1
  · rw [← ht]; exact h2
  · rw [← ht]; exact parse_printed_area a hok.sheet.1 hok.bounds

/-- Excel's spelling gets quotes, the library's keeps them, a lower-case plain name loses them -/
example : canonArea "Sheet1!$A$1".toList = "'Sheet1'!$A$1".toList ∧
    canonArea "'Sheet1'!$A$1".toList = "'Sheet1'!$A$1".toList ∧
    canonArea "'data'!A1:B2".toList = "data!A1:B2".toList ∧ canonArea "data!A1:B2".toList = "data!A1:B2".toList ∧
    canonArea "'It''s'!$A$1".toList = "'It''s'!$A$1".toList ∧
    canonAreaB "Sheet1!$A$1".toList = true ∧ canonAreaB "'It''s'!$A$1".toList = true ∧
    canonAreaB "'data'!A1:B2".toList = true ∧ canonAreaB "'It's'!$A$1".toList = false ∧
    canonAreaB "Sheet1!$A$01".toList = false ∧ canonAreaB "Sheet1!$A:$B".toList = false := by
  repeat rw [String.toList_ofList]
  decide +kernel

/-- The printer of defined names and the un-doubling reader, every legal sheet name.  For every legal sheet name —
    apostrophes inside it included, blanks, `!`, `"` — and every range text `a` without `!` and `'`:
    `split_address` applied to the un-doubled (`replace("''", "'")`, as `DefinedName::add_address` does) output of
    `get_address_ptn2` gives back `(name, a)`: the case `C17_address_ptn2` excludes. -/
theorem C17_address_apostrophes (name a : List Char) (h : LegalSheetName name) (ha : '!' ∉ a) (hq : '\'' ∉ a) :
    splitAddress (undouble (addressText name a true)) = (name, a) := by
  rw [addressText_quoteName h.1, splitAddress_undouble _ a ha hq, nameOfQual_quoteName name h]

/-- non-vacuity: names with one, two adjacent and a trailing apostrophe, with `!` and blanks -/
example :
    (["It's", "a''b", "x'", "Bob's \"Q1\"!", "Sheet1"].map fun n =>
      (legalSheetB n.toList, String.ofList (addressText n.toList "$A$1".toList true),
        splitAddress (undouble (addressText n.toList "$A$1".toList true)) == (n.toList, "$A$1".toList))) =
    [(true, "'It''s'!$A$1", true), (true, "'a''''b'!$A$1", true), (true, "'x'''!$A$1", true),
     (true, "'Bob''s \"Q1\"!'!$A$1", true), (true, "'Sheet1'!$A$1", true)] := by
  simp only [List.map_cons, List.map_nil]
  repeat rw [String.toList_ofList]
  decide +kernel

end Umya.Thm.C17
