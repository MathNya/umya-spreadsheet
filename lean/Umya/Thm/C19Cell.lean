/-
  C19 — the cell-level decision of `Cell::get_formatted_value` (model: `Umya/Model/NumFmtCell.lean`).

  What the code does, stated exactly: the ONLY thing `get_formatted_value` looks at is `get_value_number()`, i.e. whether
  the raw value is `CellRawValue::Numeric`.  Neither the presence of a formula nor the data type (`t=`) enters.
    * String, RichText, Bool, Error: text; shown as `Display` prints them (`TRUE` / `FALSE`, `#DIV/0!` …), whatever the code;
    * Empty: the empty string, whatever the code;
    * Lazy (a value stored by `set_value_lazy`, not yet resolved by `get_value_lazy`): `Display` has no arm for it, the cell
      shows the EMPTY string — its stored text is not shown (this is what the code does; stated, not judged);
    * Numeric (with or without a formula): `to_formatted_string(Display text of the f64, code or General)`.
-/
import Umya.Model.NumFmtCell
import Umya.Model.Gen.Fns
import Umya.Thm.C19
namespace Umya.Thm.C19
open Umya.NumFmt

theorem getFormattedValue_text {raw : Raw} (formula : Bool) (code : Option (List Char)) (h : ∀ n, raw ≠ .numeric n) :
    getFormattedValue ⟨raw, formula⟩ code = some (rawDisplay raw) := by
  cases raw with
  | numeric n => exact absurd rfl (h n)
  | _ => rfl

/-- Text cells are shown unchanged: for EVERY raw value that is not `Numeric` — with or without a formula — and EVERY
    format code (also none at all), `get_formatted_value` returns `get_value()`; per kind: a string its text, a rich text
    the text of its runs, a string result under a formula the same, a bool `TRUE` / `FALSE`, an error its `#…` text,
    an empty cell and an unresolved lazy value the empty string.  No code is consulted, so no formatter can panic. -/
theorem C19_cell_text_unchanged (raw : Raw) (formula : Bool) (code : Option (List Char))
    (h : ∀ n, raw ≠ .numeric n) :
    getFormattedValue ⟨raw, formula⟩ code = some (getValue ⟨raw, formula⟩) ∧
    (∀ v, raw = .string v → getFormattedValue ⟨raw, formula⟩ code = some v) ∧
    (∀ t, raw = .richText t → getFormattedValue ⟨raw, formula⟩ code = some t) ∧
    (∀ b, raw = .bool b → getFormattedValue ⟨raw, formula⟩ code = some (if b then "TRUE".toList else "FALSE".toList)) ∧
    (∀ e, raw = .error e → getFormattedValue ⟨raw, formula⟩ code = some (errDisplay e)) ∧
    (raw = .empty → getFormattedValue ⟨raw, formula⟩ code = some []) ∧
    (∀ v, raw = .lazy v → getFormattedValue ⟨raw, formula⟩ code = some []) := by
  have hv := getFormattedValue_text formula code h
  exact ⟨hv, fun _ e => e ▸ hv, fun _ e => e ▸ hv, fun _ e => e ▸ hv, fun _ e => e ▸ hv, fun e => e ▸ hv, fun _ e => e ▸ hv⟩

example : getFormattedValue ⟨.string "1.50".toList, false⟩ (some "0.0".toList) = some "1.50".toList :=
  (C19_cell_text_unchanged _ _ _ (by nofun)).1
example : getFormattedValue ⟨.string "007".toList, true⟩ (some "#,##0.00".toList) = some "007".toList :=
  (C19_cell_text_unchanged _ _ _ (by nofun)).1
example : getFormattedValue ⟨.richText "12".toList, false⟩ (some "0.00".toList) = some "12".toList :=
  (C19_cell_text_unchanged _ _ _ (by nofun)).1
example : getFormattedValue ⟨.bool true, false⟩ (some "0.00".toList) = some "TRUE".toList :=
  (C19_cell_text_unchanged _ _ _ (by nofun)).1
example : getFormattedValue ⟨.error .div0, true⟩ (some "0%".toList) = some "#DIV/0!".toList :=
  (C19_cell_text_unchanged _ _ _ (by nofun)).1
example : getFormattedValue ⟨.empty, false⟩ (some "0.00".toList) = some [] :=
  (C19_cell_text_unchanged _ _ _ (by nofun)).1
/-- the stored text of an unresolved lazy value is NOT shown -/
example : getFormattedValue ⟨.lazy "abc".toList, false⟩ none = some [] :=
  (C19_cell_text_unchanged _ _ _ (by nofun)).1

/-- A numeric cell (with or without a formula) whose number's text is a shortest decimal text
    (`isShortestText`: the shape `f64::to_string` prints, ≤ 15 significant digits) shows exactly that text under `General`,
    under no number format at all, and under `@` (by `C19_general`). -/
theorem C19_cell_number_general (n : List Char) (formula : Bool) (h : isShortestText n = true) :
    getFormattedValue ⟨.numeric n, formula⟩ (some general) = some n ∧
    getFormattedValue ⟨.numeric n, formula⟩ none = some n ∧
    getFormattedValue ⟨.numeric n, formula⟩ (some textCode) = some n := by
  have hc : classify n ≠ .otherNumeric := by
    unfold classify
    rw [if_pos h]
    split
    · simp
    · split <;> simp
  have hg := C19_general n hc
  exact ⟨hg.1, hg.1, hg.2⟩

example : isShortestText "-1234.5678".toList = true := by decide
example : getFormattedValue ⟨.numeric "-1234.5678".toList, true⟩ none = some "-1234.5678".toList :=
  (C19_cell_number_general _ _ (by decide)).2.1

/-- `get_formatted_value` is `to_formatted_string (Display text of the number) (the cell's code, General
    if it has none)` exactly for `Numeric` raw values and `get_value()` for every other kind; a cell reaches the formatter
    iff its raw value is `Numeric` iff the data type the writer uses (`get_data_type_crate`) is `n` — whether or not
    there is a formula. -/
theorem C19_cell_dispatch (c : CellV) (code : Option (List Char)) :
    getFormattedValue c code =
      (match c.raw with
       | .numeric n => (match code with
                        | some f => toFormattedString n f
                        | none => toFormattedString n general)
       | r => some (rawDisplay r)) ∧
    (reachesFormatter c = true ↔ ∃ n, c.raw = .numeric n) ∧
    (reachesFormatter c = true ↔ getDataTypeCrate c = ['n']) ∧
    reachesFormatter c = reachesFormatter ⟨c.raw, !c.formula⟩ := by
  obtain ⟨raw, formula⟩ := c
  refine ⟨?_, ?_, ?_, rfl⟩
  · cases raw <;> rfl
  · cases raw <;> simp [reachesFormatter, getValueNumber, rawGetNumber]
  · cases raw <;> cases formula <;> simp [reachesFormatter, getValueNumber, rawGetNumber, getDataTypeCrate, rawGetDataType]

example : reachesFormatter ⟨.numeric "1.5".toList, true⟩ = true ∧ reachesFormatter ⟨.string "1.5".toList, true⟩ = false ∧
    reachesFormatter ⟨.bool true, false⟩ = false ∧ reachesFormatter ⟨.lazy "1.5".toList, false⟩ = false := by decide
example : getFormattedValue ⟨.numeric "1234.5".toList, true⟩ (some "#,##0.00".toList) = some "1,234.50".toList := by decide +kernel

/-- tag of a model raw value in the enum translated from the source -/
def tagOfRaw : Raw → Umya.Gen.CellRawValue_tag
  | .string _ => .String | .richText _ => .RichText | .lazy _ => .Lazy | .numeric _ => .Numeric
  | .bool _ => .Bool | .error _ => .Error | .empty => .Empty

/-- The model's `rawGetDataType` / `getDataTypeCrate` equal the functions
    compiled from the current source (`CellRawValue::get_data_type`, `CellValue::get_data_type_crate`) on every cell,
    and every variant of the `CellRawValue` declaration has a model value. -/
theorem C19_cell_datatype_matches_source :
    (∀ r : Raw, Umya.Gen.raw_get_data_type (tagOfRaw r) = rawGetDataType r) ∧
    (∀ c : CellV, Umya.Gen.get_data_type_crate (tagOfRaw c.raw) (if c.formula then some () else none) = getDataTypeCrate c) ∧
    (∀ t : Umya.Gen.CellRawValue_tag, ∃ r : Raw, tagOfRaw r = t) := by
  refine ⟨?_, ?_, ?_⟩
  · intro r; cases r <;> rfl
  · intro c; obtain ⟨raw, formula⟩ := c; cases raw <;> cases formula <;> rfl
  · intro t
    cases t
    · exact ⟨.string [], rfl⟩
    · exact ⟨.richText [], rfl⟩
    · exact ⟨.lazy [], rfl⟩
    · exact ⟨.numeric [], rfl⟩
    · exact ⟨.bool true, rfl⟩
    · exact ⟨.error .div0, rfl⟩
    · exact ⟨.empty, rfl⟩

example : Umya.Gen.get_data_type_crate (tagOfRaw (.numeric "1".toList)) (some ()) = ['n'] := by decide

/-- `Cell::get_formatted_value`, compiled to Lean from the CURRENT source on
    every run (`Umya.Gen.cell_get_formatted_value`: its inputs are what the getters it calls return — `self.get_value()`,
    `self.get_value_number()`, the code of `self.get_style().get_number_format()` — and `to_formatted_string` as a function
    that may fail), instantiated with the model's `getValue`, `getValueNumber` and `toFormattedString`, IS the hand model
    `getFormattedValue`, for every cell, every optional code.  (`get_value_number`, `CellRawValue::get_number` and the two
    `Display` impls are not translated: hand model, tied by the `cellk` stream.)  `hl` is the cell's `hyperlink` field, which
    the translated function takes and never reads. -/
theorem C19_cell_formatted_value_matches_source (c : CellV) (code : Option (List Char)) (hl : Option Unit) :
    Umya.Gen.cell_get_formatted_value (List Char) code toFormattedString (getValueNumber c) (getValue c) hl =
      getFormattedValue c code := by
  unfold Umya.Gen.cell_get_formatted_value getFormattedValue
  cases hn : getValueNumber c with
  | none => simp
  | some n =>
    cases code with
    | none => cases ht : toFormattedString (getValue c) general <;> simp [general] at ht ⊢
    | some f => cases ht : toFormattedString (getValue c) f <;> simp [ht]

example : Umya.Gen.cell_get_formatted_value (List Char) (some "0.00".toList) toFormattedString
    (getValueNumber ⟨.numeric "2.675".toList, false⟩) (getValue ⟨.numeric "2.675".toList, false⟩) none = some "2.68".toList := by decide +kernel
example : Umya.Gen.cell_get_formatted_value (List Char) (some "0.00".toList) toFormattedString
    (getValueNumber ⟨.string "2.675".toList, false⟩) (getValue ⟨.string "2.675".toList, false⟩) none = some "2.675".toList := by decide

end Umya.Thm.C19
