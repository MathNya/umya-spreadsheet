/-
  C08 — References keep their target cells across row/column insert and remove.
-/
import Umya.Lemmas.FormulaAdjust
import Umya.Thm.C09
import Umya.Lemmas.FormulaGen
import Umya.Lemmas.NameShift
namespace Umya.Thm.C08
open Umya.Coord Umya.Dec Umya.Formula

/-- Every structural edit re-tokenises with the fixed lexer, which terminates on every input
    (`C09_terminates`); the unchanged lexer does not (`C09_terminates_fails`). -/
theorem C08_terminates (s : List Char) (fuel : Nat) (h : s.length ≤ fuel) :
    Umya.Thm.C09.lexFuel fuel s {} ≠ .outOfFuel :=
  (Umya.Thm.C09.C09_terminates s fuel h).1

/-- Insert and remove leave every token that is not a Range operand — string
    literals, numbers, function names, operators, error literals, blanks — exactly as it was,
    and never change the number of tokens: for every token list.  (Translate, token by token:
    `C09_translate_nonref`.) -/
theorem C08_nonrefs_untouched (toks toks' : List Tok) (rc oc rr orr : Nat) (ws selfWs : List Char) (ig : Bool) :
    (mapRes (insertTok rc oc rr orr ws selfWs ig) toks = .ok toks' ∨
     mapRes (removeTok rc oc rr orr ws selfWs ig) toks = .ok toks') →
    toks'.length = toks.length ∧
    ∀ i (h1 : i < toks.length) (h2 : i < toks'.length), isRangeOperand toks[i] = false → toks'[i] = toks[i] := by
  intro h
  rcases h with h | h
  · exact mapRes_untouched (by intro t ht; simp [insertTok, ht]) toks toks' h
  · exact mapRes_untouched (by intro t ht; simp [removeTok, ht]) toks toks' h

/-- a string literal is not a Range operand, whatever its content looks like -/
example : isRangeOperand ⟨['"', 'A', '1'], .operand, .text, .none⟩ = false := by decide

/-- the model's `(root_col, offset_col, root_row, offset_row)` call for an edit on one axis -/
def insertRefTok (ax : Spec.Axis) (at_ n : Nat) (edited self : List Char) (t : Tok) : Res Tok :=
  insertTok (axisArgs ax at_ n).1 (axisArgs ax at_ n).2.1 (axisArgs ax at_ n).2.2.1
    (axisArgs ax at_ n).2.2.2 edited self false t

def removeRefTok (ax : Spec.Axis) (at_ n : Nat) (edited self : List Char) (t : Tok) : Res Tok :=
  removeTok (axisArgs ax at_ n).1 (axisArgs ax at_ n).2.1 (axisArgs ax at_ n).2.2.1
    (axisArgs ax at_ n).2.2.2 edited self false t

/-- For every well-formed reference (cell, range,
    whole columns, whole rows; any `$` flags; any qualifier, quoted or not), every axis, every
    insertion point and every count `n ≠ 0` (no bound on `n`, no "fits in the grid" hypothesis):
    the code's result on the token of the reference is the token of `Spec.shiftInsertRef` — every
    part at or behind the insertion point moves by `n` whatever its `$` flag; a cell, or a range
    whose start, is pushed beyond XFD / 1048576 becomes the `#REF!` error literal; a range that
    still starts on the grid is cut off at the edge; the qualifier is kept as written; references
    that do not concern the edited sheet are unchanged; never a panic.
    (For the unrepaired code, before fix fae7c2b, the unrestricted statement is false: `XFD1`
    became `XFE1`.) -/
theorem C08_insert (r : Spec.CRef) (hw : r.WF) (ax : Spec.Axis) (at_ n : Nat)
    (edited self : List Char) (hed : edited ≠ []) (hn : n ≠ 0) :
    insertRefTok ax at_ n edited self (refTok r)
      = .ok (exprTok (Spec.shiftInsertRef self edited ax at_ n r)) := by
  exact (tokMap_insert ax at_ n hn edited self hed).ref r hw

section InsertExamples

/-- a cell `⟨col, row⟩` with the given `$` flags, optionally qualified -/
private def cellRef (q : Option Spec.Qual) (c : Nat) (lc : Bool) (r : Nat) (lr : Bool) : Spec.CRef :=
  ⟨q, .one ⟨some ⟨c, lc⟩, some ⟨r, lr⟩⟩⟩

private theorem cellRef_wf (c : Nat) (lc : Bool) (r : Nat) (lr : Bool)
    (hc : 1 ≤ c ∧ c ≤ 16384) (hr : 1 ≤ r ∧ r ≤ 1048576) : (cellRef none c lc r lr).WF := by
  refine ⟨⟨rfl, rfl, ?_, ?_⟩, ?_⟩
  · intro x hx; injection hx with hx; subst hx; simpa [Spec.maxCol] using hc
  · intro x hx; injection hx with hx; subst hx; simpa [Spec.maxRow] using hr
  · intro q hq; cases hq

/-- `XFD1`, one column inserted at A: the target is pushed off the grid, the Spec says `#REF!` … -/
example : Spec.shiftInsertRef ['S'] ['S'] .col 1 1 (cellRef none 16384 false 1 false) = .err .ref := by
  rfl
/-- … and so does the code (the unrepaired code, before fix fae7c2b, gave `XFE1`) -/
example : insertRefTok .col 1 1 ['S'] ['S'] (refTok (cellRef none 16384 false 1 false)) = .ok refErrTok :=
  C08_insert _ (cellRef_wf _ _ _ _ (by decide) (by decide)) .col 1 1 ['S'] ['S'] (by simp) (by simp)

/-- `A1048576`, three rows inserted at row 5: `#REF!` -/
example : insertRefTok .row 5 3 ['S'] ['S'] (refTok (cellRef none 1 false 1048576 false)) = .ok refErrTok :=
  C08_insert _ (cellRef_wf _ _ _ _ (by decide) (by decide)) .row 5 3 ['S'] ['S'] (by simp) (by simp)

/-- a `$`-locked corner is pushed off like a relative one: `$XFD$7`, insert 2 columns at XFD -/
example : insertRefTok .col 16384 2 ['S'] ['S'] (refTok (cellRef none 16384 true 7 true)) = .ok refErrTok :=
  C08_insert _ (cellRef_wf _ _ _ _ (by decide) (by decide)) .col 16384 2 ['S'] ['S'] (by simp) (by simp)

/-- a cell in front of the insertion point stays: `XFD1`, insert rows -/
example : Spec.shiftInsertRef ['S'] ['S'] .row 2 9 (cellRef none 16384 false 1 false)
    = .ref (cellRef none 16384 false 1 false) := by rfl

/-- a range straddling the limit, with a locked end: `XFB2:$XFD$9`, 2 columns inserted at XFC —
    the start stays, the end is cut off at XFD, the `$` flags are kept -/
example : Spec.shiftInsertRef ['S'] ['S'] .col 16383 2
      ⟨none, .two ⟨some ⟨16382, false⟩, some ⟨2, false⟩⟩ ⟨some ⟨16384, true⟩, some ⟨9, true⟩⟩⟩
    = .ref ⟨none, .two ⟨some ⟨16382, false⟩, some ⟨2, false⟩⟩ ⟨some ⟨16384, true⟩, some ⟨9, true⟩⟩⟩ := by
  rfl

/-- the same on rows with the start moved: `B1048570:C1048576`, 4 rows at 1048569 -> `B1048574:C1048576` -/
example : Spec.shiftInsertRef ['S'] ['S'] .row 1048569 4
      ⟨none, .two ⟨some ⟨2, false⟩, some ⟨1048570, false⟩⟩ ⟨some ⟨3, false⟩, some ⟨1048576, false⟩⟩⟩
    = .ref ⟨none, .two ⟨some ⟨2, false⟩, some ⟨1048574, false⟩⟩ ⟨some ⟨3, false⟩, some ⟨1048576, false⟩⟩⟩ := by
  rfl

/-- a range wholly pushed off: `XFC1:XFD2`, 2 columns at A -> `#REF!` -/
example : Spec.shiftInsertRef ['S'] ['S'] .col 1 2
      ⟨none, .two ⟨some ⟨16383, false⟩, some ⟨1, false⟩⟩ ⟨some ⟨16384, false⟩, some ⟨2, false⟩⟩⟩
    = .err .ref := by rfl

/-- a sheet-qualified reference on another sheet follows the edited sheet only:
    `'It''s'!$B3:XFD$1048576` (`C09.exampleRef`) under a row insert on `It's` from a formula on `S`:
    the end is cut off, the qualifier kept; under an edit of sheet `S` it is untouched -/
example : Spec.shiftInsertRef ['S'] ['I', 't', '\'', 's'] .row 2 5 Umya.Thm.C09.exampleRef
    = .ref ⟨some ⟨['I', 't', '\'', 's'], true⟩,
            .two ⟨some ⟨2, true⟩, some ⟨8, false⟩⟩ ⟨some ⟨16384, false⟩, some ⟨1048576, true⟩⟩⟩ := by rfl
example : Spec.shiftInsertRef ['S'] ['S'] .row 2 5 Umya.Thm.C09.exampleRef = .ref Umya.Thm.C09.exampleRef := by
  rfl
example : insertRefTok .row 2 5 ['I', 't', '\'', 's'] ['S'] (refTok Umya.Thm.C09.exampleRef)
    = .ok (exprTok (Spec.shiftInsertRef ['S'] ['I', 't', '\'', 's'] .row 2 5 Umya.Thm.C09.exampleRef)) :=
  C08_insert _ Umya.Thm.C09.exampleRef_wf .row 2 5 _ _ (by simp) (by simp)

/-- the model executed on formula text: `=XFD1+SUM(A1:XFD2)+$B$2` with one column inserted at B —
    the overflowing cell becomes `#REF!`, the straddling range is cut off, the surviving one moves -/
example : editFormula .insert "XFD1+SUM(A1:XFD2)+$B$2".toList 2 1 0 0 ['S'] ['S']
    = .ok "#REF!+SUM(A1:XFD2)+$C$2".toList := by
  simp only [toList_lit]
  decide +kernel

/-- sheet-qualified, on text: only the reference to the edited sheet is touched -/
example : editFormula .insert "'My Sheet'!A1048576+Other!A1048576+A1048576".toList 0 0 1 1
      "My Sheet".toList "Sheet1".toList
    = .ok "#REF!+Other!A1048576+A1048576".toList := by
  simp only [toList_lit]
  decide +kernel

end InsertExamples

/-- For every well-formed reference (cell, range,
    whole columns, whole rows; any `$` flags; any qualifier), every axis, every band
    `[at_, at_ + n)` with `1 ≤ at_`, `n ≠ 0` inside the `u32` range: the code's result on the token
    of the reference is the token of `Spec.shiftRemoveRef` — parts behind the band move up by `n`
    whatever their `$` flag, a range that loses one end is clamped to what is left, a target that
    is deleted entirely becomes the `#REF!` error literal, the qualifier is kept as written,
    references to other sheets are unchanged; never a panic. -/
theorem C08_remove (r : Spec.CRef) (hw : r.WF) (ax : Spec.Axis) (at_ n : Nat)
    (edited self : List Char) (hed : edited ≠ []) (h1 : 1 ≤ at_) (hn : n ≠ 0)
    (ho : at_ + n ≤ 4294967295) :
    removeRefTok ax at_ n edited self (refTok r)
      = .ok (exprTok (Spec.shiftRemoveRef self edited ax at_ n r)) := by
  exact (tokMap_remove ax at_ n h1 hn ho edited self hed).ref r hw

/-- what `C08_remove_partial` expects of one token -/
def removedTok (ax : Spec.Axis) (at_ n : Nat) (edited self : List Char) : Umya.Thm.C09.SpecTok → Tok
  | .other t _ => t
  | .ref r _ => exprTok (Spec.shiftRemoveRef self edited ax at_ n r)

/-- As `C09_translate_partial`: a token list made of arbitrary
    non-reference tokens and reference tokens of well-formed references is mapped by
    `adjustment_remove_formula_coordinate` token by token as the Spec says, and rendered.
    The whole-text statement on printed expressions is `C08_remove_text` (`Umya/Thm/C08Lex.lean`). -/
theorem C08_remove_partial (l : List Umya.Thm.C09.SpecTok) (ax : Spec.Axis) (at_ n : Nat)
    (edited self : List Char) (hed : edited ≠ []) (h1 : 1 ≤ at_) (hn : n ≠ 0) (ho : at_ + n ≤ 4294967295) :
    adjustRemove (l.map Umya.Thm.C09.SpecTok.tok) (axisArgs ax at_ n).1 (axisArgs ax at_ n).2.1
        (axisArgs ax at_ n).2.2.1 (axisArgs ax at_ n).2.2.2 edited self false
      = .ok (render (l.map (removedTok ax at_ n edited self))) := by
  simp only [adjustRemove, Umya.Thm.C09.SpecTok.mapRes (tokMap_remove ax at_ n h1 hn ho edited self hed)
    (removedTok ax at_ n edited self) (fun a => by cases a <;> rfl) l]

/-- what `C08_insert_tokens_partial` expects of one token -/
def insertedTok (ax : Spec.Axis) (at_ n : Nat) (edited self : List Char) : Umya.Thm.C09.SpecTok → Tok
  | .other t _ => t
  | .ref r _ => exprTok (Spec.shiftInsertRef self edited ax at_ n r)

/-- As `C08_remove_partial`; the whole-text statement is `C08_insert_text`, `Umya/Thm/C08Lex.lean`.
    No grid hypothesis: a formula may mix references
    that are pushed off, cut off and merely moved. -/
theorem C08_insert_tokens_partial (l : List Umya.Thm.C09.SpecTok) (ax : Spec.Axis) (at_ n : Nat)
    (edited self : List Char) (hed : edited ≠ []) (hn : n ≠ 0) :
    adjustInsert (l.map Umya.Thm.C09.SpecTok.tok) (axisArgs ax at_ n).1 (axisArgs ax at_ n).2.1
        (axisArgs ax at_ n).2.2.1 (axisArgs ax at_ n).2.2.2 edited self false
      = .ok (render (l.map (insertedTok ax at_ n edited self))) := by
  simp only [adjustInsert, Umya.Thm.C09.SpecTok.mapRes (tokMap_insert ax at_ n hn edited self hed)
    (insertedTok ax at_ n edited self) (fun a => by cases a <;> rfl) l]

/-- a token list mixing an overflowing reference (`XFD1`), an operator and a surviving
    one (`$B$2`), one column inserted at B -/
example : adjustInsert
      ([Umya.Thm.C09.SpecTok.ref (cellRef none 16384 false 1 false) (cellRef_wf _ _ _ _ (by decide) (by decide)),
        .other ⟨['+'], .opInfix, .math, .none⟩ rfl,
        .ref (cellRef none 2 true 2 true) (cellRef_wf _ _ _ _ (by decide) (by decide))].map Umya.Thm.C09.SpecTok.tok)
      2 1 0 0 ['S'] ['S'] false
    = .ok "#REF!+$C$2".toList := by
  refine (C08_insert_tokens_partial _ .col 2 1 _ _ (by simp) (by simp)).trans ?_
  simp only [toList_lit]
  decide +kernel

/-- the hypotheses of `C08_remove` can be met: `exampleRef`, rows 3..4 removed -/
example : Umya.Thm.C09.exampleRef.WF ∧ (1 ≤ 3 ∧ 2 ≠ 0 ∧ 3 + 2 ≤ 4294967295) :=
  ⟨Umya.Thm.C09.exampleRef_wf, by decide⟩

section DefinedNames
open Umya.NameShift Umya.Annot

/-- apply `f` to every address of a name -/
def nameMap (f : Address → Address) (d : DefName) : DefName := { d with areas := d.areas.map f }

/-- a predicate on every address of every name of the workbook, wherever the name is stored -/
def AllAddr (P : Address → Prop) (b : Book) : Prop :=
  (∀ d ∈ b.wbNames, ∀ a ∈ d.areas, P a) ∧ (∀ s ∈ b.sheets, ∀ d ∈ s.2, ∀ a ∈ d.areas, P a)

/-- what the property demands of one address when `n` lines are inserted at `at_` on sheet
    `edited`: shifted iff the sheet it REFERS to is the edited sheet -/
def followInsert (edited : Text) (ax : Spec.Axis) (at_ n : Nat) (a : Address) : Address :=
  if a.sheet = edited then { a with range := Spec.shiftRangeInsert a.range ax at_ n } else a

/-- Defined names follow the sheet they refer to (fix 1629c1f).  For every workbook (workbook-level names and the names stored on
    any sheet, with any number of areas each), every edited sheet name, axis, position and count:
    after `Spreadsheet::insert_new_row / insert_new_column(edited, ..)` every address whose sheet
    is the edited sheet is the shifted one (`Spec.shiftRangeInsert`: each part at or behind the
    insertion point moved by `n`, `$` flags kept), every other address — in particular those of
    names stored ON the edited sheet that refer elsewhere — is unchanged, no name is lost and
    nothing panics.  Hypothesis: no number overflows `u32` (any grid coordinate with `n < 2^32 - 2^20`). -/
theorem C08_defined_names_follow (b : Book) (edited : Text) (ax : Spec.Axis) (at_ n : Nat) (hn : n ≠ 0)
    (hfit : AllAddr (fun a => RangeFits a.range n) b) :
    bookInsert b edited (axisArgs ax at_ n).1 (axisArgs ax at_ n).2.1 (axisArgs ax at_ n).2.2.1 (axisArgs ax at_ n).2.2.2
      = .ok ⟨b.wbNames.map (nameMap (followInsert edited ax at_ n)),
             b.sheets.map (fun s => (s.1, s.2.map (nameMap (followInsert edited ax at_ n))))⟩ := by
  rcases hA : axisArgs ax at_ n with ⟨rc, oc, rr, orr⟩
  have haddr : ∀ a : Address, RangeFits a.range n →
      addrInsert a edited rc oc rr orr = .ok (followInsert edited ax at_ n a) := by
    intro a hf
    unfold addrInsert followInsert
    by_cases hs : a.sheet = edited
    · simp [hs, rangeInsert_spec a.range ax at_ n hf hA, Res.bind]
    · simp [hs]
  have hname : ∀ d : DefName, (∀ a ∈ d.areas, RangeFits a.range n) →
      nameInsert d edited rc oc rr orr = .ok (nameMap (followInsert edited ax at_ n) d) := by
    intro d hd
    unfold nameInsert
    rw [mapRes_pointwise _ (followInsert edited ax at_ n) d.areas (fun a ha => haddr a (hd a ha))]
    rfl
  refine fanout_ok b (fun d hd => hname d (hfit.1 d hd)) fun s hs => ?_
  simp only [namesInsert, axisArgs_offsets hA hn, Bool.false_eq_true, if_false]
  exact mapRes_pointwise _ _ s.2 fun d hd => hname d (hfit.2 s hs d hd)

/-- what the property demands of one address when the lines `[at_, at_ + n)` of sheet `edited`
    are removed: `none` = its target was deleted -/
def followRemove (edited : Text) (ax : Spec.Axis) (at_ n : Nat) (a : Address) : Option Address :=
  if a.sheet = edited then (Spec.shiftRangeRemove a.range ax at_ n).map (fun ρ => { a with range := ρ })
  else some a

/-- what the property demands of one name: its surviving areas shifted / clamped; a name all of
    whose areas were deleted is the error text `#REF!` -/
def nameFollowRemove (edited : Text) (ax : Spec.Axis) (at_ n : Nat) (d : DefName) : DefName :=
  if !d.areas.isEmpty && (d.areas.filterMap (followRemove edited ax at_ n)).isEmpty
  then { areas := [], str := some refError }
  else { d with areas := d.areas.filterMap (followRemove edited ax at_ n) }

/-- After `Spreadsheet::remove_row / remove_column(edited, ..)` every
    address whose sheet is the edited sheet and whose target survives (at least partly) is the
    shifted / clamped one of `Spec.shiftRangeRemove`, every address of another sheet is unchanged
    wherever its name is stored, and nothing panics.  A name all of whose areas were deleted
    becomes the text `#REF!` (fix e9fa341).  Left as the code
    has it: of a name with SEVERAL areas, an area that is deleted while another survives is dropped
    from the list (the property wants `#REF!` in its place; not generated by the harness), and a
    sheet-level name that had neither text nor areas before the edit is dropped. -/
theorem C08_defined_names_follow_remove (b : Book) (edited : Text) (ax : Spec.Axis) (at_ n : Nat)
    (h1 : 1 ≤ at_) (hn : n ≠ 0) (ho : at_ + n ≤ 4294967295)
    (hwf : AllAddr (fun a => StartFirst a.range) b) :
    bookRemove b edited (axisArgs ax at_ n).1 (axisArgs ax at_ n).2.1 (axisArgs ax at_ n).2.2.1 (axisArgs ax at_ n).2.2.2
      = .ok ⟨b.wbNames.map (nameFollowRemove edited ax at_ n),
             b.sheets.map (fun s => (s.1, (s.2.filter (fun d => !nameIsRemove d)).map
               (nameFollowRemove edited ax at_ n)))⟩ := by
  rcases hA : axisArgs ax at_ n with ⟨rc, oc, rr, orr⟩
  have hisrem : ∀ a : Address, StartFirst a.range →
      addrIsRemove a edited rc oc rr orr = .ok (followRemove edited ax at_ n a).isNone := by
    intro a hsf
    unfold addrIsRemove followRemove
    by_cases hs : a.sheet = edited
    · simp only [hs, if_true, rangeIsRemove_spec a.range ax at_ n h1 hn ho hsf hA]
      cases Spec.shiftRangeRemove a.range ax at_ n <;> rfl
    · simp [hs]
  have hrem : ∀ a a' : Address, StartFirst a.range → followRemove edited ax at_ n a = some a' →
      addrRemove a edited rc oc rr orr = .ok a' := by
    intro a a' hsf h
    unfold addrRemove
    unfold followRemove at h
    by_cases hs : a.sheet = edited
    · simp only [hs, if_true] at h ⊢
      obtain ⟨ρ', hr, rfl⟩ := Option.map_eq_some_iff.1 h
      simp [rangeRemove_spec a.range ρ' ax at_ n h1 hn ho hr hA, Res.bind]
    · simp only [hs, if_false, Option.some.injEq] at h ⊢
      rw [h]
  have hname : ∀ d : DefName, (∀ a ∈ d.areas, StartFirst a.range) →
      nameRemove d edited rc oc rr orr = .ok (nameFollowRemove edited ax at_ n d) := by
    intro d hd
    unfold nameRemove nameFollowRemove
    rw [rejectRes_pointwise _ (fun a => (followRemove edited ax at_ n a).isNone) d.areas
      (fun a ha => hisrem a (hd a ha))]
    simp only [Option.not_isNone, Res.bind]
    rw [filter_isSome_isEmpty, mapRes_filter_isSome _ (followRemove edited ax at_ n) d.areas
      (fun a ha a' => hrem a a' (hd a ha))]
    split <;> rfl
  refine fanout_ok b (fun d hd => hname d (hwf.1 d hd)) fun s hs => ?_
  simp only [namesRemove, axisArgs_offsets hA hn, Bool.false_eq_true, if_false]
  exact mapRes_pointwise _ _ _ fun d hd => hname d (hwf.2 s hs d (List.mem_filter.1 hd).1)

/-- `N1` stored on `Sa` refers to `Sa!$B$3`, `N2` stored on `Sa` refers to `Sb!C5:D9`, `N3` is a workbook-level
    name for `Sb!A2` -/
def exBook : Book :=
  ⟨[⟨[⟨['S', 'b'], ⟨some ⟨1, false⟩, some ⟨2, false⟩, none, none⟩⟩], none⟩],
   [(['S', 'a'], [⟨[⟨['S', 'a'], ⟨some ⟨2, true⟩, some ⟨3, true⟩, none, none⟩⟩], none⟩,
                  ⟨[⟨['S', 'b'], ⟨some ⟨3, false⟩, some ⟨5, false⟩, some ⟨4, false⟩, some ⟨9, false⟩⟩⟩], none⟩]),
    (['S', 'b'], [])]⟩

/-- inserting 2 rows at row 2 of sheet `Sb` leaves `N1` alone and moves `N2` and `N3` -/
example : bookInsert exBook ['S', 'b'] 0 0 2 2 = .ok
    ⟨[⟨[⟨['S', 'b'], ⟨some ⟨1, false⟩, some ⟨4, false⟩, none, none⟩⟩], none⟩],
     [(['S', 'a'], [⟨[⟨['S', 'a'], ⟨some ⟨2, true⟩, some ⟨3, true⟩, none, none⟩⟩], none⟩,
                    ⟨[⟨['S', 'b'], ⟨some ⟨3, false⟩, some ⟨7, false⟩, some ⟨4, false⟩, some ⟨11, false⟩⟩⟩], none⟩]),
      (['S', 'b'], [])]⟩ := by
  decide

/-- removing rows 2..6 of `Sb`: `N3` (`Sb!A2`) is deleted entirely and becomes `#REF!`, `N2`
    (`Sb!C5:D9`) is clamped to `Sb!C2:D4`, `N1` (on `Sa`) is untouched -/
example : bookRemove exBook ['S', 'b'] 0 0 2 5 = .ok
    ⟨[⟨[], some ['#', 'R', 'E', 'F', '!']⟩],
     [(['S', 'a'], [⟨[⟨['S', 'a'], ⟨some ⟨2, true⟩, some ⟨3, true⟩, none, none⟩⟩], none⟩,
                    ⟨[⟨['S', 'b'], ⟨some ⟨3, false⟩, some ⟨2, false⟩, some ⟨4, false⟩, some ⟨4, false⟩⟩⟩], none⟩]),
      (['S', 'b'], [])]⟩ := by
  decide

/-- `RangeFits` from its decidable form -/
theorem rangeFits_of {ρ : Range} {n : Nat}
    (h : ([ρ.startCol, ρ.startRow, ρ.endCol, ρ.endRow].all fun o => o.all fun r => decide (r.num + n ≤ 4294967295)) = true) :
    RangeFits ρ n := by
  intro r hr
  simp only [List.all_cons, List.all_nil, Bool.and_true, Bool.and_eq_true] at h
  rcases hr with e | e | e | e <;> simp only [e, Option.all_some, decide_eq_true_eq] at h <;> omega

example : AllAddr (fun a => RangeFits a.range 2) exBook ∧ AllAddr (fun a => StartFirst a.range) exBook := by
  have h : AllAddr (fun a => ([a.range.startCol, a.range.startRow, a.range.endCol, a.range.endRow].all fun o =>
      o.all fun r => decide (r.num + 2 ≤ 4294967295)) = true ∧ StartFirst a.range) exBook := by
    unfold AllAddr StartFirst; decide +kernel
  exact ⟨⟨fun d hd a ha => rangeFits_of (h.1 d hd a ha).1, fun s hs d hd a ha => rangeFits_of (h.2 s hs d hd a ha).1⟩,
    ⟨fun d hd a ha => (h.1 d hd a ha).2, fun s hs d hd a ha => (h.2 s hs d hd a ha).2⟩⟩

end DefinedNames

/-- **Tie to the source (T).**  `translate_part` (a column / row part moved by an offset unless locked; `None`
    when it leaves `1..=max`), `insert_part` (a part moved by an insert whatever its `$` flag; beyond `max`
    it is `None`, or `max` for the end of a range) and the grid limits `MAX_COLUMN_NUM` / `MAX_ROW_NUM` of
    helper/formula.rs, as regenerated from the source, are the model's `translatePart`,
    `insertPart`, `maxCol`, `maxRow`. -/
theorem C08_kernels_match_source (p : Umya.Formula.Part) (d : Int) (max root off : Nat) (isEnd : Bool) :
    (Umya.Gen.translate_part ((p.1 : Int), p.2) d max).map (fun q => (q.1.toNat, q.2)) = Umya.Formula.translatePart p d max ∧
    (Umya.Gen.insert_part ((p.1 : Int), p.2) root off max isEnd).map (fun q => (q.1.toNat, q.2))
      = Umya.Formula.insertPart p root off max isEnd ∧
    Umya.Gen.max_column_num = Umya.Formula.maxCol ∧ Umya.Gen.max_row_num = Umya.Formula.maxRow :=
  ⟨Umya.Gen.gen_translate_part p d max, Umya.Gen.gen_insert_part p root off max isEnd,
   Umya.Gen.gen_grid_limits.1, Umya.Gen.gen_grid_limits.2⟩

end Umya.Thm.C08
