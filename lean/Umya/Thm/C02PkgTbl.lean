/-
  C02, package level — sheets with TABLES (`Umya/Model/PackageNodeTbl.lean`): what is proved here is about the
  RELATIONSHIPS PART of a sheet with tables as the independent decoder reads it, the `<tableParts>` ids, the table part
  numbers and names, for every number of hyperlinks, tables, with and without comments on the same sheet.

  The theorems are stated for ANY package `pkg` in which the relationships part of sheet K is the one the model writes
  (`hrel`); the whole package (`assembleT` / `writePackageT`) is the subject of `Thm/C02PkgTblPkg.lean`.  There is no
  theorem `decode pkg = (some bk, [])` with `tables` per sheet for this model (`partial_clauses` in tools/props.d/C02.py).
-/
import Umya.Thm.C02PkgCmt
namespace Umya.Thm.C02
open Umya.CellXml Umya.CellNode Umya.SheetNode Umya.WorkbookNode Umya.PackageNode Umya.Num Umya.Dec
open Umya.Spec.Sml
open Umya.Spec.Xml (Node Attr)

/-- the records of `tblRelNodes`, `k` = the counter of worksheet_rels.rs -/
def tblRecs : Nat → List Nat → List Rel
  | _, [] => []
  | k, t :: r => relRec k tTable (tblTarget t) :: tblRecs (k + 1) r

/-- the records of `restNodesT`: what follows the hyperlink relationships of a sheet with tables (and comments) -/
def restRecsT (k : Nat) (num : Option (Nat × Nat)) (ts : List Nat) : List Rel :=
  match num with
  | none => tblRecs k ts
  | some (v, c) => relRec k tVml (vmlTarget v) :: (tblRecs (k + 1) ts ++ [relRec (k + 1 + ts.length) tComments (commentsTarget c)])

theorem tblRelNodes_recs (ts : List Nat) : ∀ k, ((tblRelNodes k ts).filter (isKid nRelationship)).map relOf = tblRecs k ts := by
  induction ts with
  | nil => intro _; rfl
  | cons t r ih => intro k; simp [tblRelNodes, tblRecs, isKid_relEl, relOf_relEl, ih]

theorem restNodesT_recs (k : Nat) (num : Option (Nat × Nat)) (ts : List Nat) :
    ((restNodesT k num ts).filter (isKid nRelationship)).map relOf = restRecsT k num ts := by
  cases num with
  | none => simp [restNodesT, restRecsT, tblRelNodes_recs]
  | some vc =>
    obtain ⟨v, c⟩ := vc
    simp [restNodesT, restRecsT, List.filter_append, isKid_relEl, relOf_relEl, tblRelNodes_recs]

theorem tblRecs_eq (ts : List Nat) : ∀ k, tblRecs k ts = (ts.zipIdx k).map fun p => relRec p.2 tTable (tblTarget p.1) := by
  induction ts with
  | nil => intro _; rfl
  | cons t r ih => intro k; rw [tblRecs, ih, List.zipIdx_cons, List.map_cons]

theorem tblRecs_length (ts : List Nat) (k : Nat) : (tblRecs k ts).length = ts.length := by
  rw [tblRecs_eq, List.length_map, List.length_zipIdx]

theorem tblRecs_ids (ts : List Nat) (k : Nat) : (tblRecs k ts).map (·.id) = (List.range' k ts.length).map (fun i => str (rIdText i)) := by
  rw [tblRecs_eq, List.map_map, ← List.zipIdx_map_snd k ts, List.map_map]; rfl

theorem tblRecs_get (ts : List Nat) (k j t : Nat) (h : ts[j]? = some t) : (tblRecs k ts)[j]? = some (relRec (k + j) tTable (tblTarget t)) := by
  rw [tblRecs_eq, List.getElem?_map, List.getElem?_zipIdx, h]; rfl

theorem restRecsT_ids (k : Nat) (num : Option (Nat × Nat)) (ts : List Nat) :
    ∃ m, (restRecsT k num ts).map (·.id) = (List.range' k m).map (fun i => str (rIdText i)) := by
  cases num with
  | none => exact ⟨ts.length, tblRecs_ids ts k⟩
  | some vc =>
    obtain ⟨v, c⟩ := vc
    refine ⟨(ts.length + 1) + 1, ?_⟩
    rw [List.range'_succ, List.range'_concat]
    simp [restRecsT, relRec, tblRecs_ids]

/-- In any package whose `xl/worksheets/_rels/sheetK.xml.rels` is the part the model writes for a sheet with
    the hyperlinks `links`, comments numbers `num` (none without comments) and table numbers `ts`, the decoder reads:
    the hyperlink relationships, then vmlDrawing (with comments), one `table` relationship per table, then comments. -/
theorem C02_tbl_sheet_rels_read (pkg : Package) (k : Nat) (links : List LinkW) (num : Option (Nat × Nat)) (ts : List Nat)
    (hrel : (pkg.part? (relsNameOf (String.ofList (sheetPartL k)))).bind (·.xml) = relsRoot links (restOfT links num ts)) :
    relsOf pkg (String.ofList (sheetPartL k)) = relRecs 1 links ++ restRecsT (hlNext 1 links) num ts := by
  rw [C02_sheet_rels_decode pkg _ links _ hrel, restOfT, restNodesT_recs]

/-- With comments and `t` tables the comments relationship is `rId{r + 1 + t}` (r = the counter after
    the hyperlink loop), the vmlDrawing one stays `rId{r}` — where `<legacyDrawing r:id>` points. -/
theorem C02_tbl_comments_rel_shifted (r v c : Nat) (ts : List Nat) :
    (restRecsT r (some (v, c)) ts).head? = some (relRec r tVml (vmlTarget v)) ∧
    (restRecsT r (some (v, c)) ts).getLast? = some (relRec (r + 1 + ts.length) tComments (commentsTarget c)) ∧
    (restRecsT r (some (v, c)) ts).length = ts.length + 2 := by
  refine ⟨rfl, ?_, ?_⟩
  · simp only [restRecsT]
    rw [← List.cons_append, List.getLast?_append]
    simp
  · simp [restRecsT, tblRecs_length]

example : (restRecsT 4 (some (2, 2)) [3, 4]).map (·.id) = ["rId4", "rId5", "rId6", "rId7"] ∧
    ((restRecsT 4 (some (2, 2)) [3, 4]).map (·.target)).getLast? = some "../comments2.xml" := by decide +kernel

/-- The ids of that relationships part (`C02_tbl_sheet_rels_read`) are pairwise different (the decoder's test: erasing duplicates loses nothing). -/
theorem C02_tbl_rel_ids_unique (pkg : Package) (k : Nat) (links : List LinkW) (num : Option (Nat × Nat)) (ts : List Nat)
    (hrel : (pkg.part? (relsNameOf (String.ofList (sheetPartL k)))).bind (·.xml) = relsRoot links (restOfT links num ts)) :
    ((relsOf pkg (String.ofList (sheetPartL k))).map (·.id)).eraseDups.length = ((relsOf pkg (String.ofList (sheetPartL k))).map (·.id)).length := by
  rw [C02_tbl_sheet_rels_read pkg k links num ts hrel]
  obtain ⟨m, hm⟩ := restRecsT_ids (hlNext 1 links) num ts
  exact rids_unique (ids_after_links links _ m hm)

theorem segsOf_tblTarget (t : Nat) :
    segsOf (tblTarget t) = [['.', '.'], ['t', 'a', 'b', 'l', 'e', 's'], 't' :: 'a' :: 'b' :: 'l' :: 'e' :: (decDigits t ++ ['.', 'x', 'm', 'l'])] :=
  segsOf_numbered ('.' :: '.' :: tblPre.drop 2) t _ (by decide)

theorem resolve_tblTarget (k t : Nat) : resolveTargetL (sheetPartL k) (tblTarget t) = tblPartL t := by
  have hh : (tblTarget t).head? ≠ some '/' := by simp [tblTarget]
  unfold resolveTargetL
  rw [if_neg hh, segsOf_sheetPart, segsOf_tblTarget]
  simp [resolveSegs, joinSegs, List.intercalate, tblPartL]

/- No theorem says that `tablePartIds` lists the `r:id`s of the elements `tablePartsNodes` renders: the driver
   (`Driver/C02Pkg.lean`) compares the two on every run. -/
theorem tablePartIds_get (links : List LinkW) (hasCmt : Bool) (t j : Nat) (hj : j < t) :
    (tablePartIds links hasCmt t)[j]? = some (rIdText (tblStart links hasCmt + j)) := by
  simp [tablePartIds, hj]

/-- For the j-th table of the sheet (number `t`): the `r:id` of the j-th `<tablePart>` the model
    writes is `rId{s + j}` (s = the counter after the hyperlink loop and `legacyDrawing`); the relationship the decoder
    finds under that id in the sheet's relationships part is the j-th `table` relationship and no other; its target,
    resolved from the sheet part, is `xl/tables/table{t}.xml`. -/
theorem C02_tbl_table_parts_resolve (pkg : Package) (k : Nat) (links : List LinkW) (num : Option (Nat × Nat)) (ts : List Nat)
    (hrel : (pkg.part? (relsNameOf (String.ofList (sheetPartL k)))).bind (·.xml) = relsRoot links (restOfT links num ts))
    (j t : Nat) (hj : ts[j]? = some t) :
    (tablePartIds links num.isSome ts.length)[j]? = some (rIdText (tblStart links num.isSome + j)) ∧
    (relsOf pkg (String.ofList (sheetPartL k))).find? (fun (r : Rel) => r.id = str (rIdText (tblStart links num.isSome + j))) =
      some (relRec (tblStart links num.isSome + j) tTable (tblTarget t)) ∧
    resolveTarget (String.ofList (sheetPartL k)) (relRec (tblStart links num.isSome + j) tTable (tblTarget t)).target = String.ofList (tblPartL t) := by
  have hlt : j < ts.length := (List.getElem?_eq_some_iff.1 hj).1
  refine ⟨tablePartIds_get links _ _ j hlt, ?_, ?_⟩
  · rw [C02_tbl_sheet_rels_read pkg k links num ts hrel]
    obtain ⟨m, hm⟩ := restRecsT_ids (hlNext 1 links) num ts
    refine find_after_links links _ m hm (relRec (tblStart links num.isSome + j) tTable (tblTarget t)) ?_
    cases num with
    | none => exact List.mem_of_getElem? (tblRecs_get ts (hlNext 1 links) j t hj)
    | some vc => exact List.mem_cons_of_mem _ (List.mem_append_left _ (List.mem_of_getElem? (tblRecs_get ts (hlNext 1 links + 1) j t hj)))
  · simp only [relRec]
    exact resolve_from _ _ _ (resolve_tblTarget k t)

theorem tableNums_flatten (counts : List Nat) : ∀ c, (tableNums c counts).flatten = List.range' (c + 1) counts.sum := by
  induction counts with
  | nil => intro _; rfl
  | cons t r ih =>
    intro c
    simp only [tableNums, List.flatten_cons, List.sum_cons, ih (c + t)]
    rw [← List.range'_append_1]; congr 2; omega

/-- One counter over the whole package: sheet i gets `t_i` consecutive numbers, all sheets together get
    `1 … Σ t_i`, no number twice — whatever the mixture of sheets with and without tables. -/
theorem C02_tbl_numbers_distinct (counts : List Nat) :
    (tableNums 0 counts).map (·.length) = counts ∧ (tableNums 0 counts).flatten = List.range' 1 counts.sum ∧
    (tableNums 0 counts).flatten.Nodup := by
  have hl : ∀ (l : List Nat) c, (tableNums c l).map (·.length) = l := by
    intro l; induction l with
    | nil => intro _; rfl
    | cons a l ih => intro c; simp [tableNums, ih]
  refine ⟨hl counts 0, tableNums_flatten counts 0, ?_⟩
  rw [tableNums_flatten]; exact List.nodup_range' (step := 1)

example : tableNums 0 [2, 0, 1, 3] = [[1, 2], [], [3], [4, 5, 6]] := by decide

/-- The table parts of the package have pairwise different names. -/
theorem C02_tbl_part_names_distinct (counts : List Nat) : ((tableNums 0 counts).flatten.map tblPartL).Nodup :=
  nodup_map_inj _ tblPartL_inj _ (C02_tbl_numbers_distinct counts).2.2

/-- (Partial: on the pieces, not on a whole package.)  A sheet without tables has the relationships of the
    comments model, no `<tableParts>`, and the content-types tree without table Overrides is that of the comments model. -/
theorem C02_tbl_plain_same_partial (links : List LinkW) (num : Option (Nat × Nat)) (hasCmt : Bool) (n : Nat) (hs : Bool) (vs cs : List Nat) :
    restOfT links num [] = restOf links num ∧ tablePartsNodes links hasCmt 0 = [] ∧
    contentTypesNodeT n hs vs cs [] = contentTypesNodeC n hs vs cs := by
  refine ⟨?_, rfl, ?_⟩
  · cases num with
    | none => rfl
    | some vc => obtain ⟨v, c⟩ := vc; rfl
  · exact (contentTypesNodeC_eq n hs vs cs).symm

def demoTblLinks : List LinkW := [{ ref := ['A', '1'], location := false, url := ['h', ':', 'x'] }, { ref := ['B', '1'], location := true, url := ['S', '!', 'A', '1'] }]

def demoTblPkg : Package :=
  match relsRoot demoTblLinks (restOfT demoTblLinks (some (2, 2)) [3, 4]) with
  | some rr => [xmlPart (sheetRelsL 5) rr]
  | none => []

theorem demoTblPkg_hrel : (demoTblPkg.part? (relsNameOf (String.ofList (sheetPartL 5)))).bind (·.xml) =
    relsRoot demoTblLinks (restOfT demoTblLinks (some (2, 2)) [3, 4]) := by
  rw [relsName_sheet]; decide +kernel

example : (relsOf demoTblPkg (String.ofList (sheetPartL 5))).map (fun r => (r.id, r.target)) =
    [("rId1", "h:x"), ("rId2", "../drawings/vmlDrawing2.vml"), ("rId3", "../tables/table3.xml"), ("rId4", "../tables/table4.xml"), ("rId5", "../comments2.xml")] := by
  rw [C02_tbl_sheet_rels_read demoTblPkg 5 demoTblLinks (some (2, 2)) [3, 4] demoTblPkg_hrel]; decide +kernel

example : (tablePartIds demoTblLinks true 2).map String.ofList = ["rId3", "rId4"] := by decide +kernel

end Umya.Thm.C02
