/-
  C03 at sheet level and, part by part, at workbook level.

  Model: `Umya/Model/ReaderSheet.lean` (the `<sheetData>` loop with `last_row_num`, `last_col_num` and
  `formula_shared_list`; the shared-strings part; hyperlinks through the relationships; the `ref` texts of the merged
  ranges; the sheet list and the attributes of the defined names of the workbook part).  Spec: `Spec.Sml.decodeSheet` / `decode`.

  The sheet theorem `C03_sheet` holds for EVERY shared-formula translator `T` (both sides panic exactly where `T` does); its
  instances are the spec's translator (`C03_sheet_decoder`: no panic, the cells of `Spec.Sml.decodeSheet`) and the code's
  (`C03_sheet_code`).  NOT proved: that the two translators give the same TEXT for every master formula (they do not: known
  finding C03-shared-formula-blanks-dropped).  `C03_shared_formula_tokens` lifts `C03_shared_formula` from one reference to
  a token list (from `C09_translate_partial`); that the tokenizer cuts a text into that list is validated per file only
  (C09_identity_partial).
-/
import Umya.Lemmas.ReaderSheet
import Umya.Lemmas.ReaderBook
namespace Umya.Thm.C03
open Umya.Reader Umya.Reader.Lemmas Umya.Spec.Xml Umya.Spec.Sml

section Sheet

/-- only the master of a shared group carries `ref` (18.3.1.40): an `f t="shared"` has `ref` exactly when it
    has text.  (Not needed by the proof — neither side reads `ref` —; part of what the standard requires.) -/
def mastersCarryRef (rows : List Node) : Bool :=
  rows.all fun r => (r.kids "c").all fun c =>
    match c.kid? "f" with
    | some f =>
      if f.attr? "t".toList = some "shared".toList then (f.attr? "ref".toList).isSome = !f.ownText.isEmpty else true
    | none => true

/-- the valid `<sheetData>`, relative to the `si` elements `sis` of the shared-string table; `rows` are
    its `<row>` children:
    * every `<c>` is a `validCell` (`C03_cell`);
    * `validPositions` (`C03_positions`): `r` of rows / cells, when present, well-formed; the positions lie in
      the grid; nothing is asked about order;
    * `groupsOk`: shared groups are well-formed — walking the cells in document order, the first
      `f t="shared"` of an `si` carries the formula text (the master), every later one carries none (a child);
      hence each `si` has exactly one master, which precedes its children (ECMA-376 18.3.1.40; Excel's master
      is the top-left cell of the group);
    * `mastersCarryRef`. -/
def validSheetData (sis : List Node) (rows : List Node) : Bool :=
  rows.all (fun r => (r.kids "c").all (validCell sis)) && validPositions (sis.map rstText) rows &&
  groupsOk [] (specFilled (sis.map rstText) 0 rows) && mastersCarryRef rows

/-- For every shared-string table `sis`, every list `rows` of
    `<row>` elements with `validSheetData` — unbounded numbers of rows, cells and shared groups; rows and cells
    with and without `r`; children left of, above, right of or below their master — and every shared-formula
    translator `T`: the model of the reader's event loop (`readRows`: `Row::set_attributes`,
    `Cell::set_attributes`, `CellFormula::set_attributes` with `formula_shared_list` keyed by `si`, started with
    `last_row_num = 0` and an empty list) and the decoder's cell list (`specFilled` = `rowNumbers` + `decodeCell`
    + `fillRefs`, then `expandSharedT T` = `Spec.Sml.expandShared` with `T` as the translator) agree: both panic
    (only possible inside `T`) or both yield, in document order, the same
    (column, row, kind, value text, formula text, style index) for every cell (`outView` / `specView`; kinds
    through `shownKind` as in `C03_cell`). -/
theorem C03_sheet (T : Tr) (sis rows : List Node) (h : validSheetData sis rows = true) :
    (readRows T (sis.map (stringItem false)) 0 [] rows).map (·.map outView) =
      (expandSharedT T [] (specFilled (sis.map rstText) 0 rows)).map (·.map specView) := by
  simp only [validSheetData, validPositions, Bool.and_eq_true] at h
  obtain ⟨⟨⟨hc, ⟨hr, hcr⟩, hg⟩, hgr⟩, _⟩ := h
  exact rows_sheet T sis rows 0 [] hr hcr hg hc hgr

/-- With the spec's translator in the reader model, the model does not panic and
    the cells are exactly those of the decoder (`specSheetCells` = the `cells` field of `Spec.Sml.decodeSheet`,
    `C03_sheet_is_decodeSheet`). -/
theorem C03_sheet_decoder (sis rows : List Node) (h : validSheetData sis rows = true) :
    ∃ outs, readRows specTr (sis.map (stringItem false)) 0 [] rows = some outs ∧
      outs.map outView = (specSheetCells (sis.map rstText) rows).map specView := by
  have := C03_sheet specTr sis rows h
  rw [expandSharedT_spec] at this
  obtain ⟨_, hy⟩ | ⟨outs, cs, hx, hy, e⟩ := map_eq_map_cases this
  · cases hy
  · cases hy; exact ⟨outs, hx, e⟩

/-- `specSheetCells` is what `Spec.Sml.decodeSheet` returns as the cells of a worksheet part whose root is
    `root` (the `<row>` children of its `<sheetData>`), for any package, path, and style counts -/
theorem C03_sheet_is_decodeSheet (p : Package) (path : String) (sst : List Text) (nXf nDxf : Nat) (root : Node)
    (hp : (p.part? path).bind (·.xml) = some root) :
    (decodeSheet p path sst nXf nDxf).1.cells =
      specSheetCells sst (((root.kid? "sheetData").map (·.kids "row")).getD []) := by
  unfold decodeSheet
  simp only [hp, specSheetCells, specFilled_eq, List.flatMap_map]

/-- With the code's translator (`readSheetData`): whenever the model of the reader yields cells, the
    decoder's walk with the code's translator yields the same views; and the model panics only if that walk
    does (a tokenizer / translation panic on a master formula: `C09_no_panic` excludes it for every text the
    scanner `Spec.Clean` accepts). -/
theorem C03_sheet_code (sis rows : List Node) (h : validSheetData sis rows = true) :
    (readSheetData (sis.map (stringItem false)) rows).map (·.map outView) =
      (expandSharedT codeTr [] (specFilled (sis.map rstText) 0 rows)).map (·.map specView) :=
  C03_sheet codeTr sis rows h

/-- the shared-string table of the example: `<si><t>x</t></si>`, `<si/>`,
    `<si><r><t>a</t></r><r><t>b</t></r><rPh><t>y</t></rPh></si>` -/
def sheetSis : List Node :=
  [.elem ['s', 'i'] [] [.elem ['t'] [] [.text ['x']]],
   .elem ['s', 'i'] [] [],
   .elem ['s', 'i'] [] [.elem ['r'] [] [.elem ['t'] [] [.text ['a']]], .elem ['r'] [] [.elem ['t'] [] [.text ['b']]],
                        .elem ['r', 'P', 'h'] [] [.elem ['t'] [] [.text ['y']]]]]

def cE (attrs : List (String × String)) (kids : List Node) : Node :=
  .elem ['c'] (attrs.map fun a => ⟨a.1.toList, a.2.toList⟩) kids
def fE (attrs : List (String × String)) (text : String) : Node :=
  .elem ['f'] (attrs.map fun a => ⟨a.1.toList, a.2.toList⟩) (if text = "" then [] else [.text text.toList])
def vE (text : String) : Node := .elem ['v'] [] [.text text.toList]
def rowE (attrs : List (String × String)) (kids : List Node) : Node :=
  .elem ['r', 'o', 'w'] (attrs.map fun a => ⟨a.1.toList, a.2.toList⟩) kids

/-- the example sheet: two shared groups (`si` 0 with master C2 and children D2 — right — and B3, A3 — below
    left —; `si` 7 with master B3's neighbour C3 and a child in the row WITHOUT `r`), a row without `r`, cells
    without `r`, an inline string, a `<si/>` cell, a rich shared string:
    ```
    <row r="2"><c r="C2"><f t="shared" ref="A2:D3" si="0">A1+$B$1</f><v>1</v></c>
               <c><f t="shared" si="0"/><v>2</v></c></row>                              (D2)
    <row><c t="s"><f t="shared" si="0"/><v>1</v></c>                                     (A3, `<si/>`)
         <c t="inlineStr"><f t="shared" si="0"/><is><t>12</t></is></c>                   (B3)
         <c s="1" t="s"><f t="shared" ref="C3:C4" si="7">SUM(A$1:B2)</f><v>2</v></c></row>   (C3)
    <row><c r="C4"><f t="shared" si="7"/></c></row>                                      (row 4)
    ``` -/
def exampleSheet : List Node :=
  [rowE [("r", "2")]
     [cE [("r", "C2")] [fE [("t", "shared"), ("ref", "A2:D3"), ("si", "0")] "A1+$B$1", vE "1"],
      cE [] [fE [("t", "shared"), ("si", "0")] "", vE "2"]],
   rowE []
     [cE [("t", "s")] [fE [("t", "shared"), ("si", "0")] "", vE "1"],
      cE [("t", "inlineStr")] [fE [("t", "shared"), ("si", "0")] "", .elem ['i', 's'] [] [.elem ['t'] [] [.text ['1', '2']]]],
      cE [("s", "1"), ("t", "s")] [fE [("t", "shared"), ("ref", "C3:C4"), ("si", "7")] "SUM(A$1:B2)", vE "2"]],
   rowE [] [cE [("r", "C4")] [fE [("t", "shared"), ("si", "7")] ""]]]

/-- non-vacuity of `validSheetData` -/
theorem exampleSheet_valid : validSheetData sheetSis exampleSheet = true := by decide +kernel

/-- what the example means with the code's translator (`readSheetData`; the spec's translator is defined
    by well-founded recursion and does not evaluate in the kernel — `#eval` gives the same list): positions
    C2 D2 / A3 B3 C3 / C4; the children of group 0 right of the master (`B1+$B$1`) and, two of them, below left of it
    (`#REF!+$B$1` both: column A - 2, resp. A - 1, leaves the grid); the child of group 7 one row down (`SUM(A$1:B3)`); the `<si/>` cell has no
    value; the inline string `12` is text; the rich string is `ab` with style 1 -/
example :
    (readSheetData (sheetSis.map (stringItem false)) exampleSheet).map (·.map outView) =
      some [⟨3, 2, "n", ['1'], some "A1+$B$1".toList, 0⟩, ⟨4, 2, "n", ['2'], some "B1+$B$1".toList, 0⟩,
            ⟨1, 3, "", [], some "#REF!+$B$1".toList, 0⟩, ⟨2, 3, "s", ['1', '2'], some "#REF!+$B$1".toList, 0⟩,
            ⟨3, 3, "s", ['a', 'b'], some "SUM(A$1:B2)".toList, 1⟩, ⟨3, 4, "", [], some "SUM(A$1:B3)".toList, 0⟩] := by
  simp only [exampleSheet, rowE, cE, fE, vE, List.map_cons, List.map_nil, toList_lit]
  decide +kernel

end Sheet

section Tokens
open Umya.Formula Umya.Spec Umya.Thm.C09

/-- what the spec's shared-formula translator prints for a token of the list -/
def SpecTok.specText (dc dr : Int) : SpecTok → List Char
  | .other t _ => renderTok t
  | .ref r _ => Spec.SharedF.renderPiece dc dr (pieceOfRef r)

/-- For every token list made of arbitrary non-reference tokens and of the tokens of well-formed
    references, and every offset, `adjustment_formula_coordinate` does not panic and `render` of its result is
    the concatenation of what the spec's translator prints piece by piece (non-references unchanged, references
    by `Spec.trArea`, `#REF!` outside the grid).  NOT covered, so that
    `codeTr.tr m dc dr = some (Spec.SharedF.translateText m dc dr)` is not a theorem: `parse ('=' :: m)` is such a list whose pieces are
    `Spec.SharedF.pieces m` (tokenizer vs scanner; false in general — blanks are dropped, known finding
    C03-shared-formula-blanks-dropped —; validated per file by the oracle). -/
theorem C03_shared_formula_tokens (l : List SpecTok) (dc dr : Int) :
    ∃ toks', adjustFormulaCoordinate (l.map SpecTok.tok) dc dr = .ok toks' ∧
      render toks' = l.flatMap (SpecTok.specText dc dr) := by
  refine ⟨_, C09_translate_partial l dc dr, ?_⟩
  unfold render
  rw [List.flatMap_map]
  apply flatMap_congr_mem
  intro t _
  cases t with
  | other t h => rfl
  | ref r hw =>
    obtain ⟨t', h1, h2⟩ := C03_shared_formula r hw dc dr
    rw [C09_translate_ref r hw dc dr] at h1
    injection h1 with h1
    simp only [SpecTok.translated, SpecTok.specText, h1, h2]

/-- non-vacuity: `SUM(` `'It''s'!$B3:XFD$1048576` `)` -/
example : ∃ l : List SpecTok, l.length = 3 :=
  ⟨[.other ⟨"SUM".toList, .function, .start, .none⟩ (by decide), .ref exampleRef exampleRef_wf,
    .other ⟨[], .function, .stop, .none⟩ (by decide)], rfl⟩

end Tokens

section Sst

/-- every `<si>` of the table is a valid string item (`C03_string_item`; the part is read without trimming) -/
def validSst (sst : Node) : Bool := (sst.kids "si").all (validRst false)

/-- For every `<sst>` element whose items are valid string items —
    any number of them; `<si/>`, `<si><t/></si>`, plain `t`, rich runs, phonetic runs in any mixture — the table
    the library builds (`SharedStringTable::set_attributes`: one item per `<si>` child in document order, the
    empty-element form included, fix a64a0eb) holds at EVERY index the text the decoder assigns to the item at
    that index (`Spec.Sml.sharedStrings` = `rstText` per `<si>`; an item without text stands for the empty
    text), and nothing beyond the last index. -/
theorem C03_sst (sst : Node) (h : validSst sst = true) :
    (readSst sst).map (·.getD []) = (sst.kids "si").map rstText ∧
    ∀ i : Nat, ((readSst sst)[i]?).map (fun o => o.getD []) = ((sst.kids "si").map rstText)[i]? := by
  have h1 : (readSst sst).map (·.getD []) = (sst.kids "si").map rstText := by
    simp only [readSst, List.map_map]
    apply List.map_congr_left
    intro si hsi
    exact stringItem_valid false si (List.all_eq_true.mp h si hsi)
  refine ⟨h1, fun i => ?_⟩
  rw [← h1, List.getElem?_map]

/-- `(root.kids "si").map rstText` is what the decoder takes for the table of a package -/
theorem C03_sst_is_decoder (p : Package) (path : String) (root : Node) (hp : (p.part? path).bind (·.xml) = some root) :
    sharedStrings p path = (root.kids "si").map rstText := by
  unfold sharedStrings
  simp only [hp]

/-- `C03_sst` composed with the cells that index the table (`C03_cell_shared_string`): a `t="s"` cell whose `<v>` is a
    valid index into a valid table is read, against the table AS THE LIBRARY BUILT IT (`readSst`), with the
    value text and kind the decoder gives against its own table. -/
theorem C03_sst_cell (sst c : Node) (ht : c.attr? "t".toList = some "s".toList) (hv : (c.kids "v").length ≤ 1)
    (h : valueOk (sst.kids "si") c = true) :
    ∃ raw, rawOf (readSst sst) c = some raw ∧
      raw.text = (decodeCell ((sst.kids "si").map rstText) c).1.value ∧
      shownKind raw.kind raw.text =
        shownKind (decodeCell ((sst.kids "si").map rstText) c).1.kind (decodeCell ((sst.kids "si").map rstText) c).1.value :=
  C03_cell_shared_string (sst.kids "si") c ht hv h

/-- non-vacuity: `<sst><si><t>x</t></si><si/><si><t/></si><si><r><t>a</t></r><r><t> b</t></r><rPh><t>y</t></rPh></si></sst>`
    is valid and means `x`, (empty), (empty), `a b`; the cell `<c t="s"><v>3</v></c>` reads `a b` -/
def exampleSst : Node :=
  .elem ['s', 's', 't'] []
    [.elem ['s', 'i'] [] [.elem ['t'] [] [.text ['x']]], .elem ['s', 'i'] [] [], .elem ['s', 'i'] [] [.elem ['t'] [] []],
     .elem ['s', 'i'] [] [.elem ['r'] [] [.elem ['t'] [] [.text ['a']]], .elem ['r'] [] [.elem ['t'] [] [.text [' ', 'b']]],
                          .elem ['r', 'P', 'h'] [] [.elem ['t'] [] [.text ['y']]]]]

example : validSst exampleSst = true ∧
    (readSst exampleSst).map (·.getD []) = [['x'], [], [], ['a', ' ', 'b']] ∧
    (rawOf (readSst exampleSst) (.elem ['c'] [⟨['t'], ['s']⟩] [.elem ['v'] [] [.text ['3']]])).map (·.text) = some ['a', ' ', 'b'] := by
  decide +kernel

end Sst

section Links

/-- For every list of `<hyperlink>` elements with `validHyperlinks` (an external link's
    relationship exists and the link has no `location`; an internal link has `location`), any relationship
    list `rs` of the worksheet part as the library read it and the decoder's list `srels` naming the same ids
    and targets (`RelsAgree`; `C03_rels` gives it for every valid relationships part): the model of
    `get_hyperlink` (attribute lookup, `get_relationship_by_rid` = the first relationship with that id) does not
    panic and yields, link by link, the decoder's anchor, external/internal, target (the relationship's Target,
    resp. the `location`) and tooltip (`specLink` = the link of `decodeSheet`, `C03_hyperlinks_is_decodeSheet`).
    The attribute values are what `get_attribute` returns (`C03_attr`). -/
theorem C03_hyperlinks (rs : Option (List RelR)) (srels : List Rel) (hag : RelsAgree (rs.getD []) srels)
    (hs : List Node) (hv : validHyperlinks rs hs = true) :
    ∃ ls, readHyperlinks rs hs = some ls ∧ ls.map linkViewR = (hs.map (specLink srels)).map linkViewS := by
  rw [List.map_map]
  exact mapM_view (readHyperlink rs) linkViewR _ hs (hyperlink_agrees rs srels hag hs hv)

/-- For every relationships part whose `<Relationship>` elements carry `Id`, `Type`
    and `Target`, the list the library reads and the decoder's (`relsOf`) name the same ids and targets in the
    same order. -/
theorem C03_rels (root : Node) (h : validRels root = true) :
    ∃ rs, readRels root = some rs ∧ RelsAgree rs (specRels root) := readRels_spec root h

theorem C03_hyperlinks_is_decodeSheet (p : Package) (path : String) (sst : List Text) (nXf nDxf : Nat) (root : Node)
    (hp : (p.part? path).bind (·.xml) = some root) :
    (decodeSheet p path sst nXf nDxf).1.links =
      (((root.kid? "hyperlinks").map (·.kids "hyperlink")).getD []).map (specLink (relsOf p path)) := by
  unfold decodeSheet
  simp only [hp, List.map_map]
  apply List.map_congr_left
  intro h _
  simp only [Function.comp, specLink]
  cases h.attr? "r:id".toList with
  | none => rfl
  | some rid =>
    simp only []
    cases (relsOf p path).find? (fun (r : Rel) => r.id = str rid) <;> rfl

/-- The "no `location` next to `r:id`" clause of `validHyperlinks` is needed (known finding
    C03-hyperlink-location-with-rid): for `<hyperlink ref="A1" r:id="rId1" location="S!B2"/>` with
    `rId1 → http://x/` the library keeps the url `http://x/` with the flag "location" set (an internal link)
    and loses `S!B2`; the decoder says: external link to `http://x/`, location `S!B2`. -/
theorem C03_hyperlink_location_with_rid_fails :
    let h : Node := .elem "hyperlink".toList
      [⟨"ref".toList, "A1".toList⟩, ⟨"r:id".toList, "rId1".toList⟩, ⟨"location".toList, "S!B2".toList⟩] []
    let rs : List RelR := [⟨"rId1".toList, "t".toList, "http://x/".toList⟩]
    let srels : List Rel := [⟨"rId1", "t", "http://x/", true⟩]
    (readHyperlink (some rs) h).map linkViewR = some ⟨"A1".toList, false, "http://x/".toList, []⟩ ∧
    linkViewS (specLink srels h) = ⟨"A1".toList, true, "http://x/".toList, []⟩ ∧
    (specLink srels h).location = some "S!B2".toList := by
  decide +kernel

/-- non-vacuity: an external and an internal link -/
example :
    let hs : List Node :=
      [.elem "hyperlink".toList [⟨"ref".toList, "A1".toList⟩, ⟨"r:id".toList, "rId2".toList⟩, ⟨"tooltip".toList, "tip".toList⟩] [],
       .elem "hyperlink".toList [⟨"ref".toList, "B2".toList⟩, ⟨"location".toList, "'S 2'!A1".toList⟩] []]
    let rs : List RelR := [⟨"rId1".toList, "t".toList, "a".toList⟩, ⟨"rId2".toList, "t".toList, "http://x/?a=1&b=2".toList⟩]
    validHyperlinks (some rs) hs = true ∧
    (readHyperlinks (some rs) hs).map (·.map linkViewR) =
      some [⟨"A1".toList, true, "http://x/?a=1&b=2".toList, "tip".toList⟩, ⟨"B2".toList, false, "'S 2'!A1".toList, []⟩] := by
  decide +kernel

/-- The loop of `MergeCells::set_attributes` collects the `ref` of every
    `<mergeCell>` in document order (= the decoder's `merges`) and does not panic when each has one.  That `add_range`
    parses each text into a `Range` which `get_range` prints back is `C03_merges` (`Umya/Thm/C03Names.lean`). -/
theorem C03_merges_partial (ms : List Node) (h : ms.all (fun m => (m.attr? "ref".toList).isSome) = true) :
    readMerges ms = some (ms.filterMap (·.attr? "ref".toList)) := by
  obtain ⟨vs, hvs, hmap⟩ := mapM_view (fun m : Node => m.attr? "ref".toList) some (·.attr? "ref".toList) ms fun m hm =>
    (Option.isSome_iff_exists.mp (List.all_eq_true.mp h m hm)).imp fun _ hv => ⟨hv, hv.symm⟩
  rw [readMerges, hvs, filterMap_of_map_some _ ms vs hmap.symm]

theorem C03_merges_is_decodeSheet (p : Package) (path : String) (sst : List Text) (nXf nDxf : Nat) (root : Node)
    (hp : (p.part? path).bind (·.xml) = some root) :
    (decodeSheet p path sst nXf nDxf).1.merges =
      (((root.kid? "mergeCells").map (·.kids "mergeCell")).getD []).filterMap (·.attr? "ref".toList) := by
  unfold decodeSheet
  simp only [hp]

example : readMerges [.elem "mergeCell".toList [⟨"ref".toList, "A1:B2".toList⟩] [],
                      .elem "mergeCell".toList [⟨"ref".toList, "C3:XFD1048576".toList⟩] []] =
    some ["A1:B2".toList, "C3:XFD1048576".toList] := by decide +kernel

end Links

section Book

/-- every `<sheet>` carries `name`, `sheetId` and `r:id` (all required by CT_Sheet; the library unwraps them) -/
def validSheetList (sheets : List Node) : Bool :=
  sheets.all fun s => (s.attr? "name".toList).isSome && (s.attr? "sheetId".toList).isSome && (s.attr? "r:id".toList).isSome

theorem validSheetList_mem {sheets : List Node} (h : validSheetList sheets = true) {s : Node} (hs : s ∈ sheets) :
    ∃ n i r, s.attr? "name".toList = some n ∧ s.attr? "sheetId".toList = some i ∧ s.attr? "r:id".toList = some r := by
  have := List.all_eq_true.mp h s hs
  simp only [Bool.and_eq_true, Option.isSome_iff_exists] at this
  obtain ⟨⟨⟨n, hn⟩, ⟨i, hi⟩⟩, ⟨r, hr⟩⟩ := this
  exact ⟨n, i, r, hn, hi, hr⟩

/-- the `SheetR` the `b"sheet"` arm makes of a `<sheet>` element -/
def toSheetR (se : Node) : SheetR :=
  ⟨(se.attr? "name".toList).getD [], (se.attr? "sheetId".toList).getD [], (se.attr? "r:id".toList).getD [], se.attr? "state".toList⟩

theorem readSheetList_valid (sheets : List Node) (h : validSheetList sheets = true) :
    readSheetList sheets = some (sheets.map toSheetR) := by
  unfold readSheetList
  apply mapM_some
  intro s hs
  obtain ⟨n, i, r, hn, hi, hr⟩ := validSheetList_mem h hs
  simp only [toSheetR, hn, hi, hr, Option.getD_some]

/-- For every list of `<sheet>` elements with `validSheetList` the model of the `b"sheet"` arm
    of reader/xlsx/workbook.rs does not panic and yields, in document order, the decoder's names (the attribute
    values as `get_attribute` returns them: unescaped, `C03_attr`) and `state` attributes; and for every
    relationship list of the workbook part that agrees with the decoder's (`RelsAgree`, `C03_rels`), the FIRST
    relationship with a sheet's `r:id` has the same target in both lists.  The first is what the decoder selects; the
    library reads the sheet through the LAST (`sheetRel`: `C03_sheet_part_last`), which is the first where ids are unique
    (`C03_sheet_part`).
    That `join_paths("xl", target)` and the decoder's `resolveTarget` normalise that target to the same part name is
    `C03_sheet_paths` / `C03_sheet_part` (`Umya/Thm/C03Names.lean`). -/
theorem C03_sheet_list (sheets : List Node) (h : validSheetList sheets = true) :
    ∃ l, readSheetList sheets = some l ∧
      l.map (·.name) = sheets.map (fun s => (s.attr? "name".toList).getD []) ∧
      l.map (·.state) = sheets.map (fun s => s.attr? "state".toList) ∧
      l.map (fun s => some s.rid) = sheets.map (fun s => s.attr? "r:id".toList) ∧
      ∀ (rs : List RelR) (srels : List Rel), RelsAgree rs srels → ∀ s ∈ l,
        (srels.find? (fun r => r.id = str s.rid)).map (·.target) = (rs.find? (·.id = s.rid)).map (fun r => str r.target) := by
  refine ⟨sheets.map toSheetR, readSheetList_valid sheets h, ?_, ?_, ?_, ?_⟩
  · simp only [List.map_map]; rfl
  · simp only [List.map_map]; rfl
  · simp only [List.map_map]
    apply List.map_congr_left
    intro s hs
    obtain ⟨_, _, r, _, _, hr⟩ := validSheetList_mem h hs
    simp only [Function.comp, toSheetR, hr, Option.getD_some]
  · intro rs srels hag s _
    exact find_rel rs srels s.rid hag

example : validSheetList [.elem "sheet".toList [⟨"name".toList, "R&D".toList⟩, ⟨"sheetId".toList, "1".toList⟩,
    ⟨"r:id".toList, "rId7".toList⟩, ⟨"state".toList, "hidden".toList⟩] []] = true := by decide +kernel

/-- For every list of `<definedName>` elements with `validDefinedName`
    (`localSheetId` an unsigned decimal fitting `u32`; content character data without blanks at its ends) the model of
    `DefinedName::set_attributes` up to `set_address` does not panic and yields the decoder's name, scope and text, in
    document order.  What `set_address` / `get_address` make of the text is `C03_defined_names`, the re-homing of names
    to sheets in workbook.rs (`get_sheet_mut(localSheetId).unwrap()` panics for an id outside the sheet list)
    `C03_names_home` (both in `Umya/Thm/C03Names.lean`). -/
theorem C03_defined_names_partial (ds : List Node) (h : ds.all validDefinedName = true) :
    readDefinedNames ds = some (ds.map fun d => ⟨(specName d).name, (specName d).scope, (specName d).text⟩) := by
  unfold readDefinedNames
  apply mapM_some
  intro d hd
  exact definedName_agrees d (List.all_eq_true.mp h d hd)

example : validDefinedName (.elem "definedName".toList [⟨"name".toList, "n".toList⟩, ⟨"localSheetId".toList, "1".toList⟩]
    [.text "'R&D'!$A$1:$B$2".toList]) = true := by decide +kernel

end Book

end Umya.Thm.C03
