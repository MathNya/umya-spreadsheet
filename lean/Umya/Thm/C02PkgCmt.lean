/-
  C02, package level — workbooks whose sheets may carry COMMENTS.

  `Umya/Model/PackageNodeCmt.lean` extends the package model of `Umya/Model/PackageNode.lean` (n plain sheets) by what
  `make_buffer` adds for a sheet with comments: the VML part `xl/drawings/vmlDrawing{v}.vml` and the comments part
  `xl/comments{c}.xml`, numbered per family by `WriterManager`'s smallest-free-index loop in sheet order; the sheet's
  relationships part with the vmlDrawing and comments relationships AFTER the hyperlink ones (ids continuing the
  hyperlink counter); the `<legacyDrawing r:id>` child of the sheet carrying the id of the vmlDrawing relationship; the
  `vml` Default and one comments Override in `[Content_Types].xml`.  The theorems are the analogues of those of
  `Thm/C02Pkg.lean`, for every number of sheets with and without comments in any mixture.

  Comments are not part of the decoder's `BookV`; the theorems say their parts do not disturb anything.  The comments /
  VML TREES are those of `Umya/Model/AnnotComment.lean` (C06); here only their names, types, relationships, numbers.
  Hypotheses (`BookC.WF`, decidable per workbook but for `xfs`, which speaks of every reference): as `BookP.WF`, with the
  frame conditions on the WRITTEN frame (the one that contains `legacyDrawing`) and `ridsOk` on the opaque children only:
  the `r:id` of `legacyDrawing` is proved.
  Outside the model: custom properties, macros, ribbon, pivot caches, raw sheets, drawings, charts, images, OLE objects,
  printer settings, tables.
-/
import Umya.Lemmas.PackageNodeCmtDecode
import Umya.Thm.C02Pkg
namespace Umya.Thm.C02
open Umya.CellXml Umya.CellNode Umya.SheetNode Umya.WorkbookNode Umya.PackageNode Umya.Num
open Umya.Spec.Sml
open Umya.Spec.Xml (Node Attr)
open Umya.AnnotComment (Comment writeVml writeComments)

theorem writePackageC_anatomy (F : NumFmt) (b : BookC F.Num) (pkg : Package) (h : writePackageC F b = some pkg) :
    ∃ tbl roots cmt sst, renderSheetsP F [] (b.sheets.map (·.toP)) = some (tbl, roots) ∧ Built F b cmt tbl sst ∧
      pkg = (piecesC F b (!tbl.isEmpty) roots cmt sst).pkg := by
  unfold writePackageC at h
  split at h
  · cases h
  next tbl roots hr =>
    split at h
    · cases h
    next cmt hc =>
      obtain ⟨sst, hs, rfl⟩ := Option.map_eq_some_iff.1 h
      exact ⟨tbl, roots, cmt, sst, hr, ⟨hc, sstPartsP_shape tbl sst hs⟩, assembleC_pieces F b _ roots cmt sst⟩

theorem roots_length (F : NumFmt) (b : BookC F.Num) (tbl : Table) (roots : List Node)
    (hr : renderSheetsP F [] (b.sheets.map (·.toP)) = some (tbl, roots)) : roots.length = b.sheets.length := by
  rw [(renderSheetsP_nth F _ [] tbl roots hr).1, List.length_map]

/-- The smallest-free-index rule, run over the sheets in order, gives the sheet at position `i` a pair
    exactly when it has comments, and then the pair `(m + 1, m + 1)` where `m` is the number of earlier sheets with
    comments: every sheet with comments has its own VML part and its own comments part, whatever the mixture. -/
theorem C02_cmt_numbers_own_pair {N : Type} (ss : List (SheetC N)) (i : Nat) (s : SheetC N) (num : Option (Nat × Nat))
    (h : (annotate ss)[i]? = some (s, num)) :
    num = (if s.has then some (countTrue ((ss.take i).map (·.has)) + 1, countTrue ((ss.take i).map (·.has)) + 1) else none) ∧
    NumsDistinct (annotate ss) :=
  ⟨annotate_num ss i s num h, annotate_distinct ss⟩

/-- `add_file_at_vml_drawing` / `add_file_at_comment` (`index = 0; loop { index += 1; if !exists { return } }`),
    modelled on fuel, returns for EVERY set of registered numbers the smallest index ≥ 1 that is not registered:
    `used.length` tests suffice. -/
theorem C02_cmt_free_index_smallest (used : List Nat) :
    1 ≤ firstFree used ∧ firstFree used ∉ used ∧ ∀ j, 1 ≤ j → j < firstFree used → j ∈ used :=
  firstFree_spec used

example : firstFree [1, 2, 4] = 3 ∧ firstFree [2, 3] = 1 ∧ firstFree [] = 1 := by decide

theorem cmt_exts {F : NumFmt} {b : BookC F.Num} {cmt : List Part} {tbl : Table} {sst : List Part} (hb : Built F b cmt tbl sst) :
    ∀ p ∈ cmt, ∃ nm r, p = xmlPart nm r ∧ (extOfL nm = ['x', 'm', 'l'] ∨ (extOfL nm = ['v', 'm', 'l'] ∧ vmlNums (annotate b.sheets) ≠ [])) := by
  intro p hp
  obtain ⟨s, v, c, hm, rfl | ⟨root, _, rfl⟩⟩ := cmtParts_names _ _ hb.cmt p hp
  · exact ⟨_, _, rfl, Or.inr ⟨ext_vmlPart v, List.ne_nil_of_mem (mem_vmlNums s v c hm).1⟩⟩
  · exact ⟨_, _, rfl, Or.inl (ext_commentsPart c)⟩

/-- Every part of the package the model writes — any number of sheets, with and without comments,
    with or without a shared-string part — has a content type under the decoder's look-up (`Override` by part name,
    else `Default` by extension): the VML parts through `Default vml`, the comments parts through their Overrides. -/
theorem C02_cmt_content_types_cover (F : NumFmt) (b : BookC F.Num) (pkg : Package) (h : writePackageC F b = some pkg) :
    ∀ part ∈ pkg, part.name ≠ "[Content_Types].xml" → (contentTypeOf pkg part.name).isSome = true := by
  obtain ⟨tbl, roots, cmt, sst, hr, hb, rfl⟩ := writePackageC_anatomy F b pkg h
  exact Pieces.ct_cover (piecesC_ok hb _ roots) (contentTypesNodeC_eq _ _ _ _) (cmt_exts hb)

/-- … and which: the VML type for the VML part of every sheet with comments, the comments type for its comments part,
    the worksheet type for every `sheetK.xml`, the relationships type for every sheet relationships part -/
theorem C02_cmt_content_types_parts (F : NumFmt) (b : BookC F.Num) (pkg : Package) (h : writePackageC F b = some pkg)
    (k : Nat) (h1 : 1 ≤ k) (s : SheetC F.Num) (v c : Nat) (hk : (annotate b.sheets)[k - 1]? = some (s, some (v, c))) :
    contentTypeOf pkg (String.ofList (vmlPartL v)) = some (str ctVml) ∧
    contentTypeOf pkg (String.ofList (commentsPartL c)) = some (str ctComments) ∧
    contentTypeOf pkg (String.ofList (sheetPartL k)) = some (str sheetContentType) ∧
    contentTypeOf pkg (String.ofList (sheetRelsL k)) = some (str ctRels) := by
  obtain ⟨tbl, roots, cmt, sst, hr, hb, rfl⟩ := writePackageC_anatomy F b pkg h
  have hm := mem_vmlNums s v c (List.mem_of_getElem? hk)
  have hlt : k - 1 < b.sheets.length := by
    have := (List.getElem?_eq_some_iff.1 hk).1
    rwa [annotate_length] at this
  have hq := piecesC_ok hb (!tbl.isEmpty) roots
  have hct := contentTypesNodeC_eq b.sheets.length (!tbl.isEmpty) (vmlNums (annotate b.sheets)) (cmtNums (annotate b.sheets))
  exact ⟨Pieces.ct_vml hq hct v (List.ne_nil_of_mem hm.1), Pieces.ct_override hq hct _ _ (ov_comments c hm.2),
    Pieces.ct_override hq hct _ _ (ov_sheet k h1 (by show k < 1 + b.sheets.length; omega)), Pieces.ct_sheetRels hq hct k⟩

theorem mem_cmtRecs (k : Nat) (num : Option (Nat × Nat)) (r : Rel) (h : r ∈ cmtRecs k num) :
    ∃ v c, num = some (v, c) ∧ (r = relRec k tVml (vmlTarget v) ∨ r = relRec (k + 1) tComments (commentsTarget c)) := by
  cases num with
  | none => simp [cmtRecs] at h
  | some vc =>
    obtain ⟨v, c⟩ := vc
    simp only [cmtRecs, List.mem_cons, List.not_mem_nil, or_false] at h
    exact ⟨v, c, rfl, h⟩

theorem relsOK_pkgC {F : NumFmt} {b : BookC F.Num} {cmt : List Part} {tbl : Table} {sst : List Part} (hb : Built F b cmt tbl sst)
    (roots : List Node) (hlen : roots.length = b.sheets.length) :
    ∀ part ∈ (piecesC F b (!tbl.isEmpty) roots cmt sst).pkg, isRelsNameL part.name.toList = true →
      RelsOK (piecesC F b (!tbl.isEmpty) roots cmt sst).pkg (String.ofList (relsSourceL part.name.toList)) := by
  refine relsOK_pieces (piecesC F b _ roots cmt sst) tbl (piecesC_ok hb _ roots) rfl hlen ?_
  -- a sheet relationships part: after the hyperlink relationships, vmlDrawing and comments
  intro j links rest j1 hj
  obtain ⟨⟨s, num⟩, han, he⟩ := Option.map_eq_some_iff.1 (List.getElem?_map.symm.trans hj)
  cases he
  rw [restOf_recs]
  refine ⟨cmtRecs_ids _ num, fun r hr _ => ?_⟩
  obtain ⟨v, c, rfl, hr⟩ := mem_cmtRecs _ _ r hr
  obtain ⟨hpv, root, _, hpc⟩ := partC_own hb (!tbl.isEmpty) roots s v c (List.mem_of_getElem? han)
  rcases hr with rfl | rfl
  · exact target_present (resolve_vmlTarget j v) (Option.isSome_of_eq_some hpv)
  · exact target_present (resolve_commentsTarget j c) (Option.isSome_of_eq_some hpc)

/-- Every internal relationship of every relationships part of the model package
    (`_rels/.rels`, `xl/_rels/workbook.xml.rels`, every `xl/worksheets/_rels/sheetK.xml.rels` — whose internal
    relationships are the vmlDrawing and comments ones) resolves, by the decoder's `resolveTarget` on the concrete
    names relative to the source part, to a part that is in the package. -/
theorem C02_cmt_package_rels_resolve (F : NumFmt) (b : BookC F.Num) (pkg : Package) (h : writePackageC F b = some pkg) :
    ∀ part ∈ pkg, isRelsNameL part.name.toList = true →
      ∀ r ∈ relsOf pkg (String.ofList (relsSourceL part.name.toList)), r.external = false →
        (pkg.part? (resolveTarget (String.ofList (relsSourceL part.name.toList)) r.target)).isSome = true := by
  obtain ⟨tbl, roots, cmt, sst, hr, hb, rfl⟩ := writePackageC_anatomy F b pkg h
  exact fun part hp hrels => (relsOK_pkgC hb roots (roots_length F b tbl roots hr) part hp hrels).2

/-- For the K-th sheet, given the numbers `(v, c)`: its relationships, as the decoder
    reads them, are its hyperlink relationships followed by `rId{r}` vmlDrawing and `rId{r+1}` comments (r = the
    counter after the hyperlink loop); their targets resolve from the sheet part to `xl/drawings/vmlDrawing{v}.vml` and
    `xl/comments{c}.xml`; and these parts hold the VML tree and the comments tree of THIS sheet's comments. -/
theorem C02_cmt_sheet_rels_own_parts (F : NumFmt) (b : BookC F.Num) (pkg : Package) (h : writePackageC F b = some pkg)
    (k : Nat) (h1 : 1 ≤ k) (s : SheetC F.Num) (v c : Nat) (hk : (annotate b.sheets)[k - 1]? = some (s, some (v, c))) :
    relsOf pkg (String.ofList (sheetPartL k)) =
      relRecs 1 s.sheet.links ++ [relRec (hlNext 1 s.sheet.links) tVml (vmlTarget v), relRec (hlNext 1 s.sheet.links + 1) tComments (commentsTarget c)] ∧
    resolveTarget (String.ofList (sheetPartL k)) (str (vmlTarget v)) = String.ofList (vmlPartL v) ∧
    resolveTarget (String.ofList (sheetPartL k)) (str (commentsTarget c)) = String.ofList (commentsPartL c) ∧
    pkg.part? (String.ofList (vmlPartL v)) = some (xmlPart (vmlPartL v) (writeVml s.comments)) ∧
    ∃ root, writeComments s.authors s.comments = some root ∧
      pkg.part? (String.ofList (commentsPartL c)) = some (xmlPart (commentsPartL c) root) := by
  obtain ⟨tbl, roots, cmt, sst, hr, hb, rfl⟩ := writePackageC_anatomy F b pkg h
  exact ⟨relsOfC_sheet hb _ roots k h1 s _ hk, resolve_from _ _ _ (resolve_vmlTarget k v), resolve_from _ _ _ (resolve_commentsTarget k c),
    partC_own hb _ roots s v c (List.mem_of_getElem? hk)⟩

/-- Within every relationships part of the model package the ids are pairwise different. -/
theorem C02_cmt_rel_ids_unique (F : NumFmt) (b : BookC F.Num) (pkg : Package) (h : writePackageC F b = some pkg) :
    ∀ part ∈ pkg, isRelsNameL part.name.toList = true →
      ((relsOf pkg (String.ofList (relsSourceL part.name.toList))).map (·.id)).eraseDups.length =
        ((relsOf pkg (String.ofList (relsSourceL part.name.toList))).map (·.id)).length := by
  obtain ⟨tbl, roots, cmt, sst, hr, hb, rfl⟩ := writePackageC_anatomy F b pkg h
  exact fun part hp hrels => (relsOK_pkgC hb roots (roots_length F b tbl roots hr) part hp hrels).1

/-- In the K-th sheet part of a sheet with comments the `<legacyDrawing>` child the model writes
    carries `r:id = rId{r}`; the relationship the decoder finds under that id in the sheet's relationships part is the
    vmlDrawing one (no hyperlink relationship has that id: the two counters agree), and its target, resolved from the
    sheet part, is the sheet's own VML part, which is in the package. -/
theorem C02_cmt_legacy_drawing_resolves (F : NumFmt) (b : BookC F.Num) (pkg : Package) (h : writePackageC F b = some pkg)
    (k : Nat) (h1 : 1 ≤ k) (s : SheetC F.Num) (v c : Nat) (hk : (annotate b.sheets)[k - 1]? = some (s, some (v, c))) :
    ∃ root, (pkg.part? (String.ofList (sheetPartL k))).bind (·.xml) = some root ∧
      legacyEl (hlNext 1 s.sheet.links) ∈ root.children ∧
      (legacyEl (hlNext 1 s.sheet.links)).attr? ['r', ':', 'i', 'd'] = some (rIdText (hlNext 1 s.sheet.links)) ∧
      (relsOf pkg (String.ofList (sheetPartL k))).find? (fun (r : Rel) => r.id = str (rIdText (hlNext 1 s.sheet.links))) =
        some (relRec (hlNext 1 s.sheet.links) tVml (vmlTarget v)) ∧
      pkg.part? (resolveTarget (String.ofList (sheetPartL k)) (relRec (hlNext 1 s.sheet.links) tVml (vmlTarget v)).target) =
        some (xmlPart (vmlPartL v) (writeVml s.comments)) := by
  obtain ⟨tbl, roots, cmt, sst, hr, hb, rfl⟩ := writePackageC_anatomy F b pkg h
  obtain ⟨_, _, hnth⟩ := renderSheetsP_nth F _ [] tbl roots hr
  have hs := annotate_fst _ _ hk
  obtain ⟨t0, t1, root, hroot, hrend, _⟩ := hnth (k - 1) s.toP (by rw [List.getElem?_map, hs]; rfl)
  have hhas : s.has = true := by
    have := annotate_isSome _ _ _ _ hk
    simpa using this.symm
  refine ⟨root, by rw [Pieces.part_sheet k h1 root hroot]; rfl, ?_, legacy_attr _, ?_, ?_⟩
  · apply renderSheet_post_children F hrend
    show legacyEl (hlNext 1 s.sheet.links) ∈ s.frame.post ++ s.legacy ++ s.postB
    simp [SheetC.legacy, hhas]
  · rw [relsOfC_sheet hb _ roots k h1 s _ hk]
    exact find_after_links s.sheet.links (cmtRecs _ (some (v, c))) 2 rfl _ List.mem_cons_self
  · simp only [relRec]
    rw [resolve_from _ _ _ (resolve_vmlTarget k v)]
    exact (partC_own hb _ roots s v c (List.mem_of_getElem? hk)).1

/-- The relationships a sheet with comments adds come AFTER the hyperlink ones: the decoder
    reads the hyperlink relationships first, with the ids and targets they have in a plain sheet. -/
theorem C02_cmt_hyperlinks_unchanged (F : NumFmt) (b : BookC F.Num) (pkg : Package) (h : writePackageC F b = some pkg)
    (k : Nat) (h1 : 1 ≤ k) (s : SheetC F.Num) (num : Option (Nat × Nat)) (hk : (annotate b.sheets)[k - 1]? = some (s, num)) :
    ∃ more, relsOf pkg (String.ofList (sheetPartL k)) = relRecs 1 s.sheet.links ++ more ∧ (num = none → more = []) := by
  obtain ⟨tbl, roots, cmt, sst, hr, hb, rfl⟩ := writePackageC_anatomy F b pkg h
  exact ⟨_, relsOfC_sheet hb _ roots k h1 s num hk, fun e => by rw [e]; rfl⟩

/-- the workbooks the theorems are about (all conditions but `xfs` decidable for a given workbook): `BookP.WF` with the frame
    conditions on the written frame and `ridsOk` only on the opaque children -/
structure _root_.Umya.PackageNode.BookC.WF {F : NumFmt} (b : BookC F.Num) : Prop where
  sheetsWF : ∀ s ∈ b.sheets, s.sheet.WF
  frames : ∀ s ∈ b.sheets, s.frameW.ok = true ∧ s.frameW.colsOk (nXfOf b.styles) = true ∧ s.frameW.dxfOk (nDxfOf b.styles) = true ∧
    s.frameU.ridsOk (relIds (relWalk 1 s.sheet.links)) = true
  xfs : 0 < nXfOf b.styles ∧ ∀ s ∈ b.sheets, ∀ ref, s.xf ref < nXfOf b.styles
  wbFrame : b.wbFrame.ok = true
  names : namesDistinct (b.sheets.map (·.entry)) = true
  scopes : ∀ d ∈ b.names, ∀ i, d.localSheetId = some i → i < b.sheets.length
  active : b.sheets = [] ∨ b.wbFrame.active < b.sheets.length

/-- On the package the model writes for a well-formed workbook whose sheets may carry comments (`BookC.WF`) the
    independent reader returns the workbook: the sheet list in order — name, visibility, and for the
    K-th sheet exactly its non-blank cells, merged ranges, hyperlinks (each on its own cell with its own target: the
    relationships the comments add do not disturb the pairing), row table —, the defined names and the active tab.
    Comments are not part of what this decoder returns. -/
theorem C02_cmt_book_decodes (F : NumFmt) (b : BookC F.Num) (hwf : b.WF) (pkg : Package) (h : writePackageC F b = some pkg) :
    ∃ bk : BookV, decode pkg = (some bk, []) ∧
      bk.sheets = sheetVs (bodyOf b.toP) 1 (b.sheets.map (·.entry)) ∧ bk.names = b.names.map nameView ∧ bk.active = b.wbFrame.active := by
  have hct := C02_cmt_content_types_cover F b pkg h
  obtain ⟨tbl, roots, cmt, sst, hr, hb, rfl⟩ := writePackageC_anatomy F b pkg h
  have e : b.toP.sheets.map (·.entry) = b.sheets.map (·.entry) := by
    show List.map _ (List.map _ _) = _; rw [List.map_map]; rfl
  have el : b.toP.sheets.length = b.sheets.length := List.length_map _
  let rest : Nat → List Node := fun i => match (annotate b.sheets)[i]? with
    | some (s, num) => restOf s.sheet.links num
    | none => []
  have hget : ∀ (i : Nat) (s : SheetP F.Num), b.toP.sheets[i]? = some s → ∃ c num, (annotate b.sheets)[i]? = some (c, num) ∧ s = c.toP ∧ c ∈ b.sheets := by
    intro i s hs
    have hs' : (b.sheets.map (·.toP))[i]? = some s := hs
    rw [List.getElem?_map] at hs'
    obtain ⟨c, hc, rfl⟩ := Option.map_eq_some_iff.1 hs'
    obtain ⟨num, han⟩ := annotate_get b.sheets i c hc
    exact ⟨c, num, han, rfl, List.mem_of_getElem? hc⟩
  have := decode_pieces F b.toP (piecesC F b (!tbl.isEmpty) roots cmt sst) tbl (piecesC_ok hb _ roots) hr rfl el.symm
    (by rw [e]; rfl) rfl rest
    (by
      intro i s hs
      obtain ⟨c, num, han, rfl, _⟩ := hget i s hs
      show (relsInput _)[i]? = _
      rw [relsInput, List.getElem?_map, han]
      simp only [rest, han]; rfl)
    (List.forall_mem_map.2 hwf.sheetsWF)
    (by
      intro i s hs
      obtain ⟨c, num, han, rfl, hc⟩ := hget i s hs
      obtain ⟨f1, f2, f3, f4⟩ := hwf.frames c hc
      refine ⟨f1, f2, f3, ?_⟩
      simp only [rest, han]
      exact frameW_ridsOk c num (annotate_isSome _ _ _ _ han) f4)
    ⟨hwf.xfs.1, List.forall_mem_map.2 hwf.xfs.2⟩
    hwf.wbFrame (by rw [e]; exact hwf.names) (by rw [el]; exact hwf.scopes)
    (by rw [el]; exact hwf.active.imp (fun h => by show List.map _ _ = []; rw [h]; rfl) id)
    hct (relsOK_pkgC hb roots (roots_length F b tbl roots hr))
  rw [e] at this; exact this

/-- … and reports nothing.  On the package the model writes for a well-formed workbook whose sheets may carry comments
    (`BookC.WF`) the independent reader reports NOTHING: every part — the VML and comments parts included — has a
    content type and is a parsed tree, relationship ids are unique, every relationship target exists, sheet names
    and sheetIds are unique, every `r:id` of every sheet (hyperlinks, `legacyDrawing`) resolves, every sheet body is
    in order and in range with all indexes inside their tables, `legacyDrawing` stands at its schema position. -/
theorem C02_cmt_package_no_diagnostics (F : NumFmt) (b : BookC F.Num) (hwf : b.WF) (pkg : Package) (h : writePackageC F b = some pkg) :
    (decode pkg).2 = [] := by
  obtain ⟨bk, hd, _⟩ := C02_cmt_book_decodes F b hwf pkg h
  rw [hd]

/-- what the K-th sheet means does not mention its comments, nor `legacyDrawing` -/
theorem bodyOf_toP {F : NumFmt} (b : BookC F.Num) (k : Nat) (s : SheetC F.Num) (h : b.sheets[k - 1]? = some s) :
    bodyOf b.toP k = { cells := cellViews F s.xf s.sheet.cells, merges := s.sheet.merges, links := s.sheet.links.map linkView,
                       cols := colVsOf s.frame.colNodes, rows := s.sheet.rows.map rowView, tables := [], noR := false } := by
  simp only [bodyOf, BookC.toP, List.getElem?_map, h, Option.map_some, SheetC.toP]
  rfl

theorem cmtPartsC_some {N : Type} : ∀ (an : List (SheetC N × Option (Nat × Nat))),
    (∀ p ∈ an, (writeComments p.1.authors p.1.comments).isSome = true) → ∃ cmt, cmtPartsC an = some cmt := by
  intro an
  induction an with
  | nil => intro _; exact ⟨[], rfl⟩
  | cons a an ih =>
    intro h
    obtain ⟨s, num⟩ := a
    obtain ⟨ps, hps⟩ := ih (fun p hp => h p (List.mem_cons_of_mem _ hp))
    cases num with
    | none => exact ⟨ps, by simp only [cmtPartsC]; exact hps⟩
    | some vc =>
      obtain ⟨v, c⟩ := vc
      obtain ⟨root, hroot⟩ := Option.isSome_iff_exists.1 (h (s, some (v, c)) List.mem_cons_self)
      have hroot' : writeComments s.authors s.comments = some root := hroot
      exact ⟨xmlPart (vmlPartL v) (writeVml s.comments) :: xmlPart (commentsPartL c) root :: ps, by simp only [cmtPartsC, hroot', hps]⟩

/-- the model of `make_buffer` does not panic on cells with a column ≥ 1 and comments whose coordinates print -/
theorem C02_cmt_package_written (F : NumFmt) (b : BookC F.Num) (hc : ∀ s ∈ b.sheets, ∀ c ∈ s.sheet.cells, 1 ≤ c.col)
    (hm : ∀ s ∈ b.sheets, (writeComments s.authors s.comments).isSome = true) :
    ∃ pkg, writePackageC F b = some pkg := by
  obtain ⟨t, roots, hr⟩ := renderSheetsP_some F (b.sheets.map (·.toP)) (List.forall_mem_map.2 hc) []
  obtain ⟨cmt, hcmt⟩ := cmtPartsC_some (annotate b.sheets) (by
    intro p hp
    exact hm p.1 (List.of_mem_zip hp).1)
  obtain ⟨sst, hs⟩ := sstPartsP_some t
  exact ⟨_, by rw [writePackageC, hr]; simp only [hcmt, hs]; rfl⟩

theorem annotate_plain {N : Type} (ss : List (SheetC N)) (h : ∀ s ∈ ss, s.has = false) : annotate ss = ss.map (fun s => (s, none)) := by
  apply List.ext_getElem?
  intro i
  rw [List.getElem?_map]
  cases hi : (annotate ss)[i]? with
  | none =>
    rw [List.getElem?_eq_none_iff, annotate_length] at hi
    rw [List.getElem?_eq_none hi]; rfl
  | some p =>
    obtain ⟨s, num⟩ := p
    have hs := annotate_fst ss i hi
    rw [hs, annotate_num ss i s num hi, h s (List.mem_of_getElem? hs)]
    rfl

theorem cmtPartsC_plain {N : Type} (ss : List (SheetC N)) : cmtPartsC (ss.map (fun s => (s, (none : Option (Nat × Nat))))) = some [] := by
  induction ss with
  | nil => rfl
  | cons s ss ih => simp only [List.map_cons, cmtPartsC, ih]

theorem relsPartsG_plain (F : NumFmt) (ss : List (SheetC F.Num)) (k : Nat) :
    relsPartsG k (relsInput (ss.map (fun s => (s, (none : Option (Nat × Nat)))))) = sheetRelsParts F k (ss.map (·.toP)) := by
  rw [sheetRelsParts_eq, relsInput, List.map_map, List.map_map]; rfl

theorem nums_plain {N : Type} (ss : List (SheetC N)) :
    vmlNums (ss.map (fun s => (s, (none : Option (Nat × Nat))))) = [] ∧ cmtNums (ss.map (fun s => (s, (none : Option (Nat × Nat))))) = [] := by
  unfold vmlNums cmtNums
  induction ss with
  | nil => exact ⟨rfl, rfl⟩
  | cons s ss ih => simp only [List.map_cons, List.filterMap_cons, Option.map_none, ih.1, ih.2, and_self]

/-- For a workbook none of whose sheets has a comment the model of this file writes exactly
    the package of the plain model (`writePackage` on the same sheets): the extension is conservative. -/
theorem C02_cmt_plain_same (F : NumFmt) (b : BookC F.Num) (h : ∀ s ∈ b.sheets, s.comments = []) :
    writePackageC F b = writePackage F b.toP := by
  have hh : ∀ s ∈ b.sheets, s.has = false := by
    intro s hs; simp [SheetC.has, h s hs]
  have han := annotate_plain b.sheets hh
  unfold writePackageC writePackage
  have e0 : b.toP.sheets = b.sheets.map (·.toP) := rfl
  rw [e0]
  cases hr : renderSheetsP F [] (b.sheets.map (·.toP)) with
  | none => rfl
  | some q =>
    obtain ⟨tbl, roots⟩ := q
    simp only [han, cmtPartsC_plain]
    congr 1
    funext sst
    simp only [assembleC, assemble, han, relsPartsG_plain, (nums_plain _).1, (nums_plain _).2, contentTypesNodeC_eq, contentTypesNode_eq, List.append_nil,
      BookC.toP, List.length_map, List.map_map]
    rfl

-- non-vacuity: comments on a sheet without links and on one with links, a sheet without comments between them, opaque
-- children before and after `legacyDrawing`
def demoCmtBook : BookC demoFS.Num :=
  { sheets := [{ entry := { name := ['R', '&', 'D'] }, sheet := { rows := [{ num := 3 }], cells := [{ col := 2, row := 3, raw := .str ['x'] }] },
                 comments := [{ cell := { col := 2, row := 3 }, author := ['m', 'e'], text := Umya.AnnotComment.CommentText.plain ['h', 'i'] }],
                 authors := [['m', 'e']] },
               { entry := { name := ['I', 't', '\'', 's'], state := some ['h', 'i', 'd', 'd', 'e', 'n'] }, sheet := {} },
               { entry := { name := ['A', '1'] }, sheet := demoSheet, xf := fun _ => 2,
                 frame := { post := [.elem ['p', 'a', 'g', 'e', 'M', 'a', 'r', 'g', 'i', 'n', 's'] [] []] },
                 postB := [.elem ['e', 'x', 't', 'L', 's', 't'] [] []],
                 comments := [{ cell := { col := 1, row := 1 }, author := ['a'], text := Umya.AnnotComment.CommentText.plain ['<', '&'] },
                              { cell := { col := 16384, row := 7 }, author := ['b'], text := [] }],
                 authors := [['b'], ['a']] }],
    names := demoNames, wbFrame := demoPkgWbFrame,
    app := .elem ['P', 'r', 'o', 'p', 'e', 'r', 't', 'i', 'e', 's'] [] [], core := .elem ['c', 'p', ':', 'c', 'o', 'r', 'e'] [] [],
    theme := .elem ['a', ':', 't', 'h', 'e', 'm', 'e'] [] [], styles := demoPkgStyles }

/-- sheets 1 and 3 get the pairs (1, 1) and (2, 2), sheet 2 nothing; the third sheet's `legacyDrawing` is `rId4` -/
example : (annotate demoCmtBook.sheets).map (·.2) = [some (1, 1), none, some (2, 2)] ∧
    demoCmtBook.sheets.map (fun s => s.legacy.map (fun k => k.attr? ['r', ':', 'i', 'd'])) =
      [[some ['r', 'I', 'd', '1']], [], [some ['r', 'I', 'd', '4']]] := by
  decide +kernel

theorem demoCmtBook_wf : demoCmtBook.WF where
  sheetsWF := by
    intro s hs
    simp only [demoCmtBook, List.mem_cons, List.not_mem_nil, or_false] at hs
    rcases hs with rfl | rfl | rfl
    · exact ⟨by decide, by decide, by decide, by decide, by decide⟩
    · exact ⟨by decide, by decide, by decide, by decide, by decide⟩
    · exact demoSheet_wf
  frames := by decide +kernel
  xfs := by
    rw [show nXfOf demoCmtBook.styles = 3 from demoPkgBook_nXf.1]
    refine ⟨by omega, ?_⟩
    intro s hs
    simp only [demoCmtBook, List.mem_cons, List.not_mem_nil, or_false] at hs
    rcases hs with rfl | rfl | rfl <;> intro ref <;> simp
  wbFrame := by decide
  names := namesDistinct_of_nodup _ (by decide)
  scopes := by decide
  active := Or.inr (by decide)

example : ∃ pkg, writePackageC demoFS demoCmtBook = some pkg ∧ (decode pkg).2 = [] := by
  obtain ⟨pkg, h⟩ := C02_cmt_package_written demoFS demoCmtBook (by decide) (by decide)
  exact ⟨pkg, h, C02_cmt_package_no_diagnostics demoFS demoCmtBook demoCmtBook_wf pkg h⟩

/-- what the decoder must return on it is not trivial -/
example : (sheetVs (bodyOf demoCmtBook.toP) 1 (demoCmtBook.sheets.map (·.entry))).map (fun v => (String.ofList v.name, v.state, v.cells.length, v.merges.length, v.links.length)) =
    [("R&D", "visible", 1, 0, 0), ("It's", "hidden", 0, 0, 0), ("A1", "visible", 4, 2, 4)] := by
  decide +kernel

/-- the skeleton of the model package for these sheets: 18 parts (two VML parts, two comments parts, two sheet relationship parts, a shared-string part) -/
example : (skeletonC (demoCmtBook.sheets.map (·.sheet.links)) (demoCmtBook.sheets.map (·.has)) true).map (fun p => String.ofList p.name) =
    ["docProps/app.xml", "docProps/core.xml", "_rels/.rels", "xl/theme/theme1.xml",
     "xl/worksheets/sheet1.xml", "xl/worksheets/sheet2.xml", "xl/worksheets/sheet3.xml",
     "xl/drawings/vmlDrawing1.vml", "xl/comments1.xml", "xl/drawings/vmlDrawing2.vml", "xl/comments2.xml",
     "xl/worksheets/_rels/sheet1.xml.rels", "xl/worksheets/_rels/sheet3.xml.rels",
     "xl/sharedStrings.xml", "xl/styles.xml", "xl/workbook.xml", "xl/_rels/workbook.xml.rels", "[Content_Types].xml"] := by
  decide +kernel

/-- `C02_cmt_plain_same` applies to `demoCmtBook` with the comments removed -/
example : ∃ b : BookC demoFS.Num, b.toP.sheets.length = 3 ∧ (∀ s ∈ b.sheets, s.comments = []) ∧ writePackageC demoFS b = writePackage demoFS b.toP :=
  ⟨{ demoCmtBook with sheets := demoCmtBook.sheets.map (fun s => { s with comments := [] }) }, by decide, by decide,
   C02_cmt_plain_same _ _ (by decide)⟩

end Umya.Thm.C02
