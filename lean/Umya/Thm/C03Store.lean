/-
  C03, the cell store.  The reader fills the store with `Cells::set_fast` = `HashMap::insert`
  per cell in document order (model `Umya/Model/CellStore.lean`), so a look-up answers with the LAST cell of the document
  at that position, and `validSheetData` allows positions to repeat: the sheet theorems are therefore restated on stores,
  as equality of maps, for one sheet and for the whole workbook (`C03_book_any`: defined names in any canonical spelling).
-/
import Umya.Model.CellStore
import Umya.Thm.C03Names
namespace Umya.Thm.C03
open Umya.Spec.Xml Umya.Spec.Sml Umya.Reader Umya.Reader.Lemmas Umya.Coord
open Umya.Annot (canonText nameTextAnyB)

section Store

private theorem get?_insert {α : Type} (s : Store α) (k k' : Pos) (v : α) :
    (s.insert k v).get? k' = if k == k' then some v else s.get? k' := by
  unfold Store.insert Store.get?
  by_cases h : k = k'
  · subst h; simp
  · have hb : (k == k') = false := by simpa using h
    simp only [List.find?_cons, hb, List.find?_filter]
    congr 2
    funext e
    by_cases he : e.1 = k'
    · subst he; simpa using Ne.symm h
    · simp [he]

private theorem fold_get? {α : Type} (key : α → Pos) (k : Pos) : ∀ (cells : List α) (s0 : Store α),
    (cells.foldl (fun s c => s.insert (key c) c) s0).get? k =
      match lastAt key cells k with
      | some x => some x
      | none => s0.get? k := by
  intro cells
  induction cells with
  | nil => intro s0; rfl
  | cons c rest ih =>
    intro s0
    simp only [List.foldl_cons, ih, lastAt]
    cases lastAt key rest k with
    | some x => rfl
    | none =>
      simp only [get?_insert]
      cases key c == k <;> rfl

/-- For every list of cells (any length, positions repeated or not) the store that
    `cells.set_fast(cell)` fills cell by cell answers `get((row, col))` with the LAST cell of the list at that position,
    and with nothing when there is none. -/
theorem C03_store_last_wins {α : Type} (key : α → Pos) (cells : List α) (k : Pos) :
    (fillStore key cells).get? k = lastAt key cells k := by
  unfold fillStore
  rw [fold_get? key k cells []]
  cases lastAt key cells k <;> rfl

/-- `lastAt` is what its name says: the last element of the sub-list of cells at position `k` -/
theorem C03_last_at_meaning {α : Type} (key : α → Pos) (cells : List α) (k : Pos) :
    lastAt key cells k = (cells.filter (fun c => key c == k)).getLast? := by
  induction cells with
  | nil => rfl
  | cons c rest ih =>
    simp only [lastAt, ih, List.filter_cons]
    cases hk : key c == k with
    | true =>
      simp only [if_true, List.getLast?_cons]
      cases (rest.filter (fun c => key c == k)).getLast? <;> rfl
    | false =>
      simp only [Bool.false_eq_true, if_false]
      cases (rest.filter (fun c => key c == k)).getLast? <;> rfl

private theorem insert_keys {α : Type} (s : Store α) (k : Pos) (v : α)
    (h : (s.map (·.1)).Nodup) : (((s.insert k v)).map (·.1)).Nodup := by
  unfold Store.insert
  simp only [List.map_cons, List.nodup_cons]
  refine ⟨?_, ?_⟩
  · intro hm
    obtain ⟨e, he, hek⟩ := List.mem_map.mp hm
    have := (List.mem_filter.mp he).2
    simp [hek] at this
  · exact (List.filter_sublist.map _).nodup h

/-- The store is a map: whatever the cells, no position occurs twice among its entries -/
theorem C03_store_is_map {α : Type} (key : α → Pos) (cells : List α) :
    ((fillStore key cells).map (·.1)).Nodup :=
  List.foldlRecOn (motive := fun s : Store α => (s.map (·.1)).Nodup) cells _ (b := []) List.nodup_nil
    fun s hs c _ => insert_keys s (key c) c hs

/-- the position of a compared cell (`View`) -/
def viewKey (v : View) : Pos := (v.row, v.col)

/-- the position the decoder gives a cell: row and column of its reference -/
def specKey (v : CellV) : Pos := (rowOf v.ref, colOf v.ref)

private theorem lastAt_map {α β : Type} (f : α → β) (kv : β → Pos) (k : Pos) (l : List α) :
    (lastAt (fun a => kv (f a)) l k).map f = lastAt kv (l.map f) k := by
  rw [C03_last_at_meaning, C03_last_at_meaning, List.filter_map, List.getLast?_map]; rfl

-- `outKey o` is `viewKey (outView o)` and `specKey v` is `viewKey (specView v)` by `rfl`: both look-ups are `lastAt viewKey` of the views
theorem store_views_agree (outs : List CellOut) (cs : List CellV) (h : outs.map outView = cs.map specView) (k : Pos) :
    ((fillStore outKey outs).get? k).map outView = ((fillStore specKey cs).get? k).map specView := by
  rw [C03_store_last_wins, C03_store_last_wins]
  have h1 := lastAt_map outView viewKey k outs
  have h2 := lastAt_map specView viewKey k cs
  rw [h] at h1
  exact h1.trans h2.symm

/-- For every shared-string table, every list of `<row>` elements with
    `validSheetData` and every shared-formula translator `T`, and for EVERY position `k = (row, column)`:
    the store the reader model fills (`readRows`, then `cells.set_fast` for each cell in document order) and the store
    filled the same way from the decoder's cell list both answer a look-up at `k` with the LAST cell of the document at
    `k` (`C03_store_last_wins`), and the two answers show the same (column, row, kind, value text, formula text, style
    index) — or both stores have nothing there; both sides panic together (only inside `T`).
    `validSheetData` ALLOWS a position to occur more than once (`validPositions` asks each `r` to be well formed and
    inside the grid, nothing about order or repetition; the example below has A1 three times): the earlier cells at a
    position are overwritten on both sides.  ECMA-376 does not say which of two `<c>` with the same `r` counts (the
    schema does not exclude them): "the last" is the library's rule, applied here to the decoder's document-order list
    as well.  Tie: `c03 model` prints the model's sheets through THIS store (`Store.sorted ∘ fillStore`, sheets up to
    4000 cells; larger ones through the driver's sort-and-keep-last) against `get_cell_collection_sorted()` of the
    library. -/
theorem C03_sheet_store (T : Tr) (sis rows : List Node) (h : validSheetData sis rows = true) (k : Pos) :
    (readRows T (sis.map (stringItem false)) 0 [] rows).map (fun outs => ((fillStore outKey outs).get? k).map outView) =
      (expandSharedT T [] (specFilled (sis.map rstText) 0 rows)).map
        (fun cs => ((fillStore specKey cs).get? k).map specView) ∧
    (∀ outs, readRows T (sis.map (stringItem false)) 0 [] rows = some outs →
      (fillStore outKey outs).get? k = lastAt outKey outs k) :=
  ⟨map_eq_map_of (C03_sheet T sis rows h) fun outs cs e => store_views_agree outs cs e k,
    fun outs _ => C03_store_last_wins outKey outs k⟩

/-- … against the decoder (the spec's translator): no panic, and at every position the store shows the last of the
    decoder's cells (`specSheetCells` = the cells of `Spec.Sml.decodeSheet`) at that position -/
theorem C03_sheet_store_decoder (sis rows : List Node) (h : validSheetData sis rows = true) (k : Pos) :
    ∃ outs, readRows specTr (sis.map (stringItem false)) 0 [] rows = some outs ∧
      ((fillStore outKey outs).get? k).map outView =
        (lastAt specKey (specSheetCells (sis.map rstText) rows) k).map specView := by
  obtain ⟨outs, h1, h2⟩ := C03_sheet_decoder sis rows h
  refine ⟨outs, h1, ?_⟩
  rw [store_views_agree outs _ h2 k, C03_store_last_wins]

/-- non-vacuity: a valid `<sheetData>` with A1 THREE times (twice in row 1, once more in a second `<row r="1">`) and B1
    once; the store keeps two entries, A1 shows the last value written -/
def dupRows : List Node :=
  [rowE [("r", "1")] [cE [("r", "A1")] [vE "1"], cE [("r", "B1")] [vE "2"], cE [("r", "A1")] [vE "3"]],
   rowE [("r", "1")] [cE [("r", "A1"), ("t", "str")] [vE "last"]]]

def dupShow (f : List CellOut → Option CellOut) : Option (Option String) :=
  (readRows specTr (sheetSis.map (stringItem false)) 0 [] dupRows).map fun outs => (f outs).map fun o => String.ofList o.cell.raw.text

example :
    validSheetData sheetSis dupRows = true ∧
    ((readRows specTr (sheetSis.map (stringItem false)) 0 [] dupRows).map fun outs => (outs.length, (fillStore outKey outs).length)) =
      some (4, 2) ∧
    dupShow (fun outs => (fillStore outKey outs).get? (1, 1)) = some (some "last") ∧
    dupShow (fun outs => (fillStore outKey outs).get? (1, 2)) = some (some "2") ∧
    dupShow (fun outs => (fillStore outKey outs).get? (2, 1)) = some none := by
  decide +kernel

end Store

section Whole

/-- `C03_book` with the hypothesis on the text of the defined
    names not `NameTextOk` (the library's own spelling of an area list) but the weaker, decidable `nameTextAnyB`
    (`Model/CoordCanon.lean`: anything that is not a plain area list, or a list of `qualifier!cell` / `qualifier!cell:cell`
    with the qualifier unquoted — `Sheet1!$A$1`, as Excel writes it — or in apostrophes).  Same hypotheses otherwise, same
    conclusion for sheets, cells, style facts, merges, links and homes; for the names: the reader model shows the
    decoder's name and scope, and the decoder's text RE-QUOTED by the library's rule (`canonNameV` = `canonText` on the
    text; same areas, idempotent: `C03_canon_text_meaning`; the identity on `NameTextOk` texts:
    `C03_canon_text_library_spelling`, so `C03_book` is the special case). -/
theorem C03_book_any (cf : Umya.StyleCodec.Tok → Umya.StyleCodec.Tok) (p : Package) (mr : Rel) (wb wr sstRoot sroot : Node)
    (h1 : (relsOf p "").find? (fun r => r.type.endsWith "/officeDocument") = some mr)
    (hwbp : resolveTarget "" mr.target = "xl/workbook.xml")
    (hwb : lookupOf p "xl/workbook.xml".toList = some wb)
    (hwr : lookupOf p "xl/_rels/workbook.xml.rels".toList = some wr)
    (hss : lookupOf p "xl/sharedStrings.xml".toList = some sstRoot)
    (hsst : specSst p "xl/workbook.xml" = (sstRoot.kids "si").map rstText)
    (hsr : lookupOf p "xl/styles.xml".toList = some sroot)
    (hsty : specStylesRoot p "xl/workbook.xml" = some sroot)
    (hvr : validRels wr = true) (hvs : validStyles sroot = true)
    (hvl : validSheetList (((wb.kid? "sheets").map (·.kids "sheet")).getD []) = true)
    (hsheets : ∀ wrs, readRels wr = some wrs → ∀ se ∈ ((wb.kid? "sheets").map (·.kids "sheet")).getD [],
      SheetValid p (sstRoot.kids "si") sroot wrs se)
    (hvn : (((wb.kid? "definedNames").map (·.kids "definedName")).getD []).all validDefinedName = true)
    (hnt : ∀ d ∈ ((wb.kid? "definedNames").map (·.kids "definedName")).getD [], nameTextAnyB d.ownText = true)
    (hns : ∀ d ∈ ((wb.kid? "definedNames").map (·.kids "definedName")).getD [], ∀ i, (specName d).scope = some i →
      i < (((wb.kid? "sheets").map (·.kids "sheet")).getD []).length) :
    ∃ b bv, readBook specTr cf (lookupOf p) = some b ∧ (decode p).1 = some bv ∧
      bv.sheets = (((wb.kid? "sheets").map (·.kids "sheet")).getD []).map (specSheetOf p "xl/workbook.xml") ∧
      b.sheets.map viewR = (((wb.kid? "sheets").map (·.kids "sheet")).getD []).map (fun se =>
        viewS (specSheetOf p "xl/workbook.xml" se)
          (specSheetFacts cf p "xl/workbook.xml" bv.xfs (specSst p "xl/workbook.xml") se)) ∧
      b.names.map (fun q => nameViewB q.1) = bv.names.map canonNameV ∧
      (∀ q ∈ b.names, ∀ i, q.1.localSheetId = some i → q.2 = .sheet i) :=
  book_agrees canonNameV (fun _ => rfl) cf p mr wb wr sstRoot sroot h1 hwbp hwb hwr hss hsst hsr hsty hvr hvs hvl hsheets
    (C03_defined_names_any_spelling _ hvn hnt) hns

/-- Under the hypotheses of `C03_book_any`: the reader model delivers a
    workbook, the decoder a `BookV`, with the same number of sheets, and for EVERY sheet index `i` and EVERY position
    `k = (row, column)` the cell store the library fills for sheet `i` (`cells.set_fast` per cell in document order: last
    write wins, `C03_store_last_wins`) and the store filled from the decoder's cells of sheet `i` show the same cell at
    `k` — the LAST `<c>` of the part at that position — or both nothing. -/
theorem C03_book_store (cf : Umya.StyleCodec.Tok → Umya.StyleCodec.Tok) (p : Package) (mr : Rel) (wb wr sstRoot sroot : Node)
    (h1 : (relsOf p "").find? (fun r => r.type.endsWith "/officeDocument") = some mr)
    (hwbp : resolveTarget "" mr.target = "xl/workbook.xml")
    (hwb : lookupOf p "xl/workbook.xml".toList = some wb)
    (hwr : lookupOf p "xl/_rels/workbook.xml.rels".toList = some wr)
    (hss : lookupOf p "xl/sharedStrings.xml".toList = some sstRoot)
    (hsst : specSst p "xl/workbook.xml" = (sstRoot.kids "si").map rstText)
    (hsr : lookupOf p "xl/styles.xml".toList = some sroot)
    (hsty : specStylesRoot p "xl/workbook.xml" = some sroot)
    (hvr : validRels wr = true) (hvs : validStyles sroot = true)
    (hvl : validSheetList (((wb.kid? "sheets").map (·.kids "sheet")).getD []) = true)
    (hsheets : ∀ wrs, readRels wr = some wrs → ∀ se ∈ ((wb.kid? "sheets").map (·.kids "sheet")).getD [],
      SheetValid p (sstRoot.kids "si") sroot wrs se)
    (hvn : (((wb.kid? "definedNames").map (·.kids "definedName")).getD []).all validDefinedName = true)
    (hnt : ∀ d ∈ ((wb.kid? "definedNames").map (·.kids "definedName")).getD [], nameTextAnyB d.ownText = true)
    (hns : ∀ d ∈ ((wb.kid? "definedNames").map (·.kids "definedName")).getD [], ∀ i, (specName d).scope = some i →
      i < (((wb.kid? "sheets").map (·.kids "sheet")).getD []).length) :
    ∃ b bv, readBook specTr cf (lookupOf p) = some b ∧ (decode p).1 = some bv ∧ b.sheets.length = bv.sheets.length ∧
      ∀ (i : Nat) (h1 : i < b.sheets.length) (h2 : i < bv.sheets.length) (k : Pos),
        ((fillStore outKey (b.sheets[i]).cells).get? k).map outView =
          ((fillStore specKey (bv.sheets[i]).cells).get? k).map specView ∧
        (fillStore outKey (b.sheets[i]).cells).get? k = lastAt outKey (b.sheets[i]).cells k := by
  obtain ⟨b, bv, hb, hd, hsh, hv, _, _⟩ := C03_book_any cf p mr wb wr sstRoot sroot h1 hwbp hwb hwr hss hsst hsr hsty hvr hvs hvl hsheets hvn hnt hns
  obtain ⟨hlen, hc⟩ := sheets_cells_agree hsh hv
  exact ⟨b, bv, hb, hd, hlen, fun i hi1 hi2 k => ⟨store_views_agree _ _ (hc i hi1 hi2) k, C03_store_last_wins _ _ _⟩⟩

end Whole

end Umya.Thm.C03
