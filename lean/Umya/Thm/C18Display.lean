/-
  C18 — "Cells formatted with a date format display the calendar date of their serial."

  Format codes that are lists of the tokens `yyyy yy mmmm mmm mm m dddd ddd dd d hh h mm(minutes) ss`, the 12-hour
  `hh` / `h`, `AM/PM` and the separators `- / : . ,` blank (`Umya.Lemmas.DateDisplay.Tok`), and that the code reads the way the tokens
  mean: `SimpleDateCode toks` — decidable; it runs the model of `format_as_date`'s replacement tables
  (`strftimeOf`; the tables are those of date_formater.rs, `C18_tables_match_source`) on the text of the
  list and compares the strftime string with the token-by-token specifiers, which is where the month /
  minute reading of `mm` (`:mm`, `mm:` ↦ minutes, else month) is decided.  Built-in number formats in the
  class: 14 `m/d/yyyy`, 15 `d-mmm-yy`, 16 `d-mmm`, 17 `mmm-yy`, 20 `h:mm`, 21 `h:mm:ss`,
  22 `m/d/yyyy h:mm`, 30 `m/d/yy`, 45 `mm:ss` (`C18_simple_codes`), and with the 12-hour tokens 18 `h:mm AM/PM`,
  19 `h:mm:ss AM/PM` (`C18_simple_codes_names`; for these the marker comes out in lower case, see
  `C18_date_display_ampm_partial`); not in it: 46 (`[h]`), 47 (`.0`), the bracketed / quoted East-Asian codes.
  `mm` alone or next to other letters only is month; a list in which the code reads some `mm` differently from the list is not in the class
  (example below).

  For every code of the class and every serial whose day/time split is day number `n`
  (1899-12-31 … 9999-12-31) and second `T` — by `C18_time_float_near` every finite float within
  `2958469·2⁻⁵³` of `D + T/86400`, by `C18_convert_epoch_float` every result of `convert_date` — the
  text is, token by token, the field the token names of `civilFromDays n` and of `T`
  (`showToks (civilDateTime n T) toks`), trimmed of blanks at both ends as `to_formatted_string` does
  (`C18_date_display_notrim`: nothing is trimmed when the code neither starts nor ends with a blank).
  `g` in the statements is the `General` text that `formatAsDateChecked` shows when the checked conversion fails; the
  hypotheses say that it succeeds, so `g` is arbitrary.

  chrono's `strftime` is outside the model: `Umya.Date.strftime` stands for it (trusted, compared with
  the implementation on every code of `SIMPLE_CODES` in harness/src/c18.rs on every run).  The regex
  stages of `to_formatted_string` / `format_as_date` are the identity on these codes (assumption of the
  model, sampled by the same stream).
-/
import Umya.Thm.C18Float
import Umya.Lemmas.DateDisplay
import Umya.Lemmas.DateSyntax
namespace Umya.Thm.C18
open Umya.Date Umya.Date.FloatOps Umya.Spec.Calendar Umya.Lemmas.Calendar Umya.Lemmas.FloatStd
open Umya.Lemmas.DateDisplay

/-- token lists that `format_as_date` reads the way the tokens mean (decidable) -/
def SimpleDateCode (toks : List Tok) : Prop := simpleCode toks = true

instance (toks : List Tok) : Decidable (SimpleDateCode toks) := by unfold SimpleDateCode; infer_instance

/-- Display, from the second count, codes with `AM/PM` included.  If the (checked) day/time split of the cell's number is
    day number `n` (1899-12-31 … 9999-12-31 in the reference calendar) and second `T`, a cell whose format is
    a `SimpleDateCode` shows, token by token, the year / month / day of `civilFromDays n` and the hour /
    minute / second of `T`.  Partial: the conclusion is with `showToksCode`, which differs from Excel's rule `showToks` in
    one place only — the marker is `am` / `pm`, not `AM` / `PM` (the code maps `am/pm` to chrono's `%P`; the statement with
    `showToks` is refuted by `C18_ampm_case_fails`).  The 12-hour clock itself (`h12` / `hh12`: 0 and 12 o'clock ↦ 12,
    13…23 ↦ 1…11; the code reads `h` so exactly when the marker is present) and AM-before-noon are as Excel's rule says. -/
theorem C18_date_display_ampm_partial {F : Type} [FloatOps F] (toks : List Tok) (hc : SimpleDateCode toks)
    (g : List Char) (ts : F) (n T : Int)
    (h0 : daysFromCivil 1899 12 31 ≤ n) (h1 : n ≤ daysFromCivil 9999 12 31) (hT : 0 ≤ T ∧ T < 86400)
    (hts : excelToEpochSecondsChecked ts = some (n * 86400 + T)) :
    formatAsDateChecked (codeText toks) g ts = some (trimBlanks (showToksCode (civilDateTime n T) toks)) := by
  obtain ⟨sf, e1, e2⟩ := render_toks toks hc n T h0 h1 hT
  unfold formatAsDateChecked
  rw [e1]
  simp only [hts, e2, Option.map_some]

/-- Display, from the second count, of every `SimpleDateCode` without the `AM/PM` marker (month and weekday
    names included): the text is token by token what Excel's rule says (`showToks`). -/
theorem C18_date_display {F : Type} [FloatOps F] (toks : List Tok) (hc : SimpleDateCode toks)
    (hp : toks.contains .ampm = false) (g : List Char) (ts : F) (n T : Int)
    (h0 : daysFromCivil 1899 12 31 ≤ n) (h1 : n ≤ daysFromCivil 9999 12 31) (hT : 0 ≤ T ∧ T < 86400)
    (hts : excelToEpochSecondsChecked ts = some (n * 86400 + T)) :
    formatAsDateChecked (codeText toks) g ts = some (trimBlanks (showToks (civilDateTime n T) toks)) := by
  rw [C18_date_display_ampm_partial toks hc g ts n T h0 h1 hT hts, showToksCode_eq _ toks hp]

/-- the same for the unguarded function the C18 driver executes (`formatAsDate`) -/
theorem C18_date_display_unchecked {F : Type} [FloatOps F] (toks : List Tok) (hc : SimpleDateCode toks)
    (hp : toks.contains .ampm = false) (ts : F) (n T : Int)
    (h0 : daysFromCivil 1899 12 31 ≤ n) (h1 : n ≤ daysFromCivil 9999 12 31) (hT : 0 ≤ T ∧ T < 86400)
    (hts : excelToEpochSeconds ts = n * 86400 + T) :
    formatAsDate (codeText toks) ts = some (trimBlanks (showToks (civilDateTime n T) toks)) := by
  obtain ⟨sf, e1, e2⟩ := render_toks toks hc n T h0 h1 hT
  unfold formatAsDate excelToDateTime
  rw [e1]
  simp only [hts, e2, Option.map_some, showToksCode_eq _ toks hp]

section
variable {F : Type} [FloatOps F] {val : F → ℚ} {fin : F → Prop}

/-- Display of a serial, `f64` arithmetic under the standard model: for every finite float within
    `2958469·2⁻⁵³` of `D + T/86400` (`61 ≤ D ≤ 2958465`: 1900-03-01 … 9999-12-31; `T < 86400`) the text
    of a `SimpleDateCode` is the calendar date `1899-12-30 + D days` and the time of day `T`; `AM/PM` marker allowed
    (partial: marker in lower case, see `C18_date_display_ampm_partial`). -/
theorem C18_date_display_ampm_float_partial (h : StdModel F val fin) (toks : List Tok) (hc : SimpleDateCode toks)
    (g : List Char) (ts : F) (fts : fin ts) (D T : Int) (hD : 61 ≤ D ∧ D ≤ 2958465)
    (hT : 0 ≤ T ∧ T < 86400)
    (he : |val ts - ((D : ℚ) + (T : ℚ) / 86400)| ≤ 2958469 / 2 ^ 53) :
    formatAsDateChecked (codeText toks) g ts =
      some (trimBlanks (showToksCode (civilDateTime (daysFromCivil 1899 12 30 + D) T) toks)) := by
  obtain ⟨e1, e2, _, _, e3⟩ := Umya.Lemmas.Date.landmark_days
  exact C18_date_display_ampm_partial toks hc g ts _ T (by omega) (by omega) hT
    (C18_time_float_near h ts fts D T hD hT he).2

/-- the same for codes without the `AM/PM` marker: Excel's text (`showToks`) -/
theorem C18_date_display_float (h : StdModel F val fin) (toks : List Tok) (hc : SimpleDateCode toks)
    (hp : toks.contains .ampm = false) (g : List Char) (ts : F) (fts : fin ts) (D T : Int) (hD : 61 ≤ D ∧ D ≤ 2958465)
    (hT : 0 ≤ T ∧ T < 86400)
    (he : |val ts - ((D : ℚ) + (T : ℚ) / 86400)| ≤ 2958469 / 2 ^ 53) :
    formatAsDateChecked (codeText toks) g ts =
      some (trimBlanks (showToks (civilDateTime (daysFromCivil 1899 12 30 + D) T) toks)) := by
  rw [C18_date_display_ampm_float_partial h toks hc g ts fts D T hD hT he, showToksCode_eq _ toks hp]

/-- Display of a date written by `convert_date` (`AM/PM` allowed, marker in lower case — partial
    as `C18_date_display_ampm_partial`).  For every date of the 1900 system and every time of
    day, the cell that holds `convert_date y m d hh mi s` and has a `SimpleDateCode` format shows, token by
    token, `y m d hh mi s` themselves (standard-model floats; 1900-01-01T00:00:00 under correct rounding). -/
theorem C18_date_display_ampm_convert_partial (h : StdModel F val fin) (toks : List Tok) (hc : SimpleDateCode toks)
    (g : List Char) (y m d hh mi s : Int) (hd : InDomain y m d) (ht : ValidTime hh mi s)
    (hx : ExactRepr F val fin ∨ ¬ (y = 1900 ∧ m = 1 ∧ d = 1 ∧ hh = 0 ∧ mi = 0 ∧ s = 0)) :
    ∃ ts : F, convertDateF F y m d hh mi s = some ts ∧
      formatAsDateChecked (codeText toks) g ts =
        some (trimBlanks (showToksCode ⟨y, m, d, hh, mi, s, daysFromCivil y m d⟩ toks)) := by
  obtain ⟨ts, e1, _, e3⟩ := C18_convert_epoch_float h y m d hh mi s hd ht hx
  refine ⟨ts, e1, ?_⟩
  have hT := ht.secs
  have hd31 : d ≤ 31 := Int.le_trans hd.1.2.2.2 (daysInMonth_le y m)
  have hlo := daysFromCivil_mono 1899 12 31 y m d (by decide) hd.1 (Or.inl (by have := hd.2.1; omega))
  have hhi := daysFromCivil_mono y m d 9999 12 31 hd.1 (by decide) (by have := hd.2.2; have := hd.1.2.1; omega)
  rw [C18_date_display_ampm_partial toks hc g ts (daysFromCivil y m d) _ hlo hhi hT e3,
    show civilDateTime _ _ = ofEpochSeconds _ from (Umya.Lemmas.Date.ofEpochSeconds_add _ _ hT).symm,
    Umya.Lemmas.Date.ofEpochSeconds_civil y m d hh mi s hd.1 ht]

/-- Display of a date written by `convert_date`, codes without the `AM/PM` marker: token by token
    `y m d hh mi s` themselves, month and weekday names included (Excel's rule, `showToks`). -/
theorem C18_date_display_convert (h : StdModel F val fin) (toks : List Tok) (hc : SimpleDateCode toks)
    (hp : toks.contains .ampm = false)
    (g : List Char) (y m d hh mi s : Int) (hd : InDomain y m d) (ht : ValidTime hh mi s)
    (hx : ExactRepr F val fin ∨ ¬ (y = 1900 ∧ m = 1 ∧ d = 1 ∧ hh = 0 ∧ mi = 0 ∧ s = 0)) :
    ∃ ts : F, convertDateF F y m d hh mi s = some ts ∧
      formatAsDateChecked (codeText toks) g ts =
        some (trimBlanks (showToks ⟨y, m, d, hh, mi, s, daysFromCivil y m d⟩ toks)) := by
  obtain ⟨ts, e1, e2⟩ := C18_date_display_ampm_convert_partial h toks hc g y m d hh mi s hd ht hx
  exact ⟨ts, e1, by rw [e2, showToksCode_eq _ toks hp]⟩

end

/-- a code that neither starts nor ends with a blank: the trimming of `to_formatted_string` changes
    nothing, the text IS the token-by-token text -/
theorem C18_date_display_notrim (toks : List Tok) (hne : toks ≠ [])
    (h1 : toks.head? ≠ some (.lit ' ')) (h2 : toks.getLast? ≠ some (.lit ' ')) (n T : Int) :
    trimBlanks (showToks (civilDateTime n T) toks) = showToks (civilDateTime n T) toks := by
  have hv := civilFromDays_valid n
  exact trimBlanks_showToks (civilDateTime n T) ⟨hv.1, hv.2.1⟩ toks hne h1 h2

/-- the same for the text the code shows (`showToksCode`) -/
theorem C18_date_display_ampm_notrim (toks : List Tok) (hc : SimpleDateCode toks) (hne : toks ≠ [])
    (h1 : toks.head? ≠ some (.lit ' ')) (h2 : toks.getLast? ≠ some (.lit ' ')) (n T : Int) :
    trimBlanks (showToksCode (civilDateTime n T) toks) = showToksCode (civilDateTime n T) toks := by
  have hv := civilFromDays_valid n
  exact trimBlanks_showToksCode (civilDateTime n T) ⟨hv.1, hv.2.1⟩ toks hne h1 h2

open Tok in
/-- `yyyy-mm-dd`, spelled out: a cell with the format `yyyy-mm-dd` whose number splits into day number
    `n` (1899-12-31 … 9999-12-31) and second `T` shows the four-digit year, `-`, the two-digit month, `-`,
    the two-digit day of the calendar date `civilFromDays n`. -/
theorem C18_date_display_iso {F : Type} [FloatOps F] (g : List Char) (ts : F) (n T : Int)
    (h0 : daysFromCivil 1899 12 31 ≤ n) (h1 : n ≤ daysFromCivil 9999 12 31) (hT : 0 ≤ T ∧ T < 86400)
    (hts : excelToEpochSecondsChecked ts = some (n * 86400 + T)) :
    formatAsDateChecked "yyyy-mm-dd".toList g ts =
      some (pad4 (civilFromDays n).1 ++ '-' :: (pad2 (civilFromDays n).2.1 ++ '-' :: pad2 (civilFromDays n).2.2)) := by
  have hc : SimpleDateCode [yyyy, lit '-', mm, lit '-', dd] :=
    Umya.Lemmas.DateSyntax.simpleSyntax_sound _ (by decide +kernel)
  have e := C18_date_display [yyyy, lit '-', mm, lit '-', dd] hc (by decide) g ts n T h0 h1 hT hts
  rw [C18_date_display_notrim [yyyy, lit '-', mm, lit '-', dd] (by decide) (by decide) (by decide)] at e
  have ec : codeText [yyyy, lit '-', mm, lit '-', dd] = "yyyy-mm-dd".toList := by decide +kernel
  rw [ec] at e
  rw [e]
  simp [showToks, tokShow, civilDateTime]

open Tok in
/-- the codes exercised by `SIMPLE_CODES` of harness/src/c18.rs, with the built-in ids among them -/
theorem C18_simple_codes :
    SimpleDateCode [yyyy, lit '-', mm, lit '-', dd] ∧                                   -- yyyy-mm-dd
    SimpleDateCode [yyyy, lit '-', mm, lit '-', dd, lit ' ', hh, lit ':', mi, lit ':', ss] ∧  -- yyyy-mm-dd hh:mm:ss
    SimpleDateCode [dd, lit '/', mm, lit '/', yyyy] ∧                                   -- dd/mm/yyyy
    SimpleDateCode [yyyy, lit '/', mm, lit '/', dd] ∧                                   -- yyyy/mm/dd
    SimpleDateCode [m, lit '/', d, lit '/', yyyy] ∧                                     -- 14  m/d/yyyy
    SimpleDateCode [d, lit '-', mmm, lit '-', yy] ∧                                     -- 15  d-mmm-yy
    SimpleDateCode [d, lit '-', mmm] ∧                                                  -- 16  d-mmm
    SimpleDateCode [mmm, lit '-', yy] ∧                                                 -- 17  mmm-yy
    SimpleDateCode [h, lit ':', mi] ∧                                                   -- 20  h:mm
    SimpleDateCode [h, lit ':', mi, lit ':', ss] ∧                                      -- 21  h:mm:ss
    SimpleDateCode [m, lit '/', d, lit '/', yyyy, lit ' ', h, lit ':', mi] ∧            -- 22  m/d/yyyy h:mm
    SimpleDateCode [m, lit '/', d, lit '/', yy] ∧                                       -- 30  m/d/yy
    SimpleDateCode [mi, lit ':', ss] ∧                                                  -- 45  mm:ss
    SimpleDateCode [d, lit '/', m, lit '/', yy] ∧                                       -- d/m/yy
    SimpleDateCode [dd, lit '-', mm, lit '-', yyyy] ∧                                   -- dd-mm-yyyy
    SimpleDateCode [mm, lit '-', dd, lit '-', yy] ∧                                     -- mm-dd-yy
    SimpleDateCode [m, lit '/', d, lit '/', yy, lit ' ', h, lit ':', mi] ∧              -- m/d/yy h:mm
    SimpleDateCode [dd, lit '.', mm, lit '.', yyyy, lit ',', lit ' ', hh, lit ':', mi] := by  -- dd.mm.yyyy, hh:mm
  and_intros <;> exact Umya.Lemmas.DateSyntax.simpleSyntax_sound _ (by decide +kernel)

open Tok in
example : codeText [yyyy, lit '-', mm, lit '-', dd, lit ' ', hh, lit ':', mi, lit ':', ss] =
    "yyyy-mm-dd hh:mm:ss".toList := by decide +kernel

open Tok in
/-- not every token list is in the class: the code reads a lone `mm` as month, never as minutes, and
    `hh mm` (blank, no colon) as hour and MONTH -/
example : ¬ SimpleDateCode [mi] ∧ ¬ SimpleDateCode [hh, lit ' ', mi] ∧ SimpleDateCode [hh, lit ' ', mm] := by
  decide +kernel

open Tok in
/-- non-vacuity of `C18_date_display_convert` and a concrete reading of its conclusion: exact rational
    arithmetic, 2021-06-02T05:04:02 under `yyyy-mm-dd hh:mm:ss` -/
example : ∃ ts : Rat, convertDateF Rat 2021 6 2 5 4 2 = some ts ∧
    formatAsDateChecked "yyyy-mm-dd hh:mm:ss".toList "44349.21113425926".toList ts =
      some "2021-06-02 05:04:02".toList := by
  obtain ⟨ts, e1, e2⟩ := C18_date_display_convert stdModel_rat
    [yyyy, lit '-', mm, lit '-', dd, lit ' ', hh, lit ':', mi, lit ':', ss] C18_simple_codes.2.1 (by decide)
    "44349.21113425926".toList 2021 6 2 5 4 2 (by decide) (by decide) (Or.inl exactRepr_rat)
  refine ⟨ts, e1, ?_⟩
  have e : codeText [yyyy, lit '-', mm, lit '-', dd, lit ' ', hh, lit ':', mi, lit ':', ss] =
      "yyyy-mm-dd hh:mm:ss".toList := by decide +kernel
  rw [e] at e2
  rw [e2]; decide +kernel

open Tok in
/-- and with rounding errors (`QUp`), built-in format 15 -/
example : ∃ ts : QUp, convertDateF QUp 2024 5 23 23 59 59 = some ts ∧
    formatAsDateChecked (codeText [d, lit '-', mmm, lit '-', yy]) [] ts = some "23-May-24".toList := by
  obtain ⟨ts, e1, e2⟩ := C18_date_display_convert stdModel_qup [d, lit '-', mmm, lit '-', yy]
    C18_simple_codes.2.2.2.2.2.1 (by decide) [] 2024 5 23 23 59 59 (by decide) (by decide) (Or.inr (by decide))
  exact ⟨ts, e1, by rw [e2]; decide +kernel⟩

open Tok in
/-- codes with names and with `AM/PM` in the class, built-in ids 18 and 19 among them -/
theorem C18_simple_codes_names :
    SimpleDateCode [h12, lit ':', mi, lit ' ', ampm] ∧                                   -- 18  h:mm AM/PM
    SimpleDateCode [h12, lit ':', mi, lit ':', ss, lit ' ', ampm] ∧                      -- 19  h:mm:ss AM/PM
    SimpleDateCode [hh12, lit ':', mi, lit ' ', ampm] ∧                                  -- hh:mm AM/PM
    SimpleDateCode [dddd, lit ',', lit ' ', mmmm, lit ' ', d, lit ',', lit ' ', yyyy] ∧  -- dddd, mmmm d, yyyy
    SimpleDateCode [ddd, lit ' ', d, lit ' ', mmm, lit ' ', yyyy] ∧                      -- ddd d mmm yyyy
    SimpleDateCode [mmmm, lit ' ', yyyy] ∧                                               -- mmmm yyyy
    SimpleDateCode [d, lit ' ', mmmm, lit ' ', yyyy] ∧                                   -- d mmmm yyyy
    SimpleDateCode [d, lit '-', mmm, lit '-', yy, lit ' ', h12, lit ':', mi, lit ' ', ampm] ∧  -- d-mmm-yy h:mm AM/PM
    SimpleDateCode [ddd, lit ' ', hh, lit ':', mi] := by                                 -- ddd hh:mm
  and_intros <;> exact Umya.Lemmas.DateSyntax.simpleSyntax_sound _ (by decide +kernel)

open Tok in
/-- the code reads `h` as the 24-hour clock without the marker and as the 12-hour clock with it: the lists
    that say otherwise are not in the class -/
example : ¬ SimpleDateCode [h, lit ':', mi, lit ' ', ampm] ∧ ¬ SimpleDateCode [h12, lit ':', mi] := by decide +kernel

open Tok in
example : codeText [h12, lit ':', mi, lit ' ', ampm] = "h:mm AM/PM".toList ∧
    codeText [dddd, lit ',', lit ' ', mmmm, lit ' ', d, lit ',', lit ' ', yyyy] = "dddd, mmmm d, yyyy".toList := by
  decide +kernel

open Tok in
/-- non-vacuity / concrete reading: Thursday 2024-05-23 under `dddd, mmmm d, yyyy` (Excel's text) -/
example : ∃ ts : Rat, convertDateF Rat 2024 5 23 0 0 0 = some ts ∧
    formatAsDateChecked "dddd, mmmm d, yyyy".toList [] ts = some "Thursday, May 23, 2024".toList := by
  obtain ⟨ts, e1, e2⟩ := C18_date_display_convert stdModel_rat
    [dddd, lit ',', lit ' ', mmmm, lit ' ', d, lit ',', lit ' ', yyyy] C18_simple_codes_names.2.2.2.1 (by decide)
    [] 2024 5 23 0 0 0 (by decide) (by decide) (Or.inl exactRepr_rat)
  refine ⟨ts, e1, ?_⟩
  have e : codeText [dddd, lit ',', lit ' ', mmmm, lit ' ', d, lit ',', lit ' ', yyyy] =
      "dddd, mmmm d, yyyy".toList := by decide +kernel
  rw [e] at e2
  rw [e2]; decide +kernel

open Tok in
/-- Refutation of the display statement with Excel's `AM` / `PM`.  Built-in format 18 `h:mm AM/PM`,
    2024-05-23 12:00:00 (exact arithmetic): the cell shows `12:00 pm`; Excel's rule (`showToks`) says `12:00 PM`.
    The harness replays this witness (`ampm.witness-lowercase`). -/
theorem C18_ampm_case_fails : ∃ ts : Rat, convertDateF Rat 2024 5 23 12 0 0 = some ts ∧
    formatAsDateChecked "h:mm AM/PM".toList [] ts = some "12:00 pm".toList ∧
    trimBlanks (showToks ⟨2024, 5, 23, 12, 0, 0, daysFromCivil 2024 5 23⟩ [h12, lit ':', mi, lit ' ', ampm]) =
      "12:00 PM".toList := by
  obtain ⟨ts, e1, e2⟩ := C18_date_display_ampm_convert_partial stdModel_rat
    [h12, lit ':', mi, lit ' ', ampm] C18_simple_codes_names.1
    [] 2024 5 23 12 0 0 (by decide) (by decide) (Or.inl exactRepr_rat)
  refine ⟨ts, e1, ?_, by decide +kernel⟩
  have e : codeText [h12, lit ':', mi, lit ' ', ampm] = "h:mm AM/PM".toList := by decide +kernel
  rw [e] at e2
  rw [e2]; decide +kernel

end Umya.Thm.C18
