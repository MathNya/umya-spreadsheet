/-
  C02 — Written files are valid packages that an independent reader decodes to the model.

  What is decided how:
  * The independent reader (`Umya.Spec.Xml`, `Umya.Spec.Sml`: XML 1.0 + OPC + SpreadsheetML, written
    from the standards) is EXECUTED by the driver on every part of every package the harness makes
    the library write; its verdict (violations, decoded view) is compared with the in-memory workbook:
    translation validation of the real files.
  * The whole statement, `decode (writePackage b) = (view b, [])` for every well-formed workbook, is
    `C02_book_decodes` in `Thm/C02Pkg.lean`, over `Thm/C02Sheet.lean` (one sheet) and `Thm/C02Book.lean`
    (the workbook part).  The theorems of this file are its pieces for all inputs: (1) the writer's escaping is read back exactly by
    the independent XML reader, for every text; (2) the rows and cells handed to the sheet writer are
    strictly ascending and complete for every reachable sheet; (3) hyperlink relationship ids pair
    every cell with its own target, for any number of links; (4) the cell clause: every `<c>` and every
    `<si>` the model of the cell writer (`Umya/Model/CellXml.lean`, tied to the code by C01's stream)
    produces, rendered as the element tree an XML 1.0 reader delivers (`Umya/Model/CellNode.lean`), is
    decoded by the independent SpreadsheetML decoder (`Spec/Sml.lean::decodeCell`, `rstText`,
    `sharedStrings`) to the model cell — for all cells, texts, numbers of sheets and table states.
-/
import Umya.Lemmas.XmlEsc
import Umya.Lemmas.XmlChannel
import Umya.Lemmas.Observers
import Umya.Lemmas.CellDecode
import Umya.Lemmas.SmlRef
import Umya.Lemmas.TablesGen
import Umya.Spec.XmlLex
namespace Umya.Thm.C02
open Umya.XmlEsc Umya.XmlChannel

/-- Character data: whatever text the writer puts into a text node, the independent reader reads
    back exactly that text — every text, carriage returns included (they are written as `&#13;`). -/
theorem C02_text_channel (s : List Char) : Umya.Spec.Xml.textValue (escape s) = some s := textValue_escape s

/-- The same for the second text writer, `write_text_node_conversion` (quick-xml `partial_escape`, then
    `\r` ↦ `&#13;`), which writes formula text and the `<v>` of `str` and number cells. -/
theorem C02_text_channel_conversion (s : List Char) : Umya.Spec.Xml.textValue (partialEscape s) = some s :=
  textValue_partialEscape s

/-- Attribute values: read back exactly, for every text (tab, line feed and carriage return are
    written as character references, so attribute-value normalisation does not touch them). -/
theorem C02_attr_channel (s : List Char) : Umya.Spec.Xml.attrValue (attrEscape s) = some s := attrValue_attrEscape s

/-- the defect repaired by fix f7f3b63: with quick-xml's plain `escape` a carriage return in a text node
    and a line feed in an attribute do not survive a conformant reader -/
theorem C02_cr_in_text_fails : Umya.Spec.Xml.textValue (escapeOld ['a', '\r', 'b']) ≠ some ['a', '\r', 'b'] := by decide
theorem C02_lf_in_attr_fails : Umya.Spec.Xml.attrValue (escapeOld ['a', '\n', 'b']) ≠ some ['a', '\n', 'b'] := by decide

/-- and the escaped text can never end the attribute, open a tag, or be re-normalised -/
theorem C02_escaped_is_inert (s : List Char) :
    ∀ c ∈ attrEscape s, c ≠ '<' ∧ c ≠ '"' ∧ c ≠ '\'' ∧ c ≠ '>' ∧ c ≠ '\r' ∧ c ≠ '\n' ∧ c ≠ '\t' := attrEscape_safe s

open Umya.Sheet in
/-- For every reachable (coherent) sheet the cells handed to the cell writer are exactly the
    existing cells, in strictly ascending (row, column) order — hence `<row>` elements and the
    `<c>` elements inside them are strictly ascending and every `r=` lies in its own row. -/
theorem C02_sheetdata_ascending (s : Sheet) (h : Coherent s) :
    SSorted ((emitted s).map (fun c => (c.row, c.col))) ∧
    (∀ k, k ∈ (emitted s).map (fun c => (c.row, c.col)) ↔ k ∈ keysOf s) := by
  rw [emitted_all s h, sortedCells_coords s h]
  exact ⟨h.rsorted, h.rmem⟩

structure Link where
  coord : Nat × Nat
  external : Bool
  target : List Char
  deriving Repr, DecidableEq

/-- the sheet part's walk: external links get `rId1`, `rId2`, … in the order met -/
def sheetWalk : List Link → Nat → List ((Nat × Nat) × Option Nat)
  | [], _ => []
  | l :: ls, k => if l.external then (l.coord, some k) :: sheetWalk ls (k + 1) else (l.coord, none) :: sheetWalk ls k

/-- the relationships part's walk: one `Relationship Id=rIdK Target=…` per external link, in the order met -/
def relsWalk : List Link → Nat → List (Nat × List Char)
  | [], _ => []
  | l :: ls, k => if l.external then (k, l.target) :: relsWalk ls (k + 1) else relsWalk ls k

def lookupRel (k : Nat) : List (Nat × List Char) → Option (List Char)
  | [] => none
  | (j, t) :: r => if j = k then some t else lookupRel k r

theorem lookupRel_skip (k : Nat) (l : List (Nat × List Char)) (h : ∀ j t, (j, t) ∈ l → k < j) : lookupRel k l = none := by
  induction l with
  | nil => rfl
  | cons p r ih =>
    obtain ⟨j, t⟩ := p
    have hj := h j t (by simp)
    simp only [lookupRel]
    rw [if_neg (by omega)]
    exact ih (fun j' t' hm => h j' t' (List.mem_cons_of_mem _ hm))

/-- When both parts walk the SAME ordered collection (the code after fix f3ae691), every
    external hyperlink's `r:id` resolves, in the relationships part, to that hyperlink's own target
    — for any number of links, any mixture of external and internal ones, any start id.
    Stated on the walk model of this file (`sheetWalk`, `relsWalk`: coordinates and counters only); the same
    pairing on the decoder's functions over the rendered trees is `C02_hyperlink_walk_decodes` (Thm/C02Sheet.lean).
    Distinct coordinates (`hnd`) are not needed: the proof discards the hypothesis. -/
theorem C02_hyperlink_pairing (ls : List Link) (k0 : Nat) (l : Link) (hl : l ∈ ls) (hext : l.external = true)
    (hnd : (ls.map (·.coord)).Nodup) :
    ∃ k, (l.coord, some k) ∈ sheetWalk ls k0 ∧ lookupRel k (relsWalk ls k0) = some l.target := by
  -- the id found is at least the start id, so a relationship written earlier does not shadow it
  suffices h : ∃ k, k0 ≤ k ∧ (l.coord, some k) ∈ sheetWalk ls k0 ∧ lookupRel k (relsWalk ls k0) = some l.target from
    h.imp fun _ h => h.2
  clear hnd
  induction ls generalizing k0 with
  | nil => cases hl
  | cons x xs ih =>
    rw [sheetWalk, relsWalk]
    rcases List.mem_cons.1 hl with rfl | hl'
    · rw [if_pos hext, if_pos hext]
      exact ⟨k0, Nat.le_refl _, List.mem_cons_self, by rw [lookupRel, if_pos rfl]⟩
    · cases hx : x.external
      · obtain ⟨k, hk, h1, h2⟩ := ih k0 hl'
        exact ⟨k, hk, List.mem_cons_of_mem _ h1, h2⟩
      · obtain ⟨k, hk, h1, h2⟩ := ih (k0 + 1) hl'
        refine ⟨k, by omega, List.mem_cons_of_mem _ h1, ?_⟩
        rw [if_pos rfl, lookupRel, if_neg (by omega)]
        exact h2

/-- The defect repaired by fix f3ae691: when the two parts walk the collection in DIFFERENT orders (two
    separately built hash maps), a link is paired with another cell's target. -/
theorem C02_unordered_pairing_fails :
    let a : Link := ⟨(1, 1), true, ['u', '1']⟩
    let b : Link := ⟨(2, 1), true, ['u', '2']⟩
    (a.coord, some 1) ∈ sheetWalk [a, b] 1 ∧ lookupRel 1 (relsWalk [b, a] 1) = some b.target := by decide

/- The cell clause, (4) of the head.  Kinds (`fileKind`): text and rich text → "s", number → "n", boolean → "b", error → "e", blank → "";
  value text = `valueText` (`CellRawValue: Display`): the text, the concatenation of the run texts, the
  number token, TRUE / FALSE, the error code — both of the value `Cell::write_to` writes (`resolveRaw`: a value
  stored with `set_value_lazy` and never resolved stands for what `guess_typed_data` makes of its text, fix 6 of
  C01, commit 6a765cc; every other value is itself).  One documented deviation from the plain table `docKind`
  (what `get_data_type` says) is part of `fileKind` and is shown to be real by a `_fails` theorem:
  a formula without cached value reads as an empty string result.  NOT needed as a hypothesis here, although C01
  needs it: rich text without runs (an `<si>` without `<t>`/`<r>` — the empty text).  A rich text under a formula
  is a shared-string item like any other rich text (fix 5 of C01, commit 7a40a5e).
  No hypothesis on characters, numbers (`NumFmt.Sound` is not used), table state or sizes.
-/

section Cells
open Umya.CellXml Umya.CellNode Umya.Num Umya.Coord
open Umya.Spec.Sml (decodeCell rstText sharedStrings)

/-- The shared-string table is prefix-preserving: whatever `Cell::write_to`, a sheet or all sheets register
    is appended; an index handed out earlier keeps its item (`Extends`).  (Interning itself:
    `Umya.InternC01.intern_spec`.) -/
theorem C02_table_only_grows (F : NumFmt) :
    (∀ tbl c tbl' ox, writeTo F tbl c = some (tbl', ox) → ∃ ext, tbl' = tbl ++ ext) ∧
    (∀ tbl cs tbl' xs, writeCells F tbl cs = some (tbl', xs) → ∃ ext, tbl' = tbl ++ ext) ∧
    (∀ tbl ss tbl' xss, writeSheets F tbl ss = some (tbl', xss) → ∃ ext, tbl' = tbl ++ ext) ∧
    (∀ tbl ext : Table, Extends (tbl ++ ext) tbl) :=
  ⟨fun tbl c tbl' ox h => (writeTo_some F tbl c tbl' ox h).1,
   fun tbl cs tbl' xs h => (writeCells_decodes F (fun _ => 0) cs tbl tbl' xs h).1,
   fun tbl ss tbl' xss h => (writeSheets_decodes F (fun _ _ => 0) ss 0 tbl tbl' xss h).1,
   fun _ _ _ _ hi => getElem?_append_left' hi⟩

/-- A shared-string item — plain text (any text: padded, empty, with `& < > " '`, CR, LF) or rich text
    (any number of runs, with or without run properties) — as written by `SharedStringItem::write_to`
    renders, and the independent reader's `rstText` of it is the item's text. -/
theorem C02_si_decodes (it : Item) : ∃ n, siNode (siOf it) = some n ∧ rstText n = itemText it :=
  ⟨_, siNode_siOf it, rstText_siElem it⟩

/-- The shared-string part of any table state, as the independent reader sees it in the package: one text
    per item, in table order (no part and an empty table when nothing was registered). -/
theorem C02_sst_decodes (tbl : Table) :
    ∃ pkg, sstParts (tbl.map siOf) = some pkg ∧ sharedStrings pkg sstPath = tbl.map itemText :=
  sharedStrings_written tbl

/-- One cell, every branch of `write_to` (`<c r s/>`, `t="s"` through the shared table, `t="str"`, `t="b"`,
    `t="e"`, numbers without `t`, `<v/>`, with and without `<f>`): if the cell is written at all, its `<c>`
    renders, and for EVERY later table state `tbl''` that extends the writer's — whatever other cells of
    this or later sheets register — the independent decoder, given the shared strings it reads from the
    part written for `tbl''`, returns exactly the cell's reference, kind, value text, formula text and
    style index, and reports no violation. -/
theorem C02_cell_decodes (F : NumFmt) (tbl : Table) (c : Cell F.Num) (tbl' : Table) (cx : CellX)
    (h : writeTo F tbl c = some (tbl', some cx)) (xf : Nat) :
    1 ≤ c.col ∧
    ∃ node, cellNode xf cx = some node ∧
      ∀ tbl'' : Table, Extends tbl'' tbl' →
        ∃ pkg, sstParts (tbl''.map siOf) = some pkg ∧
          decodeCell (sharedStrings pkg sstPath) node = (fileView F xf c, []) := by
  obtain ⟨hc, _, node, hn, hd⟩ := writeTo_decodes F tbl c tbl' cx h xf
  refine ⟨hc, node, hn, fun tbl'' hx => ?_⟩
  obtain ⟨pkg, hp, hs⟩ := sharedStrings_written tbl''
  exact ⟨pkg, hp, by rw [hs]; exact hd tbl'' hx⟩

/-- The rendering of text content is what the lexer does: the raw character data between two tags (XML
    `Char`s, no `<`) followed by the next tag reaches the tree builder as ONE text token that carries
    `textValue raw`, or as no token when it is empty (or the document is rejected when `textValue` fails) —
    exactly `CellNode.charData`. -/
theorem C02_chardata_lexed (raw rest : List Char) (hx : ∀ c ∈ raw, Umya.Spec.Xml.isXmlChar c = true) (hlt : '<' ∉ raw) :
    Umya.Spec.Xml.lexGo (.text []) (raw ++ '<' :: rest) =
      if raw = [] then Umya.Spec.Xml.lexGo .lt rest
      else match Umya.Spec.Xml.textValue raw, Umya.Spec.Xml.lexGo .lt rest with
        | some t, some ts => some (Umya.Spec.Xml.Token.text t :: ts)
        | _, _ => none := by
  rw [lex_text_run raw hx hlt [] _, List.append_nil, lex_text_lt]
  unfold Umya.Spec.Xml.flushText
  by_cases h : raw = []
  · subst h; simp
  · simp [h]
    cases Umya.Spec.Xml.textValue raw <;> cases Umya.Spec.Xml.lexGo .lt rest <;> rfl

/-- The reference the decoder returns is the cell's own position under the decoder's A1 reading
    (`Spec/Sml.lean::colOf`, `rowOf`, which the well-formedness check of the sheet uses): column and row of
    the model cell, for every column ≥ 1 and every row. -/
theorem C02_cell_position (F : NumFmt) (tbl : Table) (c : Cell F.Num) (tbl' : Table) (cx : CellX)
    (h : writeTo F tbl c = some (tbl', some cx)) (xf : Nat) :
    Umya.Spec.Sml.colOf (fileView F xf c).ref = c.col ∧ Umya.Spec.Sml.rowOf (fileView F xf c).ref = c.row :=
  ref_position c.col c.row (C02_cell_decodes F tbl c tbl' cx h xf).1

/-- the hypothesis of `C02_cell_decodes` holds for every cell that has a column ≥ 1 and is not
    blank-and-unstyled (those are not written: `C01_normalize`) -/
theorem C02_cell_written (F : NumFmt) (tbl : Table) (c : Cell F.Num) (hc : 1 ≤ c.col) (hb : blankUnstyled F c = false) :
    ∃ tbl' cx, writeTo F tbl c = some (tbl', some cx) := by
  obtain ⟨tbl', ox, hw⟩ := writeTo_total F tbl c hc
  cases ox with
  | none => rw [(writeTo_some F tbl c tbl' none hw).2.1 rfl] at hb; cases hb
  | some cx => exact ⟨tbl', cx, hw⟩

/- Full statement with the PLAIN kind table (`docKind` = `CellRawValue::get_data_type`, of the value written):
     writeTo F tbl c = some (tbl', some cx) → … (decodeCell … node).1.kind = docKind F (resolveRaw F c.raw)
   It is false for a formula without cached value (next theorem); it holds for every other cell: -/
theorem C02_cell_kind_partial (F : NumFmt) (xf : Nat) (c : Cell F.Num) (hk : plainKind F c = true) :
    (fileView F xf c).kind = docKind F (resolveRaw F c.raw) := by
  obtain ⟨col, row, raw, fo, styled⟩ := c
  simp only [fileView, fileViewCore, Cell.resolved, plainKind] at hk ⊢
  cases hr : resolveRaw F raw <;> simp [hr] at hk <;> simp [fileKind, docKind, hk]

/-- `C02_cell_decodes` with the plain kind table spelled out — the statement of the property for one cell:
    the decoded cell has exactly the cell's reference, its kind by the table text / rich text → "s",
    number → "n", boolean → "b", error → "e", blank → "", its value text, its formula text and its style
    (kind and value text of the value written: `resolveRaw`, the identity except on an unresolved lazy value).
    `plainKind` (decidable) excludes exactly a formula without cached value; the exclusion is necessary
    (`C02_cell_uncached_formula_fails`). -/
theorem C02_cell_decodes_plain_partial (F : NumFmt) (tbl : Table) (c : Cell F.Num) (tbl' : Table) (cx : CellX)
    (h : writeTo F tbl c = some (tbl', some cx)) (xf : Nat) (hk : plainKind F c = true) :
    ∃ node, cellNode xf cx = some node ∧
      ∀ tbl'' : Table, Extends tbl'' tbl' →
        ∃ pkg, sstParts (tbl''.map siOf) = some pkg ∧
          decodeCell (sharedStrings pkg sstPath) node =
            ({ ref := coordinateFromIndexWithLock c.col c.row false false, kind := docKind F (resolveRaw F c.raw),
               value := valueText F (resolveRaw F c.raw), formula := c.formula, style := if c.styled then xf else 0 }, []) := by
  obtain ⟨_, node, hn, hd⟩ := C02_cell_decodes F tbl c tbl' cx h xf
  refine ⟨node, hn, fun tbl'' hx => ?_⟩
  obtain ⟨pkg, hp, hdec⟩ := hd tbl'' hx
  refine ⟨pkg, hp, ?_⟩
  rw [hdec, ← C02_cell_kind_partial F xf c hk]
  rfl

/-- A formula without cached value (`set_formula` on a blank cell) is written `t="str"` with `<v/>`: an
    independent reader sees a formula whose cached result is the EMPTY STRING, not "no value".  (The check's
    view function identifies the two, see `C02_cell_kind_normalised`.) -/
theorem C02_cell_uncached_formula_fails (F : NumFmt) :
    ∃ (c : Cell F.Num) (tbl' : Table) (cx : CellX) (node : Umya.Spec.Xml.Node),
      writeTo F [] c = some (tbl', some cx) ∧ cellNode 0 cx = some node ∧ docKind F c.raw = "" ∧
      ∀ tbl'' : Table, Extends tbl'' tbl' →
        (decodeCell (tbl''.map itemText) node).1.kind = "s" ∧ (decodeCell (tbl''.map itemText) node).1.value = [] := by
  obtain ⟨tbl', cx, hw⟩ := C02_cell_written F [] { col := 1, row := 1, formula := some ['A', '2'] } (Nat.le_refl 1) rfl
  obtain ⟨_, _, node, hn, hd⟩ := writeTo_decodes F [] _ tbl' cx hw 0
  refine ⟨_, tbl', cx, node, hw, hn, rfl, fun tbl'' hx => ?_⟩
  rw [hd tbl'' hx]
  exact ⟨rfl, rfl⟩

/-- Fix 6 of C01 (commit 6a765cc; without it: an empty `<v></v>`, a NUMBER cell without content): a value stored with
    `set_value_lazy` and never resolved is written as the typed value it stands for, and an independent reader sees that value — lazy "42" is the number 42, lazy "x" under a formula the
    text "x" with the formula. -/
theorem C02_cell_lazy_decodes :
    (∃ (tbl' : Table) (cx : CellX) (node : Umya.Spec.Xml.Node),
      writeTo (textFmt []) [] { col := 1, row := 1, raw := .lazy ['4', '2'] } = some (tbl', some cx) ∧ cellNode 0 cx = some node ∧
      ∀ tbl'' : Table, Extends tbl'' tbl' →
        (decodeCell (tbl''.map itemText) node).1.kind = "n" ∧ (decodeCell (tbl''.map itemText) node).1.value = ['4', '2']) ∧
    (∃ (tbl' : Table) (cx : CellX) (node : Umya.Spec.Xml.Node),
      writeTo (textFmt []) [] { col := 1, row := 1, raw := .lazy ['x'], formula := some ['A', '2'] } = some (tbl', some cx) ∧
      cellNode 0 cx = some node ∧
      ∀ tbl'' : Table, Extends tbl'' tbl' →
        (decodeCell (tbl''.map itemText) node).1.kind = "s" ∧ (decodeCell (tbl''.map itemText) node).1.value = ['x'] ∧
        (decodeCell (tbl''.map itemText) node).1.formula = some ['A', '2']) := by
  constructor
  · obtain ⟨tbl', cx, hw⟩ := C02_cell_written (textFmt []) [] { col := 1, row := 1, raw := .lazy ['4', '2'] } (Nat.le_refl 1) (by decide)
    obtain ⟨_, _, node, hn, hd⟩ := writeTo_decodes (textFmt []) [] _ tbl' cx hw 0
    refine ⟨tbl', cx, node, hw, hn, fun tbl'' hx => ?_⟩
    rw [hd tbl'' hx]
    exact ⟨by decide, by decide⟩
  · obtain ⟨tbl', cx, hw⟩ := C02_cell_written (textFmt []) [] { col := 1, row := 1, raw := .lazy ['x'], formula := some ['A', '2'] } (Nat.le_refl 1) (by decide)
    obtain ⟨_, _, node, hn, hd⟩ := writeTo_decodes (textFmt []) [] _ tbl' cx hw 0
    refine ⟨tbl', cx, node, hw, hn, fun tbl'' hx => ?_⟩
    rw [hd tbl'' hx]
    exact ⟨by decide, by decide, by decide⟩

/-- The rule by which the check's view (`Driver/C02.lean::cellStr`, which calls this function) compares
    kinds: a formula cell whose cached string result is empty is the same as one without a cached result.
    Under it the decoded kind of EVERY cell is the kind of the value written (`get_data_type` of the cell's value,
    of what a lazy value stands for), the uncached formula included. -/
theorem C02_cell_kind_normalised (F : NumFmt) (xf : Nat) (c : Cell F.Num) :
    normKind (fileView F xf c).formula (fileView F xf c).kind (fileView F xf c).value
      = normKind c.formula (docKind F (resolveRaw F c.raw)) (valueText F (resolveRaw F c.raw)) := by
  obtain ⟨col, row, raw, fo, styled⟩ := c
  simp only [fileView, fileViewCore, Cell.resolved]
  cases hr : resolveRaw F raw with
  | lazy s => have := resolveRaw_not_lazy F raw; rw [hr] at this; cases this
  | empty => cases fo <;> simp [normKind, fileKind, docKind, valueText]
  | _ => rfl

/-- One sheet: the `<c>` elements written for a list of cells (in the order of the row loop,
    `C02_sheetdata_ascending`) render, and the independent decoder — given the shared strings of any table
    state that extends the one reached after the sheet — returns, element by element and in order, the views
    of exactly the cells that are not blank-and-unstyled. -/
theorem C02_sheet_cells_decode (F : NumFmt) (xf : List Char → Nat) (tbl : Table) (cs : List (Cell F.Num))
    (tbl' : Table) (xs : List CellX) (h : writeCells F tbl cs = some (tbl', xs)) :
    ∃ nodes, renderCells xf xs = some nodes ∧
      ∀ tbl'' : Table, Extends tbl'' tbl' →
        ∃ pkg, sstParts (tbl''.map siOf) = some pkg ∧
          nodes.map (decodeCell (sharedStrings pkg sstPath))
            = viewCells F xf (cs.filter (fun c => !blankUnstyled F c)) := by
  obtain ⟨_, nodes, hn, hd⟩ := writeCells_decodes F xf cs tbl tbl' xs h
  refine ⟨nodes, hn, fun tbl'' hx => ?_⟩
  obtain ⟨pkg, hp, hs⟩ := sharedStrings_written tbl''
  exact ⟨pkg, hp, by rw [hs]; exact hd tbl'' hx⟩

/-- The whole package (cell side), both writers: if `make_buffer` does not panic, the shared-string part
    renders (or is absent because no string was registered), the cells of every sheet render, and every
    `<c>` of every sheet decodes — against the table the independent reader takes from the FINAL
    shared-string part — to the view of its model cell: sheet by sheet, cell by cell, in order, exactly the
    cells `normalize` keeps (all but the blank unstyled ones), no violation reported.  Any number of sheets
    and cells, any texts, any mixture of kinds; `xf k ref` is the style index of the cell at `ref` in sheet `k`. -/
theorem C02_book_cells_decode (F : NumFmt) (light : Bool) (sheets : List (List (Cell F.Num))) (b : BookX)
    (h : writeBook F light sheets = some b) (xf : Nat → List Char → Nat) :
    ∃ pkg nodess, sstParts b.sst = some pkg ∧ renderSheets xf 0 b.sheets = some nodess ∧
      nodess.map (fun ns => ns.map (decodeCell (sharedStrings pkg sstPath)))
        = viewSheets F xf 0 (normalize F sheets) :=
  writeBook_decodes F light sheets b h xf

/-- … read cell by cell: the `j`-th `<c>` of the `i`-th sheet decodes to the view of the `j`-th kept cell of
    the `i`-th sheet of the workbook. -/
theorem C02_book_cell_decodes (F : NumFmt) (light : Bool) (sheets : List (List (Cell F.Num))) (b : BookX)
    (h : writeBook F light sheets = some b) (xf : Nat → List Char → Nat) :
    ∃ pkg nodess, sstParts b.sst = some pkg ∧ renderSheets xf 0 b.sheets = some nodess ∧
      ∀ (i j : Nat) (ns : List Umya.Spec.Xml.Node) (node : Umya.Spec.Xml.Node),
        nodess[i]? = some ns → ns[j]? = some node →
        ∃ cs c, (normalize F sheets)[i]? = some cs ∧ cs[j]? = some c ∧
          decodeCell (sharedStrings pkg sstPath) node
            = (fileView F (xf i (coordinateFromIndexWithLock c.col c.row false false)) c, []) := by
  obtain ⟨pkg, nodess, hp, hn, hd⟩ := writeBook_decodes F light sheets b h xf
  refine ⟨pkg, nodess, hp, hn, ?_⟩
  intro i j ns node hi hj
  have h1 : (viewSheets F xf 0 (normalize F sheets))[i]? = some (ns.map (decodeCell (sharedStrings pkg sstPath))) := by
    rw [← hd, List.getElem?_map, hi]; rfl
  rw [viewSheets_get, Nat.zero_add] at h1
  obtain ⟨cs, hcs, h1⟩ := Option.map_eq_some_iff.1 h1
  have h2 : (viewCells F (xf i) cs)[j]? = some (decodeCell (sharedStrings pkg sstPath) node) := by
    rw [h1, List.getElem?_map, hj]; rfl
  rw [viewCells, List.getElem?_map] at h2
  obtain ⟨c, hc, h2⟩ := Option.map_eq_some_iff.1 h2
  exact ⟨cs, c, hcs, hc, h2.symm⟩

/-- the writers do not panic on cells with a column ≥ 1 (the hypothesis of the two theorems above) -/
theorem C02_book_written (F : NumFmt) (light : Bool) (sheets : List (List (Cell F.Num)))
    (hc : ∀ s ∈ sheets, ∀ c ∈ s, 1 ≤ c.col) : ∃ b, writeBook F light sheets = some b :=
  writeBook_total F light sheets hc

/-- the driver's number format: a number token is Rust's shortest decimal text -/
def demoF : NumFmt := textFmt []

/-- two sheets with every kind, special characters, a repeated string (one `<si>`, two cells), a blank
    unstyled cell (not written), a styled blank cell (`<c r s/>`), formulas with every kind of cached value,
    a formula without cached value, rich text under a formula, rich text without runs, unresolved lazy values
    (a number, the empty text = not written, a text under a formula) -/
def demoBook : List (List (Cell demoF.Num)) :=
  [[{ col := 1, row := 1, raw := .str [' ', '&', '<', '\r', '\n', '"', ' '] },
    { col := 16384, row := 1, raw := .num ['4', '2', '.', '5'], formula := some [' ', 'A', '1', '<', 'B', '1', ' '] },
    { col := 2, row := 2 },
    { col := 3, row := 2, styled := true },
    { col := 1, row := 1048576, raw := .err .na }],
   [{ col := 1, row := 1, raw := .rich [{ text := [' ', 'a'], font := some 1 }, { text := ['b', '\r'] }] },
    { col := 2, row := 1, raw := .bool true, formula := some [] },
    { col := 3, row := 1, raw := .str [' ', '&', '<', '\r', '\n', '"', ' '], styled := true },
    { col := 4, row := 1, formula := some ['A', '1'] },
    { col := 5, row := 1, raw := .rich [{ text := ['x'] }, { text := ['y'], font := some 2 }], formula := some ['B', '1'] },
    { col := 6, row := 1, raw := .rich [] },
    { col := 7, row := 1, raw := .bool false },
    { col := 8, row := 1, raw := .lazy ['4', '2'] },
    { col := 9, row := 1, raw := .lazy [] },
    { col := 10, row := 1, raw := .lazy ['a', 'b', 'c'], formula := some ['A', '1'] }]]

/-- `C02_book_written`, `C02_book_cells_decode`, `C02_book_cell_decodes`: the hypotheses are satisfiable -/
example : ∀ s ∈ demoBook, ∀ c ∈ s, 1 ≤ c.col := by decide

example : ∃ b, writeBook demoF true demoBook = some b ∧
    ∃ pkg nodess, sstParts b.sst = some pkg ∧ renderSheets (fun _ _ => 3) 0 b.sheets = some nodess ∧
      nodess.map (fun ns => ns.map (decodeCell (sharedStrings pkg sstPath)))
        = viewSheets demoF (fun _ _ => 3) 0 (normalize demoF demoBook) := by
  obtain ⟨b, hb⟩ := C02_book_written demoF true demoBook (by decide)
  exact ⟨b, hb, C02_book_cells_decode demoF true demoBook b hb _⟩

/-- … and what the decoder must find there is not trivial: the kinds, the value texts and the styles of
    the kept cells (4 of 5 and 9 of 10) -/
example : (viewSheets demoF (fun _ _ => 3) 0 (normalize demoF demoBook)).map (fun l => l.map (fun p => (p.1.kind, String.ofList p.1.value, p.1.style)))
    = [[("s", " &<\r\n\" ", 0), ("n", "42.5", 0), ("", "", 3), ("e", "#N/A", 0)],
       [("s", " ab\r", 0), ("b", "TRUE", 0), ("s", " &<\r\n\" ", 3), ("s", "", 0), ("s", "xy", 0), ("s", "", 0), ("b", "FALSE", 0),
        ("n", "42", 0), ("s", "abc", 0)]] := by
  decide

/-- `C02_cell_decodes`, `C02_cell_written`: a padded text cell under a formula at XFD1048576, against a
    table that already holds items -/
example : ∃ tbl' cx, writeTo demoF [{ text := some ['q'] }]
    { col := 16384, row := 1048576, raw := .str [' ', 'x', ' '], formula := some ['A', '1', ' '] } = some (tbl', some cx) :=
  C02_cell_written demoF _ _ (by decide) (by decide)

/-- `C02_chardata_lexed`: escaped text is such character data -/
example : (∀ c ∈ Umya.Xml.escape ['a', '<', '\r', ' '], Umya.Spec.Xml.isXmlChar c = true) ∧ '<' ∉ Umya.Xml.escape ['a', '<', '\r', ' '] := by
  decide

/-- `C02_cell_kind_partial`, `C02_cell_decodes_plain_partial`: a rich text under a formula, a lazy number, a lazy
    text under a formula are `plainKind`; a lazy "" under a formula is a formula without cached value -/
example : plainKind demoF { col := 1, row := 1, raw := .rich [], formula := some ['A', '1'] } = true ∧
    plainKind demoF { col := 1, row := 1, raw := .lazy ['4', '2'] } = true ∧
    plainKind demoF { col := 1, row := 1, raw := .lazy ['a'], formula := some ['A', '1'] } = true ∧
    plainKind demoF { col := 1, row := 1, raw := .lazy [], formula := some ['A', '1'] } = false := by
  decide

/-- `C02_si_decodes`, `C02_sst_decodes`: a table with a padded text, an empty text and a rich text -/
example : ([{ text := some [' ', 'a', '&'] }, { text := some [] }, { rich := some [{ text := ['x'] }, { text := ['y', ' '], font := some 1 }] }] : Table).map itemText
    = [[' ', 'a', '&'], [], ['x', 'y', ' ']] := by decide

/-- the rendering itself, on a concrete cell and item (what the decoder is handed) -/
example : cellNode 5 { ref := ['B', '2'], t := ['s'], styled := true, f := some ['A', '1', '&', 'l', 't', ';', '2'], v := .text ['0'] }
    = some (.elem ['c'] [⟨['r'], ['B', '2']⟩, ⟨['t'], ['s']⟩, ⟨['s'], ['5']⟩]
        [.elem ['f'] [] [.text ['A', '1', '<', '2']], .elem ['v'] [] [.text ['0']]]) := by
  have h5 : Umya.Dec.decDigits 5 = ['5'] := by rw [Umya.Dec.decDigits]; rfl
  simp only [cellNode, cellAttrs, attrOf_eq, h5]
  rfl

example : siNode (siOf { text := some [' ', 'a', '&'] })
    = some (.elem ['s', 'i'] [] [.elem ['t'] [⟨['x', 'm', 'l', ':', 's', 'p', 'a', 'c', 'e'], ['p', 'r', 'e', 's', 'e', 'r', 'v', 'e']⟩] [.text [' ', 'a', '&']], phoneticPr]) := by
  rw [siNode_siOf]; rfl

end Cells

example : Umya.Spec.Xml.textValue (escape ['a', '&', '\r', '<', '"', '\n', 'b']) = some ['a', '&', '\r', '<', '"', '\n', 'b'] ∧
    Umya.Spec.Xml.attrValue (attrEscape ['a', '\t', '\r', '\n', '"']) = some ['a', '\t', '\r', '\n', '"'] :=
  ⟨C02_text_channel _, C02_attr_channel _⟩

example : sheetWalk [⟨(1, 1), true, ['x']⟩, ⟨(1, 2), false, ['y']⟩, ⟨(1, 3), true, ['z']⟩] 1 = [((1, 1), some 1), ((1, 2), none), ((1, 3), some 2)] := by decide

/-- Tie to the source (T).  The escape pipelines of writer/driver.rs as regenerated on this run are the
    model's channel functions: `write_start_tag` ↦ `attrEscape`, `write_text_node` ↦ `escape`,
    `write_text_node_conversion` ↦ `partialEscape` (base quick-xml function and every `.replace` step, in order). -/
theorem C02_channels_match_source (s : List Char) :
    Umya.Gen.write_start_tag_escape.run escapeOld partialEscapeOld s = attrEscape s ∧
    Umya.Gen.write_text_node_escape.run escapeOld partialEscapeOld s = escape s ∧
    Umya.Gen.write_text_node_conversion_escape.run escapeOld partialEscapeOld s = partialEscape s :=
  ⟨Umya.Gen.gen_write_start_tag s, Umya.Gen.gen_write_text_node s, Umya.Gen.gen_write_text_node_conversion s⟩

end Umya.Thm.C02
