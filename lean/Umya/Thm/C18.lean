/-
  C18 — Date serial numbers and calendar dates convert exactly in both directions.

  What is proved, and about what:
    * `Umya.Spec.Calendar` (independent reference: leap rule, month table, Hinnant's closed forms):
      mutual inverses, validity, strict monotonicity.
    * the model `Umya.Date.convertDate` of `convert_date` (checked `i32` arithmetic, literal
      `to_string()[0..2]` slicing): its day count equals the reference day count minus the day
      number of 1899-12-30 (minus one before 1900-03-01), it does not panic on the domain, and
      (day, second) is strictly increasing.
    * the model of `excel_to_date_time_object` instantiated with EXACT arithmetic (`Fix`, unit
      1/86400 day): serial ↦ date-time is the inverse, to the second.
  What is NOT proved: anything about the IEEE-754 `Float` instance that the driver executes and
  that corresponds to the Rust `f64` code — that it satisfies the standard model of binary64
  arithmetic `StdModel`, the hypothesis of `Umya/Thm/C18Float.lean`, is an assumption
  (see tools/props.d/C18.py); chrono's calendar and `strftime` (represented by the reference
  calendar and `Umya.Date.strftime`).
-/
import Umya.Lemmas.Date
import Umya.Model.Gen.Tables
namespace Umya.Thm.C18
open Umya.Date Umya.Spec.Calendar Umya.Lemmas.Calendar Umya.Lemmas.Date

/-- day number → civil date → day number is the identity, for every integer day number. -/
theorem C18_civil_roundtrip (n : Int) :
    daysFromCivil (civilFromDays n).1 (civilFromDays n).2.1 (civilFromDays n).2.2 = n :=
  daysFromCivil_civilFromDays n

example : civilFromDays 19866 = (2024, 5, 23) ∧ daysFromCivil 2024 5 23 = 19866 := by decide +kernel

/-- civil date → day number → civil date is the identity, for every valid proleptic
    Gregorian date (any year, also negative). -/
theorem C18_civil_roundtrip_inv (y m d : Int) (hv : ValidDate y m d) :
    civilFromDays (daysFromCivil y m d) = (y, m, d) :=
  civilFromDays_daysFromCivil y m d hv

example : ValidDate 2000 2 29 ∧ ValidDate 1900 2 28 ∧ ¬ ValidDate 1900 2 29 := by decide +kernel

/-- every day number decodes to a date that exists (month 1..12, day within the month length
    given by the leap rule) -/
theorem C18_civil_valid (n : Int) :
    ValidDate (civilFromDays n).1 (civilFromDays n).2.1 (civilFromDays n).2.2 :=
  civilFromDays_valid n

/-- the closed-form day count is strictly increasing in calendar order on valid dates -/
theorem C18_civil_monotone (y1 m1 d1 y2 m2 d2 : Int) (h1 : ValidDate y1 m1 d1)
    (h2 : ValidDate y2 m2 d2) (hlt : dateLt (y1, m1, d1) (y2, m2, d2)) :
    daysFromCivil y1 m1 d1 < daysFromCivil y2 m2 d2 :=
  daysFromCivil_strictMono y1 m1 d1 y2 m2 d2 h1 h2 hlt

example : ValidDate 1900 2 28 ∧ ValidDate 1900 3 1 ∧ dateLt (1900, 2, 28) (1900, 3, 1) := by decide +kernel

/-- dates of the 1900 system: valid, 1900-01-01 … 9999-12-31 -/
def InDomain (y m d : Int) : Prop := ValidDate y m d ∧ 1900 ≤ y ∧ y ≤ 9999

instance (y m d : Int) : Decidable (InDomain y m d) := by unfold InDomain; infer_instance

def ValidTime (h mi s : Int) : Prop := 0 ≤ h ∧ h < 24 ∧ 0 ≤ mi ∧ mi < 60 ∧ 0 ≤ s ∧ s < 60

instance (h mi s : Int) : Decidable (ValidTime h mi s) := by unfold ValidTime; infer_instance

theorem ValidTime.secs {h mi s : Int} (ht : ValidTime h mi s) :
    0 ≤ h * 3600 + mi * 60 + s ∧ h * 3600 + mi * 60 + s < 86400 := by
  unfold ValidTime at ht; omega

/-- On the whole domain the model does not panic and returns
    (reference day count − day number of 1899-12-30 − 1 + leap flag, seconds of day). -/
theorem C18_convert (y m d h mi s : Int) (hd : InDomain y m d) (ht : ValidTime h mi s) :
    convertDate y m d h mi s =
      some (daysFromCivil y m d - daysFromCivil 1899 12 30 - 1 + (if y = 1900 ∧ m ≤ 2 then 0 else 1),
            h * 3600 + mi * 60 + s) := by
  obtain ⟨hv, hy0, hy1⟩ := hd
  obtain ⟨hh0, hh1, hm0, hm1, hs0, hs1⟩ := ht
  have hd31 : d ≤ 31 := Int.le_trans hv.2.2.2 (daysInMonth_le y m)
  have hYb : 1000 ≤ marchYear y m ∧ marchYear y m ≤ 9999 := by
    unfold marchYear; split <;> omega
  unfold convertDate
  rw [convertDateCrate_eq y m d h mi s ⟨hv.1, hv.2.1⟩ ⟨hv.2.2.1, hd31⟩ hYb ⟨hh0, hh1⟩ ⟨hm0, hm1⟩ ⟨hs0, hs1⟩, landmark_days.1]
  congr 2; omega

/-- `D` is the serial day of `C18_convert`: at most `2958465` (9999-12-31), never `60` (Excel's fictitious 1900-02-29); the
    `if` is the base date that `excel_to_date_time_object` picks for `D`. -/
theorem serial_day (F : Type) [FloatOps F] (y m d h mi s : Int) (hd : InDomain y m d) (ht : ValidTime h mi s) :
    ∃ D, convertDateF F y m d h mi s = some (serialOf F D (h * 3600 + mi * 60 + s)) ∧
      1 ≤ D ∧ D ≤ 2958465 ∧ D ≠ 60 ∧ (D = 1 → y = 1900 ∧ m = 1 ∧ d = 1) ∧
      (if D < 60 then daysFromCivil 1899 12 31 else daysFromCivil 1899 12 30) + D = daysFromCivil y m d := by
  have hc := C18_convert y m d h mi s hd ht
  obtain ⟨hv, hy0, hy1⟩ := hd
  obtain ⟨hm0, hm1, hd0, hd1⟩ := hv
  have hd31 : d ≤ 31 := Int.le_trans hd1 (daysInMonth_le y m)
  have hv : ValidDate y m d := ⟨hm0, hm1, hd0, hd1⟩
  obtain ⟨e1230, e1231, e0101, e0301, e9999⟩ := landmark_days
  have hhi := daysFromCivil_mono y m d 9999 12 31 hv (by decide) (by omega)
  refine ⟨_, by unfold convertDateF; rw [hc]; rfl, ?_⟩
  by_cases hw : y = 1900 ∧ m ≤ 2
  · have hlo := daysFromCivil_mono 1900 1 1 y m d (by decide) hv (by omega)
    have hlt := daysFromCivil_strictMono y m d 1900 3 1 hv (by decide) (by unfold dateLt; simp only; omega)
    rw [if_pos hw]
    exact ⟨by omega, by omega, by omega, fun e => daysFromCivil_inj y m d 1900 1 1 hv (by decide) (by omega),
      by rw [if_pos (by omega)]; omega⟩
  · have hlo := daysFromCivil_mono 1900 3 1 y m d (by decide) hv (by omega)
    rw [if_neg hw]
    exact ⟨by omega, by omega, by omega, fun e => by omega, by rw [if_neg (by omega)]; omega⟩

/-- For every valid date from 1900-03-01 to 9999-12-31 the day count computed by
    `convert_date` is the proleptic-Gregorian day difference to 1899-12-30. -/
theorem C18_days (y m d : Int) (hv : ValidDate y m d) (hlo : dateLe (1900, 3, 1) (y, m, d))
    (hhi : dateLe (y, m, d) (9999, 12, 31)) :
    serialDays y m d = some (daysFromCivil y m d - daysFromCivil 1899 12 30) := by
  rw [dateLe_iff] at hlo hhi
  unfold serialDays
  rw [C18_convert y m d 0 0 0 ⟨hv, by omega, by omega⟩ (by decide), if_neg (by omega)]
  simp only [Option.map_some]; congr 1; omega

example : ValidDate 2024 5 23 ∧ dateLe (1900, 3, 1) (2024, 5, 23) ∧ dateLe (2024, 5, 23) (9999, 12, 31) := by
  decide +kernel
example : serialDays 2024 5 23 = some 45435 := by
  rw [C18_days 2024 5 23 (by decide) (by decide) (by decide)]; decide
example : serialDays 1900 3 1 = some 61 ∧ serialDays 9999 12 31 = some 2958465 := by
  rw [C18_days 1900 3 1 (by decide) (by decide) (by decide),
    C18_days 9999 12 31 (by decide) (by decide) (by decide)]; decide

/-- The 1900 leap-day window: for 1900-01-01 … 1900-02-28 the day count is one less
    (Excel's fictitious 1900-02-29 is serial 60). -/
theorem C18_days_1900 (m d : Int) (hv : ValidDate 1900 m d) (hm : m ≤ 2) :
    serialDays 1900 m d = some (daysFromCivil 1900 m d - daysFromCivil 1899 12 30 - 1) := by
  unfold serialDays
  rw [C18_convert 1900 m d 0 0 0 ⟨hv, by decide, by decide⟩ (by decide), if_pos ⟨rfl, hm⟩]
  simp only [Option.map_some]; congr 1; omega

example : ValidDate 1900 1 1 ∧ ValidDate 1900 2 28 := by decide +kernel
example : serialDays 1900 1 1 = some 1 ∧ serialDays 1900 2 28 = some 59 := by
  rw [C18_days_1900 1 1 (by decide) (by decide), C18_days_1900 2 28 (by decide) (by decide)]; decide

/-- Over the whole domain, if (date, time of day) is earlier then
    (serial day, second of day) is lexicographically smaller, i.e. the exact serial
    `day + second/86400` is strictly smaller (stated on the common scale of seconds). -/
theorem C18_monotone (y1 m1 d1 h1 i1 s1 y2 m2 d2 h2 i2 s2 : Int)
    (hd1 : InDomain y1 m1 d1) (ht1 : ValidTime h1 i1 s1)
    (hd2 : InDomain y2 m2 d2) (ht2 : ValidTime h2 i2 s2)
    (hlt : dateLt (y1, m1, d1) (y2, m2, d2) ∨
      ((y1, m1, d1) = (y2, m2, d2) ∧ h1 * 3600 + i1 * 60 + s1 < h2 * 3600 + i2 * 60 + s2)) :
    ∃ D1 T1 D2 T2, convertDate y1 m1 d1 h1 i1 s1 = some (D1, T1) ∧
      convertDate y2 m2 d2 h2 i2 s2 = some (D2, T2) ∧
      0 ≤ T1 ∧ T1 < 86400 ∧ 0 ≤ T2 ∧ T2 < 86400 ∧
      86400 * D1 + T1 < 86400 * D2 + T2 := by
  -- the leap flag can only go up along the calendar: what comes before a date of Jan/Feb 1900 is in Jan/Feb 1900
  have hflag : dateLt (y1, m1, d1) (y2, m2, d2) → y2 = 1900 ∧ m2 ≤ 2 → y1 = 1900 ∧ m1 ≤ 2 := by
    intro h
    have := hd1.2.1
    unfold dateLt at h; simp only at h
    omega
  obtain ⟨p0, p1⟩ := ht1.secs
  obtain ⟨q0, q1⟩ := ht2.secs
  refine ⟨_, _, _, _, C18_convert _ _ _ _ _ _ hd1 ht1, C18_convert _ _ _ _ _ _ hd2 ht2, p0, p1, q0, q1, ?_⟩
  rcases hlt with hlt | ⟨heq, hs⟩
  · have hmono := daysFromCivil_strictMono _ _ _ _ _ _ hd1.1 hd2.1 hlt
    by_cases hw : y2 = 1900 ∧ m2 ≤ 2
    · rw [if_pos hw, if_pos (hflag hlt hw)]; omega
    · rw [if_neg hw]; split <;> omega
  · have : y1 = y2 ∧ m1 = m2 ∧ d1 = d2 := by
      injection heq with a b; injection b with b c; exact ⟨a, b, c⟩
    obtain ⟨rfl, rfl, rfl⟩ := this
    omega

example : InDomain 1900 2 28 ∧ ValidTime 23 59 59 ∧ InDomain 1900 3 1 ∧ ValidTime 0 0 0 ∧
    dateLt (1900, 2, 28) (1900, 3, 1) := by decide +kernel
example : convertDate 1900 2 28 23 59 59 = some (59, 86399) ∧ convertDate 1900 3 1 0 0 0 = some (61, 0) := by
  rw [C18_convert 1900 2 28 23 59 59 (by decide) (by decide), C18_convert 1900 3 1 0 0 0 (by decide) (by decide)]
  decide +kernel

/-- For a serial `D + T/86400` (`D ≥ 1` whole days,
    `0 ≤ T < 86400` whole seconds) the floor/fraction/round chain of
    `excel_to_date_time_object`, run in exact fixed-point arithmetic, yields base date + `D`
    days + exactly `T` seconds; the base date is 1899-12-31 for `D < 60` and 1899-12-30 after. -/
theorem C18_time_exact (D T : Int) (hD : 1 ≤ D) (hT : 0 ≤ T ∧ T < 86400) :
    excelToEpochSeconds (serialOf Fix D T) =
      ((if D < 60 then daysFromCivil 1899 12 31 else daysFromCivil 1899 12 30) + D) * 86400 + T := by
  obtain ⟨hn, _⟩ := fix_secs D T 0 hT
  have hbase : baseFor (serialOf Fix D T) =
      (if D < 60 then daysFromCivil 1899 12 31 else daysFromCivil 1899 12 30) := by
    unfold baseFor
    simp only [FloatOps.lt, FloatOps.ofInt, hn, base18991231, base18991230]
    rw [if_neg (by simp only [decide_eq_true_eq]; omega)]
    by_cases h : D < 60
    · rw [if_pos (by simp only [decide_eq_true_eq]; omega), if_pos h]
    · rw [if_neg (by simp only [decide_eq_true_eq]; omega), if_neg h]
  unfold excelToEpochSeconds
  rw [hbase]
  exact (fix_secs D T _ hT).2

example : excelToEpochSeconds (serialOf Fix 45435 18242) = 1716440642 := by
  rw [C18_time_exact 45435 18242 (by decide) (by decide)]; decide

/-- no rounding is hidden in the fixed-point instance on these inputs: the serial is exactly
    `86400·D + T` units of 1/86400 day -/
theorem C18_time_exact_no_loss (D T : Int) (hD : 0 ≤ D) (hT : 0 ≤ T ∧ T < 86400) :
    (serialOf Fix D T).n = 86400 * D + T :=
  (fix_secs D T 0 hT).1

/-- Round trip to the second: for every date of the 1900 system and every
    time of day, `excel_to_date_time_object (convert_date …)`, with the float operations replaced
    by exact arithmetic and chrono's calendar by the reference calendar, returns the same
    year, month, day, hour, minute, second. -/
theorem C18_roundtrip_exact (y m d h mi s : Int) (hd : InDomain y m d) (ht : ValidTime h mi s) :
    (convertDateF Fix y m d h mi s).map excelToDateTime =
      some ⟨y, m, d, h, mi, s, daysFromCivil y m d⟩ := by
  obtain ⟨D, e, hD1, _, _, _, hbase⟩ := serial_day Fix y m d h mi s hd ht
  rw [e]
  simp only [Option.map_some]
  unfold excelToDateTime
  rw [C18_time_exact D _ hD1 ht.secs, hbase, ofEpochSeconds_civil y m d h mi s hd.1 ht]

example : InDomain 2021 6 2 ∧ ValidTime 5 4 2 := by decide +kernel
example : (convertDateF Fix 2021 6 2 5 4 2).map excelToDateTime =
    some ⟨2021, 6, 2, 5, 4, 2, daysFromCivil 2021 6 2⟩ :=
  C18_roundtrip_exact 2021 6 2 5 4 2 (by decide) (by decide)

example : strftimeOf "yyyy-mm-dd hh:mm:ss".toList = some "%Y-%m-%d %H:%M:%S".toList := by decide +kernel
example : strftimeOf "d-mmm-yy h:mm AM/PM".toList = some "%-d-%b-%y %-I:%M %P".toList := by decide +kernel

/-- The date-format token tables of the model are
    `DATE_FORMAT_REPLACEMENTS`, `…_24`, `…_12` of date_formater.rs as regenerated on this run (order included).
    `C19_date_tables_match_source` states the same: neither property's theorem modules import the other's. -/
theorem C18_tables_match_source :
    Umya.Gen.date_format_replacements = Umya.Date.dateReplacements ∧
    Umya.Gen.date_format_replacements_24 = Umya.Date.dateReplacements24 ∧
    Umya.Gen.date_format_replacements_12 = Umya.Date.dateReplacements12 := ⟨rfl, rfl, rfl⟩

end Umya.Thm.C18
