/-
  C13 — the save PROTOCOLS regenerated from the source are the protocols of the hand model.

  `tools/extract_proto.py` regenerates `Umya/Model/Gen/Proto.lean` from the current source of /repo on every run:
  for each of `xlsx::write`, `xlsx::write_light`, `csv::write`, `xlsx::write_writer`, `write_writer_light`,
  `csv::write_writer`, `xlsx::write_with_password`, `write_with_password_light`, `set_password` one program of the
  protocol language of `Umya/Model/SaveProto.lean` — the effectful calls in source order (`File::create`,
  `BufWriter::new`, `write_all`, `flush`, `drop`, `fs::rename`, `fs::remove_file`, `cfb::create`, `write_compound_file`,
  `File::open`, `read_to_end`, `make_buffer`), what is done with each `Result` (`?`, stored in `result`, discarded,
  matched), the error-path blocks and the scope-end drops explicit, callees inlined — and the expression of the temp name.

  The proofs rest on the generic soundness theorem `exec_norm` (a program runs like its decision tree, `Lemmas/SaveProto.lean`),
  one closed `decide` per function (`norm Gen.f [] = <the model's tree>`: independent of how the source spells its control
  flow — `?`, `match`, `if let`, `is_ok()` chains, extra result variables, helper functions — but not of the order of the
  calls or of which results are checked), and the lemmas `interpT_savePathT` … (the model's tree IS the model's protocol).
-/
import Umya.Lemmas.SaveProto
import Umya.Model.Gen.Proto
import Umya.Thm.C13
namespace Umya.Thm.C13
open Umya.Fs Umya.SaveProto

theorem norm_xlsx_write : norm Gen.xlsx_write [] = savePathT := by decide
theorem norm_xlsx_write_light : norm Gen.xlsx_write_light [] = savePathT := by decide
theorem norm_csv_write : norm Gen.csv_write [] = savePathCsvT := by decide
theorem norm_xlsx_write_writer : norm Gen.xlsx_write_writer [] = writeWriterT := by decide
theorem norm_xlsx_write_writer_light : norm Gen.xlsx_write_writer_light [] = writeWriterT := by decide
theorem norm_csv_write_writer : norm Gen.csv_write_writer [] = writeWriterCsvT := by decide
theorem norm_xlsx_write_with_password : norm Gen.xlsx_write_with_password [] = savePwT := by decide
theorem norm_xlsx_write_with_password_light : norm Gen.xlsx_write_with_password_light [] = savePwT := by decide
theorem norm_xlsx_set_password : norm Gen.xlsx_set_password [] = setPwT := by decide

/-- The regenerated protocols are the model's protocols.  `c` collects what the run is parametric in: the fault
    plan `c.φ`, the output `c.data` (`c.cok`: `make_buffer` succeeded), the container writer's `write_all` sequences
    `c.enc1` (`cfb::create`) and `c.enc2` (`write_compound_file`), the paths; `hx`: the destination has an extension
    (otherwise the functions panic on `extension().unwrap()` before any I/O). -/
theorem C13_protocol_matches_source (c : Ctx) (st : St) (pre ext : List Char) (hc : c.cok = true)
    (hx : splitExt c.dest = some (pre, ext)) :
    -- xlsx::write, xlsx::write_light, csv::write: `savePath`
    exec c Gen.xlsx_write [] (M.init st) = some (outcome (savePath c.φ c.data c.dest st)) ∧
    exec c Gen.xlsx_write_light [] (M.init st) = some (outcome (savePath c.φ c.data c.dest st)) ∧
    exec c Gen.csv_write [] (M.init st) = some (outcome (savePath c.φ c.data c.dest st)) ∧
    -- write_writer (xlsx, light, csv) on a caller-supplied sink: `writeWriter`
    (exec c Gen.xlsx_write_writer [] M.sink).map sinkView = some (writeWriter c.φ c.data) ∧
    (exec c Gen.xlsx_write_writer_light [] M.sink).map sinkView = some (writeWriter c.φ c.data) ∧
    (exec c Gen.csv_write_writer [] M.sink).map sinkView = some (writeWriter c.φ c.data) ∧
    -- write_with_password(_light): `savePw` on the container writer's write sequence
    exec c Gen.xlsx_write_with_password [] (M.init st) =
      some (outcome (savePw c.φ (c.enc1 c.data ++ c.enc2 c.data) c.dest st)) ∧
    exec c Gen.xlsx_write_with_password_light [] (M.init st) =
      some (outcome (savePw c.φ (c.enc1 c.data ++ c.enc2 c.data) c.dest st)) ∧
    -- set_password: `setPw`
    exec c Gen.xlsx_set_password [] (M.init st) =
      some (outcome (setPw c.φ (fun b => c.enc1 b ++ c.enc2 b) c.src c.dest st)) := by
  have sink : ∀ (x : St × R), x = writeAll c.φ sinkPath c.data.length c.data (St.init [(sinkPath, .file [])]) →
      sinkView (x.1, okErr x.2) = writeWriter c.φ c.data := by
    intro x hxe
    have hw := writeWriter_eq_sinkView c.φ c.data
    -- the result is `.ok` or `.err` (first component of either disjunct of `C13_sink`), the two values `okErr` leaves as they are
    rcases C13_sink c.φ c.data with ⟨r, _⟩ | ⟨r, _⟩
    · rw [hw, ← hxe] at r ⊢
      simp only [sinkView] at r ⊢
      rw [r]; rfl
    · rw [hw, ← hxe] at r ⊢
      simp only [sinkView] at r ⊢
      rw [r]; rfl
  have hx := Option.isSome_of_eq_some hx
  refine ⟨?_, ?_, ?_, ?_, ?_, ?_, ?_, ?_, ?_⟩
  · rw [exec_norm, norm_xlsx_write]; exact interpT_savePathT c st hc hx
  · rw [exec_norm, norm_xlsx_write_light]; exact interpT_savePathT c st hc hx
  · rw [exec_norm, norm_csv_write]; exact interpT_savePathCsvT c st hx
  · rw [exec_norm, norm_xlsx_write_writer, interpT_writeWriterT c hc]
    simp only [Option.map_some]; exact congrArg some (sink _ rfl)
  · rw [exec_norm, norm_xlsx_write_writer_light, interpT_writeWriterT c hc]
    simp only [Option.map_some]; exact congrArg some (sink _ rfl)
  · rw [exec_norm, norm_csv_write_writer, interpT_writeWriterCsvT c]
    simp only [Option.map_some]; exact congrArg some (sink _ rfl)
  · rw [exec_norm, norm_xlsx_write_with_password]; exact interpT_savePwT c st hc hx
  · rw [exec_norm, norm_xlsx_write_with_password_light]; exact interpT_savePwT c st hc hx
  · rw [exec_norm, norm_xlsx_set_password]; exact interpT_setPwT c st hx

/-- non-vacuity: a context satisfying the hypotheses (`a.x` has the extension `x`), and the regenerated `xlsx::write`
    run on it: writes failing from byte 2 — error, destination untouched, temp file removed -/
example :
    let c : Ctx := ⟨{ noFault with write := limitPolicy 2 true }, true, [1, 2, 3], fun _ => [], fun _ => [],
      ['a', '.', 'x'], [], []⟩
    let fs : Fs := [(['a', '.', 'x'], .file [9])]
    c.cok = true ∧ splitExt c.dest = some (['a'], ['x']) ∧
    (exec c Gen.xlsx_write [] (M.init (St.init fs))).map (fun o => (o.2, get o.1.cur ['a', '.', 'x'], get o.1.cur (tmpOf ['a', '.', 'x'])))
      = some (.err, some (.file [9]), none) := by decide

/-- … and without a fault: the regenerated program itself puts the new bytes at the destination -/
example :
    let c : Ctx := ⟨noFault, true, [1, 2, 3], fun _ => [], fun _ => [], ['a', '.', 'x'], [], []⟩
    (exec c Gen.xlsx_write [] (M.init (St.init [(['a', '.', 'x'], .file [9])]))).map (fun o => (o.2, get o.1.cur ['a', '.', 'x']))
      = some (.ok, some (.file [1, 2, 3])) := by decide

/-- When `make_buffer` fails (an in-memory error, not an I/O failure; `savePath` / `savePw` have no such
    parameter): the regenerated `xlsx::write` / `write_light` return the error after creating the empty temp file
    and removing it again (or after the failed creation): the final state is that of `sysCreate` / `sysRemove` at
    `tmpOf c.dest`, no call names the destination (that the destination keeps its content is not a clause: it follows with
    `tmpOf dest ≠ dest` and the frame of the two calls; the `example` below shows it on one instance); and the
    regenerated `write_with_password(_light)` return the error without a single system call. -/
theorem C13_make_buffer_failure (c : Ctx) (st : St) (pre ext : List Char) (hc : c.cok = false)
    (hx : splitExt c.dest = some (pre, ext)) :
    (exec c Gen.xlsx_write [] (M.init st) =
      some (match sysCreate c.φ (tmpOf c.dest) st with
            | (st1, none) => (st1, .err)
            | (st1, some _) => ((sysRemove c.φ (tmpOf c.dest) st1).1, .err))) ∧
    (exec c Gen.xlsx_write_light [] (M.init st) =
      some (match sysCreate c.φ (tmpOf c.dest) st with
            | (st1, none) => (st1, .err)
            | (st1, some _) => ((sysRemove c.φ (tmpOf c.dest) st1).1, .err))) ∧
    exec c Gen.xlsx_write_with_password [] (M.init st) = some (st, .err) ∧
    exec c Gen.xlsx_write_with_password_light [] (M.init st) = some (st, .err) := by
  have hx := Option.isSome_of_eq_some hx
  refine ⟨?_, ?_, ?_, ?_⟩
  · rw [exec_norm, norm_xlsx_write]; exact interpT_savePathT_compute_fail c st hc hx
  · rw [exec_norm, norm_xlsx_write_light]; exact interpT_savePathT_compute_fail c st hc hx
  · rw [exec_norm, norm_xlsx_write_with_password]; exact interpT_savePwT_compute_fail c st hc
  · rw [exec_norm, norm_xlsx_write_with_password_light]; exact interpT_savePwT_compute_fail c st hc

example :
    let c : Ctx := ⟨noFault, false, [], fun _ => [], fun _ => [], ['a', '.', 'x'], [], []⟩
    let fs : Fs := [(['a', '.', 'x'], .file [9])]
    c.cok = false ∧ splitExt c.dest = some (['a'], ['x']) ∧
    (exec c Gen.xlsx_write [] (M.init (St.init fs))).map (fun o => (o.2, o.1.states.map (fun s => get s ['a', '.', 'x']), get o.1.cur (tmpOf ['a', '.', 'x'])))
      = some (.err, [some (.file [9]), some (.file [9]), some (.file [9])], none) := by decide

/-- The temp name of the source is the model's: the path every path-save function creates its file at —
    `path.with_extension(format!("{}{}", extension, "tmp"))`, `extension = path.extension().unwrap().to_str().unwrap()`,
    under the model of `Path::extension` / `with_extension` of `Model/SaveProto.lean` — is `<dest>tmp`, for every
    destination with an extension. -/
theorem C13_tmp_name_matches_source (fs0 : Fs) (dest src : Path) (pre ext : List Char)
    (hx : splitExt dest = some (pre, ext)) :
    evalE fs0 dest src Gen.xlsx_write_tmp = some (tmpOf dest) ∧
    evalE fs0 dest src Gen.xlsx_write_light_tmp = some (tmpOf dest) ∧
    evalE fs0 dest src Gen.csv_write_tmp = some (tmpOf dest) ∧
    evalE fs0 dest src Gen.xlsx_write_with_password_tmp = some (tmpOf dest) ∧
    evalE fs0 dest src Gen.xlsx_write_with_password_light_tmp = some (tmpOf dest) ∧
    evalE fs0 dest src Gen.xlsx_set_password_tmp = some (tmpOf dest) := by
  have h := evalE_tmpE fs0 dest src (Option.isSome_of_eq_some hx)
  have e1 : Gen.xlsx_write_tmp = tmpE .dest := by decide
  have e2 : Gen.xlsx_write_light_tmp = tmpE .dest := by decide
  have e3 : Gen.csv_write_tmp = tmpE .dest := by decide
  have e4 : Gen.xlsx_write_with_password_tmp = tmpE .dest := by decide
  have e5 : Gen.xlsx_write_with_password_light_tmp = tmpE .dest := by decide
  have e6 : Gen.xlsx_set_password_tmp = tmpE .dest := by decide
  rw [e1, e2, e3, e4, e5, e6]
  exact ⟨h, h, h, h, h, h⟩

/-- non-vacuity, and the model of `Path::extension` on examples: `dir.d/book.xlsx` → `xlsx`; no extension for
    `book`, `.hidden`, `dir.d/book`, `..` -/
example :
    splitExt "dir.d/book.xlsx".toList = some ("dir.d/book".toList, "xlsx".toList) ∧
    evalE [] "dir.d/book.xlsx".toList [] Gen.xlsx_write_tmp = some "dir.d/book.xlsxtmp".toList ∧
    splitExt "book".toList = none ∧ splitExt ".hidden".toList = none ∧ splitExt "dir.d/book".toList = none ∧
    splitExt "..".toList = none ∧ splitExt "a/..".toList = none ∧
    splitExt "archive.tar.gz".toList = some ("archive.tar".toList, "gz".toList) := by decide

end Umya.Thm.C13
