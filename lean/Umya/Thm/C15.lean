/-
  C15 — Protection password hashes verify per ECMA-376; no clear-text password.

  Everything is relative to the abstract primitives `P : Prims` (SHA-512, base64): they are NOT proved; the laws used are
  explicit hypotheses (`P.unb64 (P.b64 x) = some x`, base64 text is XML-safe).

  Model: `Umya/Model/PwHash.lean` (the code of crypt.rs / sheet_protection.rs /
  workbook_protection.rs as it stands; the random salt is a parameter).
  Spec:  `Umya/Spec/PwHash.lean` (ECMA-376 Part 1 §18.2.29 / §18.3.1.85, written from the standard).

  Not provable here and explored by the harness only (labelled partial): freshness of the salt
  (`getrandom`), and textual absence of the clear password from the saved zip.
-/
import Umya.Lemmas.PwHash
namespace Umya.Thm.C15
open Umya.Crypto Umya.PwHash Umya.Dec

/-- the three protection kinds and the state they live in -/
inductive Kind | sheet | workbook | revisions
  deriving DecidableEq, Repr

structure Book where
  sheet : SheetProtection
  wb : WorkbookProtection

def setPassword (P : Prims) (k : Kind) (pw : List Char) (salt : Bytes) (b : Book) : Book :=
  match k with
  | .sheet => { b with sheet := setSheetPassword P pw salt b.sheet }
  | .workbook => { b with wb := setWorkbookPassword P pw salt b.wb }
  | .revisions => { b with wb := setRevisionsPassword P pw salt b.wb }

def fieldsOf (k : Kind) (b : Book) : PwFields :=
  match k with
  | .sheet => b.sheet.pw
  | .workbook => b.wb.workbook
  | .revisions => b.wb.revisions

def namesOf : Kind → Names
  | .sheet => sheetNames
  | .workbook => workbookNames
  | .revisions => revisionsNames

/-- attributes of the XML element that carries kind `k` (`sheetProtection` / `workbookProtection`) -/
def elementOf (k : Kind) (b : Book) : List Attr :=
  match k with
  | .sheet => writeSheet b.sheet
  | _ => writeWorkbook b.wb

def writeBook (b : Book) : List Attr × List Attr := (writeSheet b.sheet, writeWorkbook b.wb)

def readBook (x : List Attr × List Attr) : Option Book :=
  match readSheet x.1, readWorkbook x.2 with
  | some s, some w => some ⟨s, w⟩
  | _, _ => none

/-- what an ECMA-376 consumer reads from the four attributes of one kind -/
def storedOf (f : PwFields) : Option Umya.Spec.PwHash.Stored :=
  match f.algorithmName, f.saltValue, f.spinCount, f.hashValue with
  | some a, some s, some n, some h => some ⟨a, s, n, h⟩
  | _, _, _, _ => none

/-- base64 text needs no XML escaping (law of the real base64 alphabet; hypothesis on `P`) -/
def B64Safe (P : Prims) : Prop := ∀ x, (P.b64 x).all xmlSafe = true

theorem fieldsOf_set (P : Prims) (k : Kind) (pw : List Char) (salt : Bytes) (b : Book) :
    fieldsOf k (setPassword P k pw salt b) = setPasswordFields P pw salt (fieldsOf k b) := by
  cases k <;> rfl

theorem fieldsOf_set_ne (P : Prims) {k k' : Kind} (h : k' ≠ k) (pw : List Char) (salt : Bytes) (b : Book) :
    fieldsOf k' (setPassword P k pw salt b) = fieldsOf k' b := by
  cases k <;> cases k' <;> first | rfl | exact absurd rfl h

theorem fieldsOf_set_all (P : Prims) (Q : PwFields → Prop) {k : Kind} {pw : List Char} {salt : Bytes} {b : Book}
    (hset : ∀ old, Q (setPasswordFields P pw salt old)) (k' : Kind) (hother : k' ≠ k → Q (fieldsOf k' b)) :
    Q (fieldsOf k' (setPassword P k pw salt b)) := by
  by_cases hk : k' = k
  · subst hk
    rw [fieldsOf_set]
    exact hset _
  · rw [fieldsOf_set_ne P hk]
    exact hother hk

/-- the element that carries kind `k` as a field table: the names of the two kinds that share `workbookProtection` are
    disjoint -/
theorem element_table (k : Kind) (b : Book) : ∃ fs, (elementOf k b).map toAttr = Umya.AnnotCodec.render fs ∧
    (fs.map (·.1)).Nodup ∧ ∀ p ∈ (namesOf k).table (fieldsOf k b), p ∈ fs := by
  cases k with
  | sheet => exact ⟨_, writeFields_eq _ _, sheet_table_nodup _, fun _ h => h⟩
  | workbook => exact ⟨_, writeWorkbook_eq _ _, workbook_table_nodup _ _, fun _ h => List.mem_append_left _ h⟩
  | revisions => exact ⟨_, writeWorkbook_eq _ _, workbook_table_nodup _ _, fun _ h => List.mem_append_right _ h⟩

theorem readFields_element (k : Kind) (b : Book) (h : (fieldsOf k b).safe = true) :
    readFields (namesOf k) (elementOf k b) = some (fieldsOf k b) := by
  obtain ⟨fs, has, hnd, hsub⟩ := element_table k b
  exact readFields_of_table _ _ h hnd hsub has

/-- in any state, the element of kind `k` carries the legacy attribute of `k` only if `k` holds a legacy value: a field
    without a value writes no attribute, and no other field has its name -/
theorem legacy_attr (k : Kind) (b : Book) (a : Attr) (ha : a ∈ elementOf k b) (hp : a.1 = (namesOf k).password) :
    (fieldsOf k b).password.isSome = true := by
  obtain ⟨fs, has, hnd, hsub⟩ := element_table k b
  cases hpw : (fieldsOf k b).password with
  | some _ => rfl
  | none =>
    have hm : ((namesOf k).password, none) ∈ fs := hsub _ (by simp [Names.table, hpw])
    exact absurd hp (Umya.AnnotCodec.render_no_attr fs hnd _ hm (toAttr a) (has ▸ List.mem_map_of_mem ha))

/-- **The stored hash is the ECMA-376 hash**: for every password, salt and spin count, the bytes
    `convert_password_to_hash` returns are `H_spin` of the standard's iteration
    (`H₀ = H(salt ‖ UTF-16LE pw)`, `Hₙ = H(Hₙ₋₁ ‖ LE32(n-1))`).  Induction on the spin count
    (inside `spinLoop_eq_spinUp` / `spinUp_eq_foldl`). -/
theorem C15_hash (P : Prims) (pw : List Char) (salt : Bytes) (spin : Nat) :
    convertPasswordToHash P pw salt spin = Umya.Spec.PwHash.pwHash P.sha512 salt pw spin := by
  unfold convertPasswordToHash Umya.Spec.PwHash.pwHash
  rw [spinLoop_eq_spinUp, spinUp_eq_foldl, utf16le_eq]
  congr 1
  funext h i
  rw [le32_eq_leBytes]

/-- non-vacuity: a toy hash that exposes its input shows the order `key ‖ counter` of the protection hash (salt 7, `a` in
    UTF-16, then the counters 0 and 1 appended; the file-encryption KDF `Umya.Crypt.convertPasswordToKey` hashes
    `counter ‖ key`) -/
example : convertPasswordToHash ⟨id, fun _ _ m => m, fun _ _ m => m, fun _ m => m, fun _ => [], fun _ => none⟩
    ['a'] [7] 2 = [7, 97, 0, 0, 0, 0, 0, 1, 0, 0, 0] := by decide

theorem set_stores (P : Prims) (k : Kind) (pw : List Char) (salt : Bytes) (b : Book) :
    fieldsOf k (setPassword P k pw salt b) =
      ⟨some algName, some (P.b64 (Umya.Spec.PwHash.pwHash P.sha512 salt pw 100000)), some (P.b64 salt), some 100000, none⟩ := by
  rw [fieldsOf_set, setPasswordFields, C15_hash]
  rfl

/-- a candidate password verifies exactly when its iterated digest is the stored one: base64 is injective by `hP` -/
theorem verifies_iff (P : Prims) (hP : ∀ x, P.unb64 (P.b64 x) = some x) (k : Kind) (pw : List Char) (salt : Bytes) (b : Book)
    (st : Umya.Spec.PwHash.Stored) (hst : storedOf (fieldsOf k (setPassword P k pw salt b)) = some st) (pw' : List Char) :
    Umya.Spec.PwHash.verifies P.sha512 P.b64 P.unb64 st pw' = true ↔
      Umya.Spec.PwHash.pwHash P.sha512 salt pw' 100000 = Umya.Spec.PwHash.pwHash P.sha512 salt pw 100000 := by
  rw [set_stores] at hst
  obtain rfl := Option.some.inj hst
  have hinj : ∀ x y, P.b64 x = P.b64 y ↔ x = y := fun x y =>
    ⟨fun he => Option.some.inj (by rw [← hP, ← hP, he]), congrArg P.b64⟩
  simp [Umya.Spec.PwHash.verifies, hP, algName, hinj]

/-- **After any of the three setters, the stored attributes verify under the standard's algorithm
    with the same password** (all passwords, salts, prior states, all three kinds). -/
theorem C15_verifies (P : Prims) (hP : ∀ x, P.unb64 (P.b64 x) = some x)
    (k : Kind) (pw : List Char) (salt : Bytes) (b : Book) :
    ∃ st, storedOf (fieldsOf k (setPassword P k pw salt b)) = some st ∧
      st.algorithmName = ['S', 'H', 'A', '-', '5', '1', '2'] ∧ st.spinCount = 100000 ∧ st.saltValue = P.b64 salt ∧
      Umya.Spec.PwHash.verifies P.sha512 P.b64 P.unb64 st pw = true := by
  have hst := congrArg storedOf (set_stores P k pw salt b)
  exact ⟨_, hst, rfl, rfl, rfl, (verifies_iff P hP k pw salt b _ hst pw).2 rfl⟩

/-- **Any other password fails**, under the explicit hypothesis that its iterated digest differs
    (collision-freedom of SHA-512 is not provable; it is this hypothesis). -/
theorem C15_other_fails (P : Prims) (hP : ∀ x, P.unb64 (P.b64 x) = some x)
    (k : Kind) (pw pw' : List Char) (salt : Bytes) (b : Book)
    (h : Umya.Spec.PwHash.pwHash P.sha512 salt pw' 100000 ≠ Umya.Spec.PwHash.pwHash P.sha512 salt pw 100000) :
    ∀ st, storedOf (fieldsOf k (setPassword P k pw salt b)) = some st →
      Umya.Spec.PwHash.verifies P.sha512 P.b64 P.unb64 st pw' = false :=
  fun st hst => Bool.eq_false_iff.2 (mt (verifies_iff P hP k pw salt b st hst pw').1 h)

/-- hypotheses of `C15_other_fails` are satisfiable: a toy injective "hash" and identity-like base64 -/
example : ∃ (P : Prims), (∀ x, P.unb64 (P.b64 x) = some x) ∧
    Umya.Spec.PwHash.pwHash P.sha512 [1] ['b'] 3 ≠ Umya.Spec.PwHash.pwHash P.sha512 [1] ['a'] 3 := by
  refine ⟨⟨id, fun _ _ m => m, fun _ _ m => m, fun _ m => m,
    fun x => x.map (fun b => Char.ofNat b.toNat), fun s => some (s.map (fun c => UInt8.ofNat c.toNat))⟩, ?_, ?_⟩
  rotate_left
  · have h1 : Umya.Spec.PwHash.pwHash id [1] ['b'] 3 = [1, 98, 0, 0, 0, 0, 0, 1, 0, 0, 0, 2, 0, 0, 0] := by
      simp [Umya.Spec.PwHash.pwHash, Umya.Spec.PwHash.utf16le, Umya.Spec.PwHash.leBytes, List.range, List.range.loop]
    have h2 : Umya.Spec.PwHash.pwHash id [1] ['a'] 3 = [1, 97, 0, 0, 0, 0, 0, 1, 0, 0, 0, 2, 0, 0, 0] := by
      simp [Umya.Spec.PwHash.pwHash, Umya.Spec.PwHash.utf16le, Umya.Spec.PwHash.leBytes, List.range, List.range.loop]
    show Umya.Spec.PwHash.pwHash id [1] ['b'] 3 ≠ Umya.Spec.PwHash.pwHash id [1] ['a'] 3
    rw [h1, h2]; decide
  exact fun x => congrArg some (bytes_chars_bytes x)

/-- **No clear password, no legacy attribute**: after a setter
    (1) the legacy 16-bit hash field of that kind is empty (whatever it was before),
    (2) the element written for that kind has no `password` / `workbookPassword` / `revisionsPassword`
        attribute,
    (3) the whole resulting state depends on the password only through the iterated digest
        (non-interference: two passwords with the same digest give the same state — nothing but the
        digest is kept). -/
theorem C15_no_clear (P : Prims) (k : Kind) (pw : List Char) (salt : Bytes) (b : Book) :
    (fieldsOf k (setPassword P k pw salt b)).password = none ∧
    (∀ a ∈ elementOf k (setPassword P k pw salt b), a.1 ≠ (namesOf k).password) ∧
    (∀ pw', convertPasswordToHash P pw' salt 100000 = convertPasswordToHash P pw salt 100000 →
      setPassword P k pw' salt b = setPassword P k pw salt b) := by
  have hnone : (fieldsOf k (setPassword P k pw salt b)).password = none := by rw [fieldsOf_set]; rfl
  refine ⟨hnone, fun a ha hp => ?_, ?_⟩
  · have := legacy_attr k _ a ha hp
    rw [hnone] at this
    exact absurd this (by decide)
  · intro pw' h
    cases k <;>
      simp [setPassword, setSheetPassword, setWorkbookPassword, setRevisionsPassword, setPasswordFields,
        spinCountConst, h]

/-- the legacy attribute really was there before in this instance, and is gone afterwards -/
example : let b : Book := ⟨⟨⟨none, none, none, none, some "CC1A".toList⟩⟩, ⟨PwFields.empty, PwFields.empty⟩⟩
    (fieldsOf .sheet b).password = some "CC1A".toList ∧
    (writeSheet b.sheet).any (fun a => a.1 == "password".toList) = true := by decide

theorem setFields_safe (P : Prims) (hs : B64Safe P) (pw : List Char) (salt : Bytes) (old : PwFields) :
    (setPasswordFields P pw salt old).safe = true := by
  have h1 := hs salt
  have h2 := hs (convertPasswordToHash P pw salt 100000)
  have h3 : algName.all xmlSafe = true := by decide
  simp only [PwFields.safe, setPasswordFields, safeOpt, h1, h2, h3, Bool.and_true, Bool.true_and, spinCountConst]
  decide

theorem readBook_writeBook (b : Book) (h : ∀ k, (fieldsOf k b).safe = true) : readBook (writeBook b) = some b := by
  have h1 := readFields_element .sheet b (h .sheet)
  have h2 := readFields_element .workbook b (h .workbook)
  have h3 := readFields_element .revisions b (h .revisions)
  simp only [fieldsOf, namesOf, elementOf, writeSheet, writeWorkbook] at h1 h2 h3
  simp only [readBook, writeBook, readSheet, writeSheet, readWorkbook, writeWorkbook, h1, h2, h3, Option.map_some]

/-- **Save/reload**: writing the attributes and reading them back (`write_to` → `set_attributes` as MODELLED in
    `Umya/Model/PwHash.lean`: quick-xml's attribute escaping on write, and a reader, `getAttribute`, that returns the raw
    value without un-escaping) returns exactly the state the setter produced — algorithm, salt, spin count, hash, and no
    legacy value — for all three kinds.  `hother` asks the kinds *not* being set to hold XML-safe text, which excludes exactly
    the values the modelled reader would hand back escaped; the kind being set needs no hypothesis. -/
theorem C15_roundtrip (P : Prims) (hs : B64Safe P) (k : Kind) (pw : List Char) (salt : Bytes) (b : Book)
    (hother : ∀ k', k' ≠ k → (fieldsOf k' b).safe = true) :
    readBook (writeBook (setPassword P k pw salt b)) = some (setPassword P k pw salt b) :=
  readBook_writeBook _ fun k' => fieldsOf_set_all P (·.safe = true) (setFields_safe P hs pw salt) k' (hother k')

/-- non-vacuity of `C15_roundtrip`: a fresh book satisfies `hother` -/
example : ∀ k k' : Kind, k' ≠ k →
    (fieldsOf k' ⟨⟨PwFields.empty⟩, ⟨PwFields.empty, PwFields.empty⟩⟩).safe = true := by
  intro _ k' _; cases k' <;> decide

/-- the safety hypothesis is needed in the model: an `&` in an untouched kind comes back as `&amp;` from the modelled
    reader -/
example : readSheet (writeSheet ⟨⟨some ['&'], none, none, none, none⟩⟩) ≠
    some ⟨⟨some ['&'], none, none, none, none⟩⟩ := by decide

end Umya.Thm.C15
