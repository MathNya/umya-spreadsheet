/-
  C02, workbook level — `xl/workbook.xml` and `xl/_rels/workbook.xml.rels` as trees.

  `Umya/Model/WorkbookNode.lean` renders what `writer/xlsx/workbook.rs` and `workbook_rels.rs` write as far as
  the independent decoder reads it (`<sheets>`, `<definedNames>`, the worksheet relationships).  The theorem
  below says what `Umya.Spec.Sml.decode` returns on a package holding these trees: the sheet list (names in
  order, visibility), each sheet's body as decoded from the part its `r:id` leads to through
  workbook.xml.rels, the defined names, and no diagnostic about sheet names, sheet ids, unresolved sheet
  relationships, sheet bodies or defined-name scopes.

  Partial, and why.  Full statement (section 3 of DESIGN.md):
      decode (writePackage wb) = (some (view wb), [])
  `C02_book_decodes_partial` is about the two workbook trees in ANY package, so three things are left to the
  package: (1) the package-level diagnostics `dEPkg` (every part has a content type, every XML part parses,
  relationship ids unique, internal relationship targets exist) and `dE3` (activeTab inside the sheet list)
  appear in its conclusion as they are; (2) `hpath`: the target `worksheets/sheetK.xml` resolves, relative to
  the workbook part, to the name under which the K-th sheet part is stored; (3) `hsheet`: each sheet body
  decodes (the conclusion of `C02_sheet_decodes`).  For the package `writePackage` builds all three are
  proved — (2) is `PackageNode.resolve_sheetTarget` (`Lemmas/PackagePath.lean`), for every K — and the full statement is
  `C02_book_decodes` in `Thm/C02Pkg.lean`.
-/
import Umya.Lemmas.WorkbookNode
namespace Umya.Thm.C02
open Umya.WorkbookNode Umya.SheetNode
open Umya.Spec.Sml
open Umya.Spec.Xml (Node Attr)

/-- the sheet list the decoder must return: per sheet its name, its state (`visible` when none is written)
    and the body decoded from the K-th sheet part, K = 1-based position -/
def sheetVs (body : Nat → SheetBody) : Nat → List SheetE → List SheetV
  | _, [] => []
  | k, s :: ss =>
    SheetV.mk s.name (str (s.state.getD ['v', 'i', 's', 'i', 'b', 'l', 'e'])) (body k).cells (body k).merges (body k).links (body k).cols
      (body k).rows (body k).tables (body k).noR :: sheetVs body (k + 1) ss

theorem sheetOf_rendered (p : Package) (wbPath : String) (n : Nat) (rest : List Node)
    (hr : (p.part? (relsNameOf wbPath)).bind (·.xml) = some (workbookRelsNode n rest))
    (body : Nat → SheetBody) (k : Nat) (hk1 : 1 ≤ k) (hk2 : k ≤ n) (s : SheetE)
    (hsheet : decodeSheet p (resolveTarget wbPath (str (sheetTarget k))) (dSst p wbPath) (dNXf p wbPath) (dNDxf p wbPath) = (body k, [])) :
    sheetOf p wbPath (sheetEl k s) =
      (SheetV.mk s.name (str (s.state.getD ['v', 'i', 's', 'i', 'b', 'l', 'e'])) (body k).cells (body k).merges (body k).links (body k).cols
        (body k).rows (body k).tables (body k).noR, []) := by
  have hfind := ws_find ((rest.filter (Umya.CellNode.isKid nRelationship)).map relOf) n 1 [] k (by simp) hk1 (by omega)
  rw [List.nil_append, ← relsOf_workbook p wbPath n rest hr] at hfind
  have hname : (sheetEl k s).attr? ['n', 'a', 'm', 'e'] = some s.name := by simp [sheetEl, Node.attr?, Node.attrs]
  have hrid : (sheetEl k s).attr? ['r', ':', 'i', 'd'] = some (rIdText k) := by simp [sheetEl, Node.attr?, Node.attrs]
  have hstate : (sheetEl k s).attr? ['s', 't', 'a', 't', 'e'] = s.state := by
    cases hs : s.state <;> simp [sheetEl, Node.attr?, Node.attrs, hs]
  unfold sheetOf
  simp only [hname, hrid, hstate, Option.bind_some, hfind, hsheet, Option.getD_some]

theorem sheetsE_rendered (p : Package) (wbPath : String) (n : Nat) (rest : List Node)
    (hr : (p.part? (relsNameOf wbPath)).bind (·.xml) = some (workbookRelsNode n rest))
    (body : Nat → SheetBody)
    (hsheet : ∀ k, 1 ≤ k → k ≤ n →
      decodeSheet p (resolveTarget wbPath (str (sheetTarget k))) (dSst p wbPath) (dNXf p wbPath) (dNDxf p wbPath) = (body k, [])) :
    ∀ (ss : List SheetE) (k : Nat), 1 ≤ k → k + ss.length ≤ n + 1 →
      (sheetEls k ss).map (sheetOf p wbPath) = (sheetVs body k ss).map (fun v => (v, [])) := by
  intro ss
  induction ss with
  | nil => intro _ _ _; rfl
  | cons s ss ih =>
    intro k hk1 hk2
    simp only [List.length_cons] at hk2
    simp only [sheetEls, sheetVs, List.map_cons]
    rw [sheetOf_rendered p wbPath n rest hr body k hk1 (by omega) s (hsheet k hk1 (by omega)),
      ih (k + 1) (by omega) (by omega)]

/-- `C02_book_decodes_partial` below with the workbook part under whatever name `wbPath` the main relationship resolves to,
    and with the active tab -/
theorem book_decodes (p : Package) (mr : Rel) (wbPath : String) (fr : WbFrame) (ss : List SheetE) (ds : List NameE) (rest : List Node)
    (h1 : (relsOf p "").find? (fun r => r.type.endsWith "/officeDocument") = some mr) (hwp : resolveTarget "" mr.target = wbPath)
    (h2 : (p.part? wbPath).bind (·.xml) = some (workbookNode fr ss ds))
    (h3 : (p.part? (relsNameOf wbPath)).bind (·.xml) = some (workbookRelsNode ss.length rest))
    (hfr : fr.ok = true) (hnames : namesDistinct ss = true)
    (hscope : ∀ d ∈ ds, ∀ i, d.localSheetId = some i → i < ss.length)
    (body : Nat → SheetBody)
    (hsheet : ∀ k, 1 ≤ k → k ≤ ss.length →
      decodeSheet p (resolveTarget wbPath (str (sheetTarget k))) (dSst p wbPath) (dNXf p wbPath) (dNDxf p wbPath) = (body k, [])) :
    ∃ b : BookV, decode p = (some b, dEPkg p ++ dE3 (workbookNode fr ss ds)) ∧
      b.sheets = sheetVs body 1 ss ∧ b.names = ds.map nameView ∧ b.active = dActive (workbookNode fr ss ds) := by
  subst hwp
  obtain ⟨b, hdec, hsheets, hnamesV, hact⟩ := decode_anatomy p mr (workbookNode fr ss ds) h1 h2
  have hels := dSheetEls_rendered fr ss ds hfr
  have hse : dSheetsE p (resolveTarget "" mr.target) (workbookNode fr ss ds) = (sheetVs body 1 ss).map (fun v => (v, [])) := by
    unfold dSheetsE
    rw [hels]
    exact sheetsE_rendered p _ ss.length rest h3 body hsheet ss 1 (by omega) (by omega)
  have he1 : dE1 (workbookNode fr ss ds) = [] := by rw [dE1_rendered fr ss ds hfr, if_pos hnames]
  have he4 : dE4 (workbookNode fr ss ds) = [] := by
    unfold dE4
    rw [dNames_rendered fr ss ds hfr, hels, sheetEls_length]
    apply List.filterMap_eq_nil_iff.2
    intro v hv
    obtain ⟨d, hd, rfl⟩ := List.mem_map.1 hv
    cases hsc : d.localSheetId with
    | none => simp [nameView, hsc]
    | some i => simp [nameView, hsc, hscope d hd i hsc]
  refine ⟨b, ?_, ?_, ?_, hact⟩
  · rw [hdec, he1, dE2_rendered fr ss ds hfr, he4, hse, errs_flat (fun v => v)]
    simp
  · rw [hsheets, hse, List.map_map]
    exact List.map_id' _
  · rw [hnamesV, dNames_rendered fr ss ds hfr]

/-- The workbook part (partial, see the head of the file).  In a package whose main relationship leads to the rendered
    workbook part, whose workbook relationships part is the rendered one, whose sheet names are distinct
    (`namesDistinct`, the decoder's case-insensitive comparison) and whose defined-name scopes lie inside the
    sheet list, the independent decoder returns the sheet list in order — name, visibility, and for the K-th
    sheet the body decoded from the part its `r:id` resolves to (the conclusion of `C02_sheet_decodes`) —
    and the defined names (name, scope, address) in order; the diagnostics that remain are the package-level
    ones and the activeTab one: nothing about sheet names, sheet ids, unresolved `r:id`s, sheet bodies or
    defined-name scopes.  Any number of sheets and names. -/
theorem C02_book_decodes_partial (p : Package) (mr : Rel) (fr : WbFrame) (ss : List SheetE) (ds : List NameE) (rest : List Node)
    (h1 : (relsOf p "").find? (fun r => r.type.endsWith "/officeDocument") = some mr)
    (h2 : (p.part? (resolveTarget "" mr.target)).bind (·.xml) = some (workbookNode fr ss ds))
    (h3 : (p.part? (relsNameOf (resolveTarget "" mr.target))).bind (·.xml) = some (workbookRelsNode ss.length rest))
    (hfr : fr.ok = true) (hnames : namesDistinct ss = true)
    (hscope : ∀ d ∈ ds, ∀ i, d.localSheetId = some i → i < ss.length)
    (path : Nat → String) (body : Nat → SheetBody)
    (hpath : ∀ k, 1 ≤ k → k ≤ ss.length → resolveTarget (resolveTarget "" mr.target) (str (sheetTarget k)) = path k)
    (hsheet : ∀ k, 1 ≤ k → k ≤ ss.length →
      decodeSheet p (path k) (dSst p (resolveTarget "" mr.target)) (dNXf p (resolveTarget "" mr.target)) (dNDxf p (resolveTarget "" mr.target)) = (body k, [])) :
    ∃ b : BookV, decode p = (some b, dEPkg p ++ dE3 (workbookNode fr ss ds)) ∧
      b.sheets = sheetVs body 1 ss ∧ b.names = ds.map nameView := by
  obtain ⟨b, hdec, hsheets, hnamesV, _⟩ := book_decodes p mr _ fr ss ds rest h1 rfl h2 h3 hfr hnames hscope body
    fun k k1 k2 => by rw [hpath k k1 k2]; exact hsheet k k1 k2
  exact ⟨b, hdec, hsheets, hnamesV⟩

theorem lower_str (a : List Char) : (str a).toLower = String.ofList (a.map Char.toLower) := by
  rw [← String.ofList_toList (s := (str a).toLower)]
  simp [String.toLower, str, String.toList_map]

theorem namesDistinct_of_nodup (ss : List SheetE) (h : (ss.map (fun s => s.name.map Char.toLower)).Nodup) : namesDistinct ss = true := by
  unfold namesDistinct
  have hn : (ss.map (fun s => (str s.name).toLower)).Nodup :=
    nodup_map_of_finer h fun a _ b _ e => by rw [lower_str, lower_str] at e; exact String.ofList_injective e
  rw [eraseDups_nodup _ hn]
  simp

/-- Why the uniqueness clause compares lower-case forms: the decoder — like the applications — reports the
    titles `A` and `a` as not unique.  `Spreadsheet::check_sheet_name` (used by `new_sheet`) compares
    `to_lowercase()` since fix 95713cc and refuses the second title; `Worksheet::set_name` checks nothing. -/
theorem C02_sheet_names_case_fails :
    namesDistinct [{ name := ['A'] }, { name := ['a'] }] = false ∧
    dE1 (workbookNode {} [{ name := ['A'] }, { name := ['a'] }] []) = ["sheet names are not unique"] := by
  have hl : (str ['A']).toLower = "a" ∧ (str ['a']).toLower = "a" := by
    rw [lower_str, lower_str]; decide
  have hnd : namesDistinct [{ name := ['A'] }, { name := ['a'] }] = false := by
    simp only [namesDistinct, List.map_cons, List.map_nil, hl.1, hl.2]; decide
  exact ⟨hnd, by rw [dE1_rendered _ _ _ (by decide), hnd]; rfl⟩

def demoSheets : List SheetE := [{ name := ['R', '&', 'D'] }, { name := ['I', 't', '\'', 's'], state := some ['h', 'i', 'd', 'd', 'e', 'n'] },
  { name := ['A', '1'], state := some ['v', 'i', 's', 'i', 'b', 'l', 'e'] }]
def demoNames : List NameE := [{ name := ['G', '1'], address := ['\'', 'I', 't', '\'', '\'', 's', '\'', '!', '$', 'C', '$', '3'] },
  { name := ['L', '1'], localSheetId := some 1, address := [] }]
def demoWbFrame : WbFrame := { pre := [.elem ['b', 'o', 'o', 'k', 'V', 'i', 'e', 'w', 's'] [] []], post := [.elem ['c', 'a', 'l', 'c', 'P', 'r'] [] []] }

example : demoWbFrame.ok = true ∧ namesDistinct demoSheets = true ∧ (∀ d ∈ demoNames, ∀ i, d.localSheetId = some i → i < demoSheets.length) :=
  ⟨by decide, namesDistinct_of_nodup _ (by decide), by decide⟩

example : (sheetVs (fun _ => {}) 1 demoSheets).map (fun v => (String.ofList v.name, v.state)) = [("R&D", "visible"), ("It's", "hidden"), ("A1", "visible")] ∧
    (demoNames.map nameView).map (fun v => (String.ofList v.name, v.scope, String.ofList v.text)) = [("G1", none, "'It''s'!$C$3"), ("L1", some 1, "")] := by
  decide

end Umya.Thm.C02
