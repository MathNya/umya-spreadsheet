/-
  C18 display — a SYNTACTIC, infinite class of date-format codes.

  `SimpleSyntax toks` (decidable; `Umya.Lemmas.DateSyntax.simpleSyntax`) evaluates no replacement table:
  the list is cut at its tokens `-` `,` blank; every piece must be a word of the vocabulary
  `Umya.Lemmas.DateSyntax.vocab` — nothing, a field token alone (`yyyy yy mmmm mmm mm m dd d dddd ddd hh h ss`),
  the `AM/PM` token alone (when the list has one), hour`:`minutes, hour`:`minutes`:`seconds, minutes`:`seconds, or two / three of year, month, day (each kind
  once, orders y-m, m-y, m-d, d-m, y-m-d, d-m-y, m-d-y) joined by `/` or by `.`; the list has one field token
  at least; the hour tokens are the 12-hour ones (`h12`, `hh12`) exactly when the list has an `AM/PM` token.
  So `mm` is minutes exactly inside the `:` words and month everywhere else, by position.

  `C18_simple_syntax_sound : SimpleSyntax toks → SimpleDateCode toks`, for lists of any length (the argument is at the
  head of `Umya/Lemmas/DateSyntax.lean`: no pass of `format_as_date` sees across `-` `,` blank, `C18_replace_split`, and the
  words are validated once by kernel evaluation).  NOT covered by the
  criterion (still decidable one by one with `SimpleDateCode`): words that mix `:` with `/` or `.`, fields
  glued without separator, repeated kinds inside one `/`-word (`m/m`).
-/
import Umya.Thm.C18Display
namespace Umya.Thm.C18
open Umya.Date Umya.Date.FloatOps Umya.Spec.Calendar Umya.Lemmas.Calendar Umya.Lemmas.FloatStd
open Umya.Lemmas.DateDisplay Umya.Lemmas.DateSyntax

/-- the syntactic criterion (decidable; no evaluation of the replacement tables) -/
def SimpleSyntax (toks : List Tok) : Prop := simpleSyntax toks = true

instance (toks : List Tok) : Decidable (SimpleSyntax toks) := by unfold SimpleSyntax; infer_instance

/-- soundness of the syntactic criterion, all token lists -/
theorem C18_simple_syntax_sound (toks : List Tok) (h : SimpleSyntax toks) : SimpleDateCode toks :=
  simpleSyntax_sound toks h

/-- `str::replace` cannot see across a character that its pattern does not contain — the lemma that carries
    the induction through the pipeline, for every pattern, replacement and text -/
theorem C18_replace_split (f t : List Char) (c : Char) (a b : List Char) (hc : f.contains c = false) :
    replaceAll (a ++ c :: b) f t = replaceAll a f t ++ c :: replaceAll b f t :=
  replaceAll_split f t c a b hc

/-- Display for the syntactic class (no `AM/PM`): Excel's text, token by token. -/
theorem C18_date_display_syntax {F : Type} [FloatOps F] (toks : List Tok) (hs : SimpleSyntax toks)
    (hp : toks.contains .ampm = false) (g : List Char) (ts : F) (n T : Int)
    (h0 : daysFromCivil 1899 12 31 ≤ n) (h1 : n ≤ daysFromCivil 9999 12 31) (hT : 0 ≤ T ∧ T < 86400)
    (hts : excelToEpochSecondsChecked ts = some (n * 86400 + T)) :
    formatAsDateChecked (codeText toks) g ts = some (trimBlanks (showToks (civilDateTime n T) toks)) :=
  C18_date_display toks (C18_simple_syntax_sound toks hs) hp g ts n T h0 h1 hT hts

/-- Display for the syntactic class, `AM/PM` allowed (partial as `C18_date_display_ampm_partial`: the
    marker comes out in lower case). -/
theorem C18_date_display_syntax_ampm_partial {F : Type} [FloatOps F] (toks : List Tok) (hs : SimpleSyntax toks)
    (g : List Char) (ts : F) (n T : Int)
    (h0 : daysFromCivil 1899 12 31 ≤ n) (h1 : n ≤ daysFromCivil 9999 12 31) (hT : 0 ≤ T ∧ T < 86400)
    (hts : excelToEpochSecondsChecked ts = some (n * 86400 + T)) :
    formatAsDateChecked (codeText toks) g ts = some (trimBlanks (showToksCode (civilDateTime n T) toks)) :=
  C18_date_display_ampm_partial toks (C18_simple_syntax_sound toks hs) g ts n T h0 h1 hT hts

open Tok in
example : SimpleSyntax [yyyy, lit '-', mm, lit '-', dd, lit ' ', hh, lit ':', mi, lit ':', ss] ∧
    SimpleSyntax [m, lit '/', d, lit '/', yyyy, lit ' ', h, lit ':', mi] ∧                       -- 22
    SimpleSyntax [d, lit '-', mmm, lit '-', yy] ∧                                               -- 15
    SimpleSyntax [h12, lit ':', mi, lit ':', ss, lit ' ', ampm] ∧                                -- 19
    SimpleSyntax [dddd, lit ',', lit ' ', mmmm, lit ' ', d, lit ',', lit ' ', yyyy] ∧
    SimpleSyntax [dd, lit '.', mm, lit '.', yyyy, lit ',', lit ' ', hh, lit ':', mi] ∧
    SimpleSyntax [ddd, lit ' ', d, lit '-', mmm, lit '-', yy, lit ' ', hh12, lit ':', mi, lit ' ', ampm, lit ' ',
      lit '-', lit ' ', yyyy, lit '/', mm] := by decide +kernel

open Tok in
/-- outside the syntax: minutes without a colon word, hour and minutes separated by a blank, the wrong clock,
    no field at all; (the first two are not `SimpleDateCode`s either) -/
example : ¬ SimpleSyntax [mi] ∧ ¬ SimpleSyntax [hh, lit ' ', mi] ∧ ¬ SimpleSyntax [h, lit ':', mi, lit ' ', ampm] ∧
    ¬ SimpleSyntax [h12, lit ':', mi] ∧ ¬ SimpleSyntax [lit '-'] ∧ ¬ SimpleSyntax [m, lit '/', m] := by decide +kernel

/-- `yyyy-mm-dd` followed by `k` times ` hh:mm`; membership in the class is checked below for `k = 0, 1, 7` (it is not proved
    for every `k`) -/
def isoThen (k : Nat) : List Tok :=
  [.yyyy, .lit '-', .mm, .lit '-', .dd] ++ (List.replicate k [Tok.lit ' ', .hh, .lit ':', .mi]).flatten

example : SimpleSyntax (isoThen 0) ∧ SimpleSyntax (isoThen 1) ∧ SimpleSyntax (isoThen 7) := by decide +kernel

open Tok in
/-- two blanks in a row (an empty word between them) stay inside the class; the criterion is sufficient, not necessary:
    `ss/d` is a `SimpleDateCode` the syntax does not describe -/
example : SimpleDateCode [d, lit '/', m, lit ' ', lit ' ', yy] ∧ SimpleSyntax [d, lit '/', m, lit ' ', lit ' ', yy] ∧
    SimpleDateCode [ss, lit '/', d] ∧ ¬ SimpleSyntax [ss, lit '/', d] := by
  refine ⟨C18_simple_syntax_sound _ ?h, ?h, by decide +kernel, by decide +kernel⟩
  decide +kernel

/-- `mmmmm` (Excel: the first letter of the month name) has no token: the code hands chrono `%b`, the
    three-letter name (`J` is shown as `Jan`) -/
example : strftimeOf "mmmmm".toList = some "%b".toList := by decide +kernel

end Umya.Thm.C18
