/-
  C01 END TO END through the CHARACTERS of the written parts.

  Three layers proved separately are composed here into statements about characters:

    (W) the writer model: `Cell::write_to` facts (`Umya/Model/CellXml.lean`), rendered as the element trees of the
        worksheet part (`Umya/Model/SheetNode.lean::renderSheet`: row loop, `<sheetData>`, opaque frame) and of the
        shared-strings part (`Umya/Model/CellNode.lean`), the table threaded through n sheets
        (`Umya/Model/PackageNode.lean::renderSheetsP`);
    (X) characters ↔ trees: `parse_renderDoc` of `Umya/Lemmas/XmlWriteParse.lean` (C02's `C02_bytes_parse`) — the independent XML 1.0 reader (`Umya/Spec/XmlLex.lean::parse`)
        applied to the characters `renderDoc w` that a tree of writer calls `w` leaves in the buffer returns the
        element tree that was meant;
    (R) the reader: C01's model of `Cell::set_attributes` / `SharedStringItem::set_attributes` / `read_reader`
        (`readCell`, `readSi`, `readBook`, on lexed facts), applied to the FACT VIEW of element trees
        (`Umya/Model/CellTree.lean`: `cellFact`, `siFact`; `readSheetChars`, `readBookChars` = parse, view, read).

  `C01_sheet_chars_roundtrip`, `C01_book_chars_roundtrip`: the reader applied to the characters of the written parts
  returns exactly the stored cells that are not blank-and-unstyled (lazy values resolved), in order, each with its position, value kind
  (blank / text / rich text / number / boolean / error), value text, number and formula text.

  WHAT IS ASSUMED, all explicit:
    * `F.Sound` (numbers are opaque tokens; print-then-parse is the identity — Rust's `f64` `Display`/`FromStr`,
      checked by the harness on every number it generates);
    * the sheet is well-formed (`SheetW.WF`: C10's coherence + the grid limits, `C02_sheet_of_coherent`), the opaque
      frame children are in schema order (`Frame.ok`);
    * `rawOK`: not a rich text without runs (the known finding of C01; since fix 5 / fix 6 a rich text cached under a
      formula and an unresolved lazy value are INSIDE the theorems: the lazy value reloads as the typed value
      `Cell::write_to` resolves it to, `Cell.resolved`, `C01_resolved`); `charsOK`: the value written is not the EMPTY
      text cached under a formula — written `<v></v>`, which no XML reader can tell from `<v/>`
      (`C01_empty_cached_text_same_tree`; quick-xml's event reader can, and the fact-level theorem
      `C01_cell_roundtrip` covers that cell);
    * the characters: `w` is ANY tree of writer calls (either form of childless elements, any of the three text
      writers per text) that means the rendered tree (`normNode (erase w) = root`) and satisfies `WF w` — names are
      XML Names, attribute names distinct, and EVERY CHARACTER OF EVERY TEXT AND ATTRIBUTE VALUE IS AN XML 1.0
      `Char`.  That last condition is not vacuous for this library: `write_text_node` does not escape or reject
      U+0000–U+0008, U+000B, U+000C, U+000E–U+001F, U+FFFE, U+FFFF, so a workbook built through the public API can
      hold texts whose part is not well-formed XML 1.0: `C01_non_xml_char_partial` (the independent reader rejects
      the part; quick-xml's reader does not check and the library's own round trip succeeds — the fact-level
      `C01_cell_roundtrip` has no character hypothesis).  Per run the driver counts the workbooks of each class.
    * run properties of rich text are an opaque token of which the tree keeps only the presence: cells are
      compared up to `eraseFonts`; kind, value text, number and formula text are not affected (`obsOf`).
    * fewer than 2^64 distinct strings.
-/
import Umya.Lemmas.CellCharsSheet
import Umya.Lemmas.CellCharsNonXml
import Umya.Thm.C01
import Umya.Thm.C02Sheet
import Umya.Lemmas.SheetNodeNF
import Umya.Lemmas.XmlWriteNF
namespace Umya.Thm.C01
open Umya.Xml Umya.Num Umya.CellXml Umya.CellNode Umya.SheetNode Umya.CellTree Umya.XmlWrite Umya.PackageNode
open Umya.Spec.Xml (Node Attr parse)

/-- The fact view of a rendered `<c>` is the fact: the element tree rendered for a `<c>` with reference `ref`,
    type `t`, style flag, formula text `fo` and `<v>` value `ov` is viewed as the fact with exactly these, its raw
    texts spelled by `escape`, a childless `<v>` as `<v/>`, no `<is>`. -/
theorem C01_cell_fact_view (ref t : List Char) (styled : Bool) (xf : Nat) (fo ov : Option (List Char)) :
    cellFact (cElem ref t styled xf fo ov)
      = { ref := ref, t := t, styled := styled, f := fo.map escape, v := vFactOf ov, is := none } :=
  cellFact_cElem ref t styled xf fo ov

/-- … and of a rendered `<si>`: the written fact of the item, run-property tokens erased -/
theorem C01_si_fact_view (it : Item) : siNode (siOf it) = some (siElem it) ∧ siFact (siElem it) = siOf (eraseItem it) :=
  ⟨siNode_siOf it, siFact_siElem it⟩

/-- `C01_cell_roundtrip` lifted to trees.  For every covered cell and every state of the string table, the `<c>`
    fact `Cell::write_to` produces renders to an element tree (for any style index), and C01's reader applied to
    the fact view of that TREE returns the same cell, against any table that extends the writer's. -/
theorem C01_cell_tree_roundtrip (F : NumFmt) (hF : F.Sound) (tbl : Table) (c : Cell F.Num)
    (hc : cellOK F c = true) (hch : charsOK F c = true) :
    ∃ tbl' ox, writeTo F tbl c = some (tbl', ox) ∧
      (∃ ext, tbl' = tbl ++ ext ∧ ∀ it ∈ ext, ItemOK it) ∧
      (blankUnstyled F c = true → ox = none) ∧
      (blankUnstyled F c = false → ∃ x, ox = some x ∧ ∀ xf : Nat, ∃ node, cellNode xf x = some node ∧
        ∀ sst : Table, sst.length < 18446744073709551616 → Extends sst tbl' →
          readCellN F sst node = some (Cell.resolved F c)) :=
  writeTo_readCellN F hF tbl c hc hch

/-- what C01 compares does not depend on the run-property tokens -/
theorem C01_obs_erase (F : NumFmt) (c : Cell F.Num) : obsOf F (eraseFonts F c) = obsOf F c := by
  obtain ⟨col, row, raw, fo, st⟩ := c
  cases raw with
  | rich rs =>
    have : richText (rs.map eraseRun) = richText rs := by
      rw [richText, List.flatMap_map]; rfl
    simp [obsOf, eraseFonts, eraseRaw, kindOf, valueText, this]
  | _ => rfl

theorem obsOf_map_eraseFonts (F : NumFmt) (l : List (Cell F.Num)) : (l.map (eraseFonts F)).map (obsOf F) = l.map (obsOf F) := by
  rw [List.map_map]
  exact List.map_congr_left fun c _ => C01_obs_erase F c

/-- One worksheet, through the characters of its part and of the shared-strings part.
    Let `s` be a well-formed sheet with covered values, written by the model of worksheet.rs onto the table `tbl`
    (`renderSheet`: tree `root`, table `tbl'`), and `T` the final table of the save (whatever later sheets add).
    Let the worksheet part be the characters `renderDoc w` of ANY tree of writer calls `w` that means `root`, and
    the shared-strings part those of any `wS` that means the `<sst>` of `T` (no part when `T` is empty).
    Then the reader — XML 1.0 `parse` of both parts, fact view, C01's `readSi` / `readCell` — returns exactly the
    cells of `s` that are not blank-and-unstyled, lazy values resolved (`keep` / `Cell.resolved` = the filter and the
    map of `normalize`, `C01_normalize`), in order,
    each equal to the stored cell up to the run-property tokens; in particular with the same position, value kind,
    value text, number and formula text (`obsOf`). -/
theorem C01_sheet_chars_roundtrip (F : NumFmt) (hF : F.Sound) (xf : List Char → Nat) (fr : Frame) (tbl : Table)
    (s : SheetW F.Num) (hwf : s.WF) (hval : ∀ c ∈ s.cells, rawOK F c.raw = true ∧ charsOK F c = true)
    (htbl : ∀ it ∈ tbl, ItemOK it)
    (tbl' : Table) (root : Node) (h : renderSheet F xf fr tbl s = some (tbl', root)) (hfr : fr.ok = true)
    (T : Table) (hT : ∃ ext, T = tbl' ++ ext ∧ ∀ it ∈ ext, ItemOK it) (hlen : T.length < 18446744073709551616)
    (w : WNode) (hw : isElemW w = true) (hwfw : WF w = true) (hew : normNode (erase w) = root)
    (sstW : Option WNode) (hs : SstWritten T sstW) :
    readSheetChars F (sstW.map renderDoc) (renderDoc w) = some (((s.cells.filter (keep F)).map (Cell.resolved F)).map (eraseFonts F)) ∧
    (readSheetChars F (sstW.map renderDoc) (renderDoc w)).map (·.map (obsOf F))
      = some (((s.cells.filter (keep F)).map (Cell.resolved F)).map (obsOf F)) := by
  obtain ⟨_, hg, hr⟩ := renderSheet_readSheetN F hF xf fr tbl s hwf hval tbl' root h hfr
  have hall : ∀ it ∈ T, ItemOK it := all_of_grows (all_of_grows htbl hg) hT
  have hx : Extends T tbl' := Extends.of_grows (fun _ _ hi => hi) hT
  have main : readSheetChars F (sstW.map renderDoc) (renderDoc w) = some (((s.cells.filter (keep F)).map (Cell.resolved F)).map (eraseFonts F)) := by
    unfold readSheetChars
    rw [sst_chars T hall sstW hs, parse_renderDoc w hw hwfw, hew]
    simp only [Option.bind_some, readSheetN_erase, hr T hlen hx, Option.map_some]
  refine ⟨main, ?_⟩
  rw [main, Option.map_some, obsOf_map_eraseFonts]

/-- … with the default writer calls for both trees (`ofNode`: texts through `write_text_node`, childless elements in
    either form): the hypotheses on the characters become `wfNodes` of the two trees (names, distinct attributes,
    XML `Char`s) and `Frame.nf` (the opaque children are in the reader's normal form, as any parsed tree is). -/
theorem C01_sheet_chars_roundtrip_default (F : NumFmt) (hF : F.Sound) (xf : List Char → Nat) (fr : Frame) (tbl : Table)
    (s : SheetW F.Num) (hwf : s.WF) (hval : ∀ c ∈ s.cells, rawOK F c.raw = true ∧ charsOK F c = true)
    (htbl : ∀ it ∈ tbl, ItemOK it)
    (tbl' : Table) (root : Node) (h : renderSheet F xf fr tbl s = some (tbl', root)) (hfr : fr.ok = true) (hnf : fr.nf = true)
    (T : Table) (hT : ∃ ext, T = tbl' ++ ext ∧ ∀ it ∈ ext, ItemOK it) (hlen : T.length < 18446744073709551616)
    (as : List Attr) (sc sc' : Bool)
    (hchars : wfNodes [root] = true) (hsstchars : wfNodes [Node.elem ['s', 's', 't'] as (T.map siElem)] = true) :
    readSheetChars F (some (renderDoc (ofNode sc' (Node.elem ['s', 's', 't'] as (T.map siElem))))) (renderDoc (ofNode sc root))
      = some (((s.cells.filter (keep F)).map (Cell.resolved F)).map (eraseFonts F)) := by
  have hrootnf := renderSheet_isNF F xf fr tbl s tbl' root h hfr hnf
  have hroote : root.isElem = true := by
    obtain ⟨sd, _, _, rfl⟩ := renderSheet_shape F xf fr tbl s tbl' root h
    rfl
  have hsnf : isNF (Node.elem ['s', 's', 't'] as (T.map siElem)) = true := by
    apply isNFKids_of_all
    intro k hk
    obtain ⟨it, _, rfl⟩ := List.mem_map.1 hk
    exact ⟨rfl, siNode_isNF _ _ (siNode_siOf it)⟩
  obtain ⟨h1, h2, h3⟩ := ofNode_written sc root hroote hchars
  obtain ⟨g1, g2, g3⟩ := ofNode_written sc' _ rfl hsstchars
  exact (C01_sheet_chars_roundtrip F hF xf fr tbl s hwf hval htbl tbl' root h hfr T hT hlen _ h1 h2
    (by rw [h3, normNode_nf _ hrootnf]) (some _) ⟨g1, g2, as, by rw [g3, normNode_nf _ hsnf]⟩).1

/-- The workbook, through the characters of its parts, both writers.  For a workbook of any number n of
    well-formed sheets with covered values, the model of `make_buffer` threads ONE string table through the sheets
    in order (`renderSheetsP`, final table `T`, trees `roots`).  For either writer (`light`: the two differ in the zip
    compression method only, `C01_light_same`) C01's `writeBook` succeeds on the same cells and its shared-strings
    facts are those of `T` (that its cell facts are those of `roots` is `renderSheet_sheetCells`, inside the proof, and
    not part of the statement).  Let the n worksheet parts and the shared-strings part (absent when `T` is empty) be
    the characters of ANY trees of writer calls that mean the rendered trees.  Then the reader applied to those
    CHARACTERS returns, for every sheet in order, exactly its cells that are not blank-and-unstyled
    (`normalize`, `C01_normalize`), each equal to the stored cell up to the run-property tokens — same position,
    value kind, value text, number and formula text. -/
theorem C01_book_chars_roundtrip (F : NumFmt) (hF : F.Sound) (light : Bool) (ss : List (SheetP F.Num)) (hok : SheetsOK F ss)
    (T : Table) (roots : List Node) (h : renderSheetsP F [] ss = some (T, roots))
    (hlen : T.length < 18446744073709551616)
    (ws : List WNode) (hws : SheetsWritten roots ws) (sstW : Option WNode) (hs : SstWritten T sstW) :
    (∃ b, writeBook F light (cellsOfP F ss) = some b ∧ b.sst = T.map siOf) ∧
    readBookChars F (sstW.map renderDoc) (ws.map renderDoc)
      = some ((normalize F (cellsOfP F ss)).map (·.map (eraseFonts F))) ∧
    (readBookChars F (sstW.map renderDoc) (ws.map renderDoc)).map (·.map (·.map (obsOf F)))
      = some ((normalize F (cellsOfP F ss)).map (·.map (obsOf F))) := by
  obtain ⟨⟨xss, hxss⟩, _, _⟩ := renderSheetsP_readSheets F hF ss [] hok T roots h
  have main : readBookChars F (sstW.map renderDoc) (ws.map renderDoc)
      = some ((normalize F (cellsOfP F ss)).map (·.map (eraseFonts F))) := by
    unfold readBookChars
    rw [parseAll_written roots ws hws]
    cases sstW with
    | none =>
      simp only [SstWritten] at hs
      simp only [Option.map_none, Option.bind_some]
      exact renderSheetsP_readBookN F hF ss hok T roots h hlen none hs
    | some wS =>
      obtain ⟨h1, h2, as, h3⟩ := hs
      simp only [Option.map_some, parse_renderDoc wS h1 h2, h3, Option.bind_some]
      exact renderSheetsP_readBookN F hF ss hok T roots h hlen (some _) ⟨as, rfl⟩
  refine ⟨⟨{ sheets := xss, sst := T.map siOf }, by simp [writeBook, hxss], rfl⟩, main, ?_⟩
  rw [main, Option.map_some, List.map_map]
  exact congrArg some (List.map_congr_left fun l _ => obsOf_map_eraseFonts F l)

/-- The full statement wanted would be `C01_sheet_chars_roundtrip` for every text over Unicode scalar values, i.e. without the
    XML-`Char` part of `WF w`.  It does not hold for an XML 1.0 reader, and the writer is why: `write_text_node`
    (quick-xml `escape` + `\r`) passes U+0001 through unchanged, so the text is not made of XML `Char`s
    (`allXml = false`), the characters of the `<t>` written for it are not a well-formed document
    (`parse … = none`: the independent reader rejects the part), while the library's own reader, which does not
    check character legality, reads the text back (fact level: `readTX (writeText s) = some s`, and
    `C01_cell_roundtrip` has no character hypothesis).  The statement has the witnesses U+0001 and U+FFFE; for any
    other of U+0000–U+0008, U+000B, U+000C, U+000E–U+001F, U+FFFF the same follows from `parse_t_nonxml`, given
    that `escape` leaves the character alone.  The harness generates such texts in every run; the character-level leg of the tie counts these
    workbooks (`chars.books.nonxml`) and checks that `parse` rejects exactly them. -/
theorem C01_non_xml_char_partial :
    escape [Char.ofNat 1] = [Char.ofNat 1] ∧ allXml [Char.ofNat 1] = false ∧
    parse (renderDoc (.elem ['t'] [] [.text [Char.ofNat 1]])) = none ∧
    parse (renderDoc (.elem ['t'] [] [.text [Char.ofNat 0xFFFE]])) = none ∧
    readTX (writeText [Char.ofNat 1]) = some [Char.ofNat 1] := by
  refine ⟨by decide, by decide, parse_t_nonxml _ (by decide) (by decide), parse_t_nonxml _ (by decide) (by decide), by decide⟩

/-- A formula whose cached result is the EMPTY text and a formula without cached result are written differently
    (`<v></v>` / `<v/>`: different facts, and C01's fact-level reader tells them apart as quick-xml's event reader
    does), but the two `<c>` elements are the same element tree: no reader that goes through an XML 1.0 infoset can
    return both cells.  Hence `charsOK`. -/
theorem C01_empty_cached_text_same_tree :
    writeV natFmt [] (dataTypeOf natFmt (.str []) (some ['A', '2'])) (.str []) = ([], .text []) ∧
    writeV natFmt [] (dataTypeOf natFmt .empty (some ['A', '2'])) .empty = ([], .emptyTag) ∧
    tAttrOf (dataTypeOf natFmt (.str []) (some ['A', '2'])) = tSTR ∧ tAttrOf (dataTypeOf natFmt .empty (some ['A', '2'])) = tSTR ∧
    vNodes (.text []) = some [Node.elem ['v'] [] []] ∧ vNodes .emptyTag = some [Node.elem ['v'] [] []] ∧
    readV natFmt [] tSTR (.text []) (some ['A', '2']) = some (.str [], some ['A', '2']) ∧
    readV natFmt [] tSTR .emptyTag (some ['A', '2']) = some (.empty, some ['A', '2']) ∧
    charsOK natFmt { col := 1, row := 1, raw := .str [], formula := some ['A', '2'] } = false ∧
    charsOK natFmt { col := 1, row := 1, raw := .lazy [], formula := some ['A', '2'] } = true := by
  refine ⟨by decide, by decide, by decide, by decide, rfl, rfl, by decide, by decide, by decide, by decide⟩

/-- a sheet with: a text cell holding `& < > " '`, CR, LF, TAB, leading and trailing blanks, U+00A0 and a non-BMP
    character; a rich-text cell (a run with properties, a padded run); a formula with a cached boolean; an error
    cell; a styled blank cell and a blank unstyled one (not written); a rich text cached under a formula (fix 5); an unresolved
    lazy value "42" under a formula at XFD1048576, written and reloaded as the number 42 (fix 6) -/
def demoCharsSheet : SheetW natFmt.Num :=
  { rows := [{ num := 1 }, { num := 2, ht := some ['1', '8'] }, { num := 1048576 }],
    cells := [{ col := 1, row := 1, raw := .str [' ', '&', '<', '>', '"', '\'', '\r', '\n', '\t', Char.ofNat 0x1F600, Char.ofNat 0xA0, ' '] },
              { col := 2, row := 1, raw := .rich [{ text := [' ', 'a', '&'], font := some 7 }, { text := ['b', ' '] }] },
              { col := 3, row := 1, raw := .bool true, formula := some ['A', '1', '<', '"', 'x', '"'] },
              { col := 1, row := 2, raw := .err .na },
              { col := 2, row := 2, styled := true }, { col := 3, row := 2 },
              { col := 4, row := 2, raw := .rich [{ text := ['x'], font := some 1 }], formula := some ['B', '1'] },
              { col := 16384, row := 1048576, raw := .lazy ['4', '2'], formula := some [' ', 'A', '1', ' '] }] }

example : demoCharsSheet.WF := ⟨by decide, by decide, by decide, by decide, by decide⟩

example : ∀ c ∈ demoCharsSheet.cells, rawOK natFmt c.raw = true ∧ charsOK natFmt c = true := by decide +kernel

/-- the sheet is written, and C01's reader on the rendered TREES (worksheet, shared strings) returns its seven kept
    cells: the hypotheses of `C01_sheet_chars_roundtrip` other than those on `w` are satisfiable, and the conclusion
    is about a non-trivial list -/
example : ∃ tbl' root, renderSheet natFmt (fun _ => 3) {} [] demoCharsSheet = some (tbl', root) ∧
    (∀ sst : Table, sst.length < 18446744073709551616 → Extends sst tbl' →
      readSheetN natFmt sst root = some ((demoCharsSheet.cells.filter (keep natFmt)).map (Cell.resolved natFmt))) ∧
    (((demoCharsSheet.cells.filter (keep natFmt)).map (Cell.resolved natFmt)).map (fun c => kindOf natFmt c.raw)
      = [.text, .richText, .boolean, .error, .blank, .richText, .number]) := by
  obtain ⟨tbl', root, h⟩ := Umya.Thm.C02.C02_sheet_written natFmt (fun _ => 3) {} [] demoCharsSheet (by decide)
  obtain ⟨_, _, hr⟩ := renderSheet_readSheetN natFmt natFmt_sound (fun _ => 3) {} [] demoCharsSheet
    ⟨by decide, by decide, by decide, by decide, by decide⟩ (by decide +kernel) tbl' root h (by decide)
  exact ⟨tbl', root, h, hr, by decide +kernel⟩

/-- writer calls as the code makes them for C1 = TRUE under `A1<"x"` (style 3) and for the `<si>` of " &<CR😀":
    `WF` (names, distinct attributes, XML `Char`s) holds, so these characters are in the domain of the theorems -/
example :
    let w : WNode := .elem ['r', 'o', 'w'] [⟨['r'], ['1']⟩, ⟨['s', 'p', 'a', 'n', 's'], ['1', ':', '3']⟩]
      [.elem ['c'] [⟨['r'], ['C', '1']⟩, ⟨['t'], ['b']⟩, ⟨['s'], ['3']⟩]
         [.elem ['f'] [] [.conv ['A', '1', '<', '"', 'x', '"']], .elem ['v'] [] [.text ['1']]],
       .elem ['s', 'i'] [] [.elem ['t'] [⟨"xml:space".toList, "preserve".toList⟩] [.text [' ', '&', '<', '\r', Char.ofNat 0x1F600]],
                            .empty "phoneticPr".toList [⟨"fontId".toList, ['1']⟩]]]
    isElemW w = true ∧ WF w = true := by
  refine ⟨rfl, ?_⟩
  simp only [WF, wfKids]
  decide +kernel

end Umya.Thm.C01
