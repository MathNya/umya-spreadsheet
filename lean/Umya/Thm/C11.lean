/-
  C11 — lazy loading is equivalent to eager loading for every access pattern.  After any history the lazily
  opened workbook shows what the eagerly opened one shows (sheets, replies, whole state); the workbook-level
  tables only grow; the saved package has unique names, one sheet part per position and only relationships
  that resolve.  The writer before 885f70e is refuted on a two-sheet witness.

  Model: `Umya/Model/Lazy.lean`, the code after 885f70e (a copied sheet's own relationships part follows the
  sheet to its new name) and 518b7e9 (table numbers skip names already in the package).  The sheet decoder,
  the edits, what a sheet registers in the workbook-level tables and what its serialiser asks the writer
  manager for are parameters (`Codec`, `Profile`): every theorem holds for all of them.
-/
import Umya.Lemmas.LazyClosed
namespace Umya.Thm.C11
open Umya.Lazy

variable {C E : Type} (cd : Codec C E)

/-- For every workbook state `x` (lazily opened: all sheets raw, or partly deserialized) and every history
    `ops` of accesses (`read_sheet`, `get_sheet_mut`, `get_sheet_by_name_mut`, `read_sheet_collection`), edits,
    `new_sheet`, `remove_sheet(_by_name)`, `set_sheet_name` and workbook-level inserts/removes: a sheet that is
    deserialized afterwards is exactly the sheet the eagerly opened workbook holds at that position after the
    same history. -/
theorem C11_view (x : Book C) (ops : List (Op E)) (i : Nat) (s : Sheet C)
    (hs : (run cd x ops).sheets[i]? = some s) (hl : s.isRaw = false) :
    (run cd (eagerOf cd x) ops).sheets[i]? = some s := by
  rw [run_eagerOf]
  simp only [eagerOf, List.getElem?_map, hs, Option.map_some]
  rw [materialise_of_notRaw cd _ s hl]

/-- `.2` of a step is the reply to the request: ok / none / err / panic -/
theorem C11_view_replies (x : Book C) (ops : List (Op E)) (op : Op E) :
    (step cd (run cd (eagerOf cd x) ops) op).2 = (step cd (run cd x ops) op).2 := by
  rw [run_eagerOf]; exact (step_eagerOf cd _ op).1

theorem C11_view_state (x : Book C) (ops : List (Op E)) :
    run cd (eagerOf cd x) ops = eagerOf cd (run cd x ops) := run_eagerOf cd x ops

theorem C11_access_loads (b : Book C) (i : Nat) (s : Sheet C)
    (hs : (step cd b (.getMut i)).1.sheets[i]? = some s) : s.isRaw = false := by
  by_cases h : i < b.sheets.length
  · simp only [step, h, if_true, modifyAt_getElem?, Option.map_eq_some_iff] at hs
    obtain ⟨a, _, rfl⟩ := hs
    exact materialise_notRaw cd _ a
  · simp only [step, h, if_false] at hs
    have := (List.getElem?_eq_some_iff.mp hs).1
    omega

/-- accesses (`get_sheet_mut`) commute: after a history of accesses alone the state does not depend on their order -/
theorem C11_order_independent (x : Book C) (acc₁ acc₂ : List Nat) (h : acc₁.Perm acc₂) :
    run cd x (acc₁.map Op.getMut) = run cd x (acc₂.map Op.getMut) := by
  unfold run
  rw [List.foldl_map, List.foldl_map]
  apply List.Perm.foldl_eq' h
  intro i _ j _ b
  have key : ∀ (l : List (Sheet C)) (T : Tables) (i j : Nat),
      modifyAt (materialise cd T) (modifyAt (materialise cd T) l i) j =
      modifyAt (materialise cd T) (modifyAt (materialise cd T) l j) i := by
    intro l T i j
    apply List.ext_getElem?
    intro k
    simp only [modifyAt_getElem?]
    by_cases h1 : i = k <;> by_cases h2 : j = k <;> simp [h1, h2]
  by_cases hi : i < b.sheets.length <;> by_cases hj : j < b.sheets.length <;>
    simp [step, hi, hj, modifyAt_length, key]

example :
    let cd : Codec Nat Nat := { decode := fun r _ => { content := r.cid }, apply := fun e l => { l with content := l.content + e },
                                fresh := { content := 0 }, texts := fun _ => [], styles := fun _ => [], dxfs := fun _ => [] }
    let x : Book Nat := { sheets := [⟨['a'], .raw ⟨.sheet 1, 10, []⟩⟩, ⟨['b'], .raw ⟨.sheet 2, 20, []⟩⟩, ⟨['c'], .raw ⟨.sheet 3, 30, []⟩⟩] }
    -- a non-trivial history: access, edit, removal of an earlier sheet while others are raw, rename, new sheet
    let ops : List (Op Nat) := [.getMut 2, .edit 1 5, .removeSheet 0, .setName 1 ['z'], .newSheet ['n']]
    ((run cd x ops).sheets.map (fun s => (s.name, s.isRaw))) = [(['b'], false), (['z'], false), (['n'], false)] ∧
    ((run cd x [.removeSheet 0, .readSheet 1]).sheets.map (fun s => (s.name, s.isRaw))) = [(['b'], true), (['c'], false)] := by
  decide +kernel

/-- No history changes the workbook's tables, and what a save writes extends them: the shared strings keep the
    loaded table as a prefix while any sheet is still raw, the cell formats and differential formats always. An
    index that was valid at load time therefore denotes the same entry in the written file. -/
theorem C11_tables_only_grow (x : Book C) (ops : List (Op E)) :
    let b := run cd x ops
    b.tables = x.tables ∧
    (b.hasRaw = true → x.tables.sst <+: (save cd b).tables.sst) ∧
    x.tables.xfs <+: (save cd b).tables.xfs ∧
    x.tables.dxfs <+: (save cd b).tables.dxfs := by
  intro b
  have ht : b.tables = x.tables := run_tables cd x ops
  refine ⟨ht, ?_, ?_, ?_⟩
  · intro hr
    simp only [save, saveWith, saveTables, hr, if_true, ht]
    exact internAll_prefix _ _
  · simp only [save, saveWith, saveTables, ht]; exact internAll_prefix _ _
  · simp only [save, saveWith, saveTables, ht]; exact internAll_prefix _ _

theorem C11_tables_indices_stable (x : Book C) (ops : List (Op E)) (i v : Nat)
    (hr : (run cd x ops).hasRaw = true) (hi : x.tables.sst[i]? = some v) :
    (save cd (run cd x ops)).tables.sst[i]? = some v := by
  obtain ⟨e, he⟩ := (C11_tables_only_grow cd x ops).2.1 hr
  rw [← he]; exact getElem?_append_left' hi

example :
    let cd : Codec Nat Nat := { decode := fun r _ => { content := r.cid }, apply := fun e l => { l with content := e },
                                fresh := { content := 0 }, texts := fun c => [c, 7], styles := fun c => [c], dxfs := fun _ => [] }
    let x : Book Nat := { sheets := [⟨['a'], .raw ⟨.sheet 1, 10, []⟩⟩, ⟨['b'], .raw ⟨.sheet 2, 20, []⟩⟩], tables := { sst := [7, 8, 9], xfs := [0, 1] } }
    (save cd (run cd x [.edit 1 42])).tables.sst = [7, 8, 9, 42] ∧ (run cd x [.edit 1 42]).hasRaw = true ∧
    (save cd (run cd x [.edit 1 42])).tables.xfs = [0, 1, 42] ∧
    -- once nothing is raw the strings are rebuilt from scratch
    (save cd (run cd x [.edit 1 42, .readAll])).tables.sst = [10, 7, 42] := by
  decide +kernel

theorem C11_save_names_unique (x : Book C) (ops : List (Op E)) :
    ((save cd (run cd x ops)).parts.map (·.1)).Nodup :=
  ((loop1_ext (run cd x ops).sheets 1 ({} : WM C)).trans (loop2_ext (run cd x ops).sheets 1 _)).nodup List.nodup_nil

/-- every sheet position has its sheet part `sheet{position}.xml`, holding exactly that sheet: the original bytes
    for a sheet that was never deserialized (wherever it moved to), the serialisation of the in-memory content —
    edits included — for a deserialized one; there is no sheet part beyond the last position.
    Hypothesis: no part in the closure of a raw sheet, and no fixed-name part a serialiser asks for, is itself
    named like a sheet part. -/
theorem C11_save_sheet_parts (x : Book C) (ops : List (Op E))
    (hraw : RawsOk (run cd x ops).sheets)
    (hprof : ∀ s ∈ (run cd x ops).sheets, ∀ l, s.body = .loaded l → ∀ n ∈ profNames l.prof, NotSheet n) :
    let b := run cd x ops
    (∀ j s, b.sheets[j]? = some s → lookupPart (save cd b).parts (.sheet (j + 1)) = some (expectedSheet s)) ∧
    (∀ k, b.sheets.length + 1 ≤ k → hasPart (save cd b).parts (.sheet k) = false) ∧
    (save cd b).names = b.sheets.map (·.name) := by
  intro b
  obtain ⟨h1, h2⟩ := writes1_sheets b.sheets 1 hraw
  -- the second loop adds no sheet-named part and changes no part that is there
  have hext : Ext NotSheet (loop1 false {} 1 b.sheets) (loop2 (loop1 false {} 1 b.sheets) 1 b.sheets) :=
    loop2_extP NotSheet _ (fun _ _ _ => nofun) (fun _ _ _ _ => nofun) b.sheets 1 (fun _ _ _ _ _ _ => nofun) hprof
  refine ⟨fun j s hj => ?_, fun k hk => eq_false_of_ne_true fun hh => ?_, rfl⟩
  · have hl := h1 j s hj
    rw [Nat.add_comm, ← loop1_lookup] at hl
    exact (hext.lookup_stable _ (has_of_lookup_some hl)).trans hl
  · rcases hext.new_name (.sheet k) hh with h | h
    · rw [loop1_has, h2 k (by omega)] at h; cases h
    · exact h k rfl

/-- every relationship of every relationships part in the saved package — the copied closures of raw sheets under
    the names the code after 885f70e uses (a part is written before its targets there), and the parts written for
    deserialized sheets — resolves to a part that is in the package; after any history.
    Hypothesis (`SheetWritable`, on the state that is saved): a raw closure holds the bytes of each non-external
    target (zero-length parts are not copied by `RawFile::write_to`), and a serialiser profile names no part that
    the serialiser fails to write (such a dangling target is a serialiser defect, counted by the harness as
    inherited from the eager save). -/
theorem C11_save_resolves (x : Book C) (ops : List (Op E))
    (hw : ∀ s ∈ (run cd x ops).sheets, SheetWritable s) :
    ∀ n ts, (n, Content.relsOf ts) ∈ (save cd (run cd x ops)).parts →
      ∀ t, some t ∈ ts → hasPart (save cd (run cd x ops)).parts t = true := by
  have h0 : Closed ({} : WM C) := by intro n ts hm; simp at hm
  exact loop2_closed (run cd x ops).sheets 1 _ hw (loop1_closed (run cd x ops).sheets 1 _ hw h0)

/-- two raw sheets; the second has a drawing; the first is removed before saving -/
def witnessBook : Book Nat :=
  { sheets := [⟨['A'], .raw ⟨.sheet 1, 1, []⟩⟩,
               ⟨['B'], .raw ⟨.sheet 2, 2, [⟨.rels (.sheet 2), [⟨false, .fam .drawing 1, 7, false⟩]⟩]⟩⟩] }

def witnessCodec : Codec Nat Nat :=
  { decode := fun r _ => { content := r.cid }, apply := fun _ l => l, fresh := { content := 0 },
    texts := fun _ => [], styles := fun _ => [], dxfs := fun _ => [] }

/-- Before 885f70e the copied sheet's relationships stayed under the old number: after `remove_sheet(0)` the
    sheet is written as sheet1.xml, its relationships as `_rels/sheet2.xml.rels` — a relationships part without
    a source part, and sheet1.xml without its relationships (replayed by the harness on every run:
    `reset corpus:aaa.xlsx; rmsheet 0; save`). -/
theorem C11_old_rels_fails :
    ¬ (∀ (b : Book Nat), relsHaveSource (saveWith witnessCodec true b).parts = true) := by
  intro h
  have := h (run witnessCodec witnessBook [.removeSheet 0])
  revert this
  decide +kernel

theorem C11_old_rels_lost :
    hasPart (saveWith witnessCodec true (run witnessCodec witnessBook [.removeSheet 0])).parts (.rels (.sheet 1)) = false ∧
    hasPart (saveWith witnessCodec true (run witnessCodec witnessBook [.removeSheet 0])).parts (.rels (.sheet 2)) = true := by
  decide +kernel

/-- the writer after 885f70e on the same history: relationships next to the sheet, everything resolves -/
theorem C11_new_rels_witness :
    let s := save witnessCodec (run witnessCodec witnessBook [.removeSheet 0])
    hasPart s.parts (.rels (.sheet 1)) = true ∧ hasPart s.parts (.rels (.sheet 2)) = false ∧
    relsHaveSource s.parts = true ∧ closedParts s.parts = true := by
  decide +kernel

/-- the part names a save writes, in order, and the skeleton checks (`closedParts`, `relsHaveSource`) on a mixed
    workbook: a raw sheet with a drawing + chart closure and a table, a deserialized sheet that asks for a drawing with a
    chart, comments, a table and an image, after a removal, an edit and a new sheet -/
example :
    let cd := witnessCodec
    let raw2 : RawSheet := ⟨.sheet 3, 2, [⟨.rels (.fam .drawing 1), [⟨false, .fam .chart 1, 8, false⟩]⟩,
                                          ⟨.rels (.sheet 3), [⟨false, .fam .drawing 1, 7, false⟩, ⟨false, .fam .table 1, 9, false⟩, ⟨true, .other [], 0, true⟩]⟩]⟩
    let x : Book Nat := { sheets := [⟨['A'], .raw ⟨.sheet 1, 1, []⟩⟩, ⟨['B'], .raw raw2⟩, ⟨['C'], .raw ⟨.sheet 2, 3, []⟩⟩] }
    let ops : List (Op Nat) := [.removeSheet 0, .edit 1 5, .newSheet ['N']]
    let b := run cd x ops
    let b' : Book Nat := { b with sheets := b.sheets.map (fun s => match s.body with
      | .loaded l => { s with body := .loaded { l with prof := [.node .drawing [.alloc .chart, .fixed (.other ['i'])], .leaf (.alloc .comment), .leaf (.alloc .table), .leaf .ext] } }
      | .raw _ => s) }
    let s := save cd b'
    (s.parts.map (·.1)) =
      [.sheet 1, .rels (.fam .drawing 1), .fam .chart 1, .rels (.sheet 1), .fam .drawing 1, .fam .table 1, .sheet 2, .sheet 3,
       .fam .chart 2, .other ['i'], .fam .drawing 2, .rels (.fam .drawing 2), .fam .comment 1, .fam .table 2, .rels (.sheet 2),
       .fam .chart 3, .fam .drawing 3, .rels (.fam .drawing 3), .fam .comment 2, .fam .table 3, .rels (.sheet 3)] ∧
    closedParts s.parts = true ∧ relsHaveSource s.parts = true := by
  decide +kernel

/-- the hypotheses of `C11_save_sheet_parts` and `C11_save_resolves` (`RawsOk`, the profile hypothesis,
    `SheetWritable`) hold on a mixed list of sheets (one of its own: the raw sheet of the book above without its
    table relationship, and a deserialized sheet) -/
example :
    let raw2 : RawSheet := ⟨.sheet 3, 2, [⟨.rels (.fam .drawing 1), [⟨false, .fam .chart 1, 8, false⟩]⟩,
                                          ⟨.rels (.sheet 3), [⟨false, .fam .drawing 1, 7, false⟩, ⟨true, .other [], 0, true⟩]⟩]⟩
    let ss : List (Sheet Nat) := [⟨['B'], .raw raw2⟩, ⟨['C'], .loaded { content := 3, prof := [.node .drawing [.alloc .chart, .fixed (.other ['i'])], .leaf .ext] }⟩]
    RawsOk ss ∧ (∀ s ∈ ss, ∀ l, s.body = .loaded l → ∀ n ∈ profNames l.prof, NotSheet n) ∧ (∀ s ∈ ss, SheetWritable s) := by
  refine ⟨?_, ?_, ?_⟩
  · intro s hs r hr
    simp only [List.mem_cons, List.not_mem_nil, or_false] at hs
    rcases hs with rfl | rfl
    · injection hr with hr; subst hr
      intro n hn k
      simp [RawSheet.names] at hn
      rcases hn with rfl | rfl | rfl | rfl | rfl <;> simp
    · cases hr
  · intro s hs l hl n hn k
    simp only [List.mem_cons, List.not_mem_nil, or_false] at hs
    rcases hs with rfl | rfl
    · cases hl
    · injection hl with hl; subst hl
      simp [profNames, leafNames] at hn
      subst hn; simp
  · intro s hs
    simp only [List.mem_cons, List.not_mem_nil, or_false] at hs
    rcases hs with rfl | rfl
    · intro q hq r hr hext
      simp at hq
      rcases hq with rfl | rfl
      · simp at hr; subst hr; rfl
      · simp at hr; rcases hr with rfl | rfl
        · rfl
        · simp at hext
    · intro x hx
      simp at hx
      rcases hx with rfl | rfl
      · intro l hl; simp at hl; rcases hl with rfl | rfl <;> (intro n; simp)
      · intro n; simp

end Umya.Thm.C11
