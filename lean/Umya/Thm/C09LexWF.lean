/-
  C09 — the theorems of `Umya/Thm/C09Lex.lean` under the hypothesis `LexOk'`, which asks
  references to be well-formed (`r.WF`) where `LexOk` assumes that their text is classified as
  Range (`isRangeText r.text = true`): that follows from `r.WF` (`isRangeText_of_WF`,
  `Umya/Lemmas/FormulaLexRef.lean`, from a decomposition of the f64 acceptance grammar).
  These are the versions to use.  (The whole-text theorems also take `RefsOk`, which asks `r.WF` of every reference
  once more.)
-/
import Umya.Thm.C09Lex
import Umya.Lemmas.FormulaLexRef
namespace Umya.Thm.C09
open Umya.Coord Umya.Dec Umya.Formula

/-- As `C09_lex_print`, with `LexOk' e`: every reference of `e` is well-formed (a cell, a range, whole
    columns or whole rows inside the grid, any `$` flags, optional plain / quoted qualifier); that
    such a text is never read as a number or a boolean by pass 3 is proved, not assumed.  The other
    leaf conditions are those of `LexOk` (numbers accepted by `parse::<f64>` without exponent sign,
    names / function names / unquoted qualifiers of ordinary characters, names not numbers or
    booleans, no `@` function names).  Not proved: intersections, array constants, structured
    references (excluded by `LexOk'`). -/
theorem C09_lex_print_wf (e : Spec.Expr) (h : LexOk' e) : parse ('=' :: e.print) = .ok (tokensOf e) :=
  C09_lex_print e (lexOk_of_wf e h)

theorem lexExample_ok' : LexOk' lexExample := by
  simp only [lexExample, LexOk', LexOkA']
  exact ⟨⟨by decide +kernel, ⟨⟨by decide +kernel, fun _ hq => nomatch hq⟩, lexExampleRef_wf⟩, trivial, trivial⟩,
    by decide +kernel⟩

/-- `SUM(A1:$B$2,,"a""b")<=-x%` satisfies `LexOk'`; its tokens -/
example : LexOk' lexExample ∧
    parse "=SUM(A1:$B$2,,\"a\"\"b\")<=-x%".toList = .ok (tokensOf lexExample) := by
  rw [lexExample_formula]
  exact ⟨lexExample_ok', C09_lex_print_wf lexExample lexExample_ok'⟩

/-- As `C09_identity_print`, with `LexOk'` (see `C09_lex_print_wf`): the tokens of
    `print e` render back to `print e`, and that text tokenises to the same list again. -/
theorem C09_identity_print_wf (e : Spec.Expr) (h : LexOk' e) :
    render (tokensOf e) = e.print ∧ parse ('=' :: render (tokensOf e)) = .ok (tokensOf e) :=
  C09_identity_print e (lexOk_of_wf e h)

example : LexOk' lexExample ∧ render (tokensOf lexExample) = "SUM(A1:$B$2,,\"a\"\"b\")<=-x%".toList := by
  have := (C09_identity_print_wf lexExample lexExample_ok').1
  rw [lexExample_print] at this
  exact ⟨lexExample_ok', this⟩

/-- As `C09_translate_text`, with `LexOk'` (see `C09_lex_print_wf`) and `RefsOk`:
    `Cell::set_coordinate` seen from the formula turns `print e` into
    `print (Spec.translate e dc dr)` for every offset — never a panic. -/
theorem C09_translate_text_wf (e : Spec.Expr) (h : LexOk' e) (hr : RefsOk e) (dc dr : Int) :
    setCoordinate e.print dc dr = .ok (Spec.translate e dc dr).print :=
  C09_translate_text e (lexOk_of_wf e h) hr dc dr

example : LexOk' lexExample ∧ RefsOk lexExample ∧
    setCoordinate "SUM(A1:$B$2,,\"a\"\"b\")<=-x%".toList 2 3 = .ok (Spec.translate lexExample 2 3).print := by
  have h1 := C09_translate_text_wf lexExample lexExample_ok' lexExample_refs 2 3
  rw [lexExample_print] at h1
  exact ⟨lexExample_ok', lexExample_refs, h1⟩

/-- the cell `E1` (digits and `E` only, the closest a reference comes to a float literal) -/
def refE1 : Spec.CRef := ⟨none, .one ⟨some ⟨5, false⟩, some ⟨1, false⟩⟩⟩
/-- the whole columns `'a b'!A:$B` -/
def refCols : Spec.CRef := ⟨some ⟨['a', ' ', 'b'], true⟩, .two ⟨some ⟨1, false⟩, none⟩ ⟨some ⟨2, true⟩, none⟩⟩
/-- the whole rows `$1:2` -/
def refRows : Spec.CRef := ⟨none, .two ⟨none, some ⟨1, true⟩⟩ ⟨none, some ⟨2, false⟩⟩⟩

theorem refE1_wf : refE1.WF := by
  simp [refE1, Spec.CRef.WF, Spec.Area.WF, Spec.Corner.InGrid, Spec.refIn, Spec.maxCol, Spec.maxRow]
theorem refCols_wf : refCols.WF := by
  simp [refCols, Spec.CRef.WF, Spec.Area.WF, Spec.Corner.InGrid, Spec.refIn, Spec.leOpt, Spec.Qual.WF,
    Spec.maxCol]
theorem refRows_wf : refRows.WF := by
  simp [refRows, Spec.CRef.WF, Spec.Area.WF, Spec.Corner.InGrid, Spec.refIn, Spec.leOpt, Spec.maxRow]

/-- `isRangeText_of_WF` (for every well-formed reference) on three instances:
    `E1`, `'a b'!A:$B`, `$1:2` are well-formed, hence Range operands (not f64, not TRUE / FALSE) -/
example : refE1.WF ∧ refCols.WF ∧ refRows.WF ∧ isRangeText refE1.text = true ∧
    isRangeText refCols.text = true ∧ isRangeText refRows.text = true :=
  ⟨refE1_wf, refCols_wf, refRows_wf, isRangeText_of_WF _ refE1_wf, isRangeText_of_WF _ refCols_wf,
    isRangeText_of_WF _ refRows_wf⟩

end Umya.Thm.C09
