/-
  C17 — Coordinate, column, range and address codecs are exact inverses grid-wide.

  The predicates `Range.IsShape`, `Range.InBounds`, `LegalSheetName` of the statements are in
  `Umya/Lemmas/CoordRange.lean`.
-/
import Umya.Lemmas.CoordRange
namespace Umya.Thm.C17
open Umya.Coord Umya.Dec

/-- Column index → letters → index is the identity for every column `n ≥ 1`
    (positional value of the letters, no length bound). -/
theorem C17_alpha_index (n : Nat) (h : 1 ≤ n) : alphaToIndexGen (indexToAlpha n) = n :=
  alphaVal_indexToAlpha n h

/-- The implementation's 3-letter table parser inverts the printer on its whole domain
    (1 … 18278 = ZZZ), in particular on 1 … 16384, and does not panic there. -/
theorem C17_alpha_index3 (n : Nat) (h : 1 ≤ n ∧ n ≤ 18278) :
    columnIndexFromString (indexToAlpha n) = .ok n := by
  rw [(letters_parse_print _ (indexToAlpha_upper n) ⟨indexToAlpha_length_pos n, indexToAlpha_length_le3 n h.2⟩).1,
    alphaVal_indexToAlpha n h.1]

/-- Letters → index → letters is the identity for every 1–3 letter upper-case name. -/
theorem C17_index_alpha (s : List Char) (hu : s.all isUpperAZ = true)
    (hl : 1 ≤ s.length ∧ s.length ≤ 3) :
    ∃ n, columnIndexFromString s = .ok n ∧ 1 ≤ n ∧ indexToAlpha n = s :=
  let ⟨h1, h2, h3⟩ := letters_parse_print s hu hl
  ⟨_, h1, h2.1, h3⟩

/-- successor on little-endian bijective base-26 numerals (independent of `alphaRev`) -/
def succRev : List Char → List Char
  | [] => ['A']
  | c :: r => if c = 'Z' then 'A' :: succRev r else Char.ofNat (c.toNat + 1) :: r

/-- successor on the printed (big-endian) numeral -/
def succ26 (s : List Char) : List Char := (succRev s.reverse).reverse

theorem alphaRev_succ (v : Nat) : alphaRev (v + 1) = succRev (alphaRev v) := by
  induction v using Nat.strongRecOn with
  | _ v ih =>
    rw [alphaRev_cons (v + 1), alphaRev_cons v, succRev]
    by_cases h25 : v % 26 = 25
    · -- carry: `Z` becomes `A` and the rest is incremented
      have hZ : letter v = 'Z' := Char.toNat_inj.1 (by rw [letter_toNat, h25]; rfl)
      have hA : letter (v + 1) = 'A' := Char.toNat_inj.1 (by rw [letter_toNat, show (v + 1) % 26 = 0 by omega]; rfl)
      rw [if_pos hZ, hA, if_neg (by omega : ¬ (v + 1) / 26 = 0), show (v + 1) / 26 - 1 = v / 26 by omega]
      congr 1
      by_cases hq : v / 26 = 0
      · rw [if_pos hq, hq, alphaRev_cons]; rfl
      · rw [if_neg hq, ← ih (v / 26 - 1) (by omega), show v / 26 - 1 + 1 = v / 26 by omega]
    · have hne : letter v ≠ 'Z' := fun e => by
        have := congrArg Char.toNat e
        rw [letter_toNat] at this
        have hz : 'Z'.toNat = 90 := rfl
        omega
      rw [if_neg hne, show (v + 1) / 26 = v / 26 by omega, letter_toNat]
      congr 1
      unfold letter
      congr 1
      omega

/-- `A` is column 1 and column `n+1` is the successor numeral of column `n`. -/
theorem C17_bijective_numeral (n : Nat) (h : 1 ≤ n) :
    indexToAlpha 1 = ['A'] ∧ indexToAlpha (n + 1) = succ26 (indexToAlpha n) := by
  constructor
  · have hA : letter 0 = 'A' := by apply Char.toNat_inj.1; rw [letter_toNat]; rfl
    simp [indexToAlpha, alphaRev, hA]
  · simp only [indexToAlpha, succ26, List.reverse_reverse]
    have : n + 1 - 1 = (n - 1) + 1 := by omega
    rw [this, alphaRev_succ]

/-- A cell coordinate with any combination of `$` locks prints and re-parses to the same column,
    row and lock flags — every column the parser can represent and every `u32` row, hence
    every cell of the 16384 × 1048576 grid. -/
theorem C17_coord (c r : Nat) (lc lr : Bool) (hc : 1 ≤ c ∧ c ≤ 18278) (hr : r < 4294967296) :
    coordinateFromIndexWithLock? c r lc lr = some (coordinateFromIndexWithLock c r lc lr) ∧
    indexFromCoordinate (coordinateFromIndexWithLock c r lc lr) = (some c, some r, some lc, some lr) :=
  coord_print_parse c r lc lr hc hr

/-- Range strings parse to the same corners they print from, for all four shapes, every column
    up to ZZZ and every `u32` row, with any lock flags; parsing never panics on printed text.  (`hs` is not needed:
    `Range.parse_print` holds of every in-bounds range, whichever corners are present.) -/
theorem C17_range (ρ : Range) (hs : Range.IsShape ρ) (hb : Range.InBounds ρ) :
    Range.parse (Range.print ρ) = .ok ρ := Range.parse_print ρ hb

/-- Splitting a joined address is lossless for every legal sheet name — whatever `!`, `"`,
    blanks or inner apostrophes it contains — and every `!`-free cell/range text.  (`stripSheetQuote` is `split_address`
    after fix 906d3c5, which strips the one pair of quoting apostrophes only; before it `trim_matches` took every `'` and
    `"` off either end, and the statement failed for names beginning or ending with `"`.) -/
theorem C17_address (name a : List Char) (h : LegalSheetName name) (ha : '!' ∉ a) :
    splitAddress (joinAddress name a) = (name, a) := by
  simp only [joinAddress, h.isEmpty, Bool.false_eq_true, if_false, List.append_assoc,
    List.singleton_append, splitAddress_qual name a ha, stripSheetQuote_legal name h]

/-- The same through `Address::get_address` (quotes added when the name contains white space). -/
theorem C17_address_quoted (name a : List Char) (h : LegalSheetName name) (ha : '!' ∉ a) :
    splitAddress (addressText name a false) = (name, a) := by
  unfold addressText
  simp only [h.isEmpty, Bool.false_eq_true, if_false]
  exact splitAddress_wrapped name a h ha _

/-- The defined-name printer (`get_address_ptn2`), for names without apostrophes (names with
    apostrophes are doubled by the printer and un-doubled by `DefinedName::add_address`
    before `split_address` sees them; that path is `C17_address_apostrophes` of `Umya/Thm/C17Parse.lean`). -/
theorem C17_address_ptn2 (name a : List Char) (h : LegalSheetName name) (ha : '!' ∉ a)
    (hap : name.contains '\'' = false) :
    splitAddress (addressText name a true) = (name, a) := by
  unfold addressText
  simp only [h.isEmpty, Bool.false_eq_true, if_false, if_true, hap]
  exact splitAddress_wrapped name a h ha _

-- non-vacuity: the hypotheses are met by concrete, non-trivial values
example : (1 ≤ 16384 ∧ 16384 ≤ 18278) ∧ indexToAlpha 16384 = ['X', 'F', 'D'] := by
  refine ⟨by omega, ?_⟩
  simp [indexToAlpha, alphaRev, letter]

example : Range.IsShape ⟨some ⟨3, true⟩, some ⟨7, false⟩, some ⟨16384, false⟩, some ⟨1048576, true⟩⟩ ∧
    Range.InBounds ⟨some ⟨3, true⟩, some ⟨7, false⟩, some ⟨16384, false⟩, some ⟨1048576, true⟩⟩ := by
  constructor
  · right; left; simp
  · refine ⟨?_, ?_, ?_, ?_⟩ <;> intro x hx <;> injection hx with hx <;> subst hx <;> simp

example : LegalSheetName ['"', 'a', '!', ' ', '\'', 'b', '"'] ∧ '!' ∉ ['$', 'A', '$', '1'] := by
  constructor
  · constructor <;> simp
  · simp

end Umya.Thm.C17
