/-
  C06 (defined names: where they live) — the workbook writer's <definedNames> list, the reader's
  re-homing loop and Spreadsheet::remove_sheet.

  Model: `Umya/Model/AnnotNames.lean`.  A book = workbook-level list of names + sheets (title, list of
  names); a name = (name, localSheetId, address text, sheet name of its first area).  `write` is the
  list `writer/xlsx/workbook.rs` emits (every name with the localSheetId it holds), `read titles` the
  loop at the end of `reader/xlsx/workbook.rs` (`none` = its `.unwrap()` panics), `removeSheet` is
  Spreadsheet::remove_sheet AFTER fix 39e32f7 (the localSheetIds of the remaining
  names follow their sheets), `removeSheetUnfixed` the function before that fix.
  The address text is opaque: its own codec is C06_defined_name_roundtrip / _text_kept (Thm/C06.lean),
  the attribute codec C06_defined_name_attrs (Thm/C06View.lean).

  Tie on every run: `c06 nm` lines (harness/src/c06names.rs, Umya/Driver/C06Names.lean).
-/
import Umya.Lemmas.AnnotNamesHome
namespace Umya.Thm.C06
open Umya.AnnotNames

/-- What the reader does with ANY written list whose localSheetIds are below the number of sheets:
    no name is lost, duplicated or changed; each goes to the list `target` says (its localSheetId,
    else the first sheet called like the sheet of its first area, else the workbook), and every
    list keeps the order of the written list. -/
theorem C06_defined_names_read_is_rehome (titles : List Text) (ds : List DN)
    (h : ∀ d ∈ ds, ∀ k, d.lsid = some k → k < titles.length) :
    read titles ds = some (rehome titles ds) := by
  unfold Umya.AnnotNames.read
  rw [emptyBook_eq, readFrom_rehome titles [] ds h]
  simp

/-- the reader panics exactly on a localSheetId that is not below the number of sheets
    (first such name: a foreign file, or a name given such an id through the API). -/
theorem C06_defined_names_read_out_of_range (titles : List Text) (pre post : List DN) (d : DN) (k : Nat)
    (hpre : ∀ x ∈ pre, ∀ j, x.lsid = some j → j < titles.length)
    (hd : d.lsid = some k) (hk : titles.length ≤ k) :
    read titles (pre ++ d :: post) = none := by
  have hlen : ¬ k < (rehome titles pre).sheets.length := by simp [rehome, homes_eq]; omega
  -- the loop over `pre` returns (`readFrom_rehome`); the next turn indexes no sheet
  rw [Umya.AnnotNames.read, readFrom_eq, List.foldlM_append, ← readFrom_eq, emptyBook_eq, readFrom_rehome titles [] pre hpre]
  simp [place, hd, hlen]

/-- Save + reload of a book in which every name is stored where the
    reader puts it (`Stable`: a name on sheet k has localSheetId k, or none and a first area on sheet
    k; a workbook-level name has no localSheetId and a first area that names no sheet) returns THE
    SAME BOOK: the same lists in the same order on the same sheets / the workbook level, each name
    with the same name, localSheetId, address text and first area.
    NOT preserved in general (see C06_defined_names_unstable_moves): the list a name is stored in when
    that is not the list the reader chooses; then name, address and count survive
    (C06_defined_names_read_is_rehome) but the name moves. -/
theorem C06_defined_names_rehome_roundtrip (b : Book) (h : Stable b) :
    read b.titles (write b) = some b := by
  have h' := (stable_iff b).1 h
  have hr : ∀ d ∈ write b, ∀ k, d.lsid = some k → k < b.titles.length := by
    intro d hd k hk
    rcases List.mem_append.mp hd with hd | hd
    · have := h'.1 d hd; simp [target, hk] at this
    · obtain ⟨p, hp, hm⟩ := flat_target _ b.sheets 0 h.2 d hd
      simp only [target, hk, Option.some.injEq] at hm
      simpa [Book.titles, hm] using hp
  rw [C06_defined_names_read_is_rehome b.titles (write b) hr, rehome_stable b h]

/-- non-vacuity: three sheets; a workbook-level constant, a workbook-level name whose first area
    names no sheet of the book, scoped names, a name homed by its first area. -/
def exBook : Book :=
  ⟨[⟨"Rate".toList, none, "0.5".toList, none⟩, ⟨"Gone".toList, none, "Old!$A$1".toList, some "Old".toList⟩],
   [⟨"S1".toList, [⟨"A".toList, some 0, "S1!$A$1".toList, some "S1".toList⟩]⟩,
    ⟨"S2".toList, [⟨"A".toList, some 1, "S1!$A$2".toList, some "S1".toList⟩, ⟨"B".toList, none, "S2!$B$1,S1!$B$2".toList, some "S2".toList⟩]⟩,
    ⟨"S3".toList, [⟨"A".toList, some 2, "S3!$A$1".toList, some "S3".toList⟩, ⟨"C".toList, some 2, "1.5".toList, none⟩]⟩]⟩

theorem exBook_stable : Stable exBook := by decide +kernel
example : read exBook.titles (write exBook) = some exBook := C06_defined_names_rehome_roundtrip exBook exBook_stable

/-- what is not preserved: a name WITHOUT localSheetId stored on another sheet than the one its
    first area names moves to that sheet on reload; a workbook-level name whose first area names a
    sheet moves onto that sheet; a name stored on one sheet with the localSheetId of another moves
    there.  Name, address and count are kept. -/
theorem C06_defined_names_unstable_moves :
    let d : DN := ⟨"N".toList, none, "S2!$A$1".toList, some "S2".toList⟩
    let e : DN := ⟨"E".toList, some 1, "1+1".toList, none⟩
    let b : Book := ⟨[d], [⟨"S1".toList, [{ d with name := "M".toList }, e]⟩, ⟨"S2".toList, []⟩]⟩
    read b.titles (write b) = some ⟨[], [⟨"S1".toList, []⟩, ⟨"S2".toList, [d, { d with name := "M".toList }, e]⟩]⟩ := by
  decide +kernel

/-- `Stable` survives Spreadsheet::remove_sheet(i) for any i (titles need not even be distinct): the
    names of the removed sheet go with it, no other name is dropped, and every other name is still
    stored where the reader will put it — scoped names of later sheets carry the new position. -/
theorem C06_defined_names_remove_sheet_stable (b : Book) (i : Nat) (h : Stable b) : Stable (removeSheet i b) := by
  by_cases hi : i < b.sheets.length
  case neg => simpa [removeSheet, hi] using h
  rw [stable_iff] at h ⊢
  rw [removeSheet_titles hi]
  simp only [removeSheet, hi, if_true]
  constructor
  · intro x hx
    obtain ⟨d, hd, -, rfl⟩ := mem_fixIds i b.wb x hx
    rw [target_remove (by simp [h.1 d hd]), h.1 d hd]; rfl
  · intro p s' hp x hx
    rw [List.getElem?_map, List.getElem?_eraseIdx] at hp
    obtain ⟨s, hs, rfl⟩ := Option.map_eq_some_iff.1 hp
    obtain ⟨d, hd, -, rfl⟩ := mem_fixIds i s.names x hx
    -- position `p` of the erased list holds sheet `p` (when `p < i`) or sheet `p + 1`; `target_remove` moves the destinations alike
    split at hs
    · rw [target_remove (by rw [h.2 p s hs d hd]; simp; omega), h.2 p s hs d hd]; simp [*]
    · rw [target_remove (by rw [h.2 (p + 1) s hs d hd]; simp; omega), h.2 (p + 1) s hs d hd]; simp; omega

/-- what remove_sheet(i) keeps: the sheets other than i, each with all its names in order (only
    localSheetIds change), for a stable book. -/
theorem C06_defined_names_remove_sheet_keeps (b : Book) (i : Nat) (h : Stable b) (hi : i < b.sheets.length) :
    ((removeSheet i b).sheets.map (fun s => (s.title, s.names.map (fun d => (d.name, d.addr, d.first)))))
      = ((b.sheets.eraseIdx i).map (fun s => (s.title, s.names.map (fun d => (d.name, d.addr, d.first))))) := by
  rw [stable_iff] at h
  simp only [removeSheet, hi, if_true, List.map_map]
  apply List.map_congr_left
  intro s hs
  obtain ⟨p, hp, hsp⟩ := List.mem_eraseIdx_iff_getElem?.1 hs
  simp only [Function.comp, fixSheet, fixIds_proj i s.names (fun d hd e => by
    have := h.2 p s hsp d hd; simp [target, e] at this; exact hp this.symm)]

/-- After Spreadsheet::remove_sheet(i) on a stable book
    save + reload returns the book as it stands: every remaining name on its own sheet / the workbook
    level, in order, with the localSheetId it was written with. -/
theorem C06_defined_names_after_remove_sheet (b : Book) (i : Nat) (h : Stable b) :
    read (removeSheet i b).titles (write (removeSheet i b)) = some (removeSheet i b) :=
  C06_defined_names_rehome_roundtrip _ (C06_defined_names_remove_sheet_stable b i h)

example : read (removeSheet 0 exBook).titles (write (removeSheet 0 exBook)) = some (removeSheet 0 exBook)
    ∧ (removeSheet 0 exBook).sheets.length = 2 ∧ removeSheet 0 exBook ≠ removeSheetUnfixed 0 exBook :=
  ⟨C06_defined_names_after_remove_sheet exBook 0 exBook_stable, by decide +kernel, by decide +kernel⟩

/-- the same after any history of removals -/
theorem C06_defined_names_after_removals (b : Book) (is : List Nat) (h : Stable b) :
    let b' := is.foldl (fun acc i => removeSheet i acc) b
    read b'.titles (write b') = some b' := by
  intro b'
  refine C06_defined_names_rehome_roundtrip _ ?_
  exact List.foldlRecOn is _ h (fun b hb i _ => C06_defined_names_remove_sheet_stable b i hb)

example : (let b' := [1, 0].foldl (fun acc i => removeSheet i acc) exBook
           read b'.titles (write b') = some b' ∧ b'.sheets.length = 1) :=
  ⟨C06_defined_names_after_removals exBook [1, 0] exBook_stable, by decide +kernel⟩

/-- remove_sheet BEFORE fix 39e32f7 left the stored ids alone: after removing the
    first of three sheets the name of the (old) second sheet comes back on the wrong sheet ... -/
theorem C06_defined_names_after_remove_sheet_unfixed_fails :
    ¬ ∀ (b : Book) (i : Nat), Stable b →
        read (removeSheetUnfixed i b).titles (write (removeSheetUnfixed i b)) = some (removeSheetUnfixed i b) := by
  intro h
  exact absurd (h ⟨[], [⟨"S1".toList, []⟩, ⟨"S2".toList, [⟨"A".toList, some 1, "$A$1".toList, some []⟩]⟩, ⟨"S3".toList, []⟩]⟩ 0
    (by decide +kernel)) (by decide +kernel)

/-- ... and with two sheets the reload panics (the stale id indexes no sheet). -/
theorem C06_defined_names_after_remove_sheet_unfixed_panics :
    let b : Book := ⟨[], [⟨"S1".toList, []⟩, ⟨"S2".toList, [⟨"A".toList, some 1, "$A$1".toList, some []⟩]⟩]⟩
    read (removeSheetUnfixed 0 b).titles (write (removeSheetUnfixed 0 b)) = none := by
  decide

/-- sheets put in front of scoped names through get_sheet_collection_mut() are NOT followed by the
    ids (no API of the crate inserts; `new_sheet` / `add_sheet` append, which keeps a stable book
    stable): the equation shows the scoped name of the old first sheet coming back on the inserted sheet. -/
theorem C06_defined_names_insert_front_fails :
    let b : Book := ⟨[], [⟨"S1".toList, [⟨"A".toList, some 0, "$A$1".toList, some []⟩]⟩]⟩
    Stable b ∧ read (insertSheet 0 ⟨"New".toList, []⟩ b).titles (write (insertSheet 0 ⟨"New".toList, []⟩ b))
      = some ⟨[], [⟨"New".toList, [⟨"A".toList, some 0, "$A$1".toList, some []⟩]⟩, ⟨"S1".toList, []⟩]⟩ := by
  decide +kernel

end Umya.Thm.C06
