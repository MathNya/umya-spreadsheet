/-
  C02 — tie to the source (T): the `t=` choice of a cell (`CellRawValue::get_data_type`,
  `CellValue::get_data_type_crate`), compiled to Lean from the CURRENT source on every run, equals the hand model's.
-/
import Umya.Lemmas.FnsGenCell
namespace Umya.Thm.C02
open Umya.CellXml Umya.Num

/-- For every model value `r` and optional formula `f`: the compiled
    `get_data_type` on the variant tag of `r` is `r.dataType`, and the compiled `get_data_type_crate` on
    (tag of `r`, `f.is_some()`) is the model's `dataTypeOf` — the `"str"` arm for text results of formulas included;
    every variant of the `CellRawValue` declaration is covered by the model. -/
theorem C02_datatype_matches_source :
    (∀ (F : NumFmt) (r : RawValue F.Num), Umya.Gen.raw_get_data_type (Umya.Gen.tagOf r) = r.dataType) ∧
    (∀ (F : NumFmt) (r : RawValue F.Num) (f : Option (List Char)),
      Umya.Gen.get_data_type_crate (Umya.Gen.tagOf r) (f.map fun _ => ()) = dataTypeOf F r f) ∧
    (∀ t : Umya.Gen.CellRawValue_tag, ∃ r : RawValue Nat, Umya.Gen.tagOf r = t) :=
  ⟨fun _ r => Umya.Gen.gen_raw_get_data_type r, fun F r f => Umya.Gen.gen_get_data_type_crate F r f,
   Umya.Gen.tagOf_surjective⟩

example : Umya.Gen.get_data_type_crate .String (some ()) = ['s', 't', 'r'] := by decide
example : Umya.Gen.get_data_type_crate .Numeric (some ()) = ['n'] := by decide
example : Umya.Gen.get_data_type_crate .String none = ['s'] := by decide

end Umya.Thm.C02
