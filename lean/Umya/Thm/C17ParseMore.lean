/-
  C17 — parse-then-print at the ADDRESS level (`Address::set_address` / `Address::get_address_ptn2`): whole-column and
  whole-row areas behind a sheet qualifier as well, areas without a qualifier, and one statement for all of it.

  `Address::set_address` does NOT apply `is_address`: it is `split_address` + `Range::set_range`, so it accepts every one
  of the four range shapes, qualified or not.  (`DefinedName::set_address` filters with `is_address` first and keeps
  `Sheet1!$A:$B` as plain text, printed verbatim — that is `C06_defined_name_text_kept`, for every text one of whose pieces
  `is_address` rejects; that col:col / row:row areas are always rejected is shown there on examples only.)

  The grammars `canonAreaB'`, `canonAddrB` are in `Umya/Model/CoordCanonMore.lean`.
-/
import Umya.Lemmas.CoordParseMore
namespace Umya.Thm.C17
open Umya.Coord Umya.Dec Umya.Annot

/-- Qualified area of any of the four shapes, text → area → text.  For every text `t = qualifier!range` of the grammar
    `canonAreaB'` — qualifier as in `canonAreaB` (unquoted legal name, or `'…'` with doubled apostrophes), range `cell`,
    `cell:cell`, `col:col` or `row:row` in canonical spelling — `set_address` of the un-doubled text does not panic and reads
    an area with a legal sheet name and a range of one of the four shapes inside the bounds; `get_address_ptn2` prints
    `canonArea t` (the range text VERBATIM behind the re-quoted qualifier); `canonArea t` is again in the grammar, is a
    fixed point of `canonArea`, and parses to the same area. -/
theorem C17_address_canon_cols_rows (t : Text) (h : canonAreaB' t = true) :
    ∃ a : Address, LegalSheet a.sheet ∧ Range.IsShape a.range ∧ Range.InBounds a.range ∧
      Address.parse (undouble t) = .ok a ∧ a.text = canonArea t ∧
      canonAreaB' (canonArea t) = true ∧ canonArea (canonArea t) = canonArea t ∧
      Address.parse (undouble (canonArea t)) = .ok a := by
  obtain ⟨a, hl, hs, hb, hp, ht⟩ := canonArea'_piece t h
  obtain ⟨h1, h2⟩ := canonArea'_text a hl hs hb
  refine ⟨a, hl, hs, hb, hp, ht, ?_, ?_, ?_⟩
  · rw [← ht]; exact h1
  · rw [← ht]; exact h2
  · rw [← ht]; exact parse_printed_area a hl.1 hb

/-- the grammar of `C17_address_canon` (`canonAreaB`: what `DefinedName::set_address` keeps as areas) is inside the one of
    `C17_address_canon_cols_rows` -/
theorem C17_canonArea_sub (t : Text) (h : canonAreaB t = true) : canonAreaB' t = true := by
  unfold canonAreaB at h
  split at h
  · rename_i q a hsp
    have e : canonAreaB' t = (canonQualB q && canonRangeB a) := by simp only [canonAreaB', hsp]
    rw [Bool.and_eq_true] at h
    have h2 := h.2
    have h3 : canonRangeB a = true := by
      unfold canonCellRangeB at h2; unfold canonRangeB
      split at h2
      · exact h2
      · simp [h2]
      · cases h2
    rw [e, Bool.and_eq_true]
    exact ⟨h.1, h3⟩
  · cases h

/-- non-vacuity: whole columns, whole rows (quoted qualifier with a blank / an apostrophe), and the re-quoting -/
example : canonAreaB' "Sheet1!$A:$B".toList = true ∧ canonAreaB' "'My Sheet'!$1:$3".toList = true ∧
    canonAreaB' "'It''s'!A:XFD".toList = true ∧ canonAreaB' "data!1:1048576".toList = true ∧
    canonAreaB' "Sheet1!$A$1:$B$2".toList = true ∧ canonAreaB "Sheet1!$A:$B".toList = false ∧
    canonAreaB' "Sheet1!$A:$1".toList = false ∧ canonAreaB' "Sheet1!a:b".toList = false ∧ canonAreaB' "$A:$B".toList = false ∧
    addrReprint "Sheet1!$A:$B".toList = .ok "'Sheet1'!$A:$B".toList ∧
    addrReprint "'My Sheet'!$1:$3".toList = .ok "'My Sheet'!$1:$3".toList ∧
    addrReprint "data!1:1048576".toList = .ok "data!1:1048576".toList ∧
    canonArea "Sheet1!$A:$B".toList = "'Sheet1'!$A:$B".toList := by
  repeat rw [String.toList_ofList]
  decide +kernel

/-- Area without a qualifier.  For every text of the range grammar `canonRangeB` (`$A$1`, `A1:B2`, `$A:$B`, `1:3`, …)
    `set_address` — of the text as it is and of its un-doubled form, which is the same text — reads an address with the
    EMPTY sheet name and a range of one of the four shapes inside the bounds, and `get_address_ptn2` prints the text
    verbatim (an empty sheet name prints no qualifier and no `!`); `canonArea` leaves such a text alone. -/
theorem C17_address_unqualified (t : Text) (h : canonRangeB t = true) :
    ∃ a : Address, Address.parse t = .ok a ∧ Address.parse (undouble t) = .ok a ∧ a.sheet = [] ∧
      Range.IsShape a.range ∧ Range.InBounds a.range ∧ a.text = t ∧ canonArea t = t ∧ undouble t = t := by
  obtain ⟨ρ, hs, hb, e⟩ := canonRange_spec t h
  subst e
  obtain ⟨p1, p2⟩ := unqual_parse ρ hb
  refine ⟨⟨[], ρ⟩, p1, p2, rfl, hs, hb, unqual_text ρ, ?_, undouble_id _ (apos_free_print ρ)⟩
  simp only [canonArea, rsplitBang_none _ (bang_free_print ρ)]

example : canonRangeB "$A$1".toList = true ∧ addrReprint "$A$1".toList = .ok "$A$1".toList ∧
    addrReprint "$A:$B".toList = .ok "$A:$B".toList ∧ addrReprint "1:3".toList = .ok "1:3".toList ∧
    Address.parse "$A$1".toList = .ok ⟨[], ⟨some ⟨1, true⟩, some ⟨1, true⟩, none, none⟩⟩ := by
  repeat rw [String.toList_ofList]
  decide +kernel

/-- One statement: qualified or not, cell / range / columns / rows.  For every text `t` of the address-level grammar
    `canonAddrB` (`qualifier!range` with a canonical qualifier, or a bare range; the range of any of the four shapes),
    `set_address` of the un-doubled text reads an address `a` — sheet name empty EXACTLY when `t` has no `!`, legal
    otherwise; range of one of the four shapes inside the bounds — and `get_address_ptn2` prints `canonArea t`
    (`= t` when there is no qualifier; the qualifier re-quoted by `C17_quote_rule` otherwise); `canonArea t` is in the
    grammar, is a fixed point, and parses to the same `a`.  As one equation: `addrReprint t = .ok (canonArea t)`. -/
theorem C17_address_canon_total (t : Text) (h : canonAddrB t = true) :
    ∃ a : Address, ((rsplitBang t = none ∧ a.sheet = [] ∧ canonArea t = t) ∨ (rsplitBang t ≠ none ∧ LegalSheet a.sheet)) ∧
      Range.IsShape a.range ∧ Range.InBounds a.range ∧
      Address.parse (undouble t) = .ok a ∧ a.text = canonArea t ∧ addrReprint t = .ok (canonArea t) ∧
      canonAddrB (canonArea t) = true ∧ canonArea (canonArea t) = canonArea t ∧
      Address.parse (undouble (canonArea t)) = .ok a := by
  cases hsp : rsplitBang t with
  | none =>
    have hr : canonRangeB t = true := by simpa only [canonAddrB, hsp] using h
    obtain ⟨a, _, p2, hsn, hs, hb, ht, hc, _⟩ := C17_address_unqualified t hr
    refine ⟨a, Or.inl ⟨rfl, hsn, hc⟩, hs, hb, p2, by rw [hc]; exact ht, ?_, by rw [hc]; exact h, by rw [hc, hc],
      by rw [hc]; exact p2⟩
    simp only [addrReprint, p2, ht, hc]
  | some qa =>
    have hr : canonAreaB' t = true := by
      simp only [canonAddrB, hsp] at h
      simp only [canonAreaB', hsp]; exact h
    obtain ⟨a, hl, hs, hb, hp, ht, h1, h2, h3⟩ := C17_address_canon_cols_rows t hr
    refine ⟨a, Or.inr ⟨by simp, hl⟩, hs, hb, hp, ht, ?_, canonAddr_of_area h1, h2, h3⟩
    simp only [addrReprint, hp, ht]

theorem C17_address_reprint_total (t : Text) (h : canonAddrB t = true) : addrReprint t = .ok (canonArea t) := by
  obtain ⟨_, _, _, _, _, _, h6, _⟩ := C17_address_canon_total t h
  exact h6

/-- non-vacuity: all eight combinations; outside: a mixed pair, lower case, an undoubled apostrophe, three parts -/
example : (["$A$1", "A1:B2", "$A:$B", "1:3", "Sheet1!$A$1", "'My Sheet'!A1:B2", "Sheet1!$A:$B", "'It''s'!$1:$3"].map
      fun s => (canonAddrB s.toList, addrReprint s.toList == .ok (canonArea s.toList), String.ofList (canonArea s.toList))) =
    [(true, true, "$A$1"), (true, true, "A1:B2"), (true, true, "$A:$B"), (true, true, "1:3"),
     (true, true, "'Sheet1'!$A$1"), (true, true, "'My Sheet'!A1:B2"), (true, true, "'Sheet1'!$A:$B"),
     (true, true, "'It''s'!$1:$3")] ∧
    canonAddrB "A1:5".toList = false ∧ canonAddrB "Sheet1!a1".toList = false ∧ canonAddrB "'It's'!$A$1".toList = false ∧
    canonAddrB "A1:B2:C3".toList = false ∧ addrReprint "A1:B2:C3".toList = .panic := by
  simp only [List.map_cons, List.map_nil]
  repeat rw [String.toList_ofList]
  decide +kernel

end Umya.Thm.C17
