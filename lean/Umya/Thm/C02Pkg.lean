/-
  C02, package level — the whole package of a workbook of n plain sheets, and `decode` on it.

  `Umya/Model/PackageNode.lean` is the part list `make_buffer` assembles (names, content types, package-level and
  workbook-level relationships exactly as `rels.rs`, `workbook_rels.rs`, `content_types.rs` and
  `WriterManager::make_context_type_override` write them), with the worksheet / workbook / shared-string trees of
  the sheet-level and workbook-level models and OPAQUE bodies for docProps, theme and styles.  The theorems say
  what the independent OPC/SpreadsheetML reader `Umya.Spec.Sml.decode` reports on it, for every number of sheets.

  The three whole-package arguments are made once, for the shape the plain, the comments and the tables package have in
  common (`Pieces` of `Lemmas/PackageNodeLookup.lean`): `Pieces.ct_cover` (`Lemmas/PackageNodeCT.lean`), `relsOK_pieces`
  and `decode_pieces` (this file), and instantiated here for the plain one.
  The OPC path rules are evaluated on the concrete names (`resolveTarget`, `relsNameOf`, … of the decoder, on
  `xl/worksheets/sheetK.xml` for symbolic K: `Lemmas/PackagePath.lean`); the theorems carry no hypothesis about paths.
  Hypotheses (`BookP.WF`, decidable per workbook but for `xfs`, which speaks of every reference): every sheet well-formed (`SheetW.WF`, from C10's
  `Coherent`) with columns ≥ 1; the opaque frames satisfy the conditions of `C02_sheet_decodes`; style indexes
  below the `cellXfs` count of the styles part; sheet titles distinct ignoring case (what `new_sheet` enforces;
  `set_name` does not: known finding); defined-name scopes inside the sheet list; the active tab inside the
  sheet list (`remove_sheet` clamps it since fix 649e69a; `set_active_sheet` accepts any index, and the writer
  writes what is stored — a hypothesis on the workbook).
  Outside THIS model: sheets with comments / VML (`Thm/C02PkgCmt.lean`) or tables (`Thm/C02PkgTbl.lean`,
  `Thm/C02PkgTblPkg.lean`).  Outside all three (validated per file only): custom properties, macros / vbaProject.bin,
  ribbon, pivot caches, raw (not deserialized) sheets, and sheets with drawings, charts, images, OLE objects or printer
  settings — each adds parts, Default extensions and relationships.
-/
import Umya.Lemmas.PackageNodeDecode
import Umya.Lemmas.PackageNodeCT
import Umya.Thm.C02Book
import Umya.Thm.C02Sheet
namespace Umya.Thm.C02
open Umya.CellXml Umya.CellNode Umya.SheetNode Umya.WorkbookNode Umya.PackageNode Umya.Num
open Umya.Spec.Sml
open Umya.Spec.Xml (Node Attr)

/-- a successful `writePackage` is `Pieces.pkg` of pieces that are `OK`, so the whole-package theorems are read off the lemmas on
    `Pieces`; likewise `writePackageC_anatomy`, `writePackageT_anatomy`, which return `Built`, from which `piecesC_ok`, `piecesT_ok` give `OK` -/
theorem writePackage_anatomy (F : NumFmt) (b : BookP F.Num) (pkg : Package) (h : writePackage F b = some pkg) :
    ∃ tbl roots sst, renderSheetsP F [] b.sheets = some (tbl, roots) ∧ roots.length = b.sheets.length ∧
      (piecesP F b (!tbl.isEmpty) roots sst).OK tbl ∧ pkg = (piecesP F b (!tbl.isEmpty) roots sst).pkg := by
  unfold writePackage at h
  split at h
  · cases h
  next tbl roots hr =>
    obtain ⟨sst, hs, rfl⟩ := Option.map_eq_some_iff.1 h
    exact ⟨tbl, roots, sst, hr, (renderSheetsP_nth F b.sheets [] tbl roots hr).1, piecesP_ok b _ roots (sstPartsP_shape tbl sst hs),
      assemble_pieces F b _ roots sst⟩

/-- Every part of the package the model writes — for any number of sheets, with or without
    a shared-string part, with or without sheet relationship parts — has a content type under the decoder's
    look-up (`Override` by part name, else `Default` by extension). -/
theorem C02_content_types_cover (F : NumFmt) (b : BookP F.Num) (pkg : Package) (h : writePackage F b = some pkg) :
    ∀ part ∈ pkg, part.name ≠ "[Content_Types].xml" → (contentTypeOf pkg part.name).isSome = true := by
  obtain ⟨tbl, roots, sst, _, _, hq, rfl⟩ := writePackage_anatomy F b pkg h
  exact Pieces.ct_cover hq (contentTypesNode_eq _ _) (fun _ hp => nomatch hp)

/-- … and which: the worksheet type for every `sheetK.xml`, the relationships type for every sheet relationships part, the
    workbook type for `xl/workbook.xml` -/
theorem C02_content_types_sheets (F : NumFmt) (b : BookP F.Num) (pkg : Package) (h : writePackage F b = some pkg) (k : Nat) (h1 : 1 ≤ k) (h2 : k ≤ b.sheets.length) :
    contentTypeOf pkg (String.ofList (sheetPartL k)) = some (str sheetContentType) ∧
    contentTypeOf pkg (String.ofList (sheetRelsL k)) = some (str ctRels) ∧
    contentTypeOf pkg (String.ofList nWorkbookPart) = some (str ctWorkbook) := by
  obtain ⟨tbl, roots, sst, _, _, hq, rfl⟩ := writePackage_anatomy F b pkg h
  have hct := contentTypesNode_eq b.sheets.length (!tbl.isEmpty)
  exact ⟨Pieces.ct_override hq hct _ _ (ov_sheet k h1 (by show k < 1 + b.sheets.length; omega)), Pieces.ct_sheetRels hq hct k,
    Pieces.ct_override hq hct _ _ ov_workbook⟩

/-- for every package of the shape `Pieces.pkg`: `_rels/.rels` and `workbook.xml.rels` are the same in all of them;
    the parts the sheets bring along are no relationship parts (`Foreign`). -/
theorem relsOK_pieces (q : Pieces) (tbl : Table) (hq : q.OK tbl) (hhs : q.hs = !tbl.isEmpty) (hlen : q.roots.length = q.n)
    (hrels : ∀ j links rest, 1 ≤ j → q.rels[j - 1]? = some (links, rest) →
      (∃ m, ((rest.filter (isKid nRelationship)).map relOf).map (·.id) = (List.range' (hlNext 1 links) m).map (fun i => str (rIdText i))) ∧
      ∀ r ∈ (rest.filter (isKid nRelationship)).map relOf, r.external = false →
        (q.pkg.part? (resolveTarget (String.ofList (sheetPartL j)) r.target)).isSome = true)
    (part : Part) (hp : part ∈ q.pkg) (hr : isRelsNameL part.name.toList = true) :
    RelsOK q.pkg (String.ofList (relsSourceL part.name.toList)) := by
  obtain ⟨nm, r, rfl, hc⟩ := Pieces.mem_pkg hq part hp
  simp only [xmlPart, String.toList_ofList] at hr ⊢
  have hnot : isRelsNameL nm = false → False := fun h => nomatch h.symm.trans hr
  rcases hc with hm | ⟨j, rfl⟩ | ⟨_, hf⟩ | ⟨j, ⟨links, rest⟩, j1, hj, rfl⟩ | rfl
  · rcases (by decide : ∀ nm ∈ fixedNames, isRelsNameL nm = false ∨ nm = nRootRels ∨ nm = nWorkbookRels) nm hm with h | rfl | rfl
    · exact (hnot h).elim
    · rw [show relsSourceL nRootRels = [] by decide]; exact Pieces.relsOK_root hq
    · rw [show relsSourceL nWorkbookRels = nWorkbookPart by decide]; exact Pieces.relsOK_wb hq hhs hlen
  · exact (hnot (isRels_sheetPart j)).elim
  · exact (hnot hf.notRels).elim
  · obtain ⟨⟨m, hids⟩, htg⟩ := hrels j links rest j1 hj
    rw [relsSource_sheetRels]
    exact Pieces.relsOK_sheet hq j j1 links rest hj hids htg
  · exact (hnot (by decide)).elim

theorem relsOK_pkg (F : NumFmt) (b : BookP F.Num) (roots : List Node) (tbl : Table) (sst : List Part)
    (hq : (piecesP F b (!tbl.isEmpty) roots sst).OK tbl) (hlen : roots.length = b.sheets.length) :
    ∀ part ∈ (piecesP F b (!tbl.isEmpty) roots sst).pkg, isRelsNameL part.name.toList = true →
      RelsOK (piecesP F b (!tbl.isEmpty) roots sst).pkg (String.ofList (relsSourceL part.name.toList)) := by
  refine relsOK_pieces _ tbl hq rfl hlen ?_
  intro j links rest _ hj
  obtain ⟨s, _, he⟩ := Option.map_eq_some_iff.1 (List.getElem?_map.symm.trans hj)
  cases he
  exact ⟨⟨0, rfl⟩, fun _ hr => nomatch hr⟩

/-- Every internal relationship of every relationships part of the model package
    (`_rels/.rels`, `xl/_rels/workbook.xml.rels`, every `xl/worksheets/_rels/sheetK.xml.rels`) resolves — by the
    decoder's `resolveTarget` on the concrete names, relative to the source part — to a part that is in the package. -/
theorem C02_package_rels_resolve (F : NumFmt) (b : BookP F.Num) (pkg : Package) (h : writePackage F b = some pkg) :
    ∀ part ∈ pkg, isRelsNameL part.name.toList = true →
      ∀ r ∈ relsOf pkg (String.ofList (relsSourceL part.name.toList)), r.external = false →
        (pkg.part? (resolveTarget (String.ofList (relsSourceL part.name.toList)) r.target)).isSome = true := by
  obtain ⟨tbl, roots, sst, _, hlen, hq, rfl⟩ := writePackage_anatomy F b pkg h
  exact fun part hp hrels => (relsOK_pkg F b roots tbl sst hq hlen part hp hrels).2

/-- Within every relationships part of the model package the ids are pairwise different. -/
theorem C02_rel_ids_unique (F : NumFmt) (b : BookP F.Num) (pkg : Package) (h : writePackage F b = some pkg) :
    ∀ part ∈ pkg, isRelsNameL part.name.toList = true →
      ((relsOf pkg (String.ofList (relsSourceL part.name.toList))).map (·.id)).eraseDups.length =
        ((relsOf pkg (String.ofList (relsSourceL part.name.toList))).map (·.id)).length := by
  obtain ⟨tbl, roots, sst, _, hlen, hq, rfl⟩ := writePackage_anatomy F b pkg h
  exact fun part hp hrels => (relsOK_pkg F b roots tbl sst hq hlen part hp hrels).1

/-- `sheetId`s are present on every `<sheet>` and pairwise different, for any sheet list (the
    writer numbers the sheets by position, so a removed and re-added sheet cannot collide). -/
theorem C02_sheet_ids_unique (fr : WbFrame) (ss : List SheetE) (ds : List NameE) (hfr : fr.ok = true) :
    dE2 (workbookNode fr ss ds) = [] := dE2_rendered fr ss ds hfr

/-- The decoder reads `activeTab` from the `bookViews` child (one of the opaque children of
    `<workbook>`: `WbFrame.active`); it reports nothing when that index is inside the sheet list (or there
    is no sheet).  `Spreadsheet::remove_sheet` / `remove_sheet_by_name` clamp the stored index (fix 649e69a);
    `set_active_sheet` stores any index and `WorkbookView::write_to` writes what is stored. -/
theorem C02_active_tab_in_range (fr : WbFrame) (ss : List SheetE) (ds : List NameE) (hfr : fr.ok = true)
    (h : ss = [] ∨ fr.active < ss.length) : dE3 (workbookNode fr ss ds) = [] := by
  unfold dE3
  rw [dSheetEls_rendered fr ss ds hfr, dActive_workbook, sheetEls_length]
  rcases h with rfl | h
  · simp [sheetEls]
  · rw [if_pos (Or.inr h)]

/-- the workbooks the package theorems are about (all conditions but `xfs` decidable for a given workbook); `++ []` in `frames`: a plain
    sheet has no relationship after the hyperlink ones (`decode_pieces` at `rest i = []`) -/
structure _root_.Umya.PackageNode.BookP.WF {F : NumFmt} (b : BookP F.Num) : Prop where
  sheetsWF : ∀ s ∈ b.sheets, s.sheet.WF
  frames : ∀ s ∈ b.sheets, s.frame.ok = true ∧ s.frame.colsOk (nXfOf b.styles) = true ∧ s.frame.dxfOk (nDxfOf b.styles) = true ∧
    s.frame.ridsOk (relIds (relWalk 1 s.sheet.links ++ [])) = true
  xfs : 0 < nXfOf b.styles ∧ ∀ s ∈ b.sheets, ∀ ref, s.xf ref < nXfOf b.styles
  wbFrame : b.wbFrame.ok = true
  names : namesDistinct (b.sheets.map (·.entry)) = true
  scopes : ∀ d ∈ b.names, ∀ i, d.localSheetId = some i → i < b.sheets.length
  active : b.sheets = [] ∨ b.wbFrame.active < b.sheets.length

/-- what the K-th sheet (1-based) means: the view of its cells, merged ranges, hyperlinks, columns, rows -/
def bodyOf {F : NumFmt} (b : BookP F.Num) (k : Nat) : SheetBody :=
  match b.sheets[k - 1]? with
  | some s => { cells := cellViews F s.xf s.sheet.cells, merges := s.sheet.merges, links := s.sheet.links.map linkView,
                cols := colVsOf s.frame.colNodes, rows := s.sheet.rows.map rowView, tables := [], noR := false }
  | none => {}

/-- the decoder on any package of the shape `Pieces.pkg` whose sheet relationship parts carry, after the hyperlink
    relationships of sheet `i`, the relationships `rest i`.  The parts the sheets bring along are not looked at (they are trees). -/
theorem decode_pieces (F : NumFmt) (b : BookP F.Num) (q : Pieces) (tbl : Table) (hq : q.OK tbl)
    (hr : renderSheetsP F [] b.sheets = some (tbl, q.roots)) (hhs : q.hs = !tbl.isEmpty) (hn : q.n = b.sheets.length)
    (hwb : q.workbook = workbookNode b.wbFrame (b.sheets.map (·.entry)) b.names) (hst : q.styles = b.styles)
    (rest : Nat → List Node) (hL : ∀ (i : Nat) (s : SheetP F.Num), b.sheets[i]? = some s → q.rels[i]? = some (s.sheet.links, rest i))
    (sheetsWF : ∀ s ∈ b.sheets, s.sheet.WF)
    (frames : ∀ (i : Nat) (s : SheetP F.Num), b.sheets[i]? = some s → s.frame.ok = true ∧ s.frame.colsOk (nXfOf b.styles) = true ∧ s.frame.dxfOk (nDxfOf b.styles) = true ∧
      s.frame.ridsOk (relIds (relWalk 1 s.sheet.links ++ rest i)) = true)
    (xfs : 0 < nXfOf b.styles ∧ ∀ s ∈ b.sheets, ∀ ref, s.xf ref < nXfOf b.styles)
    (wbFrame : b.wbFrame.ok = true) (names : namesDistinct (b.sheets.map (·.entry)) = true)
    (scopes : ∀ d ∈ b.names, ∀ i, d.localSheetId = some i → i < b.sheets.length)
    (active : b.sheets = [] ∨ b.wbFrame.active < b.sheets.length)
    (hct : ∀ part ∈ q.pkg, part.name ≠ "[Content_Types].xml" → (contentTypeOf q.pkg part.name).isSome = true)
    (hrd : ∀ part ∈ q.pkg, isRelsNameL part.name.toList = true → RelsOK q.pkg (String.ofList (relsSourceL part.name.toList))) :
    ∃ bk : BookV, decode q.pkg = (some bk, []) ∧
      bk.sheets = sheetVs (bodyOf b) 1 (b.sheets.map (·.entry)) ∧ bk.names = b.names.map nameView ∧ bk.active = b.wbFrame.active := by
  obtain ⟨_, _, hnth⟩ := renderSheetsP_nth F b.sheets [] tbl q.roots hr
  have hsheet : ∀ k, 1 ≤ k → k ≤ (b.sheets.map (·.entry)).length →
      decodeSheet q.pkg (resolveTarget (String.ofList nWorkbookPart) (str (sheetTarget k))) (dSst q.pkg (String.ofList nWorkbookPart))
        (dNXf q.pkg (String.ofList nWorkbookPart)) (dNDxf q.pkg (String.ofList nWorkbookPart)) = (bodyOf b k, []) := by
    intro k k1 k2
    rw [List.length_map] at k2
    rw [resolve_from _ _ _ (resolve_sheetTarget k), Pieces.dSst_eq hq hhs, (Pieces.dNXf_dNDxf_eq hq).1, (Pieces.dNXf_dNDxf_eq hq).2, hst]
    have hk : k - 1 < b.sheets.length := by omega
    have hs : b.sheets[k - 1]? = some b.sheets[k - 1] := List.getElem?_eq_getElem hk
    obtain ⟨t0, t1, root, hroot, hrend, ext, hext⟩ := hnth (k - 1) _ hs
    have hmem : b.sheets[k - 1] ∈ b.sheets := List.getElem_mem hk
    obtain ⟨f1, f2, f3, f4⟩ := frames _ _ hs
    have hp := Pieces.part_sheet (q := q) k k1 root hroot
    obtain ⟨hr', _⟩ := Pieces.relsOf_sheet hq k k1 _ _ (hL _ _ hs)
    have := C02_sheet_decodes F _ _ t0 _ (sheetsWF _ hmem) t1 root hrend (nXfOf b.styles) (nDxfOf b.styles) xfs.1 (xfs.2 _ hmem) (rest (k - 1))
      f1 f2 f3 f4 q.pkg (String.ofList (sheetPartL k)) (by rw [hp]; rfl) hr' tbl
      -- sheet k was rendered against a prefix `t1` of the final table, so its string indexes mean the same in `tbl`
      (by rw [hext]; exact fun _ _ hi => getElem?_append_left' hi)
    rw [this]
    simp only [bodyOf, hs]
  obtain ⟨bk, hdec, hsh, hnm, hact⟩ := book_decodes q.pkg _ (String.ofList nWorkbookPart) b.wbFrame (b.sheets.map (·.entry)) b.names _
    (Pieces.mainRel hq) (resolve_from [] _ _ (by decide)) (by rw [Pieces.part_workbook hq, hwb]; rfl)
    (by rw [relsName_workbook, Pieces.part_workbookRels hq, List.length_map, hn]; rfl) wbFrame names
    (by intro d hd i hi; rw [List.length_map]; exact scopes d hd i hi) (bodyOf b) hsheet
  refine ⟨bk, ?_, hsh, hnm, by rw [hact, dActive_workbook]⟩
  rw [hdec, C02_active_tab_in_range b.wbFrame _ b.names wbFrame (by
    rcases active with h | h
    · left; rw [h]; rfl
    · right; rw [List.length_map]; exact h), List.append_nil,
    dEPkg_nil _ hct (fun part hp => by obtain ⟨nm, r, rfl, _⟩ := Pieces.mem_pkg hq part hp; rfl) hrd]

/-- On the package the model writes for a well-formed workbook (`BookP.WF`) the independent reader returns the
    workbook: the sheet list in order — name, visibility
    (`visible` when none is written), and for the K-th sheet exactly its non-blank cells (reference, kind, value
    text, formula, style index), merged ranges, hyperlinks (cell, target, tooltip), row table —, the defined
    names (name, scope, address) in order, and the active tab.  (The fourth field of the decoder's result, the
    style table `xfs`, is whatever the opaque styles part means; it is not characterised here.) -/
theorem C02_book_decodes (F : NumFmt) (b : BookP F.Num) (hwf : b.WF) (pkg : Package) (h : writePackage F b = some pkg) :
    ∃ bk : BookV, decode pkg = (some bk, []) ∧
      bk.sheets = sheetVs (bodyOf b) 1 (b.sheets.map (·.entry)) ∧ bk.names = b.names.map nameView ∧ bk.active = b.wbFrame.active := by
  obtain ⟨tbl, roots, sst, hr, hlen, hq, rfl⟩ := writePackage_anatomy F b pkg h
  exact decode_pieces F b _ tbl hq hr rfl rfl rfl rfl (fun _ => []) (fun i s hs => by show (b.sheets.map _)[i]? = _; rw [List.getElem?_map, hs]; rfl)
    -- `BookP.WF.frames` is `decode_pieces`' frame condition at `rest i = []`, `++ []` included
    hwf.sheetsWF (fun i s hs => hwf.frames s (List.mem_of_getElem? hs)) hwf.xfs hwf.wbFrame hwf.names hwf.scopes hwf.active
    (Pieces.ct_cover hq (contentTypesNode_eq _ _) (fun _ hp => nomatch hp))
    (relsOK_pkg F b roots tbl sst hq hlen)

/-- … and reports nothing.  On the package the model writes for a well-formed workbook (`BookP.WF`) — any number of
    sheets, cells, merged ranges, hyperlinks, defined names; any opaque docProps / theme / styles bodies — the
    independent reader reports NOTHING: every part has a content type, every part is a parsed tree, relationship
    ids are unique, every relationship target exists, sheet names and sheetIds are unique, every sheet's `r:id`
    resolves, every sheet body is in order and in range with all indexes inside their tables, activeTab and the
    defined-name scopes are inside the sheet list. -/
theorem C02_package_no_diagnostics (F : NumFmt) (b : BookP F.Num) (hwf : b.WF) (pkg : Package) (h : writePackage F b = some pkg) :
    (decode pkg).2 = [] := by
  obtain ⟨bk, hd, _⟩ := C02_book_decodes F b hwf pkg h
  rw [hd]

theorem renderSheetsP_some (F : NumFmt) : ∀ (ss : List (SheetP F.Num)), (∀ s ∈ ss, ∀ c ∈ s.sheet.cells, 1 ≤ c.col) →
    ∀ tbl, ∃ t roots, renderSheetsP F tbl ss = some (t, roots)
  | [], _, tbl => ⟨tbl, [], rfl⟩
  | s :: ss, hss, tbl => by
    obtain ⟨t1, root, h1⟩ := C02_sheet_written F s.xf s.frame tbl s.sheet (hss s (by simp))
    obtain ⟨t2, roots, h2⟩ := renderSheetsP_some F ss (fun s' hs' => hss s' (by simp [hs'])) t1
    exact ⟨t2, root :: roots, by simp [renderSheetsP, h1, h2]⟩

theorem sstPartsP_some (t : Table) : ∃ sst, sstPartsP t = some sst := by
  obtain ⟨root, hroot, _⟩ := sstNode_texts t
  by_cases ht : t = []
  · exact ⟨[], by simp [sstPartsP, ht]⟩
  · exact ⟨[xmlPart nSst root], by simp [sstPartsP, ht, hroot]⟩

/-- the model of `make_buffer` does not panic on cells with a column ≥ 1 -/
theorem C02_package_written (F : NumFmt) (b : BookP F.Num) (hc : ∀ s ∈ b.sheets, ∀ c ∈ s.sheet.cells, 1 ≤ c.col) :
    ∃ pkg, writePackage F b = some pkg := by
  obtain ⟨t, roots, hr⟩ := renderSheetsP_some F b.sheets hc []
  obtain ⟨sst, hs⟩ := sstPartsP_some t
  exact ⟨_, by rw [writePackage, hr]; simp only [hs]; rfl⟩

-- non-vacuity: one sheet whose relationships part is written (external links), one without, a hidden sheet, a scoped name
def demoPkgStyles : Node :=
  .elem ['s', 't', 'y', 'l', 'e', 'S', 'h', 'e', 'e', 't'] [] [.elem ['c', 'e', 'l', 'l', 'X', 'f', 's'] [] [.elem ['x', 'f'] [] [], .elem ['x', 'f'] [] [], .elem ['x', 'f'] [] []]]

def demoPkgWbFrame : WbFrame :=
  { pre := [.elem ['b', 'o', 'o', 'k', 'V', 'i', 'e', 'w', 's'] [] [.elem ['w', 'o', 'r', 'k', 'b', 'o', 'o', 'k', 'V', 'i', 'e', 'w'] [⟨['a', 'c', 't', 'i', 'v', 'e', 'T', 'a', 'b'], ['2']⟩] []]],
    post := [.elem ['c', 'a', 'l', 'c', 'P', 'r'] [] []] }

def demoPkgBook : BookP demoFS.Num :=
  { sheets := [{ entry := { name := ['R', '&', 'D'] }, sheet := demoSheet, xf := fun _ => 2 },
               { entry := { name := ['I', 't', '\'', 's'], state := some ['h', 'i', 'd', 'd', 'e', 'n'] }, sheet := {} },
               { entry := { name := ['A', '1'], state := some ['v', 'i', 's', 'i', 'b', 'l', 'e'] },
                 sheet := { rows := [{ num := 3 }], cells := [{ col := 2, row := 3, raw := .str ['x'] }] } }],
    names := demoNames, wbFrame := demoPkgWbFrame,
    app := .elem ['P', 'r', 'o', 'p', 'e', 'r', 't', 'i', 'e', 's'] [] [], core := .elem ['c', 'p', ':', 'c', 'o', 'r', 'e'] [] [],
    theme := .elem ['a', ':', 't', 'h', 'e', 'm', 'e'] [] [], styles := demoPkgStyles }

theorem demoPkgBook_nXf : nXfOf demoPkgBook.styles = 3 ∧ nDxfOf demoPkgBook.styles = 0 := by decide

theorem demoPkgBook_wf : demoPkgBook.WF where
  sheetsWF := by
    intro s hs
    simp only [demoPkgBook, List.mem_cons, List.not_mem_nil, or_false] at hs
    rcases hs with rfl | rfl | rfl
    · exact demoSheet_wf
    all_goals exact ⟨by decide, by decide, by decide, by decide, by decide⟩
  frames := by decide +kernel
  xfs := by
    rw [demoPkgBook_nXf.1]
    refine ⟨by omega, ?_⟩
    intro s hs
    simp only [demoPkgBook, List.mem_cons, List.not_mem_nil, or_false] at hs
    rcases hs with rfl | rfl | rfl <;> intro ref <;> simp
  wbFrame := by decide
  names := namesDistinct_of_nodup _ (by decide)
  scopes := by decide
  active := Or.inr (by decide)

example : ∃ pkg, writePackage demoFS demoPkgBook = some pkg ∧ (decode pkg).2 = [] := by
  obtain ⟨pkg, h⟩ := C02_package_written demoFS demoPkgBook (by decide)
  exact ⟨pkg, h, C02_package_no_diagnostics demoFS demoPkgBook demoPkgBook_wf pkg h⟩

/-- what the decoder must return on it is not trivial -/
example : (sheetVs (bodyOf demoPkgBook) 1 (demoPkgBook.sheets.map (·.entry))).map (fun v => (String.ofList v.name, v.state, v.cells.length, v.merges.length, v.links.length)) =
    [("R&D", "visible", 4, 2, 4), ("It's", "hidden", 0, 0, 0), ("A1", "visible", 1, 0, 0)] ∧ demoPkgBook.wbFrame.active = 2 := by
  decide +kernel

/-- the skeleton of the model package for these sheets: 13 parts (one sheet relationships part, a shared-string part) -/
example : (skeleton (demoPkgBook.sheets.map (·.sheet.links)) true).length = 13 := by
  simp [skeleton, demoPkgBook, demoSheet, sheetSkel, sheetRelsSkel, linkRelTs]

end Umya.Thm.C02
