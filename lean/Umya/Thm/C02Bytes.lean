/-
  C02 — the step from the CHARACTERS the writer emits to the element tree an XML 1.0 reader delivers.

  `Umya/Model/XmlWrite.lean` models the tag-level serialisation of `writer/driver.rs` on top of quick-xml
  0.37.5 (`write_start_tag`, `write_end_tag`, `write_text_node`, `write_text_node_conversion`,
  `write_text_node_no_escape`, `write_new_line`, the XML declaration) as characters; a written part is a
  tree of writer calls (`WNode`).  The theorems here say that the independent reader of
  `Umya/Spec/XmlLex.lean` (`parse` = `lex` then `buildGo`), applied to those characters, returns exactly the
  element tree that was meant (`erase`), in the reader's normal form (`normNode`: empty text nodes dropped,
  adjacent text nodes concatenated; nothing else) — for every tree: any depth, any number of children and
  attributes, any text.

  Tie to the code: (a) on every run the driver re-renders every part written through `writer/driver.rs`
  with `renderDoc` and compares it character for character with the part (`c02 part …` replies
  `render=same`); (b) `C02_writer_matches_source`: which quick-xml event / escape pipeline / literal each
  function of `writer/driver.rs` uses is regenerated from the source and equals the model's.
-/
import Umya.Lemmas.ListFacts
import Umya.Lemmas.XmlWriteNF
import Umya.Lemmas.XmlWriteGen
import Umya.Lemmas.CellNodeNF
import Umya.Thm.C02
namespace Umya.Thm.C02
open Umya.XmlWrite Umya.XmlEsc
open Umya.Spec.Xml (Node Attr Token parse lexGo flushText)

/-- Tie to the source (T).  The tag-level structure of `writer/driver.rs` as regenerated on this run — which
    quick-xml event `write_start_tag` emits under `empty_flag` and otherwise, that attribute values reach
    `push_attribute` through the escape chain, the events of `write_end_tag` / `write_text_node` (with
    `BytesText::from_escaped`), the raw write of `write_text_node_no_escape`, that `write_text_node_conversion` and
    `write_new_line` go through it, the literal CR LF, and the escape-then-replace pipelines — gives the functions of
    the hand model, for all arguments. -/
theorem C02_writer_matches_source (n : List Char) (as : List Attr) (e : Bool) (s : List Char) :
    genStartTag Umya.Gen.driver_shape n as e = some (writeStartTag n as e) ∧
    genEndTag Umya.Gen.driver_shape n = some (writeEndTag n) ∧
    genTextNode Umya.Gen.driver_shape s = some (writeTextNode s) ∧
    genNoEscape Umya.Gen.driver_shape s = some (writeTextNodeNoEscape s) ∧
    genConversion Umya.Gen.driver_shape s = some (writeTextNodeConversion s) ∧
    genNewLine Umya.Gen.driver_shape = some writeNewLine := writer_matches_source n as e s

/-- what `write_start_tag(name, attrs, empty_flag)` writes is ONE `open` token carrying the name, the
    attributes in the order written with exactly the values given (one escape, one unescape), and the flag;
    character data pending before the tag (`acc`) is delivered first -/
theorem C02_bytes_start_tag (n : List Char) (as : List Attr) (e : Bool) (hn : wfName n = true) (ha : wfAttrs as = true)
    (acc rest : List Char) :
    lexGo (.text acc) (writeStartTag n as e ++ rest) =
      flushText acc ((lexGo (.text []) rest).map (Token.open n as e :: ·)) := lex_startTag n as e hn ha acc rest

theorem C02_bytes_end_tag (n : List Char) (hn : wfName n = true) (acc rest : List Char) :
    lexGo (.text acc) (writeEndTag n ++ rest) = flushText acc ((lexGo (.text []) rest).map (Token.close n :: ·)) :=
  lex_endTag n hn acc rest

/-- the XML declaration is skipped -/
theorem C02_bytes_decl (rest : List Char) : lexGo (.text []) (writeDecl ++ rest) = lexGo (.text []) rest := lex_decl rest

/-- For every tree of writer calls whose root is an element, whose element and attribute
    names are XML Names (`wfName`), whose attribute names are distinct within an element, and whose attribute
    values and texts consist of XML `Char`s (`WF`, decidable): the independent XML 1.0 reader, given the
    characters of the rendered part, returns the element tree that was meant, in the reader's normal form. -/
theorem C02_bytes_parse (w : WNode) (hw : isElemW w = true) (hwf : WF w = true) :
    parse (renderDoc w) = some (normNode (erase w)) := parse_renderDoc w hw hwf

/-- The normal form is the identity on trees without empty text nodes and without two adjacent text nodes
    (`isNF`, decidable) … -/
theorem C02_bytes_normal_form (t : Node) (h : isNF t = true) : normNode t = t := normNode_nf t h

/-- … so for an element tree in that form, written with either form of childless elements
    (`selfClose`: `<a/>` or `<a></a>`) and every text through `write_text_node`, the reader returns exactly
    the tree. -/
theorem C02_bytes_parse_tree (selfClose : Bool) (n : List Char) (as : List Attr) (ks : List Node)
    (hwf : wfNodes [.elem n as ks] = true) (hnf : isNFKids ks = true) :
    parse (renderDoc (ofNode selfClose (.elem n as ks))) = some (.elem n as ks) :=
  parse_render_nf selfClose _ rfl hwf hnf

/-- without the normal-form hypothesis: the tree up to `normNode` -/
theorem C02_bytes_parse_tree_norm (selfClose : Bool) (n : List Char) (as : List Attr) (ks : List Node)
    (hwf : wfNodes [.elem n as ks] = true) :
    parse (renderDoc (ofNode selfClose (.elem n as ks))) = some (normNode (.elem n as ks)) :=
  parse_render_tree selfClose _ rfl hwf

/- attributes with `& < " TAB LF`, text with CR, `]]>`, a non-BMP character, nested
   children, both forms of empty elements, both text writers, a new line between elements -/
def demoW : WNode :=
  .elem "x:root".toList [⟨"xmlns:x".toList, "urn:a&b".toList⟩, ⟨"a".toList, ['<', '"', '\t', '\n', '\'', '>']⟩]
    [ .nl,
      .elem "t".toList [⟨"xml:space".toList, "preserve".toList⟩] [.text [' ', 'a', '\r', ']', ']', '>', Char.ofNat 0x1F600, '&']],
      .empty "e1".toList [⟨"k".toList, []⟩],
      .elem "e2".toList [] [],
      .elem "f".toList [] [.conv ['1', '<', '2', '"'], .text [], .text ['!']],
      .elem "v".toList [] [.raw "&#65;&amp;".toList ['A', '&']] ]

theorem demoW_ok : isElemW demoW = true ∧ WF demoW = true := by
  simp only [demoW, WF, wfKids, isElemW, toList_lit]
  decide +kernel

example : parse (renderDoc demoW) = some (normNode (erase demoW)) := C02_bytes_parse demoW demoW_ok.1 demoW_ok.2

set_option maxRecDepth 8000 in
example : renderDoc demoW =
    "<?xml version=\"1.0\" encoding=\"UTF-8\" standalone=\"yes\"?>\r\n<x:root xmlns:x=\"urn:a&amp;b\" a=\"&lt;&quot;&#9;&#10;&apos;&gt;\">\r\n<t xml:space=\"preserve\"> a&#13;]]&gt;😀&amp;</t><e1 k=\"\"/><e2></e2><f>1&lt;2\"!</f><v>&#65;&amp;</v></x:root>".toList := by
  -- every literal (the names of `demoW`, `declBody`, the expected text) as its characters by `toList_lit`; the kernel is left the
  -- model's rendering, compared with the expected characters as lists
  unfold renderDoc writeDecl declBody
  simp only [demoW, renderNode, renderKids, toList_lit]
  decide +kernel

def demoT : Node :=
  .elem "r".toList [⟨"a".toList, ['&', '<', '"', '\t', '\n']⟩]
    [.elem "c".toList [] [.text ['x', '\r', ']', ']', '>', Char.ofNat 0x1F600]], .elem "d".toList [] [], .text ['y']]

theorem demoT_ok : wfNodes [demoT] = true ∧ isNF demoT = true := by
  simp only [demoT, wfNodes, isNF, isNFKids, toList_lit]
  decide +kernel

example : parse (renderDoc (ofNode true demoT)) = some demoT := C02_bytes_parse_tree true _ _ _ demoT_ok.1 demoT_ok.2
example : parse (renderDoc (ofNode false demoT)) = some demoT := C02_bytes_parse_tree false _ _ _ demoT_ok.1 demoT_ok.2

section Cells
open Umya.CellXml Umya.CellNode Umya.Num
open Umya.Spec.Sml (decodeCell rstText sharedStrings)

/-- One cell, from characters: composed with the cell clause.  Let `cx` be the `<c>` fact `Cell::write_to` produces for the cell `c`
    (any branch).  Whatever writer calls `w` were used to put that element into the buffer — either form of
    childless elements, any of the text writers per text — as long as they mean the element of the fact
    (`normNode (erase w) = node`, where `cellNode xf cx = some node`) and satisfy `WF` (names, distinct attributes,
    XML `Char`s): the independent XML reader applied to the CHARACTERS `renderDoc w` returns `node`, and the
    independent decoder applied to that returns exactly the cell's reference, kind, value text, formula text
    and style index, for every later state of the shared-string table. -/
theorem C02_cell_bytes_decode (F : NumFmt) (tbl : Table) (c : Cell F.Num) (tbl' : Table) (cx : CellX)
    (h : writeTo F tbl c = some (tbl', some cx)) (xf : Nat) :
    ∃ node, cellNode xf cx = some node ∧
      ∀ w : WNode, isElemW w = true → WF w = true → normNode (erase w) = node →
        parse (renderDoc w) = some node ∧
        ∀ tbl'' : Table, Extends tbl'' tbl' →
          ∃ pkg, sstParts (tbl''.map siOf) = some pkg ∧
            (parse (renderDoc w)).map (decodeCell (sharedStrings pkg sstPath)) = some (fileView F xf c, []) := by
  obtain ⟨_, node, hn, hd⟩ := C02_cell_decodes F tbl c tbl' cx h xf
  refine ⟨node, hn, fun w hw hwf he => ?_⟩
  have hp : parse (renderDoc w) = some node := by rw [C02_bytes_parse w hw hwf, he]
  refine ⟨hp, fun tbl'' hx => ?_⟩
  obtain ⟨pkg, h1, h2⟩ := hd tbl'' hx
  exact ⟨pkg, h1, by rw [hp]; simp [h2]⟩

/-- every `<c>` and every `<si>` the model renders is in the reader's normal form (no empty text node, no two
    adjacent text nodes): the only text nodes come from character data that is not empty, and such data does not
    read as the empty text -/
theorem C02_cell_node_normal_form (xf : Nat) (cx : CellX) (n : Node) (h : cellNode xf cx = some n) : isNF n = true :=
  cellNode_isNF xf cx n h

theorem C02_si_node_normal_form (x : SiX) (n : Node) (h : siNode x = some n) : isNF n = true := siNode_isNF x n h

/-- the same with the default writer calls for the element of the fact (`ofNode`: texts through
    `write_text_node`, childless elements in either form), under the decidable condition on names and
    characters of the tree (`wfNodes`: it fails for a text with a control character, which `write_text_node` emits raw);
    the normal-form condition is a theorem (`C02_cell_node_normal_form`) -/
theorem C02_cell_bytes_decode_default (F : NumFmt) (tbl : Table) (c : Cell F.Num) (tbl' : Table) (cx : CellX)
    (h : writeTo F tbl c = some (tbl', some cx)) (xf : Nat) (selfClose : Bool) :
    ∃ n as ks, cellNode xf cx = some (.elem n as ks) ∧
      (wfNodes [.elem n as ks] = true →
        ∀ tbl'' : Table, Extends tbl'' tbl' →
          ∃ pkg, sstParts (tbl''.map siOf) = some pkg ∧
            (parse (renderDoc (ofNode selfClose (.elem n as ks)))).map (decodeCell (sharedStrings pkg sstPath))
              = some (fileView F xf c, [])) := by
  obtain ⟨_, node, hn, hd⟩ := C02_cell_decodes F tbl c tbl' cx h xf
  obtain ⟨_, as, ks, rfl⟩ := cellNode_isC xf cx node hn
  refine ⟨_, _, ks, hn, fun hwf tbl'' hx => ?_⟩
  obtain ⟨pkg, h1, h2⟩ := hd tbl'' hx
  have hnf : isNFKids ks = true := cellNode_isNF xf cx _ hn
  exact ⟨pkg, h1, by rw [C02_bytes_parse_tree selfClose _ _ ks hwf hnf]; simp [h2]⟩

/-- likewise for one shared-string item, `<si>`, from characters -/
theorem C02_si_bytes_decode (it : Item) :
    ∃ node, siNode (siOf it) = some node ∧
      ∀ w : WNode, isElemW w = true → WF w = true → normNode (erase w) = node →
        (parse (renderDoc w)).map rstText = some (itemText it) := by
  obtain ⟨node, hn, hr⟩ := C02_si_decodes it
  exact ⟨node, hn, fun w hw hwf he => by rw [C02_bytes_parse w hw hwf, he]; simp [hr]⟩

/-- … and with the default writer calls: the `<si>` of any item, rendered as characters, reads back as the item's text -/
theorem C02_si_bytes_decode_default (it : Item) (selfClose : Bool) :
    ∃ ks, siNode (siOf it) = some (.elem ['s', 'i'] [] ks) ∧
      (wfNodes [.elem ['s', 'i'] [] ks] = true →
        (parse (renderDoc (ofNode selfClose (.elem ['s', 'i'] [] ks)))).map rstText = some (itemText it)) := by
  obtain ⟨node, hn, hr⟩ := C02_si_decodes it
  obtain ⟨ks, rfl⟩ := siNode_shape _ node hn
  refine ⟨ks, hn, fun hwf => ?_⟩
  have hnf : isNFKids ks = true := siNode_isNF _ _ hn
  rw [C02_bytes_parse_tree selfClose _ [] ks hwf hnf]
  simp [hr]

/-- non-vacuity of `C02_cell_bytes_decode`: the cell B2 = `a<CR"` (`a`, `<`, a carriage return, a double quote) with style 5 under the formula `A1<2`, written
    as the code writes it (`<f>` and a `str` value through `write_text_node_conversion`) -/
def demoCellW : WNode :=
  .elem ['c'] [⟨['r'], ['B', '2']⟩, ⟨['t'], ['s', 't', 'r']⟩, ⟨['s'], ['5']⟩]
    [.elem ['f'] [] [.conv ['A', '1', '<', '2']], .elem ['v'] [] [.conv ['a', '<', '\r', '"']]]

example : isElemW demoCellW = true ∧ WF demoCellW = true ∧
    normNode (erase demoCellW) = .elem ['c'] [⟨['r'], ['B', '2']⟩, ⟨['t'], ['s', 't', 'r']⟩, ⟨['s'], ['5']⟩]
      [.elem ['f'] [] [.text ['A', '1', '<', '2']], .elem ['v'] [] [.text ['a', '<', '\r', '"']]] := by
  refine ⟨by simp [demoCellW, isElemW], by simp only [demoCellW, WF, wfKids]; decide, ?_⟩
  simp [demoCellW, erase, eraseKids, normNode, normKids, normKidsAcc, pushP, Umya.Spec.Xml.pushText]

example : ∃ tbl' cx, writeTo demoF [] { col := 2, row := 2, raw := .str ['a', '<', '\r', '"'], formula := some ['A', '1', '<', '2'], styled := true }
    = some (tbl', some cx) := C02_cell_written demoF _ _ (by decide) (by decide)

end Cells

end Umya.Thm.C02
