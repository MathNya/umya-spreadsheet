/-
  C20 — CSV export with a wrap STRING of any length (`CsvWriterOption::wrap_with_char` is a `Box<str>`).

  The writer (`Umya/Model/CsvWrap.lean`: `format!("{}{}{}", w, value.replace(w, &w.repeat(2)), w)`,
  `str::replace` = leftmost non-overlapping matches) against a reader written from the RFC 4180
  grammar with the quote generalised to a string (`Umya/Spec/CsvWrap.lean`: `w` opens and closes a
  field, `w ++ w` inside a field is one `w` of text).

  A wrap string is usable if it is non-empty, not `,` / CR / CRLF, and WITHOUT PROPER SELF-OVERLAP (no proper non-empty
  prefix of `w` is a suffix of `w`) (`C20_wrap_string_roundtrip`).  The last condition is exact (`C20_wrap_string_exact`);
  that each of the three excluded strings fails is shown by an example on one sheet, and the empty string is refused by
  `parseW`.  The counterexamples `w = aa`, `w = aba` are replayed against the real writer by the harness
  (`harness/src/c20.rs`).
-/
import Umya.Thm.C20
import Umya.Lemmas.CsvWrap
namespace Umya.Thm.C20
open Umya.Csv Umya.Rfc4180 Umya.Lemmas.CsvWrap

/-- core decides a bounded `∀ p, p < n → …`; in `Unbordered` the bound stands second -/
instance (w : Text) : Decidable (Unbordered w) :=
  decidable_of_iff (∀ p, p < w.length → 0 < p → ¬ w.drop p <+: w)
    ⟨fun h p hp hl => h p hl hp, fun h p hl hp => h p hp hl⟩

/-- The wrap string can serve as the quote of a reader: non-empty, no proper self-overlap, and not
    one of the three strings that are the delimiter / begin the record separator. -/
def UsableWrap (w : Text) : Prop :=
  w ≠ [] ∧ Unbordered w ∧ w ≠ [','] ∧ w ≠ ['\r'] ∧ w ≠ ['\r', '\n']

instance (w : Text) : Decidable (UsableWrap w) := by unfold UsableWrap; infer_instance

/-- `value.replace(w, ww)`: at a position where `w` starts, `w w` is written and the scan resumes
    AFTER that occurrence; elsewhere the character is copied. -/
theorem C20_wrap_string_escape (w : Text) (hne : w ≠ []) :
    escapeW w [] = [] ∧
    (∀ t, escapeW w (w ++ t) = w ++ w ++ escapeW w t) ∧
    (∀ c cs, ¬ w <+: c :: cs → escapeW w (c :: cs) = c :: escapeW w cs) :=
  ⟨escapeW_nil w, fun t => escapeW_match w t hne, fun c cs h => escapeW_nomatch w c cs h⟩

example : escapeW "ab".toList "xabaab".toList = "xababaabab".toList := by
  repeat rw [String.toList_ofList]
  decide +kernel
example : escapeW "aa".toList "aaa".toList = "aaaaa".toList := by   -- leftmost, non-overlapping
  repeat rw [String.toList_ofList]
  decide +kernel

/-- For a one-character string the general model is the one-character model of `Umya/Model/Csv.lean`. -/
theorem C20_wrap_string_single (q : Char) (v : Text) : escapeW [q] v = escape q v := by
  induction v with
  | nil => simp [escapeW_nil, escape]
  | cons c cs ih =>
    by_cases h : c = q
    · subst h
      have := escapeW_match [c] cs (by simp)
      simp only [List.cons_append, List.nil_append] at this
      rw [this, ih]; simp [escape]
    · have hp : ¬ [q] <+: c :: cs := by
        intro hp; exact h (List.cons_prefix_cons.mp hp).1.symm
      rw [escapeW_nomatch [q] c cs hp, ih]; simp [escape, h]

/-- The link to the one-character model: with the one-character string `[q]` the text is that of `csvText` with wrap character
    `q`, in any encoding `e` (`csvText` does not look at it). -/
theorem C20_wrap_string_single_text (g : Grid) (e : Enc) (tr : Bool) (q : Char) :
    csvTextW g tr [q] = csvText g ⟨e, tr, some q⟩ := by
  have hf : renderFieldW tr [q] = renderField ⟨e, tr, some q⟩ := by
    funext v
    simp [renderFieldW, renderField, quotedW, quoted, fieldValue, C20_wrap_string_single]
  simp [csvTextW, csvText, renderRowW, renderRow, hf]

/-- For every sheet `g`, trim setting and usable wrap string `w`
    (any length ≥ 1), the reader that takes `w` as the quote and `w ++ w` as the escaped quote
    recovers from the written text exactly the expected grid (values with any content: occurrences
    of `w`, of parts of `w`, delimiters, line breaks). -/
theorem C20_wrap_string_roundtrip (g : Grid) (tr : Bool) (w : Text) (hw : UsableWrap w) (hg : HasColumns g) :
    parseW w (csvTextW g tr w) = some (expected g ⟨.utf8, tr, none⟩) := by
  obtain ⟨hne, hub, hc, h1, h2⟩ := hw
  rw [parseW_of_ne_nil hne, csvTextW, ← List.flatMap_map]
  -- `rows_read` as in `C20_parse_back`; `P` is "begins with `w`", which the reader needs after `,` and after CRLF
  refine (Lemmas.Csv.rows_read (R := runW w .start 0 []) (g := fun v => if tr then trim v else v) (P := (w <+: ·))
    (fun v rec out rest ⟨t, ht⟩ => ?_) (fun v rec out rest hr => ?_)
    (fun v t => ⟨_, by simp only [renderFieldW, quotedW, List.append_assoc]; rfl⟩) (fun out => by simp [runW])
    _ (rows_ne_nil g hg) []).trans (by simp [expected, List.map_map, Function.comp_def])
  · rw [renderFieldW, runW_field w hne hub rec out (ht ▸ not_prefix_comma w hne hub hc t)]; simp [runW]
  · rw [renderFieldW, runW_field w hne hub rec out (not_prefix_crlf w hne hub h1 h2 rest hr)]; simp [runW]

/-- two-, three- and one-character usable strings; values that contain the string,
    halves of it, the delimiter and a line break -/
example : UsableWrap "ab".toList ∧ UsableWrap "\"'".toList ∧ UsableWrap "aab".toList ∧ UsableWrap "|".toList
    ∧ UsableWrap ",x".toList := by
  repeat rw [String.toList_ofList]
  decide +kernel

def demoGridW : Grid :=
  [((1, 1), "xaby".toList), ((1, 2), "a".toList), ((2, 1), "b,ab\r\nab".toList), ((2, 2), " abab ".toList)]

example : csvTextW demoGridW true "ab".toList
    = "abxababyab,abaab\r\nabb,abab\r\nababab,abababababab\r\n".toList := by
  repeat rw [String.toList_ofList]
  decide +kernel
example : parseW "ab".toList (csvTextW demoGridW true "ab".toList)
    = some [["xaby".toList, "a".toList], ["b,ab\r\nab".toList, "abab".toList]] := by
  repeat rw [String.toList_ofList]
  decide +kernel

/-- The side condition "no proper self-overlap" is needed: with `w = aa` the value `a` is written
    `aa a aa`, in which the reader finds the closing quote one character early.  (All other conditions of
    `UsableWrap` hold.  The examples below: with `w = aba` the value `ab` is written `aba ab aba`, same effect.) -/
theorem C20_wrap_string_overlap_fails :
    ¬ ∀ (g : Grid) (tr : Bool) (w : Text), w ≠ [] → w ≠ [','] → w ≠ ['\r'] → w ≠ ['\r', '\n'] → HasColumns g →
        parseW w (csvTextW g tr w) = some (expected g ⟨.utf8, tr, none⟩) := by
  intro h
  have := h [((1, 1), ['a'])] false ['a', 'a'] (by decide) (by decide) (by decide) (by decide) (Or.inr (by decide))
  revert this
  decide

example : csvTextW [((1, 1), ['a'])] false "aa".toList = "aaaaa\r\n".toList
    ∧ parseW "aa".toList "aaaaa\r\n".toList = none := by
  repeat rw [String.toList_ofList]
  decide +kernel
example : csvTextW [((1, 1), "ab".toList)] false "aba".toList = "abaababa\r\n".toList
    ∧ parseW "aba".toList "abaababa\r\n".toList = none := by
  repeat rw [String.toList_ofList]
  decide +kernel
example : ¬ Unbordered "aa".toList ∧ ¬ Unbordered "aba".toList ∧ ¬ Unbordered "\"\"".toList := by
  repeat rw [String.toList_ofList]
  decide +kernel

/-- The three excluded strings `,`, CRLF and CR are excluded for a reason as well. -/
example : parseW [','] (csvTextW [((1, 1), ['x']), ((1, 2), ['y'])] false [',']) ≠ some [[['x'], ['y']]] := by decide +kernel
example : parseW ['\r', '\n'] (csvTextW [((1, 1), ['x'])] false ['\r', '\n']) ≠ some [[['x']]] := by decide +kernel
example : parseW ['\r'] (csvTextW [((1, 1), ['x'])] false ['\r']) ≠ some [[['x']]] := by decide +kernel

/-- EVERY non-empty wrap string with a proper self-overlap has a
    value whose export is not read back: if `w` continues itself after a shift `p` (`0 < p < |w|`),
    the one-cell sheet holding the first `p` characters of `w` is written `w a w` = `w w b`, where
    the reader sees the closing quote (or an escaped quote) where the value begins. -/
theorem C20_wrap_string_overlap_necessary (w : Text) (hne : w ≠ []) (hb : ¬ Unbordered w) :
    ∃ v : Text, expected [((1, 1), v)] ⟨.utf8, false, none⟩ = [[v]] ∧
      parseW w (csvTextW [((1, 1), v)] false w) ≠ some [[v]] := by
  obtain ⟨p, hp, hl, b, hb2⟩ : ∃ p, 0 < p ∧ p < w.length ∧ w.drop p <+: w := by simpa [Unbordered] using hb
  refine ⟨w.take p, rfl, ?_⟩
  have halen : (w.take p).length = p := by simp; omega
  have hw : w.take p ++ w.drop p = w := List.take_append_drop p w
  have haw : w.take p ++ w = w ++ b := by
    calc w.take p ++ w = w.take p ++ (w.drop p ++ b) := by rw [hb2]
      _ = (w.take p ++ w.drop p) ++ b := by rw [List.append_assoc]
      _ = w ++ b := by rw [hw]
  have htext : csvTextW [((1, 1), w.take p)] false w = w ++ (w ++ (b ++ ['\r', '\n'])) := by
    have h0 : csvTextW [((1, 1), w.take p)] false w = quotedW w (w.take p) ++ ['\r', '\n'] := by
      simp [csvTextW, highestRow, highestCol, renderRowW, join, renderFieldW, Grid.get, List.lookup, List.range_succ]
    rw [h0, quotedW, escapeW_short w _ (by omega)]
    simp only [List.append_assoc]
    rw [← List.append_assoc (w.take p) w, haw]
    simp
  intro h
  rw [parseW_of_ne_nil hne, htext, runW_start w hne] at h
  -- the reader stands after the opening `w`, before `w ++ b ++ CRLF`.  Either it takes `w w` as an escaped quote: then the
  -- first field begins with `w`, longer than the value (`p < |w|`); or it closes the field at once: then the first field
  -- is empty, and the value is not
  by_cases hwb : w <+: b ++ ['\r', '\n']
  · obtain ⟨t', ht'⟩ := hwb
    rw [← ht', runW_esc w hne] at h
    obtain ⟨x, hx⟩ := runW_readSoFar h
    simp at hx
    have := congrArg List.length hx
    simp at this
    omega
  · rw [runW_close w hne hwb] at h
    have hx := runW_readSoFar h
    simp [ReadSoFar] at hx
    rcases hx with h0 | h0
    · omega
    · exact hne h0

/-- `abca` overlaps itself after a shift of 3; the value `abc` is not read back -/
example : ¬ Unbordered "abca".toList ∧
    parseW "abca".toList (csvTextW [((1, 1), "abc".toList)] false "abca".toList) = none := by
  repeat rw [String.toList_ofList]
  decide +kernel

/-- For a non-empty wrap string other than `,`, CR, CRLF: the written text of
    every sheet is read back iff the string has no proper self-overlap. -/
theorem C20_wrap_string_exact (w : Text) (hne : w ≠ []) (hc : w ≠ [',']) (h1 : w ≠ ['\r']) (h2 : w ≠ ['\r', '\n']) :
    (∀ (g : Grid) (tr : Bool), HasColumns g → parseW w (csvTextW g tr w) = some (expected g ⟨.utf8, tr, none⟩))
      ↔ Unbordered w := by
  constructor
  · intro h
    apply Classical.byContradiction
    intro hb
    obtain ⟨v, he, hv⟩ := C20_wrap_string_overlap_necessary w hne hb
    have := h [((1, 1), v)] false (Or.inr (by simp [highestCol]))
    rw [he] at this
    exact hv this
  · intro hub g tr hg
    exact C20_wrap_string_roundtrip g tr w ⟨hne, hub, hc, h1, h2⟩ hg

example : ∀ (g : Grid) (tr : Bool), HasColumns g →
    parseW "ab".toList (csvTextW g tr "ab".toList) = some (expected g ⟨.utf8, tr, none⟩) :=
  (C20_wrap_string_exact "ab".toList (by decide) (by decide) (by decide) (by decide)).mpr (by decide)
example : ¬ ∀ (g : Grid) (tr : Bool), HasColumns g →
    parseW "\"\"".toList (csvTextW g tr "\"\"".toList) = some (expected g ⟨.utf8, tr, none⟩) :=
  fun h => absurd ((C20_wrap_string_exact "\"\"".toList (by decide) (by decide) (by decide) (by decide)).mp h) (by decide)

/-- With a one-character string the string-quote reader is a restriction of the RFC 4180 reader of
    `Umya/Spec/Rfc4180.lean` (delimiter `,`): whatever it reads, the RFC reader reads identically.
    (It is a proper restriction: non-escaped fields are rejected.) -/
theorem C20_wrap_reader_refines_rfc (q : Char) (hq : validConfig ',' q = true) (s : Text) (r : List Record)
    (h : parseW [q] s = some r) : parse ',' q s = some r := by
  have hv := hq
  simp only [validConfig, Bool.and_eq_true, bne_iff_ne, ne_eq] at hv
  obtain ⟨⟨⟨⟨h1, _⟩, _⟩, h2⟩, _⟩ := hv
  unfold parse
  rw [if_pos hq]
  rw [parseW_of_ne_nil (by simp)] at h
  exact (runW_refines q (fun e => h1 e.symm) h2 s [] [] [] r).1 h

example : parseW ['"'] "\"a\"\"b\",\"\"\r\n\"c\"".toList = some [["a\"b".toList, []], ["c".toList]]
    ∧ parse ',' '"' "\"a\"\"b\",\"\"\r\n\"c\"".toList = some [["a\"b".toList, []], ["c".toList]] := by
  refine ⟨?h, C20_wrap_reader_refines_rfc _ (by decide) _ _ ?h⟩
  repeat rw [String.toList_ofList]
  decide +kernel
example : parseW ['"'] "a,b".toList = none ∧ parse ',' '"' "a,b".toList = some [[['a'], ['b']]] := by
  repeat rw [String.toList_ofList]
  decide +kernel

/-- Hence, for a one-character wrap string, `C20_wrap_string_roundtrip` gives `C20_parse_back` again. -/
example (g : Grid) (e : Enc) (tr : Bool) (q : Char) (hw : UsableWrap [q]) (hv : validConfig ',' q = true)
    (hg : HasColumns g) : parse ',' q (csvText g ⟨e, tr, some q⟩) = some (expected g ⟨e, tr, some q⟩) := by
  rw [← C20_wrap_string_single_text g e tr q]
  exact C20_wrap_reader_refines_rfc q hv _ _ (C20_wrap_string_roundtrip g tr [q] hw hg)

end Umya.Thm.C20
