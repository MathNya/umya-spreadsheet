/-
  C02, sheet level — the worksheet part and its relationships part, as trees.

  `Umya/Model/SheetNode.lean` renders what `writer/xlsx/worksheet.rs` and `worksheet_rels.rs` write — the
  `<row>` wrappers of the row loop around the `<c>` elements of `CellNode`, `<mergeCells>`, `<hyperlinks>`
  with the `r:id` counter, the children of `<worksheet>` in the order written, and `<Relationships>` with
  its own counter over the same link list — as the element trees an XML 1.0 reader delivers.  The theorems
  below say what the INDEPENDENT decoder `Umya.Spec.Sml.decodeSheet` (with `relsOf`, `decodeCell`) returns
  on a package that holds these trees: for every well-formed sheet (any number of rows, cells, merged
  ranges, links), exactly the sheet's non-blank cells in order (through `writeCells_decodes`), its merged
  ranges, every hyperlink on its own cell with its own target and tooltip, the row table, and NO diagnostic
  (rows / cells strictly ascending and in range, style and shared-string indexes inside their tables,
  children in CT_Worksheet order, every `r:id` resolving).

  Scope.  The statements are about TREES (`Umya.Spec.Xml.Node`): `Package` parts carry the parsed tree, and
  `parse (bytes written) = tree` is the separate serialisation result.  Children of `<worksheet>` this model
  does not render (sheetPr, dimension, sheetViews, sheetFormatPr, cols, sheetProtection, autoFilter,
  conditionalFormatting, dataValidations, printOptions … extLst) and the relationships after the hyperlink
  ones are opaque parameters (`Frame`, `rest`) constrained by explicit Boolean hypotheses (`Frame.ok`,
  `colsOk`, `dxfOk`, `ridsOk`) that the tie evaluates on every real part.  A sheet with `tableParts` is
  outside (`Frame.ok` excludes it).  The part names enter only through the two look-ups `p.part? path` and
  `p.part? (relsNameOf path)`.
  Tie to the code: request `c02 sheetbridge` (`Driver/C02Sheet.lean`): the rendering of the in-memory sheet
  is compared, tree-equal, with what the independent XML reader parsed from the real parts.
-/
import Umya.Lemmas.SheetNodeDecode
import Umya.Lemmas.CoherentRun
import Umya.Lemmas.Observers
namespace Umya.Thm.C02
open Umya.CellXml Umya.CellNode Umya.SheetNode Umya.Num
open Umya.Spec.Sml (decodeSheet relsOf relsNameOf Package)
open Umya.Spec.Xml (Node Attr)

/-- For every well-formed sheet `s` (`SheetW.WF`: what `Coherent` + the grid limits give, see
    `C02_sheet_of_coherent`), if the model of worksheet.rs writes it (`renderSheet`, total by
    `C02_sheet_written`), then in every package `p` whose part `path` is that `<worksheet>` tree and whose part
    `relsNameOf path` is what the model of worksheet_rels.rs writes for the same links (absent when there is no
    relationship), and for every later state `sst` of the shared-string table (`Extends`), the independent
    decoder returns exactly: the views (`fileView`: reference, kind, value text, formula, style) of the cells
    that are not blank-and-unstyled, in ascending order; the merged ranges; the hyperlinks, each with its own
    reference, target (through the relationships part for external ones, `location` for internal ones) and
    tooltip; the row table; `noR = false` (every row and cell carries `r`); no table — and an EMPTY list of
    diagnostics.  Hypotheses on what is not modelled: style indexes below `nXf` (`hxf`; `hn` follows from it and the proof does not use it), the opaque
    children (`hfr`, `hcols`, `hdxf`) and their `r:id`s (`hrid`). -/
theorem C02_sheet_decodes (F : NumFmt) (xf : List Char → Nat) (fr : Frame) (tbl : Table) (s : SheetW F.Num) (hwf : s.WF)
    (tbl' : Table) (root : Node) (h : renderSheet F xf fr tbl s = some (tbl', root))
    (nXf nDxf : Nat) (hn : 0 < nXf) (hxf : ∀ ref, xf ref < nXf) (rest : List Node)
    (hfr : fr.ok = true) (hcols : fr.colsOk nXf = true) (hdxf : fr.dxfOk nDxf = true)
    (hrid : fr.ridsOk (relIds (relWalk 1 s.links ++ rest)) = true)
    (p : Package) (path : String)
    (hp : (p.part? path).bind (·.xml) = some root)
    (hr : (p.part? (relsNameOf path)).bind (·.xml) = relsRoot s.links rest) :
    ∀ sst : Table, Extends sst tbl' →
      decodeSheet p path (sst.map itemText) nXf nDxf =
        ({ cells := cellViews F xf s.cells, merges := s.merges, links := s.links.map linkView,
           cols := colVsOf fr.colNodes, rows := s.rows.map rowView, tables := [], noR := false }, []) :=
  fun sst hx => renderSheet_decodes F xf fr tbl s hwf tbl' root h nXf nDxf hxf rest hfr hcols hdxf hrid p path hp hr sst hx

/-- … against the shared strings the independent reader takes from the part written for that table state -/
theorem C02_sheet_decodes_sst (F : NumFmt) (xf : List Char → Nat) (fr : Frame) (tbl : Table) (s : SheetW F.Num) (hwf : s.WF)
    (tbl' : Table) (root : Node) (h : renderSheet F xf fr tbl s = some (tbl', root))
    (nXf nDxf : Nat) (hn : 0 < nXf) (hxf : ∀ ref, xf ref < nXf) (rest : List Node)
    (hfr : fr.ok = true) (hcols : fr.colsOk nXf = true) (hdxf : fr.dxfOk nDxf = true)
    (hrid : fr.ridsOk (relIds (relWalk 1 s.links ++ rest)) = true)
    (p : Package) (path : String)
    (hp : (p.part? path).bind (·.xml) = some root)
    (hr : (p.part? (relsNameOf path)).bind (·.xml) = relsRoot s.links rest)
    (tbl'' : Table) (hx : Extends tbl'' tbl') :
    ∃ pkg, sstParts (tbl''.map siOf) = some pkg ∧
      decodeSheet p path (Umya.Spec.Sml.sharedStrings pkg sstPath) nXf nDxf =
        ({ cells := cellViews F xf s.cells, merges := s.merges, links := s.links.map linkView,
           cols := colVsOf fr.colNodes, rows := s.rows.map rowView, tables := [], noR := false }, []) := by
  obtain ⟨pkg, hpk, hs⟩ := sharedStrings_written tbl''
  exact ⟨pkg, hpk, by rw [hs]; exact C02_sheet_decodes F xf fr tbl s hwf tbl' root h nXf nDxf hn hxf rest hfr hcols hdxf hrid p path hp hr tbl'' hx⟩

/-- Merged ranges: the decoder's merged ranges are the sheet's, in order (any number, none included) -/
theorem C02_merges_decode (F : NumFmt) (xf : List Char → Nat) (fr : Frame) (tbl : Table) (s : SheetW F.Num) (hwf : s.WF)
    (tbl' : Table) (root : Node) (h : renderSheet F xf fr tbl s = some (tbl', root))
    (nXf nDxf : Nat) (hn : 0 < nXf) (hxf : ∀ ref, xf ref < nXf) (rest : List Node)
    (hfr : fr.ok = true) (hcols : fr.colsOk nXf = true) (hdxf : fr.dxfOk nDxf = true)
    (hrid : fr.ridsOk (relIds (relWalk 1 s.links ++ rest)) = true)
    (p : Package) (path : String)
    (hp : (p.part? path).bind (·.xml) = some root)
    (hr : (p.part? (relsNameOf path)).bind (·.xml) = relsRoot s.links rest) (sst : Table) (hx : Extends sst tbl') :
    (decodeSheet p path (sst.map itemText) nXf nDxf).1.merges = s.merges := by
  rw [C02_sheet_decodes F xf fr tbl s hwf tbl' root h nXf nDxf hn hxf rest hfr hcols hdxf hrid p path hp hr sst hx]

/-- Hyperlinks: the `i`-th hyperlink the decoder returns is the `i`-th link of the sheet: on its own cell,
    external iff it is not a location link, with its own target — resolved through the relationships part for
    an external link, taken from `location` for an internal one — and its own tooltip (none when empty).  Any
    number of links, any mixture of internal and external ones, the same URL on several cells included; no
    hypothesis on the links at all. -/
theorem C02_hyperlinks_decode (F : NumFmt) (xf : List Char → Nat) (fr : Frame) (tbl : Table) (s : SheetW F.Num) (hwf : s.WF)
    (tbl' : Table) (root : Node) (h : renderSheet F xf fr tbl s = some (tbl', root))
    (nXf nDxf : Nat) (hn : 0 < nXf) (hxf : ∀ ref, xf ref < nXf) (rest : List Node)
    (hfr : fr.ok = true) (hcols : fr.colsOk nXf = true) (hdxf : fr.dxfOk nDxf = true)
    (hrid : fr.ridsOk (relIds (relWalk 1 s.links ++ rest)) = true)
    (p : Package) (path : String)
    (hp : (p.part? path).bind (·.xml) = some root)
    (hr : (p.part? (relsNameOf path)).bind (·.xml) = relsRoot s.links rest) (sst : Table) (hx : Extends sst tbl') :
    (decodeSheet p path (sst.map itemText) nXf nDxf).1.links.length = s.links.length ∧
    ∀ (i : Nat) (l : LinkW), s.links[i]? = some l →
      ∃ v, (decodeSheet p path (sst.map itemText) nXf nDxf).1.links[i]? = some v ∧
        v.ref = l.ref ∧ v.external = !l.location ∧ v.target = l.url ∧
        v.tooltip = (if l.tooltip = [] then none else some l.tooltip) := by
  rw [C02_sheet_decodes F xf fr tbl s hwf tbl' root h nXf nDxf hn hxf rest hfr hcols hdxf hrid p path hp hr sst hx]
  refine ⟨by simp, fun i l hl => ⟨linkView l, by simp [hl], rfl, rfl, rfl, rfl⟩⟩

/-- the pairing itself, for any start of the counter and any relationships before (with smaller ids) and
    after: the sheet part's walk decoded against the relationship part's walk over the same links -/
theorem C02_hyperlink_walk_decodes (path : String) (R : List Umya.Spec.Sml.Rel) (ls : List LinkW) (k : Nat) (A : List Umya.Spec.Sml.Rel)
    (hA : ∀ r ∈ A, ∃ i, i < k ∧ r.id = Umya.Spec.Sml.str (rIdText i)) :
    (hlWalk k ls).map (linkOf path (A ++ relRecs k ls ++ R)) = ls.map (fun l => (linkView l, [])) :=
  links_decode path R ls k A hA

/-- what the decoder reads from the relationships part the model writes (and from its absence) -/
theorem C02_sheet_rels_decode (p : Package) (path : String) (links : List LinkW) (rest : List Node)
    (h : (p.part? (relsNameOf path)).bind (·.xml) = relsRoot links rest) :
    relsOf p path = relRecs 1 links ++ (rest.filter (isKid nRelationship)).map relOf := by
  rw [relsOf_rendered p path links rest h, relsView_eq]

theorem rIdText_1 : rIdText 1 = ['r', 'I', 'd', '1'] := by rw [rIdText, Umya.Dec.decDigits]; rfl
theorem rIdText_2 : rIdText 2 = ['r', 'I', 'd', '2'] := by rw [rIdText, Umya.Dec.decDigits]; rfl
theorem rIdText_3 : rIdText 3 = ['r', 'I', 'd', '3'] := by rw [rIdText, Umya.Dec.decDigits]; rfl
theorem rIdText_4 : rIdText 4 = ['r', 'I', 'd', '4'] := by rw [rIdText, Umya.Dec.decDigits]; rfl

/-- The defect repaired by fix f3ae691, on the decoder's functions: when the
    relationships part walks the two external links in the other order, the decoder pairs the first cell with
    the second cell's target. -/
theorem C02_unordered_rels_fails :
    let a : LinkW := { ref := ['A', '1'], url := ['u', '1'] }
    let b : LinkW := { ref := ['B', '1'], url := ['u', '2'] }
    ((hlWalk 1 [a, b]).map (linkOf "p" (relRecs 1 [b, a]))).map (fun x => x.1.target) = [['u', '2'], ['u', '1']] := by
  simp [hlWalk, relRecs, linkOf, tooltipAttr, Node.attr?, Node.attrs, rIdText_1, rIdText_2, Umya.Spec.Sml.str]

theorem writeRows_total (F : NumFmt) (gs : List (RowW × List (Cell F.Num))) (hc : ∀ g ∈ gs, ∀ c ∈ g.2, 1 ≤ c.col) :
    ∀ tbl : Table, ∃ tbl' ws, writeRows F tbl gs = some (tbl', ws) := by
  intro tbl
  -- the row loop threads the table like the cell writer on all the cells
  obtain ⟨t, xs, hw⟩ := writeCells_total F (gs.flatMap (·.2)) (fun c hcm => by
    obtain ⟨g, hg, hcg⟩ := List.mem_flatMap.1 hcm
    exact hc g hg c hcg) tbl
  obtain ⟨ws, hws, _⟩ := writeRows_of_writeCells F gs tbl t xs hw
  exact ⟨t, ws, hws⟩

/-- the model of worksheet.rs does not panic on cells with a column ≥ 1 -/
theorem C02_sheet_written (F : NumFmt) (xf : List Char → Nat) (fr : Frame) (tbl : Table) (s : SheetW F.Num)
    (hc : ∀ c ∈ s.cells, 1 ≤ c.col) : ∃ tbl' root, renderSheet F xf fr tbl s = some (tbl', root) := by
  have hg : ∀ g ∈ rowGroups s.rows s.cells, ∀ c ∈ g.2, 1 ≤ c.col :=
    fun g hg c hcm => hc c ((rowGroups_mem s.rows s.cells g hg).1.subset hcm)
  obtain ⟨t1, ws, hw⟩ := writeRows_total F _ hg tbl
  obtain ⟨_, rowNodes, hrn, _⟩ := writeRows_decodes F xf _ tbl t1 ws hw
  exact ⟨t1, worksheetNode fr (Node.elem nSheetData [] rowNodes) s.merges s.links, by simp [renderSheet, hw, sheetDataNode, hrn]⟩

open Umya.Sheet in
/-- Every reachable cell store (C10's `Coherent`) gives a well-formed sheet: the row table sorted by number
    (`sortedRows`) and the cells in `get_collection_sorted` order (`sortedCells`), each cell carrying any
    content `val` and each row any attributes `rw` that keep the coordinates, satisfy `SheetW.WF` as soon as
    the coordinates are inside the grid. -/
theorem C02_sheet_of_coherent {N : Type} (st : Sheet) (hco : Coherent st)
    (val : CellM → Cell N) (hval : ∀ c, (val c).col = c.col ∧ (val c).row = c.row)
    (rw : RowM → RowW) (hrw : ∀ r, (rw r).num = r.num)
    (hgrid : ∀ c ∈ sortedCells st, 1 ≤ c.col ∧ c.col ≤ 16384) (hrows : ∀ r ∈ sortedRows st, 1 ≤ r.num ∧ r.num ≤ 1048576)
    (merges : List (List Char)) (links : List LinkW) :
    ({ rows := (sortedRows st).map rw, cells := (sortedCells st).map val, merges := merges, links := links } : SheetW N).WF := by
  refine ⟨?_, ?_, ?_, ?_, ?_⟩
  · simp only [List.pairwise_map, hrw]; exact (sortedRows_spec st hco).1
  · intro r hr
    simp only [List.mem_map] at hr
    obtain ⟨r0, hr0, rfl⟩ := hr
    rw [hrw]; exact hrows r0 hr0
  · simp only [List.pairwise_map, (hval _).1, (hval _).2]
    exact (sortedCells_sorted st hco).imp fun hab => (keyLt_iff _ _).1 hab
  · intro c hc
    simp only [List.mem_map] at hc
    obtain ⟨c0, hc0, rfl⟩ := hc
    rw [(hval c0).1]; exact hgrid c0 hc0
  · intro c hc
    simp only [List.mem_map] at hc
    obtain ⟨c0, hc0, rfl⟩ := hc
    rw [(hval c0).2]
    simp only [List.map_map]
    obtain ⟨r0, hr0, he⟩ := List.mem_map.1 (sortedCells_row_known st hco c0 hc0)
    exact List.mem_map.2 ⟨r0, hr0, by simp [hrw, he]⟩

/-- the driver's number format: a number token is Rust's shortest decimal text (`demoF` of `Thm/C02.lean`, which imports this file, is the same) -/
def demoFS : NumFmt := textFmt []

/-- three rows — one with a padded text and a number under a formula, one carrying only a style (hidden,
    with a height) and a styled blank cell plus a blank unstyled cell (not written), one far down —, two merged
    ranges, and four links: external, internal with a tooltip, the SAME external URL again, external with an
    empty target and only a tooltip -/
def demoSheet : SheetW demoFS.Num :=
  { rows := [{ num := 1 }, { num := 2, ht := some ['1', '8'], hidden := true, xf := 2 }, { num := 1048576 }],
    cells := [{ col := 1, row := 1, raw := .str [' ', '&', '<', ' '] },
              { col := 3, row := 1, raw := .num ['4', '2'], formula := some ['A', '1', '<', '2'] },
              { col := 2, row := 2, styled := true }, { col := 4, row := 2 },
              { col := 16384, row := 1048576, raw := .bool true }],
    merges := [['A', '7', ':', 'B', '8'], ['C', '7', ':', 'D', '7']],
    links := [{ ref := ['A', '1'], url := ['h', ':', '/', '/', 'x', '?', 'a', '&', 'b'] },
              { ref := ['B', '2'], url := ['\'', 'S', ' ', '1', '\'', '!', 'A', '1'], location := true, tooltip := ['t', '<'] },
              { ref := ['C', '1'], url := ['h', ':', '/', '/', 'x', '?', 'a', '&', 'b'] },
              { ref := ['X', 'F', 'D', '1', '0', '4', '8', '5', '7', '6'], url := [], tooltip := ['o', 'n', 'l', 'y'] }] }

/-- an opaque frame with `dimension`, `cols`, an `autoFilter`, a conditional format, `pageMargins` and a
    `legacyDrawing` whose `r:id` is the relationship after the three hyperlink ones -/
def demoFrame : Frame :=
  { pre := [.elem ['d', 'i', 'm', 'e', 'n', 's', 'i', 'o', 'n'] [⟨['r', 'e', 'f'], ['A', '1']⟩] [],
            .elem ['c', 'o', 'l', 's'] [] [.elem ['c', 'o', 'l'] [⟨['m', 'i', 'n'], ['1']⟩, ⟨['m', 'a', 'x'], ['3']⟩, ⟨['s', 't', 'y', 'l', 'e'], ['2']⟩] []]],
    mid1 := [.elem ['a', 'u', 't', 'o', 'F', 'i', 'l', 't', 'e', 'r'] [] []],
    mid2 := [.elem ['c', 'o', 'n', 'd', 'i', 't', 'i', 'o', 'n', 'a', 'l', 'F', 'o', 'r', 'm', 'a', 't', 't', 'i', 'n', 'g'] [] [.elem ['c', 'f', 'R', 'u', 'l', 'e'] [⟨['d', 'x', 'f', 'I', 'd'], ['0']⟩] []]],
    post := [.elem ['p', 'a', 'g', 'e', 'M', 'a', 'r', 'g', 'i', 'n', 's'] [] [], .elem ['l', 'e', 'g', 'a', 'c', 'y', 'D', 'r', 'a', 'w', 'i', 'n', 'g'] [⟨['r', ':', 'i', 'd'], ['r', 'I', 'd', '4']⟩] []] }

def demoRest : List Node := [.elem nRelationship [⟨['I', 'd'], ['r', 'I', 'd', '4']⟩] []]

theorem demoSheet_wf : demoSheet.WF := ⟨by decide, by decide, by decide, by decide, by decide⟩

example : demoSheet.WF := demoSheet_wf
example : demoFrame.ok = true ∧ demoFrame.colsOk 3 = true ∧ demoFrame.dxfOk 1 = true := by decide +kernel
example : demoFrame.ridsOk (relIds (relWalk 1 demoSheet.links ++ demoRest)) = true := by
  rw [relIds_append]
  exact ridsOk_append_right _ _ _ (by decide)
example : ∃ tbl' root, renderSheet demoFS (fun _ => 2) demoFrame [] demoSheet = some (tbl', root) :=
  C02_sheet_written demoFS _ demoFrame [] demoSheet (by decide)

/-- what the decoder must find on it is not trivial: four cells (the blank unstyled one is gone), the targets -/
example : (cellViews demoFS (fun _ => 2) demoSheet.cells).map (fun v => (v.kind, String.ofList v.value, v.style))
    = [("s", " &< ", 0), ("n", "42", 0), ("", "", 2), ("b", "TRUE", 0)] := by decide

example : (demoSheet.links.map linkView).map (fun v => (String.ofList v.ref, v.external, String.ofList v.target))
    = [("A1", true, "h://x?a&b"), ("B2", false, "'S 1'!A1"), ("C1", true, "h://x?a&b"), ("XFD1048576", true, "")] := by decide

/-- the two walks on the demo links: `rId1`, none, `rId2`, `rId3` in the sheet part; three relationships -/
example : (hlWalk 1 demoSheet.links).map (fun n => n.attr? ['r', ':', 'i', 'd']) = [some (rIdText 1), none, some (rIdText 2), some (rIdText 3)] ∧
    (relRecs 1 demoSheet.links).map (fun r => (r.id, r.target)) =
      [(Umya.Spec.Sml.str (rIdText 1), "h://x?a&b"), (Umya.Spec.Sml.str (rIdText 2), "h://x?a&b"), (Umya.Spec.Sml.str (rIdText 3), "")] := by
  refine ⟨rfl, ?_⟩
  simp [relRecs, demoSheet, Umya.Spec.Sml.str]

/-- `C02_sheet_of_coherent`: a reachable store -/
example : Umya.Sheet.Coherent (Umya.Sheet.setVal (Umya.Sheet.setVal {} 2 3 7) 1 3 5) :=
  Umya.Sheet.setVal_coherent (Umya.Sheet.setVal_coherent Umya.Sheet.coherent_empty)

end Umya.Thm.C02
