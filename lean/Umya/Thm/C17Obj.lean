/-
  C17 — the object level tied to the source: `Coordinate::set_coordinate` / `get_coordinate` of src/structs/coordinate.rs,
  as compiled from the current source on every run (`Umya/Model/Gen/Fns.lean`), equal the hand model's (`CoordObj` in
  `Umya/Model/Coord.lean`) for all arguments and all prior states.  In the compiled form `&mut self` is state passing
  over the two component records `ColumnReference_rec` / `RowReference_rec`, which are generated from the struct
  declarations; the component setters / getters are resolved by reading their bodies.
-/
import Umya.Thm.C17Gen
import Umya.Thm.C17Parse
namespace Umya.Thm.C17
open Umya.Coord Umya.Gen

/-- the hand model's object read out of the two generated component records -/
def objOf (c : ColumnReference_rec) (r : RowReference_rec) : CoordObj := { col := ⟨c.num, c.is_lock⟩, row := ⟨r.num, r.is_lock⟩ }

/-- `Coordinate::set_coordinate` as compiled from the source (with `index_from_coordinate` instantiated by
    the model's), on ANY prior state `(c, r)` and ANY text: it panics exactly when the model does, and otherwise the object read out of
    the new state is the model's. -/
theorem C17_set_coordinate_matches_source (c : ColumnReference_rec) (r : RowReference_rec) (t : List Char) :
    (coordinate_set_coordinate indexFromCoordinate c r t).map (fun p => objOf p.1 p.2) = (objOf c r).setCoordinate t := by
  simp only [coordinate_set_coordinate, CoordObj.setCoordinate]
  rcases indexFromCoordinate t with ⟨_ | a, _ | b, _ | la, _ | lb⟩ <;> simp [objOf]

/-- both outcomes occur: a full reference is stored, a bare column panics -/
example : coordinate_set_coordinate indexFromCoordinate ⟨7, true⟩ ⟨9, true⟩ "$B3".toList = some (⟨2, true⟩, ⟨3, false⟩) ∧
    coordinate_set_coordinate indexFromCoordinate ⟨7, true⟩ ⟨9, true⟩ "B".toList = none := by
  repeat rw [String.toList_ofList]
  decide +kernel

/-- `Coordinate::get_coordinate` as compiled from the source, calling the compiled
    `coordinate_from_index_with_lock` and `string_from_column_index`, is the model's for every state (`none` = the assertion
    `col >= 1` of `coordinate_from_index_with_lock` fails). -/
theorem C17_get_coordinate_matches_source (c : ColumnReference_rec) (r : RowReference_rec) :
    coordinate_get_coordinate (coordinate_from_index_with_lock string_from_column_index) c r = (objOf c r).getCoordinate := by
  have hfmt : ∀ col row lc lr, coordinate_from_index_with_lock string_from_column_index col row lc lr =
      coordinateFromIndexWithLock? col row lc lr := C17_codec_matches_source.2.2.2.2.2.2.2.2.2.2.2.1
  simp only [coordinate_get_coordinate, CoordObj.getCoordinate, objOf, hfmt]
  cases coordinateFromIndexWithLock? c.num r.num c.is_lock r.is_lock <;> rfl

example : (coordinate_get_coordinate (coordinate_from_index_with_lock string_from_column_index) ⟨28, false⟩ ⟨10, true⟩).isSome = true ∧
    coordinate_get_coordinate (coordinate_from_index_with_lock string_from_column_index) ⟨0, false⟩ ⟨1, false⟩ = none := by decide +kernel

/-- `set_coordinate` overwrites.  Whatever the object held before (`c r` against any other `c0 r0`): the outcome of the compiled
    `set_coordinate(t)` is the same; when it returns, all four fields of the new state are exactly the four results of
    `index_from_coordinate(t)`; and the compiled `get_coordinate` on the new state prints exactly those four. -/
theorem C17_set_coordinate_overwrites (c c0 : ColumnReference_rec) (r r0 : RowReference_rec) (t : List Char) :
    coordinate_set_coordinate indexFromCoordinate c r t = coordinate_set_coordinate indexFromCoordinate c0 r0 t ∧
    ∀ c' r', coordinate_set_coordinate indexFromCoordinate c r t = some (c', r') →
      indexFromCoordinate t = (some c'.num, some r'.num, some c'.is_lock, some r'.is_lock) ∧
      coordinate_get_coordinate (coordinate_from_index_with_lock string_from_column_index) c' r' =
        coordinateFromIndexWithLock? c'.num r'.num c'.is_lock r'.is_lock := by
  refine ⟨?_, fun c' r' h => ⟨?_, ?_⟩⟩
  · simp only [coordinate_set_coordinate]
  · simp only [coordinate_set_coordinate] at h
    generalize indexFromCoordinate t = q at h ⊢
    rcases q with ⟨_ | a, _ | b, _ | la, _ | lb⟩ <;> simp at h ⊢
    obtain ⟨rfl, rfl⟩ := h
    simp
  · rw [C17_get_coordinate_matches_source]; rfl

/-- Round trip at the object level.  For every text `t` of the coordinate grammar (`canonCellB`, see `C17_coord_parse_print`) and
    every prior state: the compiled `set_coordinate(t)` returns, and the compiled `get_coordinate` of the new state is `t`. -/
theorem C17_set_get_coordinate (c : ColumnReference_rec) (r : RowReference_rec) (t : List Char) (h : canonCellB t = true) :
    ∃ c' r', coordinate_set_coordinate indexFromCoordinate c r t = some (c', r') ∧
      coordinate_get_coordinate (coordinate_from_index_with_lock string_from_column_index) c' r' = some t := by
  obtain ⟨a, b, la, lb, h1, _, _, h2, _⟩ := C17_coord_parse_print t h
  refine ⟨⟨a, la⟩, ⟨b, lb⟩, ?_, ?_⟩
  · simp [coordinate_set_coordinate, h1]
  · rw [C17_get_coordinate_matches_source]; exact h2

example : canonCellB "$XFD$1048576".toList = true := by
  repeat rw [String.toList_ofList]
  decide +kernel

end Umya.Thm.C17
