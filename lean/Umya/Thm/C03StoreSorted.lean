/-
  C03, the SORTED enumeration of the cell store (`get_cell_collection_sorted`; model `Store.sorted`,
  `Umya/Model/CellStore.lean`: a merge sort of the store's entries by (row, column)).
  The sort key IS the position, so on a store without repeated positions the sorted list is determined by the look-ups
  alone (`C03_store_sorted_eq`); with the agreement of the look-ups (`store_views_agree`, which is behind `C03_sheet_store` /
  `C03_book_store` too) this carries the agreement of maps over to the lists the library hands out (`sorted_views_agree`).
-/
import Umya.Lemmas.CellStoreSorted
import Umya.Thm.C03Store
namespace Umya.Thm.C03
open Umya.Spec.Xml Umya.Spec.Sml Umya.Reader Umya.Reader.Lemmas Umya.Coord
open Umya.Reader.Lemmas.StoreSorted
open Umya.Annot (canonText nameTextAnyB)

/-- `get_cell_collection_sorted()` loses and doubles nothing: its list is the value column of a permutation of the store -/
theorem C03_store_sorted_perm {α : Type} (s : Store α) :
    s.sorted = (sortedEntries s).map (·.2) ∧ (sortedEntries s).Perm s :=
  ⟨rfl, sortedEntries_perm s⟩

theorem C03_store_sorted_strict {α : Type} (s : Store α) (h : (s.map (·.1)).Nodup) :
    strictlySorted ((sortedEntries s).map (·.1)) = true := by
  apply strictlySorted_of_pairwise
  rw [List.pairwise_map]
  exact sortedEntries_pairwise_lt s h

/-- the order of the sort is a total order on POSITIONS themselves (antisymmetric: `≤` both ways only between equal
    positions; total): the key is not a projection that could identify two positions -/
theorem C03_store_sorted_key_injective (a b : Pos) :
    (posLe a b = true → posLe b a = true → a = b) ∧ (posLe a b || posLe b a) = true :=
  ⟨posLe_antisymm a b, posLe_total a b⟩

/-- For any two stores `s`, `t` (value types `α`, `β`, compared through
    `f`, `g`), no position twice among the entries of either, and the same thing shown by the look-ups at EVERY position:
    the sorted enumerations show the same LIST — same length, same order, same shown value at every index, and the same
    position at every index. -/
theorem C03_store_sorted_eq {α β γ : Type} (f : α → γ) (g : β → γ) (s : Store α) (t : Store β)
    (hs : (s.map (·.1)).Nodup) (ht : (t.map (·.1)).Nodup)
    (h : ∀ k, (s.get? k).map f = (t.get? k).map g) :
    s.sorted.map f = t.sorted.map g ∧ (sortedEntries s).map (·.1) = (sortedEntries t).map (·.1) := by
  have hu := strict_unique f g (sortedEntries s) (sortedEntries t) (sortedEntries_pairwise_lt s hs)
    (sortedEntries_pairwise_lt t ht) (fun k => by rw [get?_sortedEntries s hs, get?_sortedEntries t ht]; exact h k)
  constructor
  · have := congrArg (List.map (·.2)) hu
    simpa only [sorted_eq, List.map_map, Function.comp_def] using this
  · have := congrArg (List.map (·.1)) hu
    simpa only [List.map_map, Function.comp_def] using this

theorem C03_store_sorted_eq_same {α : Type} (s t : Store α)
    (hs : (s.map (·.1)).Nodup) (ht : (t.map (·.1)).Nodup) (h : ∀ k, s.get? k = t.get? k) :
    s.sorted = t.sorted := by
  have := (C03_store_sorted_eq id id s t hs ht (fun k => by rw [h k])).1
  simpa using this

theorem sorted_views_agree (outs : List CellOut) (cs : List CellV) (h : outs.map outView = cs.map specView) :
    (fillStore outKey outs).sorted.map outView = (fillStore specKey cs).sorted.map specView :=
  (C03_store_sorted_eq outView specView _ _ (C03_store_is_map outKey outs) (C03_store_is_map specKey cs)
    (store_views_agree outs cs h)).1

/-- Under the hypotheses of `C03_sheet_store`: what
    `get_cell_collection_sorted()` returns for the store the reader model fills and the sorted enumeration of the store
    filled from the decoder's cells show the same views, as lists (both sides panic together). -/
theorem C03_sheet_store_sorted (T : Tr) (sis rows : List Node) (h : validSheetData sis rows = true) :
    (readRows T (sis.map (stringItem false)) 0 [] rows).map (fun outs => (fillStore outKey outs).sorted.map outView) =
      (expandSharedT T [] (specFilled (sis.map rstText) 0 rows)).map
        (fun cs => (fillStore specKey cs).sorted.map specView) :=
  map_eq_map_of (C03_sheet T sis rows h) sorted_views_agree

/-- Under the hypotheses of `C03_book_store`: for every sheet
    index the sorted cell list of the library's store and that of the store filled from the decoder's cells show the same
    views, as lists. -/
theorem C03_book_store_sorted (cf : Umya.StyleCodec.Tok → Umya.StyleCodec.Tok) (p : Package) (mr : Rel) (wb wr sstRoot sroot : Node)
    (h1 : (relsOf p "").find? (fun r => r.type.endsWith "/officeDocument") = some mr)
    (hwbp : resolveTarget "" mr.target = "xl/workbook.xml")
    (hwb : lookupOf p "xl/workbook.xml".toList = some wb)
    (hwr : lookupOf p "xl/_rels/workbook.xml.rels".toList = some wr)
    (hss : lookupOf p "xl/sharedStrings.xml".toList = some sstRoot)
    (hsst : specSst p "xl/workbook.xml" = (sstRoot.kids "si").map rstText)
    (hsr : lookupOf p "xl/styles.xml".toList = some sroot)
    (hsty : specStylesRoot p "xl/workbook.xml" = some sroot)
    (hvr : validRels wr = true) (hvs : validStyles sroot = true)
    (hvl : validSheetList (((wb.kid? "sheets").map (·.kids "sheet")).getD []) = true)
    (hsheets : ∀ wrs, readRels wr = some wrs → ∀ se ∈ ((wb.kid? "sheets").map (·.kids "sheet")).getD [],
      SheetValid p (sstRoot.kids "si") sroot wrs se)
    (hvn : (((wb.kid? "definedNames").map (·.kids "definedName")).getD []).all validDefinedName = true)
    (hnt : ∀ d ∈ ((wb.kid? "definedNames").map (·.kids "definedName")).getD [], nameTextAnyB d.ownText = true)
    (hns : ∀ d ∈ ((wb.kid? "definedNames").map (·.kids "definedName")).getD [], ∀ i, (specName d).scope = some i →
      i < (((wb.kid? "sheets").map (·.kids "sheet")).getD []).length) :
    ∃ b bv, readBook specTr cf (lookupOf p) = some b ∧ (decode p).1 = some bv ∧ b.sheets.length = bv.sheets.length ∧
      ∀ (i : Nat) (h1 : i < b.sheets.length) (h2 : i < bv.sheets.length),
        (fillStore outKey (b.sheets[i]).cells).sorted.map outView =
          (fillStore specKey (bv.sheets[i]).cells).sorted.map specView := by
  obtain ⟨b, bv, hb, hd, hsh, hv, _, _⟩ := C03_book_any cf p mr wb wr sstRoot sroot h1 hwbp hwb hwr hss hsst hsr hsty hvr hvs hvl hsheets hvn hnt hns
  obtain ⟨hlen, hc⟩ := sheets_cells_agree hsh hv
  exact ⟨b, bv, hb, hd, hlen, fun i hi1 hi2 => sorted_views_agree _ _ (hc i hi1 hi2)⟩

/-- non-vacuity of `C03_store_sorted_eq`: a store whose entries are NOT in order (C1 first) and the store with the same
    entries in order have the same sorted list, "a", "b", "c" -/
def exUnordered : Store String := [((2, 1), "c"), ((1, 1), "a"), ((1, 2), "b")]
def exOrdered : Store String := [((1, 1), "a"), ((1, 2), "b"), ((2, 1), "c")]

example :
    (exUnordered.map (·.1)).Nodup ∧ (exOrdered.map (·.1)).Nodup ∧ exUnordered ≠ exOrdered ∧
    (∀ k, exUnordered.get? k = exOrdered.get? k) ∧
    exUnordered.sorted = ["a", "b", "c"] ∧
    strictlySorted ((sortedEntries exUnordered).map (·.1)) = true := by
  have hn1 : (exUnordered.map (·.1)).Nodup := by decide +kernel
  have hn2 : (exOrdered.map (·.1)).Nodup := by decide +kernel
  have hp : exUnordered.Perm exOrdered := (List.Perm.swap _ _ _).trans ((List.Perm.swap _ _ _).cons _)
  have hg : ∀ k, exUnordered.get? k = exOrdered.get? k := get?_perm hp hn2
  have ho : exOrdered.sorted = ["a", "b", "c"] := by
    have : sortedEntries exOrdered = exOrdered := List.mergeSort_of_pairwise (by decide +kernel)
    rw [sorted_eq, this]; rfl
  exact ⟨hn1, hn2, by decide +kernel, hg, (C03_store_sorted_eq_same _ _ hn1 hn2 hg).trans ho, C03_store_sorted_strict _ hn1⟩

/-- non-vacuity of `C03_sheet_store_sorted`: the valid sheet of `C03Store.lean` with A1 three times; the reader model
    delivers 4 cells, the store keeps two entries (A1, written last, in front; then B1), no position twice -/
example :
    validSheetData sheetSis dupRows = true ∧
    ((readRows specTr (sheetSis.map (stringItem false)) 0 [] dupRows).map fun outs =>
      (outs.length, (fillStore outKey outs).map (·.1))) = some (4, [(1, 1), (1, 2)]) := by
  decide +kernel

end Umya.Thm.C03
