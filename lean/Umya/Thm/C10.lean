/-
  C10 — The cell store stays coherent under any history of operations.

  The store of `Umya/Model/Sheet.lean`: a hash map keyed (row, col), each cell's own coordinate, two ordered
  indexes, the row table and the column list, with every operation of the property's quantifier.
-/
import Umya.Lemmas.ShiftGen
import Umya.Lemmas.CoherentRun
import Umya.Lemmas.Observers
namespace Umya.Thm.C10
open Umya.Sheet Umya.Coord

theorem C10_init : Coherent ({} : Sheet) := coherent_empty

/-- Every public operation of the quantifier (get_cell_mut / set value / set_cell / remove_cell /
    set_style / set_style_by_range / insert & remove rows & columns / move_range / copy_range /
    cleanup / copy_row_styling / copy_col_styling) preserves coherence whenever it returns. -/
theorem C10_step (s s' : Sheet) (op : Op) (h : Coherent s) (hs : step s op = .ok s') : Coherent s' :=
  step_coherent h hs

/-- Every state reachable from the empty sheet by ANY finite sequence of operations is coherent
    (induction over the operation list; no bound on its length or on the sheet). -/
theorem C10_reachable (ops : List Op) (s' : Sheet) (hs : run {} ops = .ok s') : Coherent s' :=
  run_coherent ops coherent_empty hs

/-- Look-up by coordinate finds a cell exactly when it exists, and the cell found reports that
    coordinate; nothing is stored twice. -/
theorem C10_lookup (s : Sheet) (h : Coherent s) (col row : Nat) :
    (∀ c, getCell s col row = some c ↔ ((row, col), c) ∈ s.cells) ∧
    (∀ c, getCell s col row = some c → c.row = row ∧ c.col = col) ∧
    ((getCell s col row).isSome ↔ (row, col) ∈ keysOf s) ∧ (keysOf s).Nodup := by
  refine ⟨?_, ?_, ?_, h.nodup⟩
  · intro c; exact ⟨lookup_some_mem, lookup_of_mem_nodup h.nodup⟩
  · intro c hc; exact h.coord _ (lookup_some_mem hc)
  · exact lookup_isSome_iff

/-- The sorted listings, the per-row / per-column iterators, the range scan and the highest
    row/column agree with a brute-force scan of the set of existing cells: each listing is strictly
    ascending (so nothing is listed twice) and contains exactly the existing keys that qualify.
    `dimension` (`calculate_worksheet_dimension`) is a function of `highest` alone and has no clause of its own. -/
theorem C10_observers (s : Sheet) (h : Coherent s) :
    -- all coordinates, by row then column / by column then row
    (SSorted ((coordsByRowCol s).map swap) ∧ ∀ k, swap k ∈ coordsByRowCol s ↔ k ∈ keysOf s) ∧
    (SSorted (coordsByColRow s) ∧ ∀ k, k ∈ coordsByColRow s ↔ swap k ∈ keysOf s) ∧
    -- by row, by column
    (∀ r, (colsInRow s r).Pairwise (· < ·) ∧ ∀ c, c ∈ colsInRow s r ↔ (r, c) ∈ keysOf s) ∧
    (∀ c, (rowsInCol s c).Pairwise (· < ·) ∧ ∀ r, r ∈ rowsInCol s c ↔ (r, c) ∈ keysOf s) ∧
    -- by range
    (∀ rs re cs ce l, coordsInRange s rs re cs ce = .ok l →
        SSorted (l.map swap) ∧
        ∀ k : Key, swap k ∈ l ↔ (k ∈ keysOf s ∧ rs ≤ k.1 ∧ k.1 ≤ re ∧ cs ≤ k.2 ∧ k.2 ≤ ce)) ∧
    -- highest column / row (and therefore the computed dimension)
    ((∀ k ∈ keysOf s, k.1 ≤ (highest s).2 ∧ k.2 ≤ (highest s).1) ∧
     (keysOf s = [] → highest s = (0, 0)) ∧
     (keysOf s ≠ [] → (∃ k ∈ keysOf s, k.1 = (highest s).2) ∧ (∃ k ∈ keysOf s, k.2 = (highest s).1))) := by
  refine ⟨⟨?_, ?_⟩, ⟨h.csorted, h.cmem⟩, colsInRow_spec s h, rowsInCol_spec s h,
    fun rs re cs ce l hl => coordsInRange_spec s h rs re cs ce l hl, highest_spec s h⟩
  · simp only [coordsByRowCol, List.map_map]
    rw [show swap ∘ swap = id from rfl, List.map_id]; exact h.rsorted
  · intro k
    simp only [coordsByRowCol, List.mem_map]
    constructor
    · rintro ⟨a, ha, e⟩
      obtain rfl : a = k := congrArg swap e
      exact (h.rmem _).1 ha
    · intro hk; exact ⟨k, (h.rmem _).2 hk, rfl⟩

/-- Every existing cell is handed to the cell writer on save, once, in ascending (row, column)
    order: the writer's peek-and-consume row loop loses nothing in a coherent state. -/
theorem C10_saved (s : Sheet) (h : Coherent s) :
    emitted s = sortedCells s ∧ (sortedCells s).map (fun c => (c.row, c.col)) = s.rowIdx ∧
    (∀ k, k ∈ (emitted s).map (fun c => (c.row, c.col)) ↔ k ∈ keysOf s) := by
  have e1 := emitted_all s h
  have e2 := sortedCells_coords s h
  refine ⟨e1, e2, ?_⟩
  intro k; rw [e1, e2]; exact h.rmem k

/-- Without the "row is known" clause the row loop does lose cells: a cell whose row is missing
    from the row table blocks itself and everything after it (why C10 must track the row table). -/
theorem C10_rowloop_needs_rows :
    rowLoop [{ num := 1 }, { num := 3 }] [{ col := 1, row := 1 }, { col := 1, row := 2 }, { col := 1, row := 3 }]
      = [{ col := 1, row := 1 }] := by decide

/-- a concrete non-trivial history returns, so `C10_reachable` speaks of its result -/
example : ∃ s', run {} [.setVal 2 3 7, .setCell 5 1 4 2, .insRows 2 2, .remCols 1 1, .move 1 5 1 4 1 1, .cleanup] = .ok s'
    ∧ s'.cells.length = 2 := by
  refine ⟨_, rfl, ?_⟩
  decide +kernel

/-- (T) `Umya.Gen.kernels_match_source`, cited for C10: the kernels `step` runs when rows or columns are inserted
    or removed are those of the current source. -/
theorem C10_kernels_match_source (n r o : Nat) :
    Umya.Gen.adjustment_insert_coordinate n r o = .ok (Umya.Sheet.adjIns n r o) ∧
    Umya.Gen.adjustment_remove_coordinate n r o = Umya.Sheet.adjRem n r o ∧
    Umya.Gen.is_remove_coordinate n r o = .ok (Umya.Sheet.isRem n r o) ∧
    Umya.Gen.row_adjustment_insert_value n r o = .ok (Umya.Sheet.adjInsV n r o) ∧
    Umya.Gen.row_adjustment_remove_value n r o = Umya.Sheet.adjRemV n r o ∧
    Umya.Gen.row_is_remove_value n r o = Umya.Sheet.isRemV n r o ∧
    Umya.Gen.column_adjustment_insert_value n r o = .ok (Umya.Sheet.adjInsV n r o) ∧
    Umya.Gen.column_adjustment_remove_value n r o = Umya.Sheet.adjRemV n r o ∧
    Umya.Gen.column_is_remove_value n r o = Umya.Sheet.isRemV n r o :=
  Umya.Gen.kernels_match_source n r o

end Umya.Thm.C10
