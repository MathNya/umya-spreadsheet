/-
  C07 — whole histories of structural edits; annotations and hyperlinks under move / copy.

  The edits of the property are data (`Umya.Spec.Grid.Edit`, mapped to the `Op`s of
  `Umya.Sheet.step` by `Edit.toOp`).  Two facts about one edit on a coherent store carry the file:
  an edit that returns refines the reference step (`step_refines_of_ok`, no guard needed), and it
  panics exactly under `Panics` (`C07_step_panic_iff`).  A history is their fold over the list.
  Annotations and hyperlinks: the worksheet record of `Umya/Model/SheetA.lean`.
-/
import Umya.Thm.C07
import Umya.Thm.C07Move
import Umya.Spec.GridHistory
import Umya.Model.SheetA
namespace Umya.Thm.C07
open Umya.Sheet Umya.Book Umya.Coord Umya.Spec.Grid

/-- the concrete operation (`Umya.Sheet.Op`, executed by `step`) of an edit -/
def _root_.Umya.Spec.Grid.Edit.toOp : Edit → Op
  | .setCell c r v st => .setCell c r v st
  | .removeCell c r => .removeCell c r
  | .insRows p n => .insRows p n
  | .insCols p n => .insCols p n
  | .remRows p n => .remRows p n
  | .remCols p n => .remCols p n
  | .move ρ dr dc => .move ρ.rs ρ.re ρ.cs ρ.ce dr dc
  | .copy ρ dr dc => .copy ρ.rs ρ.re ρ.cs ρ.ce dr dc

def AllInGrid (s : Sheet) : Prop := ∀ k ∈ keysOf s, InGrid k.1 k.2

instance (s : Sheet) : Decidable (AllInGrid s) := by unfold AllInGrid; exact inferInstance

/-- the guard of one edit on the state it is applied to: the placed cell inside the grid; `n ≥ 1`
    lines inserted and no stored cell pushed beyond the grid limit (the code does not refuse such an
    insert and leaves the grid: known finding `C07-grid-overflow`); `n ≥ 1` lines removed at `p ≥ 1`;
    move / copy: `InRange` (non-empty rectangle inside the grid whose image is inside the grid) -/
def Guard (s : Sheet) : Edit → Prop
  | .setCell col row _ _ => InGrid row col
  | .removeCell _ _ => True
  | .insRows p n => n ≠ 0 ∧ ∀ k ∈ keysOf s, p ≤ k.1 → k.1 + n ≤ maxRow
  | .insCols p n => n ≠ 0 ∧ ∀ k ∈ keysOf s, p ≤ k.2 → k.2 + n ≤ maxCol
  | .remRows p n => 1 ≤ p ∧ n ≠ 0
  | .remCols p n => 1 ≤ p ∧ n ≠ 0
  | .move ρ dr dc => InRange ρ dr dc
  | .copy ρ dr dc => InRange ρ dr dc

instance (s : Sheet) (e : Edit) : Decidable (Guard s e) := by
  cases e <;> unfold Guard <;> exact inferInstance

/-- every edit of the history is guarded on the state the concrete run reaches before it -/
def Guarded (s : Sheet) : List Edit → Prop
  | [] => True
  | e :: es => Guard s e ∧ match step s e.toOp with
    | .ok t => Guarded t es
    | .panic => False

instance guardedDec : (ops : List Edit) → (s : Sheet) → Decidable (Guarded s ops)
  | [], _ => isTrue trivial
  | e :: es, s =>
    match hst : step s e.toOp with
    | .panic => isFalse (fun hh => by have h2 := hh.2; rw [hst] at h2; exact h2)
    | .ok t =>
      match (inferInstance : Decidable (Guard s e)), guardedDec es t with
      | isTrue a, isTrue b => isTrue ⟨a, by rw [hst]; exact b⟩
      | isFalse a, _ => isFalse (fun hh => a hh.1)
      | _, isFalse b => isFalse (fun hh => b (by have h2 := hh.2; rw [hst] at h2; exact h2))

theorem allInGrid_iff (s : Sheet) : AllInGrid s ↔ GridIn (content s) := by
  constructor
  · intro h r c hne
    exact h (r, c) ((content_ne_none_iff s r c).1 hne)
  · intro h k hk
    exact h k.1 k.2 ((content_ne_none_iff s k.1 k.2).2 hk)

/-- A guarded edit keeps the reference grid inside the grid, so that `AllInGrid` holds again where
    the next edit's guard is read; the insert clauses of `Guard` are there for this alone (an insert
    never panics). -/
theorem specStep_gridIn (s : Sheet) (hi : AllInGrid s) (e : Edit) (hgu : Guard s e) :
    GridIn (specStep Prod.mk (content s) e) := by
  have hg := (allInGrid_iff s).1 hi
  have hkey : ∀ r c, content s r c ≠ none → (r, c) ∈ keysOf s := fun r c => (content_ne_none_iff s r c).1
  generalize content s = g at hg hkey
  intro r c hne
  cases e with
  | setCell col row v sty =>
    simp only [specStep, setAt] at hne
    by_cases e : (r, c) = (row, col)
    · injection e with e1 e2
      subst e1; subst e2
      exact hgu
    · rw [if_neg e] at hne
      exact hg r c hne
  | removeCell col row =>
    simp only [specStep, clearAt] at hne
    by_cases e : (r, c) = (row, col)
    · rw [if_pos e] at hne; exact absurd rfl hne
    · rw [if_neg e] at hne; exact hg r c hne
  | insRows p n | insCols p n =>
    simp only [specStep, insertRows, insertCols] at hne
    split at hne
    · exact hg r c hne
    · split at hne
      · exact absurd rfl hne
      · have a := hg _ _ hne
        have b := hgu.2 _ (hkey _ _ hne) (by omega)
        omega
  | remRows p n | remCols p n =>
    simp only [specStep, removeRows, removeCols] at hne
    have hp : 1 ≤ p := hgu.1
    split at hne
    · exact hg r c hne
    · have a := hg _ _ hne
      omega
  | move ρ dr dc => exact rect_gridIn g hg ρ dr dc hgu true r c hne
  | copy ρ dr dc => exact rect_gridIn g hg ρ dr dc hgu false r c hne

theorem step_refines_of_ok (s t : Sheet) (h : Coherent s) (e : Edit) (hok : step s e.toOp = .ok t) :
    Coherent t ∧ content t = specStep Prod.mk (content s) e := by
  refine ⟨step_coherent h hok, ?_⟩
  cases e with
  | setCell col row v sty => cases hok; funext r c; rw [content_setCell]; rfl
  | removeCell col row => cases hok; funext r c; rw [content_removeCell]; rfl
  | insRows p n => cases hok; exact (content_insertAdj h 0 0 p n).trans (insertCols_zero _ _)
  | insCols p n => cases hok; exact (content_insertAdj h p n 0 0).trans (congrArg (insertCols · p n) (insertRows_zero _ _))
  | remRows p n => exact (content_removeAdj h hok).trans (removeCols_zero _ _)
  | remCols p n => exact (content_removeAdj h hok).trans (congrArg (removeCols · p n) (removeRows_zero _ _))
  | move ρ dr dc => exact moveOrCopy_content s t h ρ dr dc true hok
  | copy ρ dr dc => exact moveOrCopy_content s t h ρ dr dc false hok

/-- the image of the rectangle leaves the grid: the guard of `move_or_copy_range` (`panic!("Out of Range.")`) -/
def OffGrid (ρ : Rect) (dr dc : Int) : Prop :=
  (ρ.cs : Int) + dc < 1 ∨ (ρ.rs : Int) + dr < 1 ∨ (ρ.ce : Int) + dc > 16384 ∨ (ρ.re : Int) + dr > 1048576

instance (ρ : Rect) (dr dc : Int) : Decidable (OffGrid ρ dr dc) := by unfold OffGrid; exact inferInstance

/-- the end corner precedes the start corner in (row, column) order: `BTreeSet::range` panics -/
def Inverted (ρ : Rect) : Prop := ρ.re < ρ.rs ∨ (ρ.re = ρ.rs ∧ ρ.ce < ρ.cs)

instance (ρ : Rect) : Decidable (Inverted ρ) := by unfold Inverted; exact inferInstance

/-- Move / copy on a coherent store panic EXACTLY when the image leaves the grid or the rectangle
    is inverted in (row, column) order; in every other case they return.
    Faithfulness to the code: tied by the out-of-range stream of the harness for stores that hold at
    least one cell.  On a store WITHOUT cells the code's `BTreeSet::range(start > end)` panics only
    when the tree's root node is allocated (index emptied by `remove_cell`) and returns on a fresh
    index (after `rebuild_map_and_indices`); the model's `coordsInRange` says panic in both cases
    (the driver answers `unmodelled` there). -/
theorem C07_move_copy_panic_iff (s : Sheet) (h : Coherent s) (ρ : Rect) (dr dc : Int) (mv : Bool) :
    moveOrCopy s ρ.rs ρ.re ρ.cs ρ.ce dr dc mv = .panic ↔ OffGrid ρ dr dc ∨ Inverted ρ :=
  (moveOrCopy_panic_iff s h ρ.rs ρ.re ρ.cs ρ.ce dr dc mv).trans (or_congr Iff.rfl (keyLt_iff _ _))

/-- the exact panic condition of one edit on the state it is applied to: a move / copy whose image
    leaves the grid or whose rectangle is inverted; a remove of `n ≥ 1` lines at position 0 when a
    stored cell lies in a line below `n` (`num - offset` underflows in `adjustment_remove_coordinate`);
    no other edit panics -/
def Panics (s : Sheet) : Edit → Prop
  | .setCell _ _ _ _ => False
  | .removeCell _ _ => False
  | .insRows _ _ => False
  | .insCols _ _ => False
  | .remRows p n => p = 0 ∧ n ≠ 0 ∧ ∃ k ∈ keysOf s, k.1 < n
  | .remCols p n => p = 0 ∧ n ≠ 0 ∧ ∃ k ∈ keysOf s, k.2 < n
  | .move ρ dr dc => OffGrid ρ dr dc ∨ Inverted ρ
  | .copy ρ dr dc => OffGrid ρ dr dc ∨ Inverted ρ

instance (s : Sheet) (e : Edit) : Decidable (Panics s e) := by
  cases e <;> unfold Panics <;> exact inferInstance

/-- **The panic case, exactly**: on a coherent store an edit panics iff `Panics` holds. -/
theorem C07_step_panic_iff (s : Sheet) (h : Coherent s) (e : Edit) : step s e.toOp = .panic ↔ Panics s e := by
  cases e with
  | setCell _ _ _ _ | removeCell _ _ | insRows _ _ | insCols _ _ => exact ⟨nofun, False.elim⟩
  | remRows p n =>
    refine (removeAdj_panic_iff_key h 0 0 p n).trans ⟨?_, ?_⟩
    · rintro ⟨k, hk, -, -, hu | hu⟩
      · exact absurd hu.2 (Nat.not_lt_zero _)
      · exact ⟨hu.1, by omega, k, hk, hu.2⟩
    · rintro ⟨rfl, -, k, hk, hlt⟩
      exact ⟨k, hk, rfl, rfl, Or.inr ⟨rfl, hlt⟩⟩
  | remCols p n =>
    refine (removeAdj_panic_iff_key h p n 0 0).trans ⟨?_, ?_⟩
    · rintro ⟨k, hk, -, -, hu | hu⟩
      · exact ⟨hu.1, by omega, k, hk, hu.2⟩
      · exact absurd hu.2 (Nat.not_lt_zero _)
    · rintro ⟨rfl, -, k, hk, hlt⟩
      exact ⟨k, hk, rfl, rfl, Or.inl ⟨rfl, hlt⟩⟩
  | move ρ dr dc => exact C07_move_copy_panic_iff s h ρ dr dc true
  | copy ρ dr dc => exact C07_move_copy_panic_iff s h ρ dr dc false

/-- Which edit can panic on a coherent store: a move / copy under the condition above, or a
    remove of `n ≥ 1` lines at position `0`; nothing else. -/
theorem C07_step_panic_only (s : Sheet) (h : Coherent s) (e : Edit) (hp : step s e.toOp = .panic) :
    (∃ ρ dr dc, (e = .move ρ dr dc ∨ e = .copy ρ dr dc) ∧ (OffGrid ρ dr dc ∨ Inverted ρ)) ∨
    (∃ n, n ≠ 0 ∧ (e = .remRows 0 n ∨ e = .remCols 0 n)) := by
  have hp' := (C07_step_panic_iff s h e).1 hp
  cases e with
  | setCell _ _ _ _ | removeCell _ _ | insRows _ _ | insCols _ _ => exact hp'.elim
  | remRows p n => exact Or.inr ⟨n, hp'.2.1, Or.inl (by rw [hp'.1])⟩
  | remCols p n => exact Or.inr ⟨n, hp'.2.1, Or.inr (by rw [hp'.1])⟩
  | move ρ dr dc => exact Or.inl ⟨ρ, dr, dc, Or.inl rfl, hp'⟩
  | copy ρ dr dc => exact Or.inl ⟨ρ, dr, dc, Or.inr rfl, hp'⟩

theorem C07_guard_excludes_panic (s : Sheet) (h : Coherent s) (e : Edit) (hg : Guard s e) : ¬ Panics s e := by
  intro hp
  cases e with
  | setCell _ _ _ _ | removeCell _ _ | insRows _ _ | insCols _ _ => exact hp
  | remRows p n | remCols p n => have := hg.1; have := hp.1; omega
  | move ρ dr dc | copy ρ dr dc =>
    simp only [Guard, InRange, maxRow, maxCol] at hg
    simp only [Panics, OffGrid, Inverted] at hp
    omega

/-- One guarded edit on a coherent store: no panic, coherence kept, and the concrete step commutes
    with the reference step through the abstraction. -/
theorem C07_step_refines (s : Sheet) (h : Coherent s) (e : Edit) (hg : Guard s e) :
    ∃ t, step s e.toOp = .ok t ∧ Coherent t ∧ content t = specStep Prod.mk (content s) e := by
  cases hst : step s e.toOp with
  | ok t => exact ⟨t, rfl, step_refines_of_ok s t h e hst⟩
  | panic => exact absurd ((C07_step_panic_iff s h e).1 hst) (C07_guard_excludes_panic s h e hg)

def runEdits (s : Sheet) (ops : List Edit) : Res Sheet := run s (ops.map Edit.toOp)

theorem runEdits_cons (s : Sheet) (e : Edit) (es : List Edit) :
    runEdits s (e :: es) = match step s e.toOp with | .ok t => runEdits t es | .panic => .panic := rfl

/-- **Whole-history refinement.**  For every list of edits, from every coherent store inside the
    grid, if every edit is guarded on the state it is applied to, then the concrete run returns
    (no panic), the final store is coherent and inside the grid, and
    `content (run s ops) = specRun (content s) ops`. -/
theorem C07_history_refines (ops : List Edit) : ∀ (s : Sheet), Coherent s → AllInGrid s → Guarded s ops →
    ∃ t, runEdits s ops = .ok t ∧ Coherent t ∧ AllInGrid t ∧
      content t = specRun Prod.mk (content s) ops := by
  induction ops with
  | nil => intro s h hi _; exact ⟨s, rfl, h, hi, rfl⟩
  | cons e es ih =>
    intro s h hi hgd
    obtain ⟨hg, hrest⟩ := hgd
    obtain ⟨t, ht, hco, hc⟩ := C07_step_refines s h e hg
    rw [ht] at hrest
    have hin : AllInGrid t := by
      rw [allInGrid_iff, hc]
      exact specStep_gridIn s hi e hg
    obtain ⟨u, hu, hcu, hiu, hcc⟩ := ih t hco hin hrest
    refine ⟨u, ?_, hcu, hiu, ?_⟩
    · rw [runEdits_cons, ht]; exact hu
    · rw [hcc, hc]; rfl

theorem run_refines (ops : List Edit) : ∀ (s t : Sheet), Coherent s → runEdits s ops = .ok t →
    Coherent t ∧ content t = specRun Prod.mk (content s) ops := by
  induction ops with
  | nil => intro s t h hok; cases hok; exact ⟨h, rfl⟩
  | cons e es ih =>
    intro s t h hok
    rw [runEdits_cons] at hok
    cases hst : step s e.toOp with
    | panic => rw [hst] at hok; cases hok
    | ok u =>
      rw [hst] at hok
      obtain ⟨hu, hc⟩ := step_refines_of_ok s u h e hst
      obtain ⟨ht, hcc⟩ := ih u t hu hok
      exact ⟨ht, by rw [hcc, hc]; rfl⟩

/-- the content clause of `C07_history_refines` with the result named; by `run_refines`, which needs neither `hi` nor `hg` -/
theorem C07_history_content (ops : List Edit) (s t : Sheet) (h : Coherent s) (hi : AllInGrid s)
    (hg : Guarded s ops) (hok : runEdits s ops = .ok t) :
    content t = specRun Prod.mk (content s) ops :=
  (run_refines ops s t h hok).2

theorem runEdits_append (s : Sheet) (pre post : List Edit) :
    runEdits s (pre ++ post) = match runEdits s pre with | .ok t => runEdits t post | .panic => .panic := by
  induction pre generalizing s with
  | nil => rfl
  | cons e es ih =>
    rw [List.cons_append, runEdits_cons, runEdits_cons]
    cases step s e.toOp with
    | ok t => exact ih t
    | panic => rfl

theorem runEdits_panic_iff (ops : List Edit) (s : Sheet) :
    runEdits s ops = .panic ↔
      ∃ pre e post t, ops = pre ++ e :: post ∧ runEdits s pre = .ok t ∧ step t e.toOp = .panic := by
  constructor
  · induction ops generalizing s with
    | nil => intro hp; cases hp
    | cons e es ih =>
      intro hp
      rw [runEdits_cons] at hp
      cases hst : step s e.toOp with
      | panic => exact ⟨[], e, es, s, rfl, rfl, hst⟩
      | ok t =>
        rw [hst] at hp
        obtain ⟨pre, e', post, u, he, hu, hp'⟩ := ih t hp
        exact ⟨e :: pre, e', post, u, by rw [he]; rfl, by rw [runEdits_cons, hst]; exact hu, hp'⟩
  · rintro ⟨pre, e, post, t, rfl, ht, hp⟩
    rw [runEdits_append, ht]
    show runEdits t (e :: post) = .panic
    rw [runEdits_cons, hp]

/-- A history from a coherent store panics exactly when it has a first edit `e` that panics on
    the (coherent) state `t` reached by the edits before it; that edit's guard is false on `t`. -/
theorem C07_history_panic_exact (ops : List Edit) : ∀ (s : Sheet), Coherent s →
    (runEdits s ops = .panic ↔
      ∃ pre e post t, ops = pre ++ e :: post ∧ runEdits s pre = .ok t ∧ Coherent t ∧
        step t e.toOp = .panic ∧ ¬ Guard t e) := by
  intro s h
  rw [runEdits_panic_iff]
  refine exists_congr fun pre => exists_congr fun e => exists_congr fun post => exists_congr fun t =>
    and_congr_right fun _ => and_congr_right fun ht => ⟨fun hp => ?_, fun hp => hp.2.1⟩
  have hco := run_coherent _ h ht
  exact ⟨hco, hp, fun hg => C07_guard_excludes_panic t hco e hg ((C07_step_panic_iff t hco e).1 hp)⟩

/-- **Which history panics, exactly**: a history from a coherent store panics iff it splits as
    `pre ++ e :: post` where the edits `pre` return a state `t` on which `e` satisfies the panic
    condition. -/
theorem C07_history_panics_iff (ops : List Edit) (s : Sheet) (h : Coherent s) :
    runEdits s ops = .panic ↔
      ∃ pre e post t, ops = pre ++ e :: post ∧ runEdits s pre = .ok t ∧ Panics t e := by
  rw [runEdits_panic_iff]
  exact exists_congr fun pre => exists_congr fun e => exists_congr fun post => exists_congr fun t =>
    and_congr_right fun _ => and_congr_right fun ht => C07_step_panic_iff t (run_coherent _ h ht) e

/-- `move_range` / `copy_range` on the worksheet record (cell store + merged ranges + comments +
    conditional formats + auto-filter) leave the merge list, the comment list, the
    conditional-format list and the auto-filter as they were, and act on the cell store as
    `moveOrCopy` (to which `C07_move_refines` / `C07_copy_refines` apply). -/
theorem C07_move_keeps_annotations (w w' : WSheet) (ρ : Rect) (d : Int × Int) (mv : Bool)
    (hok : wsMoveOrCopy w ρ.rs ρ.re ρ.cs ρ.ce d.1 d.2 mv = .ok w') :
    w'.merges = w.merges ∧ w'.comments = w.comments ∧ w'.cfs = w.cfs ∧ w'.filter = w.filter ∧
    (if mv then moveRange w.grid ρ d else copyRange w.grid ρ d) = .ok w'.grid := by
  unfold wsMoveOrCopy at hok
  cases hm : moveOrCopy w.grid ρ.rs ρ.re ρ.cs ρ.ce d.1 d.2 mv with
  | panic => rw [hm] at hok; cases hok
  | ok g =>
    rw [hm] at hok
    injection hok with hok
    subst hok
    refine ⟨rfl, rfl, rfl, rfl, ?_⟩
    cases mv <;> exact hm

/-- … and it panics exactly when the cell-store operation does -/
theorem C07_move_annotations_panic (w : WSheet) (ρ : Rect) (d : Int × Int) (mv : Bool) :
    wsMoveOrCopy w ρ.rs ρ.re ρ.cs ρ.ce d.1 d.2 mv = .panic ↔
      moveOrCopy w.grid ρ.rs ρ.re ρ.cs ρ.ce d.1 d.2 mv = .panic := by
  unfold wsMoveOrCopy
  cases moveOrCopy w.grid ρ.rs ρ.re ρ.cs ρ.ce d.1 d.2 mv with
  | panic => exact ⟨fun _ => rfl, fun _ => rfl⟩
  | ok g => constructor <;> intro hh <;> cases hh

theorem linkAt_eq (s : Sheet) (r c : Nat) : linkAt s r c = (content s r c).map (fun x => linkOf x.1) := by
  unfold linkAt content
  cases lookup (r, c) s.cells <;> rfl

theorem pack_unpack (v h : Nat) (hv : v < linkBase) : linkOf (pack v h) = h ∧ valOf (pack v h) = v := by
  unfold linkOf valOf pack
  unfold linkBase at *
  constructor <;> omega

/-- `set_cell` of a cell with a hyperlink stores it (`set_obj`) -/
theorem C07_set_obj_stores_hyperlink (s : Sheet) (col row v sty hl : Nat) (hv : v < linkBase) :
    linkAt (setCellH s col row v sty hl) row col = some hl ∧
    content (setCellH s col row v sty hl) row col = some (pack v hl, sty) := by
  have hc : content (setCellH s col row v sty hl) row col = some (pack v hl, sty) := by
    unfold setCellH; rw [content_setCell, if_pos rfl]
  refine ⟨?_, hc⟩
  rw [linkAt_eq, hc]
  simp only [Option.map_some]
  rw [(pack_unpack v hl hv).1]

/-- **Hyperlinks travel with the cell.**  After a move with in-range arguments the image of every
    position of the source rectangle holds the hyperlink that position held (none when there was
    no cell, `some 0` when the cell had no hyperlink); after a copy the image of every non-blank
    source position does; every position outside the destination rectangle (and, for a move,
    outside the source rectangle) keeps its hyperlink. -/
theorem C07_move_carries_hyperlink (s s' : Sheet) (h : Coherent s) (ρ : Rect) (d : Int × Int) (hin : InRange ρ d.1 d.2) :
    (moveRange s ρ d = .ok s' →
      (∀ r c : Nat, ρ.has r c → linkAt s' ((r : Int) + d.1).toNat ((c : Int) + d.2).toNat = linkAt s r c) ∧
      (∀ r c : Nat, ¬ ρ.has r c → ¬ ρ.hasImage d.1 d.2 r c → linkAt s' r c = linkAt s r c)) ∧
    (copyRange s ρ d = .ok s' →
      (∀ r c : Nat, ρ.has r c → content s r c ≠ none →
        linkAt s' ((r : Int) + d.1).toNat ((c : Int) + d.2).toNat = linkAt s r c) ∧
      (∀ r c : Nat, ¬ ρ.hasImage d.1 d.2 r c → linkAt s' r c = linkAt s r c)) := by
  constructor
  · intro hok
    constructor
    · intro r c hs
      rw [linkAt_eq, linkAt_eq, C07_move_destination_exact s s' h ρ d hin hok r c hs]
    · intro r c hs hd
      rw [linkAt_eq, linkAt_eq, C07_move_elsewhere_unchanged s s' h ρ d hin (Or.inl hok) r c hs hd]
  · intro hok
    obtain ⟨k1, k2, _⟩ := C07_copy_keeps_source s s' h ρ d hin hok
    constructor
    · intro r c hs hne
      cases hx : content s r c with
      | none => exact absurd hx hne
      | some x => rw [linkAt_eq, linkAt_eq, k2 r c hs x hx, hx]
    · intro r c hd
      rw [linkAt_eq, linkAt_eq, k1 r c hd]

/-- a guarded history with every kind of edit, its concrete run and the reference fold -/
def demoOps : List Edit :=
  [.setCell 1 1 7 2, .setCell 2 3 9 0, .insRows 2 2, .move ⟨1, 1, 1, 1⟩ 1 3, .copy ⟨2, 5, 2, 4⟩ 2 (-1),
   .remCols 1 1, .removeCell 1 5, .insCols 1 1, .remRows 1 1]

example : Coherent ({} : Sheet) ∧ AllInGrid {} ∧ Guarded {} demoOps := by
  refine ⟨coherent_empty, by decide +kernel, ?_⟩
  decide +kernel

example : ∃ t, runEdits {} demoOps = .ok t ∧
    content t 1 4 = some (7, 2) ∧ content t 3 3 = some (7, 2) ∧ content t 4 1 = none ∧
    specRun Prod.mk (content {}) demoOps 1 4 = some (7, 2) ∧ specRun Prod.mk (content {}) demoOps 3 3 = some (7, 2) ∧
    specRun Prod.mk (content {}) demoOps 4 1 = none := by
  refine ⟨_, rfl, ?_⟩
  decide +kernel

/-- panics: image off the grid, inverted rectangle, remove at 0 over a cell in row 1; and an
    unguarded move that does not panic (empty column span with `rs < re`) -/
example : OffGrid ⟨1, 1, 1, 1⟩ (-1) 0 ∧ Inverted ⟨2, 1, 1, 1⟩ ∧ ¬ Inverted ⟨1, 2, 3, 2⟩ ∧ ¬ InRange ⟨1, 2, 3, 2⟩ 0 0 ∧
    runEdits {} [.setCell 1 1 7 0, .move ⟨1, 1, 1, 1⟩ (-1) 0] = .panic ∧
    runEdits {} [.setCell 1 1 7 0, .copy ⟨2, 1, 1, 1⟩ 0 0] = .panic ∧
    runEdits {} [.setCell 1 1 7 0, .remRows 0 2] = .panic ∧
    (∃ t, runEdits {} [.setCell 1 1 7 0, .move ⟨1, 2, 3, 2⟩ 0 0] = .ok t) ∧
    Panics (setCell {} 1 1 7 0) (.remRows 0 2) ∧ ¬ Panics (setCell {} 1 2 7 0) (.remRows 0 2) ∧
    (∃ t, runEdits {} [.setCell 1 2 7 0, .remRows 0 2] = .ok t ∧ content t 0 1 = some (7, 0)) := by
  refine ⟨by decide +kernel, by decide +kernel, by decide +kernel, by decide +kernel, by decide +kernel, by decide +kernel, by decide +kernel, ⟨_, rfl⟩, by decide +kernel, by decide +kernel, _, rfl, by decide +kernel⟩

/-- a worksheet with a merge, a comment, a conditional format and a filter; a cell with hyperlink 2
    moved by (1, 2): annotations as before, hyperlink at the destination, none at the source -/
example : ∃ w w', w = WSheet.mk (setCellH (setCell {} 3 3 5 0) 1 1 4 6 2) [fullRect 1 1 2 2 false false false false]
      [⟨1, 1, 9⟩] [⟨[fullRect 1 1 1 1 false false false false], 3⟩]
      (some (fullRect 1 1 3 3 false false false false)) ∧
    wsMoveOrCopy w 1 1 1 1 1 2 true = .ok w' ∧ w'.merges = w.merges ∧ w'.comments = w.comments ∧
    w'.cfs = w.cfs ∧ w'.filter = w.filter ∧
    linkAt w.grid 1 1 = some 2 ∧ linkAt w'.grid 2 3 = some 2 ∧ linkAt w'.grid 1 1 = none ∧ linkAt w'.grid 3 3 = some 0 ∧
    content w'.grid 2 3 = some (pack 4 2, 6) := by
  refine ⟨_, _, rfl, rfl, ?_⟩
  decide +kernel

end Umya.Thm.C07
