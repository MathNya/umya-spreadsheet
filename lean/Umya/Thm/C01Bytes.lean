/-
  C01 — at character level, a text / an attribute value that is written is read back as itself: exactly one
  escape (by the writer) and one unescape (by an XML 1.0 reader), through the tags quick-xml emits.
  Instances of `Umya.Thm.C02.C02_bytes_parse` (`Umya/Thm/C02Bytes.lean`).
-/
import Umya.Thm.C02Bytes
namespace Umya.Thm.C01
open Umya.XmlWrite
open Umya.Spec.Xml (Node Attr parse)

theorem bytes_text_child {n : List Char} {as : List Attr} {k : WNode} {s : List Char}
    (hn : wfName n = true) (ha : wfAttrs as = true) (hk : wfKids [k] = true) (he : eraseKids [k] = [.text s]) :
    parse (renderDoc (.elem n as [k])) = some (.elem n as (if s = [] then [] else [.text s])) := by
  rw [Umya.Thm.C02.C02_bytes_parse _ rfl (by simp [WF, wfKids, hn, ha, hk]), erase, he]
  by_cases h : s = [] <;> simp [normNode, normKids, normKidsAcc, pushP, Umya.Spec.Xml.pushText, h]

/-- `<n as>` + `write_text_node(s)` + `</n>`: every attribute value and the text come back unchanged, for every
    text of XML `Char`s (carriage returns, tabs, `]]>`, quotes, `&`, `<` included) -/
theorem C01_bytes_text_identity (n : List Char) (as : List Attr) (s : List Char)
    (hn : wfName n = true) (ha : wfAttrs as = true) (hs : allXml s = true) :
    parse (renderDoc (.elem n as [.text s])) = some (.elem n as (if s = [] then [] else [.text s])) :=
  bytes_text_child hn ha (by simp [wfKids, hs]) (by simp [eraseKids])

/-- the same through `write_text_node_conversion` (formula text, `<v>` of `str` and number cells) -/
theorem C01_bytes_text_identity_conversion (n : List Char) (as : List Attr) (s : List Char)
    (hn : wfName n = true) (ha : wfAttrs as = true) (hs : allXml s = true) :
    parse (renderDoc (.elem n as [.conv s])) = some (.elem n as (if s = [] then [] else [.text s])) :=
  bytes_text_child hn ha (by simp [wfKids, hs]) (by simp [eraseKids])

/-- attributes of an empty-element tag -/
theorem C01_bytes_attr_identity (n : List Char) (as : List Attr) (hn : wfName n = true) (ha : wfAttrs as = true) :
    parse (renderDoc (.empty n as)) = some (.elem n as []) := by
  rw [Umya.Thm.C02.C02_bytes_parse _ (by simp [isElemW]) (by simp [WF, wfKids, hn, ha])]
  simp [erase, normNode, normKids, normKidsAcc]

example : wfName ['t'] = true ∧ wfAttrs [⟨"xml:space".toList, "preserve".toList⟩, ⟨['a'], ['&', '<', '"', '\t', '\n', '\r']⟩] = true ∧
    allXml [' ', 'x', '\r', ']', ']', '>', Char.ofNat 0x1F600, '&'] = true := by decide +kernel

end Umya.Thm.C01
