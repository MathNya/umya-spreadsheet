/-
  C14 — the composition with the translator tie: the two streams the COMPILED `encrypt_parts` (regenerated from the
  current source on every run, `Thm/C14Gen.lean` `C14_encrypt_parts_matches_source`) returns are read back by the
  specification's stream reader to the package.
-/
import Umya.Thm.C14Gen
import Umya.Thm.C14Info
namespace Umya.Thm.C14
open Umya.Crypt Umya.Crypto Umya.Gen
open Umya.Spec.Agile (decryptFile)

/-- For every package (< 4 GiB), password and random material of the sizes
    `gen_random_*` return: `encrypt_parts` as compiled from the source returns two byte strings — the EncryptionInfo and
    EncryptedPackage stream contents — and the independent reader of the two streams (XML reader, verifier, key unwrap,
    HMAC, segment decryption) returns the package from them.  Hypotheses on the primitives as in `C14_decrypts_text`. -/
theorem C14_source_streams_decrypt (P : Prims) (hP : P.Lawful) (hb : B64Plain P) (data : Bytes) (pw : List Char)
    (ρ : Randoms) (hρ : ρ.wellFormed) (hn : data.length < 4294967296) :
    ∃ infoStream pkgStream,
      crypt_encrypt_parts (List Char) P.b64 (cryptOf P) (draws16 ρ) (fun _ => ρ.packageKey) (fun _ => ρ.hmacKey) (hmacOf P)
        P.sha512 [] shaUpd xmlBytes xmlDecl xmlEndTag [] xmlNewLine xmlStartTag data pw = some (infoStream, pkgStream) ∧
      decryptFile P infoStream pkgStream pw = some data := by
  obtain ⟨info, pkg, he, hd⟩ := C14_decrypts_text P hP hb data pw ρ hρ hn
  refine ⟨buildEncryptionInfo info, pkg, ?_, hd⟩
  rw [C14_encrypt_parts_matches_source, he]
  rfl

/-- the hypotheses are satisfiable (see `Thm/C14Info.lean`) -/
example : toy64.Lawful ∧ B64Plain toy64 ∧ toyRandoms.wellFormed := ⟨toy64_lawful, toy64_plain, toyRandoms_wf⟩

end Umya.Thm.C14
