/-
  C14 — tie to the source (T): the constants of src/helper/crypt.rs read from the CURRENT source on every run
  are the ones the hand model uses (`Umya/Model/Crypt.lean`), and the functions `convert_password_to_key`, `create_iv`,
  `crypt_package` (encrypt direction) and `encrypt_parts`, compiled from the CURRENT source on every run
  (`Umya/Model/Gen/Fns.lean`), are the hand model's for all arguments.
-/
import Umya.Lemmas.FnsGenCrypt
import Umya.Lemmas.FnsGenCryptPkg
namespace Umya.Thm.C14
open Umya.Crypt Umya.Crypto Umya.Gen

/-- The five block keys, `ENCRYPTION_INFO_PREFIX`, `PACKAGE_ENCRYPTION_CHUNK_SIZE`,
    `PACKAGE_OFFSET` (all bytes < 256), the literal sizes / spin count / key bits / algorithm names of `encrypt_parts`,
    and: the model's `encrypt` is `encryptWith` at whatever `n` the literal table holds for the spin count (by the second clause
    that is 100000 and no other: the third clause says `encrypt = encryptWith P 100000`, a fact of the model, under that literal). -/
theorem C14_constants_match_source :
    (crypt_block_keys_data_integrity_hmac_key.map UInt8.ofNat = blkHmacKey ∧
     crypt_block_keys_data_integrity_hmac_value.map UInt8.ofNat = blkHmacValue ∧
     crypt_block_keys_key.map UInt8.ofNat = blkKey ∧
     crypt_block_verifier_hash_input.map UInt8.ofNat = blkVerifierInput ∧
     crypt_block_verifier_hash_value.map UInt8.ofNat = blkVerifierValue ∧
     crypt_encryption_info_prefix.map UInt8.ofNat = encryptionInfoPrefix ∧
     crypt_package_encryption_chunk_size = chunkSize ∧
     crypt_package_offset = 8 ∧ crypt_package_offset = (le32 0 ++ [0, 0, 0, 0]).length ∧
     (crypt_block_keys_data_integrity_hmac_key ++ crypt_block_keys_data_integrity_hmac_value ++ crypt_block_keys_key ++
       crypt_block_verifier_hash_input ++ crypt_block_verifier_hash_value ++ crypt_encryption_info_prefix).all (· < 256) = true) ∧
    (litOf crypt_encrypt_literals_ints "encrypt_parts.package_hash_size" = some 64 ∧
     litOf crypt_encrypt_literals_ints "encrypt_parts.package_block_size" = some 16 ∧
     litOf crypt_encrypt_literals_ints "encrypt_parts.key_hash_size" = some 64 ∧
     litOf crypt_encrypt_literals_ints "encrypt_parts.key_block_size" = some 16 ∧
     litOf crypt_encrypt_literals_ints "encrypt_parts.key_spin_count" = some 100000 ∧
     litOf crypt_encrypt_literals_ints "encrypt_parts.key_key_bits" = some 256 ∧
     (litOf crypt_encrypt_literals_strs "encrypt_parts.package_hash_algorithm").map String.toList = some sha512Name ∧
     (litOf crypt_encrypt_literals_strs "encrypt_parts.key_hash_algorithm").map String.toList = some sha512Name ∧
     (litOf crypt_encrypt_literals_strs "encrypt_parts.package_cipher_algorithm").map String.toList = some aes ∧
     (litOf crypt_encrypt_literals_strs "encrypt_parts.key_cipher_algorithm").map String.toList = some aes ∧
     (litOf crypt_encrypt_literals_strs "encrypt_parts.package_cipher_chaining").map String.toList = some cbc ∧
     (litOf crypt_encrypt_literals_strs "encrypt_parts.key_cipher_chaining").map String.toList = some cbc) ∧
    (∀ (P : Prims) (data : Bytes) (pw : List Char) (ρ : Randoms) (n : Nat),
      litOf crypt_encrypt_literals_ints "encrypt_parts.key_spin_count" = some n →
      encrypt P data pw ρ = encryptWith P n data pw ρ) :=
  ⟨gen_crypt_consts, gen_crypt_encrypt_literals, gen_crypt_encrypt_spin⟩

/-- the hypothesis of the last clause is satisfiable -/
example : litOf crypt_encrypt_literals_ints "encrypt_parts.key_spin_count" = some 100000 := by decide

/-- `hash(algorithm, buffers)` as compiled from the source (the `match` on the algorithm name,
    `Sha512::new()`, one `update` with `buffer_concat(buffers)`, `finalize().to_vec()`; the hasher state is the bytes fed so far, `update`
    appends, `finalize` is `P.sha512`) is SHA-512 of the concatenation for the names `"SHA512"` / `"SHA-512"` (`algOk`) and `Err` for any
    other. -/
theorem C14_hash_matches_source (P : Prims) (alg : List Char) (bufs : List Bytes) :
    crypt_hash P.sha512 [] shaUpd alg bufs = if algOk alg then some (P.sha512 bufs.flatten) else none :=
  gen_hash P alg bufs

/-- `convert_password_to_key` as compiled from the source, calling the compiled
    `hash`; an algorithm name `hash` does not accept is a panic (`none`). -/
theorem C14_kdf_matches_source (P : Prims) (pw alg : List Char) (salt : Bytes) (spin keyBits : Nat) (blockKey : Bytes) :
    crypt_convert_password_to_key P.sha512 [] shaUpd pw alg salt spin keyBits blockKey =
      if algOk alg then some (convertPasswordToKey P pw salt spin keyBits blockKey) else none :=
  gen_convert_password_to_key P pw alg salt spin keyBits blockKey

/-- `create_iv` as compiled from the source, for all block sizes (padded with 0x36, cut, or
    unchanged). -/
theorem C14_iv_matches_source (P : Prims) (alg : List Char) (salt : Bytes) (blockSize : Nat) (blockKey : Bytes) :
    crypt_create_iv P.sha512 [] shaUpd alg salt blockSize blockKey =
      if algOk alg then some (createIv P salt blockSize blockKey) else none :=
  gen_create_iv P alg salt blockSize blockKey

/-- both branches of the algorithm test occur -/
example : algOk sha512Name ∧ ¬ algOk aes := ⟨algOk_sha512, by decide⟩

/-- `crypt_package(&true, cipher, chaining, algorithm, &16, salt, key, input)` as compiled from
    the source — the `while` loop over 4096-byte chunks (run on fuel `input.len() + 1`, which the loop lemma `whileM_chunks` shows to
    suffice), zero padding to 16, IV = `create_iv(.., LE32 (i as u32))`, `crypt(..)` per chunk with its `unwrap`, the 8-byte prefix
    `LE32 (len as u32) ‖ 0 0 0 0` — equals the model's `cryptPackage` for ALL salts, keys and inputs (`none` = panic on both sides:
    key not 32 bytes).  `crypt` is the extern `cryptOf P` = the model's `Crypt.crypt`. -/
theorem C14_package_matches_source (P : Prims) (cipher chain alg : List Char) (salt key input : Bytes) (h : algOk alg) :
    crypt_crypt_package (cryptOf P) P.sha512 [] shaUpd true cipher chain alg 16 salt key input = cryptPackage P salt key input :=
  gen_crypt_package P cipher chain alg salt key input h

/-- the hypothesis is satisfiable by the name `encrypt_parts` passes -/
example : algOk sha512Name := algOk_sha512

/-- `build_encryption_info` as compiled from the source — the XML declaration, the start tags `encryption`,
    `keyData`, `dataIntegrity`, `keyEncryptors`, `keyEncryptor`, `p:encryptedKey` with their attribute ↔ value tables (which of the twenty
    arguments goes to which attribute, as `len().to_string()`, `to_string()`, base64 or itself; the namespace constants of
    `helper/const_str.rs`), the end tags, the prefix `ENCRYPTION_INFO_PREFIX` — is the model's `buildEncryptionInfo` of the descriptor
    record `infoOf` fills from the arguments, for ALL arguments.  The quick-xml writer is the text written so far; `write_start_tag` /
    `write_end_tag` / `write_new_line` of `writer/driver.rs` are the model's `startTag` / `endTag` / CR LF, which write the attribute
    values as they are; that the escaping of `write_start_tag` is the identity on the values that occur is
    `C14_info_text_is_writer_calls` with `C14_encrypt_info_wf` (`Thm/C14Info.lean`, under `B64Plain`). -/
theorem C14_info_matches_source (P : Prims) (packageSalt : Bytes) (packageBlockSize packageKeyBits packageHashSize : Nat)
    (packageCipher packageChaining packageHash : List Char) (encHmacKey encHmacValue : Bytes) (spin : Nat) (keySalt : Bytes)
    (keyBlockSize keyKeyBits keyHashSize : Nat) (keyCipher keyChaining keyHash : List Char)
    (encVerifierInput encVerifierValue encKeyValue : Bytes) :
    crypt_build_encryption_info (List Char) P.b64 xmlBytes xmlDecl xmlEndTag [] xmlNewLine xmlStartTag
        packageSalt packageBlockSize packageKeyBits packageHashSize packageCipher packageChaining packageHash encHmacKey encHmacValue
        spin keySalt keyBlockSize keyKeyBits keyHashSize keyCipher keyChaining keyHash encVerifierInput encVerifierValue encKeyValue =
      buildEncryptionInfo
        { keyData := { saltSize := packageSalt.length, blockSize := packageBlockSize, keyBits := packageKeyBits, hashSize := packageHashSize,
                       cipherAlgorithm := packageCipher, cipherChaining := packageChaining, hashAlgorithm := packageHash,
                       saltValue := P.b64 packageSalt }
          encryptedHmacKey := P.b64 encHmacKey
          encryptedHmacValue := P.b64 encHmacValue
          spinCount := spin
          key := { saltSize := keySalt.length, blockSize := keyBlockSize, keyBits := keyKeyBits, hashSize := keyHashSize,
                   cipherAlgorithm := keyCipher, cipherChaining := keyChaining, hashAlgorithm := keyHash, saltValue := P.b64 keySalt }
          encryptedVerifierHashInput := P.b64 encVerifierInput
          encryptedVerifierHashValue := P.b64 encVerifierValue
          encryptedKeyValue := P.b64 encKeyValue } :=
  gen_build_encryption_info P packageSalt packageBlockSize packageKeyBits packageHashSize packageCipher packageChaining packageHash
    encHmacKey encHmacValue spin keySalt keyBlockSize keyKeyBits keyHashSize keyCipher keyChaining keyHash encVerifierInput
    encVerifierValue encKeyValue

/-- `encrypt_parts` as compiled from the source: the random draws in source order (`gen_random_32`, three `gen_random_16` = package
    salt, key salt, verifier input, `gen_random_64`) are the fields of `ρ`; the result is the model's `encrypt` with the descriptor
    rendered by `buildEncryptionInfo`.
    Externs: `crypt` = `cryptOf P` (the model's `crypt`), `hmac` = `hmacOf P`, base64 = `P.b64`, the SHA-512 hasher and the XML writer as in
    `C14_hash_matches_source` / `C14_info_matches_source`. -/
theorem C14_encrypt_parts_matches_source (P : Prims) (data : Bytes) (pw : List Char) (ρ : Randoms) :
    crypt_encrypt_parts (List Char) P.b64 (cryptOf P) (draws16 ρ) (fun _ => ρ.packageKey) (fun _ => ρ.hmacKey) (hmacOf P)
        P.sha512 [] shaUpd xmlBytes xmlDecl xmlEndTag [] xmlNewLine xmlStartTag data pw =
      (encrypt P data pw ρ).map (fun r => (buildEncryptionInfo r.1, r.2)) :=
  gen_encrypt_parts P data pw ρ

end Umya.Thm.C14
