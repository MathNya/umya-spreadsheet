/-
  C19 — tie to the source (T), regular expressions: the expressions of helper/number_format.rs, number_formater.rs and
  date_formater.rs are, in the CURRENT source, the ones the hand-written matchers of the dispatcher model
  (`Umya/Model/NumFmt.lean`, `NumFmtDispatch.lean`, `Date.lean`) were written for.
-/
import Umya.Lemmas.RegexGen
namespace Umya.Thm.C19

/-- Every `Regex::new(<literal>)` of the crate, regenerated from the source on every run, is the text recorded next to
    the model's matcher for it (`Umya/Model/RegexTexts.lean`: 21 entries, the same equation as in `C17_regex_matches_source`;
    the 18 after the three of the coordinate / address codecs are those of the number-format code; the colour
    expression is built at run time from the named-colour list and is recorded by name).  The two memberships are readable
    witnesses, entries 15 and 13 of that list (`parsePattern`, the fraction test).  That each matcher behaves like
    its expression is tied by the `disp` / `fmt` correspondence streams. -/
theorem C19_regex_matches_source :
    Umya.Gen.regex_literals = Umya.RegexTexts.texts ∧ Umya.Gen.regex_literals.length = 21 ∧
    ("src/helper/number_format/number_formater.rs#5", "(0+)(\\.?)(0*)") ∈ Umya.Gen.regex_literals ∧
    ("src/helper/number_format/number_formater.rs#3", "#?.*\\?{1,2}\\/\\?{1,2}") ∈ Umya.Gen.regex_literals :=
  ⟨Umya.Gen.gen_regex_texts, rfl, List.mem_of_getElem? (i := 15) rfl, List.mem_of_getElem? (i := 13) rfl⟩

end Umya.Thm.C19
