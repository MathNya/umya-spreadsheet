/-
  C14 — Encrypted output decrypts to the exact package, with the right password only.

  The model (`Umya/Model/Crypt.lean`) has `encrypt`, `crypt_package`, `create_iv`, `crypt`, `convert_password_to_key`,
  `build_encryption_info` of src/helper/crypt.rs as they stand, with the five random draws as the parameter `ρ`; the
  decryptor / verifier (`Umya/Spec/Agile.lean`) is written from the standard, MS-OFFCRYPTO §2.3.4.10–15.

  Everything is relative to abstract primitives `P : Prims` with the explicit laws `P.Lawful`
  (digest/HMAC sizes, AES-CBC decrypt inverts encrypt on block-aligned input with a 32-byte key and a
  16-byte IV, base64 decodes what it encoded).  SHA-512, AES, HMAC are NOT proved; for base64 the law is proved of the
  executable encoder and decoder (`C14_base64_roundtrip` in `Thm/C14Info.lean`).

  Scope:
  * the theorems of THIS file speak about the descriptor *record* `Info`; `Thm/C14Info.lean` proves that the
    independent stream reader `Agile.parseInfo` returns that record from the bytes `build_encryption_info`
    writes (`C14_info_parses`) and restates them from the two stream contents (`C14_decrypts_text`, …);
  * `C14_decrypts` needs `data.length < 2^32`: the code writes StreamSize as `input.len() as u32`
    (see `C14_declared_size` / `C14_declared_size_4GiB_fails`);
  * freshness of the random material is not a functional property (harness exploration only);
  * the CFB container is outside the model.
-/
import Umya.Lemmas.Crypt
namespace Umya.Thm.C14
open Umya.Crypto Umya.Crypt Umya.Agile

/-- a toy instance of the primitives satisfying every law (non-vacuity of `P.Lawful`):
    "hash" = cut/pad to 64 bytes, "AES" = byte-wise addition of key byte 16, "HMAC" = cut/pad
    of key ‖ message, "base64" = bytes as code points.  Key byte 16: with this hash a derived key at spin count 0 is the
    16-byte salt followed by the password's UTF-16, so it is the first byte that tells two passwords apart (the
    `VerifierRejects` example at the end of this file). -/
def toy : Prims where
  sha512 x := fit 64 x
  aesCbcEnc k _ m := m.map (· + k.getD 16 0)
  aesCbcDec k _ m := m.map (· - k.getD 16 0)
  hmac k m := fit 64 (k ++ m)
  b64 x := x.map fun b => Char.ofNat b.toNat
  unb64 s := some (s.map fun c => UInt8.ofNat c.toNat)

theorem toy_lawful : toy.Lawful where
  sha_len x := fit_length 64 x
  hmac_len k m := fit_length 64 _
  enc_len k iv m := by simp [toy]
  dec_enc k iv m _ _ _ := by
    simp only [toy, List.map_map]
    conv => rhs; rw [← List.map_id m]
    apply List.map_congr_left
    intro b _
    simp [Function.comp]
  unb64_b64 x := congrArg some (Umya.PwHash.bytes_chars_bytes x)

def toyRandoms : Randoms :=
  ⟨List.replicate 32 7, List.replicate 16 1, List.replicate 16 2, List.replicate 64 3, List.replicate 16 4⟩

theorem toyRandoms_wf : toyRandoms.wellFormed := by
  simp [Randoms.wellFormed, toyRandoms]

/-- `encrypt` does not panic (every `unwrap` in it succeeds) for all packages and passwords, with
    random material of the sizes `gen_random_32/16/64` return. -/
theorem C14_no_panic (P : Prims) (hP : P.Lawful) (data : Bytes) (pw : List Char) (ρ : Randoms)
    (hρ : ρ.wellFormed) : (encrypt P data pw ρ).isSome = true := by
  unfold encrypt
  rw [encryptWith_eq P hP _ data pw ρ hρ]; rfl

/-- The file decrypts to exactly the package: for every package (below 4 GiB), every password and
    every draw of the random material, the specification's decryptor — password verifier, key unwrap,
    HMAC over the whole `EncryptedPackage` stream, segment decryption, truncation to StreamSize — run
    on what `encrypt` produced, with the same password, returns the package, byte for byte. -/
theorem C14_decrypts (P : Prims) (hP : P.Lawful) (data : Bytes) (pw : List Char) (ρ : Randoms)
    (hρ : ρ.wellFormed) (hn : data.length < 4294967296) :
    ∃ info pkg, encrypt P data pw ρ = some (info, pkg) ∧
      Umya.Spec.Agile.decrypt P info pkg pw = some data := by
  refine ⟨encInfo P 100000 data pw ρ, encPackage P ρ data, encryptWith_eq P hP _ data pw ρ hρ, ?_⟩
  unfold Umya.Spec.Agile.decrypt
  rw [verify_ok P hP _ data pw ρ hρ]
  -- (reduces the `match` of `decrypt` on the `some …` just rewritten in)
  simp only []
  rw [packageKey_ok P hP _ data pw ρ hρ]
  simp only []
  rw [integrity_ok P hP _ data pw ρ hρ]
  simp only [if_true]
  exact decryptData_ok P hP _ data pw ρ hρ hn

/-- the hypotheses of `C14_decrypts` are jointly satisfiable -/
example : toy.Lawful ∧ toyRandoms.wellFormed ∧ (List.replicate 5000 (9 : UInt8)).length < 4294967296 :=
  ⟨toy_lawful, toyRandoms_wf, by rw [List.length_replicate]; omega⟩

/-- Verifier, HMAC, length — the three clauses separately: the password verifier matches, the
    data-integrity HMAC over the *entire* EncryptedPackage stream verifies under the unwrapped package
    key, and the declared StreamSize is the package length. -/
theorem C14_verifier_hmac_len (P : Prims) (hP : P.Lawful) (data : Bytes) (pw : List Char) (ρ : Randoms)
    (hρ : ρ.wellFormed) (hn : data.length < 4294967296) :
    ∃ info pkg hn', encrypt P data pw ρ = some (info, pkg) ∧
      Umya.Spec.Agile.verifyPassword P info pw = some hn' ∧
      Umya.Spec.Agile.packageKey P info hn' = some ρ.packageKey ∧
      Umya.Spec.Agile.integrityOk P info ρ.packageKey pkg = true ∧
      Umya.Spec.Agile.declaredSize pkg = data.length :=
  ⟨_, _, _, encryptWith_eq P hP _ data pw ρ hρ, verify_ok P hP _ data pw ρ hρ,
    packageKey_ok P hP _ data pw ρ hρ, integrity_ok P hP _ data pw ρ hρ,
    by rw [declaredSize_ok, Nat.mod_eq_of_lt hn]⟩

/-- Sizes, for ALL `n`: the EncryptedPackage stream of an `n`-byte package has
    `8 + 16·⌈n/16⌉` bytes (8-byte length, every 4096-byte segment kept, the last one zero-padded to the
    block size). -/
theorem C14_sizes (P : Prims) (hP : P.Lawful) (data : Bytes) (pw : List Char) (ρ : Randoms)
    (hρ : ρ.wellFormed) :
    ∃ info pkg, encrypt P data pw ρ = some (info, pkg) ∧
      pkg.length = 8 + 16 * ((data.length + 15) / 16) := by
  refine ⟨_, _, encryptWith_eq P hP _ data pw ρ hρ, ?_⟩
  rw [encPackage_length P hP]; omega

/-- the boundary sizes of the property text are instances of `C14_sizes` -/
example : [0, 1, 15, 16, 17, 4095, 4096, 4097, 8191, 8193].map (fun n => 8 + 16 * ((n + 15) / 16)) =
    [8, 24, 24, 24, 40, 4104, 4104, 4120, 8200, 8216] := by decide

/-- what the code really declares as StreamSize, for every `n`: `n mod 2^32` (the `as u32` cast) -/
theorem C14_declared_size (P : Prims) (ρ : Randoms) (data : Bytes) :
    Umya.Spec.Agile.declaredSize (encPackage P ρ data) = data.length % 4294967296 :=
  declaredSize_ok P ρ data

/-- "the declared length equals the package length" is FALSE at 4 GiB in the model of the code as it
    stands: a package of exactly 2^32 bytes declares StreamSize 0.  (Not replayable by the harness:
    it needs a 4 GiB buffer.) -/
theorem C14_declared_size_4GiB_fails :
    ¬ (∀ (P : Prims) (ρ : Randoms) (data : Bytes),
        Umya.Spec.Agile.declaredSize (encPackage P ρ data) = data.length) := by
  intro h
  have := h toy toyRandoms (List.replicate 4294967296 0)
  rw [C14_declared_size, List.length_replicate] at this
  omega

/-- the verifier condition for another password `pw'`, spelled out: the hash of what `pw'` decrypts
    the verifier input to differs from what `pw'` decrypts the verifier hash value to -/
def VerifierRejects (P : Prims) (spin : Nat) (pw pw' : List Char) (ρ : Randoms) : Prop :=
  P.sha512 ((P.aesCbcDec (convertPasswordToKey P pw' ρ.keySalt spin 256 blkVerifierInput) ρ.keySalt
      (P.aesCbcEnc (convertPasswordToKey P pw ρ.keySalt spin 256 blkVerifierInput) ρ.keySalt ρ.verifierInput)).take 16) ≠
  (P.aesCbcDec (convertPasswordToKey P pw' ρ.keySalt spin 256 blkVerifierValue) ρ.keySalt
      (P.aesCbcEnc (convertPasswordToKey P pw ρ.keySalt spin 256 blkVerifierValue) ρ.keySalt
        (P.sha512 ρ.verifierInput))).take 64

/-- A different password fails verification — under the explicit hypothesis `VerifierRejects`
    (that AES under the wrong derived keys does not happen to produce a matching verifier pair is a
    cryptographic assumption, not provable): the verifier rejects and the decryptor returns nothing
    (in particular no wrong plaintext).  Stated for every spin count; `encrypt` uses 100000. -/
theorem C14_wrong_password (P : Prims) (hP : P.Lawful) (spin : Nat) (data : Bytes) (pw pw' : List Char) (ρ : Randoms)
    (hρ : ρ.wellFormed) (h : VerifierRejects P spin pw pw' ρ) :
    ∃ info pkg, encryptWith P spin data pw ρ = some (info, pkg) ∧
      Umya.Spec.Agile.verifyPassword P info pw' = none ∧
      Umya.Spec.Agile.decrypt P info pkg pw' = none := by
  refine ⟨_, _, encryptWith_eq P hP spin data pw ρ hρ, ?_⟩
  have hv : Umya.Spec.Agile.verifyPassword P (encInfo P spin data pw ρ) pw' = none := by
    rw [verifyPassword_encInfo P hP spin data pw pw' ρ hρ]
    exact if_neg h
  refine ⟨hv, ?_⟩
  unfold Umya.Spec.Agile.decrypt
  rw [hv]

/-- `VerifierRejects` is satisfiable (spin count 0, toy primitives, passwords "a" / "b") -/
example : toy.Lawful ∧ toyRandoms.wellFormed ∧ VerifierRejects toy 0 ['a'] ['b'] toyRandoms := by
  refine ⟨toy_lawful, toyRandoms_wf, ?_⟩
  unfold VerifierRejects
  decide

end Umya.Thm.C14
