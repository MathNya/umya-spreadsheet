/-
  C04 — Re-saving is stable: no drift, no loss of untouched content.

  This file: the attribute channel (Model/XmlEsc; `attrRead_attrWrite` of Lemmas/XmlAgree), and the cell side from the
  round-trip theorem of C01 and the per-save string table of C12; what they add is the second generation.  The families (styles, annotations, names)
  and the whole workbook projection are in `Umya/Thm/C04Fix.lean` (`C04_workbook_fixpoint`); the parts that have no
  model (drawings, charts, images, …) are covered by the generation chains of the harness only.
-/
import Umya.Thm.C01
import Umya.Lemmas.ResaveCells
import Umya.Thm.C12
import Umya.Lemmas.XmlAgree
import Umya.Lemmas.TablesGen
namespace Umya.Thm.C04
open Umya.CellXml Umya.Num Umya.XmlEsc

/-- an attribute text after `n` times write + read -/
def generations (n : Nat) (s : List Char) : List Char := Nat.rec s (fun _ t => attrRead (attrWrite t)) n

/-- Attribute channel: exactly one escape on write and one unescape on read — any attribute text
    (sheet name, hyperlink target, defined name, format code …) is the same after any number of
    load/save generations. -/
theorem C04_attr_channel (s : List Char) (n : Nat) : generations n s = s := by
  induction n with
  | zero => rfl
  | succ n ih => show attrRead (attrWrite (generations n s)) = s; rw [ih, attrRead_attrWrite]

/-- A reader that takes the raw attribute text without unescaping it (`get_attribute` before commit 6c105cf) makes
    the text grow by one escape per generation (`R&D` → `R&amp;D` → `R&amp;amp;D`). -/
theorem C04_attr_drift_fails :
    let readOld : List Char → List Char := id
    readOld (attrWrite "R&D".toList) = "R&amp;D".toList ∧
    readOld (attrWrite (readOld (attrWrite "R&D".toList))) = "R&amp;amp;D".toList := by decide +kernel

/-- Cells: the first re-save shows the original's non-blank cells, and the second generation is a
    fixed point — re-saving what was loaded loads as exactly the same cells again (any number of
    sheets and cells, every value kind; either value of `light`, which `writeBook` of the model ignores: the two
    writers differ in the zip compression method only).  (`C04_fixpoint_cell_store` of `Umya/Thm/C04Fix.lean` states
    the same through the codec, with the closure of the hypotheses and the equality of the written facts.) -/
theorem C04_fixpoint_cells (F : NumFmt) (hF : F.Sound) (light : Bool) (sheets : List (List (Cell F.Num)))
    (h : ∀ s ∈ sheets, ∀ c ∈ s, cellOK F c = true) :
    ∃ b1, writeBook F light sheets = some b1 ∧
      (b1.sst.length < 18446744073709551616 → readBook F b1 = some (normalize F sheets)) ∧
    ∃ b2, writeBook F light (normalize F sheets) = some b2 ∧
      (b2.sst.length < 18446744073709551616 → readBook F b2 = some (normalize F sheets)) := by
  -- the second save writes the package of the first (`writeBook_normalize`: the cells dropped were not written, lazy values were resolved)
  obtain ⟨b1, hw1, hr1⟩ := C01.C01_roundtrip F hF light sheets h
  exact ⟨b1, hw1, hr1, b1, (writeBook_normalize F light sheets).trans hw1, hr1⟩

/-- `C12_pure` again, for the string side: a save leaves the heap as it is, so the same save repeated gives the same
    content (the string table is rebuilt per save).  The claim of the design, independence from everything that is not
    the workbook, is `C04_save_pure_book` of `Umya/Thm/C04Fix.lean`. -/
theorem C04_save_pure (heap : List Umya.Sst.BookS) (w : Nat) :
    (C12.stepH (C12.stepH heap (.save w)).1 (.save w)).2 = (C12.stepH heap (.save w)).2 :=
  (C12.C12_pure heap w).2

/-- Replacing the cell at POSITION `j` of sheet `i`, stated on `normalize` (what one save + load gives, by
    `C01_roundtrip`; the statement itself holds no save and no load, and asks nothing of `c'`): the normal form of every
    other sheet is as before, and that of sheet `i` is the kept cells of its new list.  (By coordinate, through `resave`,
    with the rest of the projection: `C04_edit_local_book` of `Umya/Thm/C04Fix.lean`.) -/
theorem C04_edit_local (F : NumFmt) (sheets : List (List (Cell F.Num))) (i j : Nat) (c' : Cell F.Num)
    (s : List (Cell F.Num)) (hs : sheets[i]? = some s) :
    (∀ i', i' ≠ i → (normalize F (sheets.set i (s.set j c')))[i']? = (normalize F sheets)[i']?) ∧
    (normalize F (sheets.set i (s.set j c')))[i]?
      = some (((s.set j c').filter (fun c => !blankUnstyled F c)).map (Cell.resolved F)) := by
  constructor
  · intro i' hne
    simp only [normalize, List.getElem?_map, List.getElem?_set]
    have : ¬ (i = i') := fun e => hne e.symm
    simp [this]
  · have hi : i < sheets.length := (List.getElem?_eq_some_iff.1 hs).1
    simp [normalize, hi]

/-- the channel on a text with all five escaped characters -/
example : attrRead (attrWrite "R&D <1> \"q\" 'x'".toList) = "R&D <1> \"q\" 'x'".toList := Umya.XmlEsc.attrRead_attrWrite _

/-- Tie to the source (T).  Both halves of the attribute channel are the source's, as regenerated on this run:
    `write_start_tag` ↦ `attrWrite`, the normalisation of `get_attribute_value` ↦ `attrNorm`. -/
theorem C04_channels_match_source (s : List Char) :
    Umya.Gen.write_start_tag_escape.run escapeOld partialEscapeOld s = attrWrite s ∧
    Umya.Gen.applySteps Umya.Gen.get_attribute_value_normalise s = attrNorm s :=
  ⟨Umya.Gen.gen_write_start_tag s, Umya.Gen.gen_get_attribute_value s⟩

end Umya.Thm.C04
