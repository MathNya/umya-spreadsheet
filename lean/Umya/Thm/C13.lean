/-
  C13 — Saving to a path is all-or-nothing under I/O failure.

  The save protocols of writer/xlsx.rs, writer/csv.rs, helper/crypt.rs are modelled (`Umya/Model/Fs.lean`) as they stand
  after the repairs 6ebe463 (xlsx / csv `write`: the `BufWriter` is flushed before the rename, the temp file removed on
  every error), b0c47dd (`csv::write_writer` returns the sink's error), 2494fbb (`write_with_password(_light)` return the
  I/O errors of the compound-file writer and clean up) and b106d4a (`set_password` writes a temp file and renames it);
  `savePathUnflushed` and `csvWriteWriterUnwrap` are the code before 6ebe463 and b0c47dd.  The theorems about a save to a
  path are instances of two statements, `savePath_spec` and `savePw_spec`.

  What is proved is about the step-level protocol model: a save is a sequence of system calls
  (create, write, rename, remove) on a finite-map file system; a fault plan chooses, for every
  call, failure / success / (for writes) how many bytes are accepted.  An "observer" sees one of
  the file-system states of the history.  Not in the model (assumptions, see tools/props.d/C13.py):
  atomicity of rename(2) itself, durability after a crash, process kills between two calls of the
  history are covered only in the sense that every state of the history is one the observer may
  see; `ErrorKind::Interrupted` retries; directories/permissions; seeks of the compound-file writer.

  Hypotheses common to the path theorems:
    `hd`  the state of the destination before the call: a regular file holding `old`; in the `_fresh` theorems absent;
          in `C13_observer_any` any `o` other than a directory;
    `ht`  the temp name `<dest>tmp` is not a symlink (absent, a regular file — e.g. a stale temp
          file of an earlier crash — or a directory).  The harness' fault-injection trick of
          planting a symlink at the temp name is executed by the same model in the driver, but is
          outside the theorems.
-/
import Umya.Lemmas.Fs
namespace Umya.Thm.C13
open Umya.Fs

theorem stable_init {fs : Fs} {d : Path} {o : Option Node} (h : get fs d = o) :
    Stable d o (St.init fs) := by
  intro s hs
  simp only [St.states, St.init, List.mem_cons, List.not_mem_nil, or_false] at hs
  subst hs; exact h

theorem savePath_spec (φ : Fault) (data : Bytes) (dest : Path) (fs : Fs) {o : Option Node}
    (hd : get fs dest = o) (hnd : o ≠ some .dir)
    (ht : ∀ t, get fs (tmpOf dest) ≠ some (.symlink t)) :
    SaveSpec dest o data (savePath φ data dest (St.init fs)) := by
  have hs0 : Stable dest o (St.init fs) := stable_init hd
  unfold savePath
  rcases sysCreate_spec φ (tmpOf_ne dest) ht hs0 with e | ⟨st1, e, hs1, hf1⟩
  · rw [e]; exact Or.inl ⟨rfl, hs0⟩
  · rw [e]
    exact finish_spec φ dest o hnd (writeTmp_wrote φ (tmpOf_ne dest) data hf1 hs1)

theorem savePw_spec (φ : Fault) (chunks : List Bytes) (dest : Path) (fs : Fs) {o : Option Node}
    (hd : get fs dest = o) (hnd : o ≠ some .dir)
    (ht : ∀ t, get fs (tmpOf dest) ≠ some (.symlink t)) :
    SaveSpec dest o chunks.flatten (savePw φ chunks dest (St.init fs)) := by
  have hs0 : Stable dest o (St.init fs) := stable_init hd
  unfold savePw
  rcases sysCreate_spec φ (tmpOf_ne dest) ht hs0 with e | ⟨st1, e, hs1, hf1⟩
  · rw [e]; exact Or.inl ⟨rfl, sysRemove_stable φ (tmpOf_ne dest) hs0⟩
  · rw [e]
    exact finish_spec φ dest o hnd (writeChunks_wrote φ (tmpOf_ne dest) chunks hf1 hs1)

/-- All-or-nothing for `xlsx::write`, `xlsx::write_light`, `csv::write` (one protocol, the
    complete output `data` is built in memory first): for every output (shorter or longer than
    the 8 KiB buffer), every file system in which the destination holds `old`, and every fault
    plan, the call returns an error and the destination still holds `old`, or it returns Ok and the
    destination holds exactly `data`.  In particular it neither panics nor diverges. -/
theorem C13_all_or_nothing (φ : Fault) (data old : Bytes) (dest : Path) (fs : Fs)
    (hd : get fs dest = some (.file old))
    (ht : ∀ t, get fs (tmpOf dest) ≠ some (.symlink t)) :
    ((savePath φ data dest (St.init fs)).2 = .err ∧
        get (savePath φ data dest (St.init fs)).1.cur dest = some (.file old)) ∨
    ((savePath φ data dest (St.init fs)).2 = .ok ∧
        get (savePath φ data dest (St.init fs)).1.cur dest = some (.file data)) :=
  (savePath_spec φ data dest fs hd (by simp) ht).all_or_nothing

/-- non-vacuity / both outcomes occur: a 3-byte output, writes failing from byte 2 (with a
    partial write), a stale temp file present: error, destination untouched, temp removed … -/
example :
    let fs : Fs := [(['a', '.', 'x'], .file [9]), (tmpOf ['a', '.', 'x'], .file [7, 7])]
    let out := savePath { noFault with write := limitPolicy 2 true } [1, 2, 3] ['a', '.', 'x'] (St.init fs)
    out.2 = .err ∧ get out.1.cur ['a', '.', 'x'] = some (.file [9]) ∧
      get out.1.cur (tmpOf ['a', '.', 'x']) = none := by decide

/-- … and without a fault: Ok, destination holds the new bytes, temp gone. -/
example :
    let fs : Fs := [(['a', '.', 'x'], .file [9])]
    let out := savePath noFault [1, 2, 3] ['a', '.', 'x'] (St.init fs)
    out.2 = .ok ∧ get out.1.cur ['a', '.', 'x'] = some (.file [1, 2, 3]) ∧
      get out.1.cur (tmpOf ['a', '.', 'x']) = none ∧
      get fs ['a', '.', 'x'] = some (.file [9]) ∧ get fs (tmpOf ['a', '.', 'x']) = none := by decide

/-- All-or-nothing for `write_with_password` / `write_with_password_light` (as fixed).  The
    compound-file writer is modelled as an arbitrary sequence of `write_all` calls `chunks` on the
    temp file, every one of which is checked; the complete new file is their concatenation. -/
theorem C13_all_or_nothing_password (φ : Fault) (chunks : List Bytes) (old : Bytes) (dest : Path)
    (fs : Fs) (hd : get fs dest = some (.file old))
    (ht : ∀ t, get fs (tmpOf dest) ≠ some (.symlink t)) :
    ((savePw φ chunks dest (St.init fs)).2 = .err ∧
        get (savePw φ chunks dest (St.init fs)).1.cur dest = some (.file old)) ∨
    ((savePw φ chunks dest (St.init fs)).2 = .ok ∧
        get (savePw φ chunks dest (St.init fs)).1.cur dest = some (.file chunks.flatten)) :=
  (savePw_spec φ chunks dest fs hd (by simp) ht).all_or_nothing

example :
    let fs : Fs := [(['a', '.', 'x'], .file [9])]
    let out := savePw { noFault with write := callPolicy 0 (some 1) false } [[1, 2], [3]] ['a', '.', 'x'] (St.init fs)
    out.2 = .err ∧ get out.1.cur ['a', '.', 'x'] = some (.file [9]) ∧
      get out.1.cur (tmpOf ['a', '.', 'x']) = none := by decide

/-- All-or-nothing for `set_password` (as fixed: temp + rename).  `enc` is the container encoder
    (outside the model); the source may be the destination itself. -/
theorem C13_all_or_nothing_set_password (φ : Fault) (enc : Bytes → List Bytes) (old : Bytes)
    (src dest : Path) (fs : Fs) (hd : get fs dest = some (.file old))
    (ht : ∀ t, get fs (tmpOf dest) ≠ some (.symlink t)) :
    ((setPw φ enc src dest (St.init fs)).2 = .err ∧
        get (setPw φ enc src dest (St.init fs)).1.cur dest = some (.file old)) ∨
    (∃ b, content fs src = some b ∧ (setPw φ enc src dest (St.init fs)).2 = .ok ∧
        get (setPw φ enc src dest (St.init fs)).1.cur dest = some (.file (enc b).flatten)) := by
  unfold setPw
  cases hc : content (St.init fs).cur src with
  | none => exact Or.inl ⟨rfl, hd⟩
  | some b =>
    rcases C13_all_or_nothing_password φ (enc b) old dest fs hd ht with h | h
    · exact Or.inl h
    · exact Or.inr ⟨b, hc, h⟩

example :
    let fs : Fs := [(['a', '.', 'x'], .file [9])]
    let out := setPw noFault (fun b => [[0], b]) ['a', '.', 'x'] ['a', '.', 'x'] (St.init fs)
    out.2 = .ok ∧ get out.1.cur ['a', '.', 'x'] = some (.file [0, 9]) := by decide

/-- The observer clause: in every file-system state of the save's history (after each system call) the
    destination holds the complete old or the complete new file. -/
theorem C13_observer (φ : Fault) (data old : Bytes) (dest : Path) (fs : Fs)
    (hd : get fs dest = some (.file old))
    (ht : ∀ t, get fs (tmpOf dest) ≠ some (.symlink t)) :
    ∀ s ∈ (savePath φ data dest (St.init fs)).1.states,
      get s dest = some (.file old) ∨ get s dest = some (.file data) :=
  (savePath_spec φ data dest fs hd (by simp) ht).observer

/-- The destination changes only by the final rename: unless the call returns Ok every state has
    the old file; if it returns Ok the last state has the new file and every earlier one the old.
    (The statement is `SaveSpec dest (some (.file old)) data (savePath …)` unfolded.) -/
theorem C13_observer_only_rename (φ : Fault) (data old : Bytes) (dest : Path) (fs : Fs)
    (hd : get fs dest = some (.file old))
    (ht : ∀ t, get fs (tmpOf dest) ≠ some (.symlink t)) :
    ((savePath φ data dest (St.init fs)).2 = .err ∧
        ∀ s ∈ (savePath φ data dest (St.init fs)).1.states, get s dest = some (.file old)) ∨
    ((savePath φ data dest (St.init fs)).2 = .ok ∧
        get (savePath φ data dest (St.init fs)).1.cur dest = some (.file data) ∧
        ∀ s ∈ (savePath φ data dest (St.init fs)).1.hist, get s dest = some (.file old)) :=
  savePath_spec φ data dest fs hd (by simp) ht

/-- The observer clause for `write_with_password(_light)`. -/
theorem C13_observer_password (φ : Fault) (chunks : List Bytes) (old : Bytes) (dest : Path)
    (fs : Fs) (hd : get fs dest = some (.file old))
    (ht : ∀ t, get fs (tmpOf dest) ≠ some (.symlink t)) :
    ∀ s ∈ (savePw φ chunks dest (St.init fs)).1.states,
      get s dest = some (.file old) ∨ get s dest = some (.file chunks.flatten) :=
  (savePw_spec φ chunks dest fs hd (by simp) ht).observer

/-- non-vacuity: a history with several states, the last one new, the earlier ones old -/
example :
    let fs : Fs := [(['a', '.', 'x'], .file [9])]
    let out := savePath { noFault with write := callPolicy 1 none false } [1, 2, 3] ['a', '.', 'x'] (St.init fs)
    out.2 = .ok ∧ out.1.states.length = 6 ∧
      out.1.states.map (fun s => get s ['a', '.', 'x']) =
        [some (.file [1, 2, 3]), some (.file [9]), some (.file [9]), some (.file [9]), some (.file [9]),
         some (.file [9])] := by decide

/-! The property's observer clause also covers a destination that did not exist before: "the complete old file" is
  then no file at all.  In general `o` is the state of the destination before the call: `none` (absent), a regular
  file, or a symlink; only a directory is excluded (rename onto it fails: `renamefail` case of the harness). -/

/-- All-or-nothing, fresh destination (`xlsx::write`, `write_light`, `csv::write`): when the
    destination does not exist, the call returns an error and there is still no file at the destination,
    or it returns Ok and the destination holds exactly `data`. -/
theorem C13_all_or_nothing_fresh (φ : Fault) (data : Bytes) (dest : Path) (fs : Fs)
    (hd : get fs dest = none)
    (ht : ∀ t, get fs (tmpOf dest) ≠ some (.symlink t)) :
    ((savePath φ data dest (St.init fs)).2 = .err ∧
        get (savePath φ data dest (St.init fs)).1.cur dest = none) ∨
    ((savePath φ data dest (St.init fs)).2 = .ok ∧
        get (savePath φ data dest (St.init fs)).1.cur dest = some (.file data)) :=
  (savePath_spec φ data dest fs hd (by simp) ht).all_or_nothing

/-- The observer clause, fresh destination: in EVERY file-system state of the history of a save to a path that
    did not exist, there is no file at the destination or the complete new file — never an empty or
    partly written one (the data goes to the temp name; the destination appears only by the rename). -/
theorem C13_observer_fresh (φ : Fault) (data : Bytes) (dest : Path) (fs : Fs)
    (hd : get fs dest = none)
    (ht : ∀ t, get fs (tmpOf dest) ≠ some (.symlink t)) :
    ∀ s ∈ (savePath φ data dest (St.init fs)).1.states,
      get s dest = none ∨ get s dest = some (.file data) :=
  (savePath_spec φ data dest fs hd (by simp) ht).observer

/-- The observer clause, fresh destination, for `write_with_password(_light)`. -/
theorem C13_observer_password_fresh (φ : Fault) (chunks : List Bytes) (dest : Path) (fs : Fs)
    (hd : get fs dest = none)
    (ht : ∀ t, get fs (tmpOf dest) ≠ some (.symlink t)) :
    ∀ s ∈ (savePw φ chunks dest (St.init fs)).1.states,
      get s dest = none ∨ get s dest = some (.file chunks.flatten) :=
  (savePw_spec φ chunks dest fs hd (by simp) ht).observer

/-- The observer clause for any earlier state `o` of the destination other than a directory (absent, regular file,
    symlink); `C13_observer` and `C13_observer_fresh` are the cases `some (.file old)` and `none`. -/
theorem C13_observer_any (φ : Fault) (data : Bytes) (dest : Path) (fs : Fs) (o : Option Node)
    (hd : get fs dest = o) (hnd : o ≠ some .dir)
    (ht : ∀ t, get fs (tmpOf dest) ≠ some (.symlink t)) :
    ∀ s ∈ (savePath φ data dest (St.init fs)).1.states,
      get s dest = o ∨ get s dest = some (.file data) :=
  (savePath_spec φ data dest fs hd hnd ht).observer

/-- non-vacuity: a save to a fresh path whose second write fails: no file at the destination in any
    state, the temp file removed -/
example :
    let fs : Fs := [(['b', '.', 'x'], .file [7])]
    let out := savePath { noFault with write := callPolicy 1 (some 1) false } [1, 2, 3] ['a', '.', 'x'] (St.init fs)
    out.2 = .err ∧ out.1.states.map (fun s => get s ['a', '.', 'x']) = List.replicate out.1.states.length none ∧
      get out.1.cur (tmpOf ['a', '.', 'x']) = none := by decide

/-- non-vacuity: a fault-free save to a fresh path: absent, …, absent, new -/
example :
    let fs : Fs := []
    let out := savePath noFault [1, 2, 3] ['a', '.', 'x'] (St.init fs)
    out.2 = .ok ∧ out.1.states.map (fun s => get s ['a', '.', 'x']) = [some (.file [1, 2, 3]), none, none, none] := by decide

/-- The sink clause: `write_writer` (xlsx, light xlsx, csv as fixed) on any sink — failing at any call,
    accepting any number of bytes per call — returns Ok with the sink holding the complete
    output, or an error with the sink holding a proper prefix of it. -/
theorem C13_sink (φ : Fault) (data : Bytes) :
    ((writeWriter φ data).res = .ok ∧ (writeWriter φ data).accepted = some data) ∨
    ((writeWriter φ data).res = .err ∧
        ∃ k, k < data.length ∧ (writeWriter φ data).accepted = some (data.take k)) := by
  -- `writeAll_spec` carries a frame "path `d` keeps holding `o`"; nothing is to be framed here, so the unused path `[]` serves
  have hne : sinkPath ≠ ([] : Path) := by decide
  have hs : Stable [] none (St.init [(sinkPath, .file [])]) := stable_init (by decide)
  have hf : get (St.init [(sinkPath, Node.file [])]).cur sinkPath = some (.file []) := by decide
  obtain ⟨k, _, g, r⟩ := writeAll_spec φ hne data.length data _ [] (Nat.le_refl _) hf hs
  unfold writeWriter
  simp only [g, List.nil_append]
  exact r.imp (fun ⟨r, e⟩ => ⟨r, by rw [e, List.take_length]⟩) fun ⟨r, hk⟩ => ⟨r, k, hk, rfl⟩

/-- `write_writer` never panics, and the model's write loop never runs out of fuel (`.diverge`). -/
theorem C13_sink_no_panic (φ : Fault) (data : Bytes) :
    (writeWriter φ data).res ≠ .panic ∧ (writeWriter φ data).res ≠ .diverge := by
  rcases C13_sink φ data with ⟨r, _⟩ | ⟨r, _⟩ <;> rw [r] <;> exact ⟨by decide, by decide⟩

example :
    let o := writeWriter { noFault with write := callPolicy 2 (some 1) false } [1, 2, 3]
    o.res = .err ∧ o.accepted = some [1, 2] ∧ o.calls = 2 := by decide

/-- The protocol as it was (no explicit flush: the `BufWriter` is dropped, which flushes and
    discards the error) is NOT all-or-nothing for outputs below the buffer capacity:
    3 bytes of output, every write failing — the call returns Ok and the empty temp file has been
    renamed over the destination. -/
theorem C13_unflushed_fails :
    ¬ ∀ (φ : Fault) (data old : Bytes) (dest : Path) (fs : Fs),
        get fs dest = some (.file old) →
        (∀ t, get fs (tmpOf dest) ≠ some (.symlink t)) →
        data.length < 8192 →
        ((savePathUnflushed φ data dest (St.init fs)).2 = .err ∧
            get (savePathUnflushed φ data dest (St.init fs)).1.cur dest = some (.file old)) ∨
        ((savePathUnflushed φ data dest (St.init fs)).2 = .ok ∧
            get (savePathUnflushed φ data dest (St.init fs)).1.cur dest = some (.file data)) := by
  intro h
  have hn : get [((['a', '.', 'x'] : Path), Node.file [9])] (tmpOf ['a', '.', 'x']) = none := by decide
  have := h { noFault with write := fun _ _ _ => .err } [1, 2, 3] [9] ['a', '.', 'x']
    [(['a', '.', 'x'], .file [9])] (by decide) (by intro t; rw [hn]; exact fun e => nomatch e) (by decide)
  revert this
  decide

/-- the witness, spelled out: Ok, and the destination is an empty file -/
example :
    let out := savePathUnflushed { noFault with write := fun _ _ _ => .err } [1, 2, 3] ['a', '.', 'x']
      (St.init [(['a', '.', 'x'], .file [9])])
    out.2 = .ok ∧ get out.1.cur ['a', '.', 'x'] = some (.file []) := by decide

/-- with the flush the same input yields an error and the old file -/
example :
    let out := savePath { noFault with write := fun _ _ _ => .err } [1, 2, 3] ['a', '.', 'x']
      (St.init [(['a', '.', 'x'], .file [9])])
    out.2 = .err ∧ get out.1.cur ['a', '.', 'x'] = some (.file [9]) := by decide

/-- `csv::write_writer` as it was (`write_all(..).unwrap()`) panics on a failing sink. -/
theorem C13_csv_unwrap_fails :
    ¬ ∀ (φ : Fault) (data : Bytes), (csvWriteWriterUnwrap φ data).res ≠ .panic := by
  intro h
  exact h { noFault with write := fun _ _ _ => .err } [1] (by decide)

end Umya.Thm.C13
