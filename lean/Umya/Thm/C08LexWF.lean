/-
  C08 — `C08_insert_text` / `C08_remove_text` under the hypothesis `LexOk'` (references
  well-formed instead of "their text is a Range operand"; see `Umya/Thm/C09LexWF.lean`,
  `Umya/Lemmas/FormulaLexRef.lean`).  These are the versions to use.
-/
import Umya.Thm.C08Lex
import Umya.Thm.C09LexWF
namespace Umya.Thm.C08
open Umya.Coord Umya.Dec Umya.Formula

/-- As `C08_insert_text`, for every expression whose
    references are well-formed (nothing assumed about how pass 3 classifies their text). -/
theorem C08_insert_text_wf (e : Spec.Expr) (h : LexOk' e) (hr : RefsOk e) (ax : Spec.Axis) (at_ n : Nat)
    (edited self : List Char) (hed : edited ≠ []) (hn : n ≠ 0) :
    editFormula .insert e.print (axisArgs ax at_ n).1 (axisArgs ax at_ n).2.1 (axisArgs ax at_ n).2.2.1
        (axisArgs ax at_ n).2.2.2 edited self
      = .ok (Spec.shiftInsert e self edited ax at_ n).print :=
  C08_insert_text e (lexOk_of_wf e h) hr ax at_ n edited self hed hn

/-- As `C08_remove_text`, under the same hypothesis on the references. -/
theorem C08_remove_text_wf (e : Spec.Expr) (h : LexOk' e) (hr : RefsOk e) (ax : Spec.Axis) (at_ n : Nat)
    (edited self : List Char) (hed : edited ≠ []) (h1 : 1 ≤ at_) (hn : n ≠ 0)
    (ho : at_ + n ≤ 4294967295) :
    editFormula .remove e.print (axisArgs ax at_ n).1 (axisArgs ax at_ n).2.1 (axisArgs ax at_ n).2.2.1
        (axisArgs ax at_ n).2.2.2 edited self
      = .ok (Spec.shiftRemove e self edited ax at_ n).print :=
  C08_remove_text e (lexOk_of_wf e h) hr ax at_ n edited self hed h1 hn ho

/-- non-vacuity of `C08_insert_text_wf`: `SUM(A1:$B$2,,"a""b")<=-x%` on sheet `S`, two columns
    inserted at B -/
example : LexOk' Umya.Thm.C09.lexExample ∧ RefsOk Umya.Thm.C09.lexExample ∧
    editFormula .insert "SUM(A1:$B$2,,\"a\"\"b\")<=-x%".toList 2 2 0 0 ['S'] ['S']
      = .ok (Spec.shiftInsert Umya.Thm.C09.lexExample ['S'] ['S'] .col 2 2).print := by
  have h1 := C08_insert_text_wf _ Umya.Thm.C09.lexExample_ok' Umya.Thm.C09.lexExample_refs .col 2 2 ['S'] ['S']
    (by simp) (by simp)
  rw [Umya.Thm.C09.lexExample_print] at h1
  exact ⟨Umya.Thm.C09.lexExample_ok', Umya.Thm.C09.lexExample_refs, h1⟩

/-- non-vacuity of `C08_remove_text_wf`: rows 1..2 removed -/
example : LexOk' Umya.Thm.C09.lexExample ∧ RefsOk Umya.Thm.C09.lexExample ∧
    editFormula .remove "SUM(A1:$B$2,,\"a\"\"b\")<=-x%".toList 0 0 1 2 ['S'] ['S']
      = .ok (Spec.shiftRemove Umya.Thm.C09.lexExample ['S'] ['S'] .row 1 2).print := by
  have h2 := C08_remove_text_wf _ Umya.Thm.C09.lexExample_ok' Umya.Thm.C09.lexExample_refs .row 1 2 ['S'] ['S']
    (by simp) (by simp) (by simp) (by simp)
  rw [Umya.Thm.C09.lexExample_print] at h2
  exact ⟨Umya.Thm.C09.lexExample_ok', Umya.Thm.C09.lexExample_refs, h2⟩

end Umya.Thm.C08
