/-
  C02, package level — the WHOLE package for workbooks whose sheets may carry comments and TABLES
  (`assembleT` / `writePackageT` of `Umya/Model/PackageNodeTbl.lean`, on top of the comments model): content types,
  relationship targets, and the case without tables.
-/
import Umya.Thm.C02PkgTbl
namespace Umya.Thm.C02
open Umya.CellXml Umya.CellNode Umya.SheetNode Umya.WorkbookNode Umya.PackageNode Umya.Num Umya.Dec
open Umya.Spec.Sml
open Umya.Spec.Xml (Node Attr)
open Umya.AnnotComment (Comment writeVml writeComments)

section
variable {F : NumFmt}

/-- the package with tables is the comments package of the same sheets (`toC`) but for three pieces: the sheets bring along
    their table parts too, their relationships include the table ones, and `[Content_Types].xml` has the table Overrides -/
def piecesT (b : BookT F.Num) (hs : Bool) (roots : List Node) (cmt sst : List Part) : Pieces :=
  { piecesC F b.toC hs roots cmt sst with
    contentTypes := contentTypesNodeT b.toC.sheets.length hs (vmlNums (annotate b.toC.sheets)) (cmtNums (annotate b.toC.sheets)) b.tnums.flatten,
    extra := cmt ++ tblPartsOf b.tnums.flatten (b.sheets.map (·.tables)).flatten,
    rels := relsInputT (annotate b.toC.sheets) b.tnums }

theorem assembleT_pieces (b : BookT F.Num) (hs : Bool) (roots : List Node) (cmt sst : List Part) :
    assembleT F b hs roots cmt sst = (piecesT b hs roots cmt sst).pkg := by
  unfold assembleT
  rw [List.append_assoc _ cmt]
  rfl

theorem writePackageT_anatomy (b : BookT F.Num) (pkg : Package) (h : writePackageT F b = some pkg) :
    ∃ tbl roots cmt sst, renderSheetsP F [] (b.toC.sheets.map (·.toP)) = some (tbl, roots) ∧ Built F b.toC cmt tbl sst ∧
      pkg = (piecesT b (!tbl.isEmpty) roots cmt sst).pkg := by
  unfold writePackageT at h
  split at h
  · cases h
  next tbl roots hr =>
    split at h
    · cases h
    next cmt hc =>
      obtain ⟨sst, hs, rfl⟩ := Option.map_eq_some_iff.1 h
      exact ⟨tbl, roots, cmt, sst, hr, ⟨hc, sstPartsP_shape tbl sst hs⟩, assembleT_pieces b _ roots cmt sst⟩

theorem piecesT_ok {b : BookT F.Num} {cmt : List Part} {tbl : Table} {sst : List Part} (hb : Built F b.toC cmt tbl sst) (hs : Bool)
    (roots : List Node) : (piecesT b hs roots cmt sst).OK tbl := by
  refine ⟨hb.sst, fun p hp => ?_⟩
  rcases List.mem_append.1 hp with hp | hp
  · exact cmt_foreign hb p hp
  · obtain ⟨x, _, rfl⟩ := List.mem_map.1 hp
    exact ⟨_, _, rfl, foreign_tbl x.1⟩

end

theorem tnums_trees_length {N : Type} (b : BookT N) : b.tnums.flatten.length = (b.sheets.map (·.tables)).flatten.length := by
  unfold BookT.tnums
  rw [(C02_tbl_numbers_distinct _).2.1, List.length_range', List.length_flatten, List.map_map]
  rfl

theorem tblPartsOf_mem (nums : List Nat) (trees : List Node) (hl : nums.length = trees.length) (t : Nat) (hm : t ∈ nums) :
    ∃ tree, xmlPart (tblPartL t) tree ∈ tblPartsOf nums trees := by
  obtain ⟨i, hi⟩ := List.mem_iff_getElem?.1 hm
  have hlt : i < trees.length := hl ▸ (List.getElem?_eq_some_iff.1 hi).1
  exact ⟨_, List.mem_map.2 ⟨(t, _), List.mem_of_getElem? (List.getElem?_zip_eq_some.2 ⟨hi, List.getElem?_eq_getElem hlt⟩), rfl⟩⟩

theorem mem_tblRecs (r : Rel) (ts : List Nat) (k : Nat) (h : r ∈ tblRecs k ts) : ∃ j t, t ∈ ts ∧ r = relRec j tTable (tblTarget t) := by
  rw [tblRecs_eq] at h
  obtain ⟨p, hp, rfl⟩ := List.mem_map.1 h
  exact ⟨p.2, p.1, List.fst_mem_of_mem_zipIdx hp, rfl⟩

theorem mem_restRecsT (r : Rel) (k : Nat) (num : Option (Nat × Nat)) (ts : List Nat) (h : r ∈ restRecsT k num ts) :
    (∃ j t, t ∈ ts ∧ r = relRec j tTable (tblTarget t)) ∨
    (∃ v c j, num = some (v, c) ∧ (r = relRec j tVml (vmlTarget v) ∨ r = relRec j tComments (commentsTarget c))) := by
  cases num with
  | none => exact Or.inl (mem_tblRecs r ts k h)
  | some vc =>
    obtain ⟨v, c⟩ := vc
    simp only [restRecsT, List.mem_cons, List.mem_append, List.not_mem_nil, or_false] at h
    rcases h with rfl | h | rfl
    · exact Or.inr ⟨v, c, _, rfl, Or.inl rfl⟩
    · exact Or.inl (mem_tblRecs r ts _ h)
    · exact Or.inr ⟨v, c, _, rfl, Or.inr rfl⟩

theorem relsOK_pkgT {F : NumFmt} {b : BookT F.Num} {cmt : List Part} {tbl : Table} {sst : List Part} (hb : Built F b.toC cmt tbl sst)
    (roots : List Node) (hlen : roots.length = b.toC.sheets.length) :
    ∀ part ∈ (piecesT b (!tbl.isEmpty) roots cmt sst).pkg, isRelsNameL part.name.toList = true →
      RelsOK (piecesT b (!tbl.isEmpty) roots cmt sst).pkg (String.ofList (relsSourceL part.name.toList)) := by
  refine relsOK_pieces _ tbl (piecesT_ok hb _ roots) rfl hlen ?_
  -- a sheet relationships part: after the hyperlink relationships, vmlDrawing, tables, comments
  intro j links rest j1 hj
  obtain ⟨⟨⟨s, num⟩, ts⟩, hz, he⟩ := Option.map_eq_some_iff.1 (List.getElem?_map.symm.trans hj)
  obtain ⟨han, hts⟩ := List.getElem?_zip_eq_some.1 hz
  cases he
  rw [restOfT, restNodesT_recs]
  refine ⟨restRecsT_ids _ num ts, fun r hr _ => ?_⟩
  rcases mem_restRecsT r _ num ts hr with ⟨i, t, ht, rfl⟩ | ⟨v, c, i, rfl, hvc⟩
  · obtain ⟨tree, hm⟩ := tblPartsOf_mem _ _ (tnums_trees_length b) t (List.mem_flatten.2 ⟨ts, List.mem_of_getElem? hts, ht⟩)
    exact target_present (resolve_tblTarget j t) (part_isSome_of_mem tree (Pieces.mem_extra (List.mem_append_right _ hm)))
  obtain ⟨hv, root, _, hc⟩ := cmtParts_find _ _ hb.cmt (annotate_distinct _) s v c (List.mem_of_getElem? han)
  rcases hvc with rfl | rfl
  · exact target_present (resolve_vmlTarget j v) (part_isSome_of_mem _ (Pieces.mem_extra (List.mem_append_left _ (List.mem_of_find?_eq_some hv))))
  · exact target_present (resolve_commentsTarget j c) (part_isSome_of_mem root (Pieces.mem_extra (List.mem_append_left _ (List.mem_of_find?_eq_some hc))))

/-- Every internal relationship of every relationships part of
    the package the model writes for a workbook whose sheets may carry comments and tables (`_rels/.rels`,
    `xl/_rels/workbook.xml.rels`, every `xl/worksheets/_rels/sheetK.xml.rels` — whose internal relationships are the
    vmlDrawing, table and comments ones) resolves, by the decoder's `resolveTarget` on the concrete names relative to
    the source part, to a part that is in the package. -/
theorem C02_tbl_package_rels_resolve (F : NumFmt) (b : BookT F.Num) (pkg : Package) (h : writePackageT F b = some pkg) :
    ∀ part ∈ pkg, isRelsNameL part.name.toList = true →
      ∀ r ∈ relsOf pkg (String.ofList (relsSourceL part.name.toList)), r.external = false →
        (pkg.part? (resolveTarget (String.ofList (relsSourceL part.name.toList)) r.target)).isSome = true := by
  obtain ⟨tbl, roots, cmt, sst, hr, hb, rfl⟩ := writePackageT_anatomy b pkg h
  exact fun part hp hrels => (relsOK_pkgT hb roots (roots_length F b.toC tbl roots hr) part hp hrels).2

/-- Every part of the package the model writes — any number of sheets,
    with and without comments, with and without tables, with or without a shared-string part — has a content type
    under the decoder's look-up (`Override` by part name, else `Default` by extension). -/
theorem C02_tbl_content_types_cover (F : NumFmt) (b : BookT F.Num) (pkg : Package) (h : writePackageT F b = some pkg) :
    ∀ part ∈ pkg, part.name ≠ "[Content_Types].xml" → (contentTypeOf pkg part.name).isSome = true := by
  obtain ⟨tbl, roots, cmt, sst, hr, hb, rfl⟩ := writePackageT_anatomy b pkg h
  refine Pieces.ct_cover (piecesT_ok hb _ roots) rfl fun p hp => ?_
  rcases List.mem_append.1 hp with hp | hp
  · exact cmt_exts hb p hp
  · obtain ⟨x, _, rfl⟩ := List.mem_map.1 hp
    exact ⟨_, _, rfl, Or.inl (ext_tblPart x.1)⟩

theorem writePackageT_isSome (F : NumFmt) (b : BookT F.Num) : (writePackageT F b).isSome = (writePackageC F b.toC).isSome := by
  unfold writePackageT writePackageC
  cases renderSheetsP F [] (b.toC.sheets.map (·.toP)) with
  | none => rfl
  | some q =>
    obtain ⟨tbl, roots⟩ := q
    simp only
    cases cmtPartsC (annotate b.toC.sheets) with
    | none => rfl
    | some cmt => simp only [Option.isSome_map]

theorem tableNums_zeros {α : Type} : ∀ (l : List α) (c : Nat), tableNums c (l.map fun _ => 0) = l.map fun _ => ([] : List Nat)
  | [], _ => rfl
  | _ :: l, c => congrArg (List.cons []) (tableNums_zeros l c)

theorem zip_nils_map {α β γ : Type} (f : α × List Nat → γ) (an : List α) (l : List β) (h : an.length = l.length) :
    (an.zip (l.map (fun _ => ([] : List Nat)))).map f = an.map (fun p => f (p, [])) := by
  rw [List.zip_map_right, List.map_map]
  conv => rhs; rw [← List.map_fst_zip (l₁ := an) (l₂ := l) (Nat.le_of_eq h), List.map_map]
  rfl

/-- For a workbook none of whose sheets has a table the model of this file writes
    exactly the package of the comments model on the same sheets (`writePackageC`; and by `C02_cmt_plain_same` the plain
    package when there is no comment either): the extension is conservative.  Second conjunct: `toC` then leaves every
    sheet as it is. -/
theorem C02_tbl_plain_same (F : NumFmt) (b : BookT F.Num) (h : ∀ s ∈ b.sheets, s.tables = []) :
    writePackageT F b = writePackageC F b.toC ∧ b.toC.sheets = b.sheets.map (·.c) := by
  have htn : b.tnums = b.sheets.map (fun _ => ([] : List Nat)) := by
    unfold BookT.tnums
    rw [List.map_congr_left (g := fun _ => 0) fun s hs => by rw [h s hs]; rfl]
    exact tableNums_zeros _ 0
  have hfl : b.tnums.flatten = [] := List.flatten_eq_nil_iff.2 fun l hl => by
    rw [htn] at hl; obtain ⟨_, _, rfl⟩ := List.mem_map.1 hl; rfl
  refine ⟨?_, ?_⟩
  · unfold writePackageT writePackageC
    cases renderSheetsP F [] (b.toC.sheets.map (·.toP)) with
    | none => rfl
    | some q =>
      obtain ⟨tbl, roots⟩ := q
      simp only
      cases cmtPartsC (annotate b.toC.sheets) with
      | none => rfl
      | some cmt =>
        simp only
        congr 1
        funext sst
        have hri : relsInputT (annotate b.toC.sheets) b.tnums = relsInput (annotate b.toC.sheets) := by
          unfold relsInputT relsInput
          rw [htn, zip_nils_map _ _ _ (by rw [annotate_length]; simp [BookT.toC])]
          apply List.map_congr_left
          intro p _
          exact congrArg _ (C02_tbl_plain_same_partial p.1.sheet.links p.2 false 0 false [] []).1
        unfold assembleT assembleC
        rw [hfl, hri, (C02_tbl_plain_same_partial [] none false _ _ _ _).2.2]
        simp [tblPartsOf]
  · unfold BookT.toC
    simp only
    apply List.map_congr_left
    intro s hs
    unfold SheetT.toC
    rw [h s hs]
    rfl

-- non-vacuity: `demoCmtBook` with tables on the first and the third sheet
def demoTblTree : Node := .elem ['t', 'a', 'b', 'l', 'e'] [] []

def demoTblBook : BookT demoFS.Num :=
  { sheets := (demoCmtBook.sheets.zip [[demoTblTree, demoTblTree], [], [demoTblTree]]).map (fun p => { c := p.1, tables := p.2 }),
    names := demoCmtBook.names, wbFrame := demoCmtBook.wbFrame, app := demoCmtBook.app, core := demoCmtBook.core,
    theme := demoCmtBook.theme, styles := demoCmtBook.styles }

example : demoTblBook.tnums = [[1, 2], [], [3]] := by decide +kernel

theorem demoTblBook_written : ∃ pkg, writePackageT demoFS demoTblBook = some pkg := by
  have h := writePackageT_isSome demoFS demoTblBook
  obtain ⟨pkg, hp⟩ := C02_cmt_package_written demoFS demoTblBook.toC (by decide) (by decide)
  rw [hp] at h
  exact Option.isSome_iff_exists.1 h

example : ∃ pkg, writePackageT demoFS demoTblBook = some pkg ∧
    (∀ part ∈ pkg, part.name ≠ "[Content_Types].xml" → (contentTypeOf pkg part.name).isSome = true) ∧
    (∀ part ∈ pkg, isRelsNameL part.name.toList = true →
      ∀ r ∈ relsOf pkg (String.ofList (relsSourceL part.name.toList)), r.external = false →
        (pkg.part? (resolveTarget (String.ofList (relsSourceL part.name.toList)) r.target)).isSome = true) := by
  obtain ⟨pkg, h⟩ := demoTblBook_written
  exact ⟨pkg, h, C02_tbl_content_types_cover _ _ pkg h, C02_tbl_package_rels_resolve _ _ pkg h⟩

/-- `C02_tbl_plain_same` applies: the same workbook with the tables removed -/
example : ∃ b : BookT demoFS.Num, b.sheets.length = 3 ∧ writePackageT demoFS b = writePackageC demoFS b.toC :=
  ⟨{ demoTblBook with sheets := demoTblBook.sheets.map (fun s => { s with tables := [] }) }, by decide,
   (C02_tbl_plain_same _ _ (by decide)).1⟩

end Umya.Thm.C02
