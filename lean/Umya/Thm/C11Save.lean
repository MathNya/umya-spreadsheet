/-
  C11 — saving a lazily opened workbook, for all histories from `lazyOpen x`: `x : Pkg` is the package that is
  opened (`Model/LazyPkg.lean`), `lazyOpen x` what `read_reader(.., false)` builds.  The invariant `Consistent x b`
  (`Lemmas/LazySaveCons.lean`) holds in every reachable state; the driver evaluates its Boolean form `consistent`
  on the state the implementation reports after every request.  From it: `C11_save`, the per-sheet statement about
  raw (never deserialized) sheets; what the writer manager does when a serialiser asks for a name while raw closures
  own names of the family (`C11_alloc_no_clash`, `C11_fixed_name_taken`); and `C11_save` composed with a sheet
  decoder that is local (`DecoderLocal`, `C11_untouched_decodes`).
-/
import Umya.Lemmas.LazySaveRaw
import Umya.Thm.C11
namespace Umya.Thm.C11
open Umya.Lazy

variable {C E : Type} (cd : Codec C E)

/-- Hypothesis `pkgOk x` (decidable, on the input package; `hygienic` of what `openRaw` records for every sheet part):
    the sheet part is not named like a relationships part or a workbook-level part; in its closure no relationship
    points to a part named like a sheet part, a relationships part or a workbook-level part, or to the sheet part
    itself; an external relationship carries no bytes; and every relationships part of the closure belongs to the
    sheet part or to a target. -/
theorem C11_lazyOpen_consistent (x : Pkg) (b0 : Book C) (hx : pkgOk x = true) (ho : lazyOpen x = some b0) :
    Consistent x b0 := lazyOpen_consistent hx ho

theorem C11_consistent_step (x : Pkg) (b : Book C) (op : Op E) (h : Consistent x b) : Consistent x (step cd b op).1 :=
  step_consistent cd x b op h

theorem C11_consistent_reachable (x : Pkg) (b0 : Book C) (hx : pkgOk x = true) (ho : lazyOpen x = some b0) (ops : List (Op E)) :
    Consistent x (run cd b0 ops) :=
  run_consistent cd x b0 ops (lazyOpen_consistent hx ho)

theorem C11_consistent_iff (x : Pkg) (b : Book C) :
    Consistent x b ↔ b.tables = x.tables ∧ ∀ s ∈ b.sheets, ∀ r, s.body = .raw r → FromPkg x r := consistent_iff x b

/-- the closure the reader records is complete: whatever relationships part `x` has next to a (non-external) target
    of the closure is in the closure as well -/
theorem C11_closure_complete (x : Pkg) (part : PName) (r : RawSheet) (h : openRaw x part = some r) :
    (readRelsPart x (.rels part) = some none ∧ r.closure = []) ∨
    ((∃ q0 ∈ r.closure, q0.name = .rels part) ∧
     ∀ q ∈ r.closure, ∀ r' ∈ q.rels, r'.ext = false →
       readRelsPart x (.rels r'.file) = some none ∨ ∃ q' ∈ r.closure, q'.name = .rels r'.file) := by
  have hcl := (openRaw_spec h).2.2
  rcases readClosure_top x hcl with ⟨a, b⟩ | ⟨q0, kids, a, b⟩
  · exact Or.inl ⟨a, b⟩
  · right
    refine ⟨⟨q0, by rw [b]; simp, readRelsPart_name a⟩, ?_⟩
    exact fun q hq => (readClosure_spec x hcl q hq).2

/-- For the package `x`, every history `ops` from `lazyOpen x`, in `save (run ops (lazyOpen x))`:
    names are unique; every position holds exactly its sheet part (raw bytes / serialised in-memory content, edits
    included), none beyond, workbook order; every relationship of every relationships part resolves; every
    relationships part sits next to a part (`relsHaveSource`); and for every still-raw sheet `r` at position `j`:
      * it is what the reader recorded for the sheet part `r.file` of `x`, and `sheet{j+1}.xml` holds the bytes `x`
        has under `r.file`;
      * `_rels/sheet{j+1}.xml.rels` is exactly the relationships part `x` has next to `r.file` (same resolved targets
        in the same order; absent iff `x` has none or one without relationships) — its own relationships, whatever other
        sheets were removed, added or renamed before, and whichever position it moved to;
      * every other relationships part of its closure that has a relationship is in the package under its original
        name with the relationships `x` has there, and every non-external target of every relationships part of the closure is in
        the package under its original name with the bytes `x` has there.
    Hypotheses: `pkgOk x` (name hygiene of the input); the profile hypothesis (a serialiser asks for no fixed name
    that looks like a sheet part or a relationships part); `SheetWritable` on the saved state (no zero-length related
    part in a raw closure: `RawFile::write_to` does not copy those; no target a serialiser names but fails to write). -/
theorem C11_save (x : Pkg) (b0 : Book C) (hx : pkgOk x = true) (ho : lazyOpen x = some b0) (ops : List (Op E))
    (hprof : ∀ s ∈ (run cd b0 ops).sheets, ∀ l, s.body = .loaded l → ∀ n ∈ profNames l.prof, NotSheet n ∧ isRelsName n = false)
    (hw : ∀ s ∈ (run cd b0 ops).sheets, SheetWritable s) :
    let b := run cd b0 ops
    let S := (save cd b).parts
    (S.map (·.1)).Nodup ∧
    ((∀ j s, b.sheets[j]? = some s → lookupPart S (.sheet (j + 1)) = some (expectedSheet s)) ∧
     (∀ k, b.sheets.length + 1 ≤ k → hasPart S (.sheet k) = false) ∧
     (save cd b).names = b.sheets.map (·.name)) ∧
    (∀ n ts, (n, Content.relsOf ts) ∈ S → ∀ t, some t ∈ ts → hasPart S t = true) ∧
    (∀ n, hasPart S (.rels n) = true → hasPart S n = true) ∧
    (∀ j s r, b.sheets[j]? = some s → s.body = .raw r →
      (r.file ∈ x.sheets.map (·.2) ∧ openRaw x r.file = some r) ∧
      (∃ p, x.get? r.file = some p ∧ lookupPart S (.sheet (j + 1)) = some (.bytes p.cid)) ∧
      lookupPart S (.rels (.sheet (j + 1))) = ownExpected x r.file ∧
      (∀ q ∈ r.closure, q.name ≠ .rels r.file → q.rels.isEmpty = false →
        readRelsPart x q.name = some (some q) ∧ lookupPart S q.name = some (.relsOf q.targets)) ∧
      (∀ q ∈ r.closure, ∀ r' ∈ q.rels, r'.ext = false →
        ∃ p', x.get? r'.file = some p' ∧ lookupPart S r'.file = some (.bytes p'.cid))) := by
  intro b S
  have hcons : Consistent x b := C11_consistent_reachable cd x b0 hx ho ops
  have hfrom : RawsFrom x b.sheets := ((consistent_iff x b).mp hcons).2
  have hprof2 := fun s hs l hl n hn => (hprof s hs l hl n hn).2
  have hrhs : RHS (loop2 (loop1 false ({} : WM C) 1 b.sheets) 1 b.sheets) :=
    loop2_rhs b.sheets 1 _ (loop1_rhs x b.sheets 1 hfrom hw)
      (fun j s hj => by rw [loop1_has]; exact hasPart_of_mem (sheet_mem_writes1 hj)) hprof2
  refine ⟨C11_save_names_unique cd b0 ops,
    C11_save_sheet_parts cd b0 ops (rawsOk_of_consistent x b hcons) (fun s hs l hl n hn => (hprof s hs l hl n hn).1),
    C11_save_resolves cd b0 ops hw, hrhs, fun j s r hj hb => ?_⟩
  -- the raw sheet: all of it is `save_raw_footprint`, `xLookup x` spelled out name by name
  have hf : FromPkg x r := hfrom.at hj hb
  have hy := hygienic_spec hf.hyg
  obtain ⟨h1, h2, h3⟩ := save_raw_footprint cd x b hcons hprof2 hw j s r hj hb
  refine ⟨⟨hf.sheetPart, hf.read⟩, ?_, h2, fun q hq hown hne => ?_, fun q hq r' hr' hx' => ?_⟩
  · obtain ⟨p, hp, _⟩ := hf.bytes
    exact ⟨p, hp, by rw [h1, xLookup_plain x r.file hy.fileNotRels, hp]; rfl⟩
  · obtain ⟨m, hm, hcase⟩ := hy.relsName q hq
    obtain ⟨_, hmt⟩ := hcase.resolve_left fun e2 => hown (e2 ▸ hm)
    have hs := hf.closure_sound q hq
    refine ⟨hs, ?_⟩
    rw [hm, (h3 m hmt).2]
    exact ownExpected_of_rels (hm ▸ hs) hne
  · obtain ⟨p', hp', _⟩ := hf.rel_bytes hq hr' hx'
    refine ⟨p', hp', ?_⟩
    rw [(h3 _ (mem_closureTargets.mpr ⟨q, hq, r', hr', hx', rfl⟩)).1,
      xLookup_plain x _ (targetOk_spec (hy.int q hq r' hr' hx')).2.1, hp']; rfl

/-- What happens when a serialiser asks for a numbered part (`add_file_at_drawing`, `_vml_drawing`, `_comment`, `_chart`,
    `_ole_object`, `_excel`, `_printer_settings`; table numbers skip taken names likewise) while raw closures own names of
    the family: all raw sheets are written in the first loop, so in every state `w` of the second loop every part of every
    raw closure is there; the index chosen is the smallest one ≥ 1 that names no part of `w` — hence never a name owned
    by a raw sheet's closure; and (relationship parts sitting next to parts, `RHS`) the relationships part written next
    to the new part is free as well.  Only the last conjunct uses `hext`; the first three hold of every `w`. -/
theorem C11_alloc_no_clash (b : Book C) (w : WM C) (hext : Ext (fun _ => True) (loop1 false ({} : WM C) 1 b.sheets) w) (f : Fam) :
    w.has (.fam f (w.firstFree f)) = false ∧
    (∀ k, 1 ≤ k → k < w.firstFree f → w.has (.fam f k) = true) ∧
    (RHS w → w.has (.rels (.fam f (w.firstFree f))) = false) ∧
    (∀ j s r, b.sheets[j]? = some s → s.body = .raw r →
      (∀ q ∈ r.closure, q.rels.isEmpty = false → relsTarget (1 + j) r q ≠ .fam f (w.firstFree f)) ∧
      (∀ q ∈ r.closure, ∀ r' ∈ q.rels, r'.empty = false → r'.file ≠ .fam f (w.firstFree f))) := by
  have hfree := firstFree_free w f
  refine ⟨hfree, firstFree_smallest w f, ?_, ?_⟩
  · intro hr
    apply eq_false_of_ne_true
    intro hh
    rw [hr _ hh] at hfree; cases hfree
  · intro j s r hj hb
    -- every request of the raw sheet is in the package after the first loop, hence in `w`
    have key : ∀ n c, (n, c) ∈ closureWrites (C := C) (1 + j) r → n ≠ .fam f (w.firstFree f) := fun n c h e => by
      have := hext.has_mono n (by rw [loop1_has]; exact hasPart_of_mem (raw_mem_writes1 hj hb h))
      rw [e, hfree] at this; cases this
    exact ⟨fun q hq hne => key _ _ (mem_closureWrites.mpr (Or.inl ⟨q, hq, hne, rfl, rfl⟩)),
      fun q hq r' hr' he => key _ _ (mem_closureWrites.mpr (Or.inr ⟨q, hq, r', hr', he, rfl, rfl⟩))⟩

/-- A part with a fixed name (media: `add_bin`) is different: the first writer of a name wins.  If the name is already
    there — e.g. owned by a raw sheet's closure, which is written in the first loop — the serialiser's bytes are dropped
    and the deserialized sheet's relationship resolves to the part that is there.  (Not excluded by the invariant: two
    sheets that name different pictures alike collide in the eager workbook as well; the harness counts it as inherited.) -/
theorem C11_fixed_name_taken (w : WM C) (n : PName) (h : w.has n = true) :
    (emitLeaf w (.fixed n)).1 = w ∧ (emitLeaf w (.fixed n)).2 = some n := by
  simp [emitLeaf, WM.add, h]

/-- the relationships part a deserialized sheet gets (`worksheet_rels::write`) is not one a raw sheet left there:
    after the first loop no `_rels/sheet{p}.xml.rels` exists at the position of a deserialized sheet -/
theorem C11_loaded_rels_fresh (x : Pkg) (b : Book C) (h : Consistent x b) (j : Nat) (s : Sheet C) (l : Loaded C)
    (hj : b.sheets[j]? = some s) (hb : s.body = .loaded l) :
    (loop1 false ({} : WM C) 1 b.sheets).has (.rels (.sheet (1 + j))) = false := by
  rw [loop1_has, hasPart_eq_isSome, lookup_own ((consistent_iff x b).mp h).2, hj]
  simp [ownOf, hb]

/-- an edit of sheet `i` after any history (the sheet is deserialized implicitly if it was raw) is in the saved
    package: `sheet{i+1}.xml` is the serialisation of the edited in-memory sheet -/
theorem C11_edits_present (x : Pkg) (b0 : Book C) (hx : pkgOk x = true) (ho : lazyOpen x = some b0) (ops : List (Op E))
    (i : Nat) (e : E) (s0 : Sheet C) (hi : (run cd b0 ops).sheets[i]? = some s0)
    (hprof : ∀ s ∈ (run cd b0 (ops ++ [.edit i e])).sheets, ∀ l, s.body = .loaded l → ∀ n ∈ profNames l.prof, NotSheet n) :
    ∃ l0, (materialise cd (run cd b0 ops).tables s0).body = .loaded l0 ∧
      lookupPart (save cd (run cd b0 (ops ++ [.edit i e]))).parts (.sheet (i + 1)) = some (.ser (cd.apply e l0).content) := by
  have hcons := C11_consistent_reachable cd x b0 hx ho (ops ++ [Op.edit i e])
  have hparts := C11_save_sheet_parts cd b0 (ops ++ [Op.edit i e]) (rawsOk_of_consistent x _ hcons) hprof
  have hlt : i < (run cd b0 ops).sheets.length := (List.getElem?_eq_some_iff.mp hi).1
  have hrun : run cd b0 (ops ++ [Op.edit i e]) = (step cd (run cd b0 ops) (.edit i e)).1 := by
    simp only [run, List.foldl_append, List.foldl_cons, List.foldl_nil]
  cases hm : (materialise cd (run cd b0 ops).tables s0).body with
  | raw r => exact absurd hm (body_ne_raw (materialise_notRaw cd _ _) _)
  | loaded l0 =>
    refine ⟨l0, rfl, ?_⟩
    have hs : (run cd b0 (ops ++ [Op.edit i e])).sheets[i]? = some (editSheet cd (run cd b0 ops).tables e s0) := by
      rw [hrun]
      simp only [step, hlt, if_true, modifyAt_getElem?, hi, Option.map_some]
    rw [hparts.1 i _ hs]
    simp only [expectedSheet, editSheet, hm]

/-- sheets A and B each have a drawing; both drawings use the same image `img`; B's drawing has a chart as well;
    A has an external hyperlink; C has nothing -/
def exPkg : Pkg :=
  { parts := [(.sheet 1, { cid := 1 }), (.sheet 2, { cid := 2 }), (.sheet 3, { cid := 3 }),
      (.rels (.sheet 1), { cid := 11, rels := [⟨false, .fam .drawing 1⟩, ⟨true, .other []⟩] }),
      (.rels (.sheet 2), { cid := 12, rels := [⟨false, .fam .drawing 2⟩] }),
      (.fam .drawing 1, { cid := 21 }), (.fam .drawing 2, { cid := 22 }),
      (.rels (.fam .drawing 1), { cid := 31, rels := [⟨false, .other ['i', 'm', 'g']⟩] }),
      (.rels (.fam .drawing 2), { cid := 32, rels := [⟨false, .other ['i', 'm', 'g']⟩, ⟨false, .fam .chart 1⟩] }),
      (.other ['i', 'm', 'g'], { cid := 40 }), (.fam .chart 1, { cid := 41 })]
    sheets := [(['A'], .sheet 1), (['B'], .sheet 2), (['C'], .sheet 3)]
    tables := { sst := [7, 8], xfs := [0] } }

def exOps : List (Op Nat) := [.removeSheet 0, .newSheet ['N'], .setName 0 ['Z'], .edit 1 5]

/-- the workbook `lazyOpen exPkg` builds (the open succeeds) -/
def exBook0 : Book Nat := (lazyOpen exPkg).get (by decide)

def relsAt (ps : List (PName × Content Nat)) (n : PName) : Option (List (Option PName)) :=
  match lookupPart ps n with
  | some (.relsOf ts) => some ts
  | _ => none

def bytesAt (ps : List (PName × Content Nat)) (n : PName) : Option Nat :=
  match lookupPart ps n with
  | some (.bytes c) => some c
  | _ => none

/-- the hypotheses of `C11_save` hold on it (`pkgOk`, `lazyOpen` succeeds, the closures overlap on `img`), and after the
    history remove + add + rename + edit the invariant holds and B — moved to position 1, renamed, never deserialized —
    has its own relationships next to `sheet1.xml`, its closure under the original names; the edited sheet C is serialised -/
example :
    pkgOk exPkg = true ∧ lazyOpen exPkg = some exBook0 ∧
    ((rawBodies exBook0.sheets).map (fun r => r.closure.map (·.name)) =
         [[.rels (.fam .drawing 1), .rels (.sheet 1)], [.rels (.fam .drawing 2), .rels (.sheet 2)], []] ∧
       consistent exPkg exBook0 = true ∧
       let b := run witnessCodec exBook0 exOps
       consistent exPkg b = true ∧
       b.sheets.map (fun s => (s.name, s.isRaw)) = [(['Z'], true), (['C'], false), (['N'], false)] ∧
       let S := (save witnessCodec b).parts
       bytesAt S (.sheet 1) = some 2 ∧
       relsAt S (.rels (.sheet 1)) = some [some (.fam .drawing 2)] ∧
       relsAt S (.rels (.fam .drawing 2)) = some [some (.other ['i', 'm', 'g']), some (.fam .chart 1)] ∧
       bytesAt S (.fam .drawing 2) = some 22 ∧ bytesAt S (.other ['i', 'm', 'g']) = some 40 ∧ bytesAt S (.fam .chart 1) = some 41 ∧
       hasPart S (.rels (.sheet 2)) = false ∧ hasPart S (.fam .drawing 1) = false ∧
       relsHaveSource S = true ∧ closedParts S = true) := by
  refine ⟨?hx, ?ho, by decide +kernel, C11_lazyOpen_consistent _ _ ?hx ?ho,
    C11_consistent_reachable witnessCodec _ _ ?hx ?ho exOps, by decide +kernel⟩
  · decide +kernel
  · exact (Option.some_get _).symm

/-- … and the remaining hypotheses of `C11_save` / `C11_untouched_decodes` (profile hygiene, `SheetWritable`) hold for that
    history, so the theorem applies to it -/
example :
    let b := run witnessCodec exBook0 exOps
    (∀ s ∈ b.sheets, ∀ l, s.body = .loaded l → ∀ n ∈ profNames l.prof, NotSheet n ∧ isRelsName n = false) ∧
    (∀ s ∈ b.sheets, SheetWritable s) := by
  have hs : ∀ s ∈ (run witnessCodec exBook0 exOps).sheets,
      (match s.body with
       | .raw r => r.closure.all (fun q => q.rels.all (fun r => r.ext || !r.empty))
       | .loaded l => l.prof.isEmpty) = true := by decide +kernel
  refine ⟨?_, ?_⟩
  · intro s h l hl n hn
    have := hs s h
    simp only [hl, List.isEmpty_iff] at this
    rw [this] at hn; simp [profNames] at hn
  · intro s h
    have := hs s h
    unfold SheetWritable
    cases hb : s.body with
    | raw r =>
      simp only [hb, List.all_eq_true, Bool.or_eq_true, Bool.not_eq_true'] at this
      intro q hq r' hr' hx
      rcases this q hq r' hr' with h1 | h1
      · rw [hx] at h1; cases h1
      · exact h1
    | loaded l =>
      simp only [hb, List.isEmpty_iff] at this
      intro x hx; rw [this] at hx; simp at hx

/-- with all three sheets raw both closures write `img`: the first writer wins, the content is the same -/
example :
      let S := (save witnessCodec exBook0).parts
      bytesAt S (.other ['i', 'm', 'g']) = some 40 ∧
      relsAt S (.rels (.sheet 1)) = some [some (.fam .drawing 1), none] ∧ relsAt S (.rels (.sheet 2)) = some [some (.fam .drawing 2)] ∧
      hasPart S (.rels (.sheet 3)) = false ∧ (S.map (·.1)).length = 11 := by
  decide +kernel

/-- a state that is not consistent: a raw sheet whose closure lost a relationships part (what a defective operation
    would leave behind) -/
example :
      consistent exPkg { exBook0 with sheets := exBook0.sheets.map (fun s => match s.body with
        | .raw r => { s with body := .raw { r with closure := r.closure.drop 1 } }
        | .loaded _ => s) } = false := by
  decide +kernel

/-- Locality of a sheet decoder `dec lookup tables part`: the result depends only on the sheet part, the
    relationships part next to it, the parts under a set of names `ns` that contains every target of those
    relationships and is closed under following relationships.  It does not depend on the workbook-level tables:
    `T` is any prefix of `T'`, the empty tables among them, and nothing says that `T` covers the indices the sheet uses,
    so a decoder that resolves a shared-string index is not local in this sense (`C11_decoder_local` has `SstCovers`
    for that).  The names `n`, `n'` are arbitrary, so a decoder that uses the name itself is not local either:
    `Spec.Sml.decodeSheet` resolves relative targets against the directory of the part, and the same trees under
    `xl/worksheets/sheet7.xml` and `xl/sheet7.xml` decode to different tables.  Decoders that only look contents up
    (`dec1` of `C11Local.lean`) are local; `C11_decoder_local` is the statement for `decodeSheet`. -/
def DecoderLocal {D : Type} (dec : (PName → Option (Content C)) → Tables → PName → D) : Prop :=
  ∀ (L L' : PName → Option (Content C)) (T T' : Tables) (n n' : PName) (ns : List PName),
    L n = L' n' → L (.rels n) = L' (.rels n') →
    (∀ m ∈ ns, L m = L' m ∧ L (.rels m) = L' (.rels m)) →
    (∀ ts, L (.rels n) = some (.relsOf ts) → ∀ t, some t ∈ ts → t ∈ ns) →
    (∀ m ∈ ns, ∀ ts, L (.rels m) = some (.relsOf ts) → ∀ t, some t ∈ ts → t ∈ ns) →
    T.sst <+: T'.sst → T.xfs <+: T'.xfs → T.dxfs <+: T'.dxfs →
    dec L T n = dec L' T' n'

/-- "Every sheet that was not edited has the same content as in the original", composed with the decoder: for every
    decoder that is local (`DecoderLocal`: it looks contents up and uses neither the part's name nor the tables), a sheet
    that is still raw when the workbook is saved decodes, in the saved package at its position, to exactly what its part
    decodes to in `x` — after any history. -/
theorem C11_untouched_decodes {D : Type} (dec : (PName → Option (Content C)) → Tables → PName → D) (hdec : DecoderLocal dec)
    (x : Pkg) (b0 : Book C) (hx : pkgOk x = true) (ho : lazyOpen x = some b0) (ops : List (Op E))
    (hprof : ∀ s ∈ (run cd b0 ops).sheets, ∀ l, s.body = .loaded l → ∀ n ∈ profNames l.prof, NotSheet n ∧ isRelsName n = false)
    (hw : ∀ s ∈ (run cd b0 ops).sheets, SheetWritable s) :
    let b := run cd b0 ops
    ∀ j s r, b.sheets[j]? = some s → s.body = .raw r →
      dec (lookupPart (save cd b).parts) (save cd b).tables (.sheet (j + 1)) = dec (xLookup x) x.tables r.file := by
  intro b j s r hj hb
  have hcons : Consistent x b := C11_consistent_reachable cd x b0 hx ho ops
  have hf : FromPkg x r := ((consistent_iff x b).mp hcons).2 s (List.mem_of_getElem? hj) r hb
  obtain ⟨h1, h2, h3⟩ := save_raw_footprint cd x b hcons (fun s hs l hl n hn => (hprof s hs l hl n hn).2) hw j s r hj hb
  have ht := C11_tables_only_grow cd b0 ops
  rw [(lazyOpen_spec ho).1] at ht
  symm
  -- `ns` is `closureTargets r`; the two closure obligations are `closure_rels_of`
  -- (the `show`s fix the implicit `C` of `ownExpected`)
  refine hdec (xLookup x) (lookupPart (save cd b).parts) x.tables (save cd b).tables r.file (.sheet (j + 1)) (closureTargets r)
    h1.symm h2.symm (fun m hm => ⟨(h3 m hm).1.symm, (h3 m hm).2.symm⟩) (fun ts h t ht => ?_) (fun m hm ts h t ht => ?_)
    (ht.2.1 (List.any_eq_true.mpr ⟨s, List.mem_of_getElem? hj, by simp [Sheet.isRaw, hb]⟩)) ht.2.2.1 ht.2.2.2
  · obtain ⟨q, hq, _, _, hc⟩ := closure_rels_of hf (Or.inl rfl) (show ownExpected (C := C) x r.file = some (.relsOf ts) from h)
    cases hc
    exact targets_closure hq ht
  · obtain ⟨q', hq', _, _, hc⟩ := closure_rels_of hf (Or.inr hm) (show ownExpected (C := C) x m = some (.relsOf ts) from h)
    cases hc
    exact targets_closure hq' ht

/-- `DecoderLocal` is satisfiable: a decoder that reads the sheet part, its relationships and every part they point to -/
example : DecoderLocal (C := Nat) (fun L _ n => (L n, L (.rels n),
    (match L (.rels n) with
     | some (.relsOf ts) => ts.map (fun t => match t with | some t => L t | none => none)
     | _ => []))) := by
  intro L L' T T' n n' ns h1 h2 h3 h4 _ _ _ _
  simp only [← h1, ← h2]
  refine congrArg _ (congrArg _ ?_)
  split
  · rename_i ts hr
    exact List.map_congr_left fun t ht => by
      cases t with
      | none => rfl
      | some t => exact (h3 t (h4 ts hr t ht)).1
  · rfl

end Umya.Thm.C11
