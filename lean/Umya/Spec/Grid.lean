/-
  Reference semantics of structural edits on a grid, written from the property text (C07), not
  from the Rust: a sheet is a function from (row, column) to optional content; inserting `n` lines
  at `p` moves everything at or beyond `p` by `n`; removing deletes the band `[p, p+n)` and moves
  everything beyond it back by `n`; an interval (one axis of a rectangle) that lies inside the
  band disappears, one that straddles it shrinks.
-/
namespace Umya.Spec.Grid

abbrev Grid (α : Type) := Nat → Nat → Option α      -- row → column → content

def insertRows {α} (g : Grid α) (p n : Nat) : Grid α :=
  fun r c => if r < p then g r c else if r < p + n then none else g (r - n) c

def insertCols {α} (g : Grid α) (p n : Nat) : Grid α :=
  fun r c => if c < p then g r c else if c < p + n then none else g r (c - n)

def removeRows {α} (g : Grid α) (p n : Nat) : Grid α :=
  fun r c => if r < p then g r c else g (r + n) c

def removeCols {α} (g : Grid α) (p n : Nat) : Grid α :=
  fun r c => if c < p then g r c else g r (c + n)

/-- the line of the old grid that is line `x` after the band `[p, p+n)` has been removed -/
def removeSrc (p n x : Nat) : Nat := if x < p then x else x + n

/-- the line of the old grid that is line `x` after `n` lines have been inserted at `p`;
    `none` for the inserted lines -/
def insertSrc (p n x : Nat) : Option Nat := if x < p then some x else if x < p + n then none else some (x - n)

theorem removeRows_apply {α} (g : Grid α) (p n r c : Nat) : removeRows g p n r c = g (removeSrc p n r) c := by
  unfold removeRows removeSrc; split <;> rfl

theorem removeCols_apply {α} (g : Grid α) (p n r c : Nat) : removeCols g p n r c = g r (removeSrc p n c) := by
  unfold removeCols removeSrc; split <;> rfl

theorem insertRows_apply {α} (g : Grid α) (p n r c : Nat) :
    insertRows g p n r c = (insertSrc p n r).bind (g · c) := by
  unfold insertRows insertSrc; split <;> (try split) <;> rfl

theorem insertCols_apply {α} (g : Grid α) (p n r c : Nat) :
    insertCols g p n r c = (insertSrc p n c).bind (g r ·) := by
  unfold insertCols insertSrc; split <;> (try split) <;> rfl

theorem removeSrc_zero (p x : Nat) : removeSrc p 0 x = x := by
  unfold removeSrc; split <;> rfl

theorem insertSrc_zero (p x : Nat) : insertSrc p 0 x = some x := by
  unfold insertSrc; split
  · rfl
  · rw [if_neg (by omega)]; rfl

theorem removeRows_zero {α} (g : Grid α) (p : Nat) : removeRows g p 0 = g := by
  funext r c; rw [removeRows_apply, removeSrc_zero]

theorem removeCols_zero {α} (g : Grid α) (p : Nat) : removeCols g p 0 = g := by
  funext r c; rw [removeCols_apply, removeSrc_zero]

theorem insertRows_zero {α} (g : Grid α) (p : Nat) : insertRows g p 0 = g := by
  funext r c; rw [insertRows_apply, insertSrc_zero]; rfl

theorem insertCols_zero {α} (g : Grid α) (p : Nat) : insertCols g p 0 = g := by
  funext r c; rw [insertCols_apply, insertSrc_zero]; rfl

theorem insertSrc_removeSrc (p n x : Nat) : insertSrc p n (removeSrc p n x) = some x := by
  unfold insertSrc removeSrc
  by_cases h : x < p
  · rw [if_pos h, if_pos h]
  · rw [if_neg h, if_neg (by omega), if_neg (by omega), Nat.add_sub_cancel]

theorem removeRows_insertRows {α} (g : Grid α) (p n : Nat) : removeRows (insertRows g p n) p n = g := by
  funext r c
  rw [removeRows_apply, insertRows_apply, insertSrc_removeSrc]; rfl

theorem removeCols_insertCols {α} (g : Grid α) (p n : Nat) : removeCols (insertCols g p n) p n = g := by
  funext r c
  rw [removeCols_apply, insertCols_apply, insertSrc_removeSrc]; rfl

theorem removeRows_insertCols {α} (g : Grid α) (p n q m : Nat) :
    removeRows (insertCols g q m) p n = insertCols (removeRows g p n) q m := by
  funext r c
  rw [removeRows_apply, insertCols_apply, insertCols_apply]
  simp only [removeRows_apply]

/-- one axis `[a, b]` of a rectangle after inserting `n` lines at `p` -/
def intervalInsert (a b p n : Nat) : Nat × Nat :=
  (if a ≥ p then a + n else a, if b ≥ p then b + n else b)

/-- one axis `[a, b]` of a rectangle after removing the band `[p, p+n)`; `none` = it lay inside -/
def intervalRemove (a b p n : Nat) : Option (Nat × Nat) :=
  if (p ≤ a ∧ a < p + n) ∧ (p ≤ b ∧ b < p + n) then none
  else some (if a < p then a else if a < p + n then p else a - n,
             if b < p then b else if b < p + n then p - 1 else b - n)

theorem intervalRemove_zero (a b p : Nat) : intervalRemove a b p 0 = some (a, b) := by
  unfold intervalRemove
  rw [if_neg (by omega)]
  by_cases ha : a < p <;> by_cases hb : b < p <;> simp only [ha, hb, if_true, if_false, Nat.add_zero, Nat.sub_zero]

theorem intervalRemove_start_le (a p n x : Nat) :
    (if a < p then a else if a < p + n then p else a - n) ≤ x ↔ a ≤ removeSrc p n x := by
  unfold removeSrc
  by_cases h1 : a < p
  · rw [if_pos h1]; split <;> omega
  · rw [if_neg h1]
    by_cases h2 : a < p + n
    · rw [if_pos h2]; split <;> omega
    · rw [if_neg h2]; split <;> omega

theorem intervalRemove_le_end (b p n x : Nat) (hp : 1 ≤ p) :
    x ≤ (if b < p then b else if b < p + n then p - 1 else b - n) ↔ removeSrc p n x ≤ b := by
  unfold removeSrc
  by_cases h1 : b < p
  · rw [if_pos h1]; split <;> omega
  · rw [if_neg h1]
    by_cases h2 : b < p + n
    · rw [if_pos h2]; split <;> omega
    · rw [if_neg h2]; split <;> omega

theorem removeSrc_outside (p n x : Nat) : ¬ (p ≤ removeSrc p n x ∧ removeSrc p n x < p + n) := by
  unfold removeSrc; split <;> omega

/-- a line outside the band is the source of exactly one position: its own image -/
theorem removeSrc_eq_iff {p n y : Nat} (h : ¬ (p ≤ y ∧ y < p + n)) (x : Nat) :
    removeSrc p n x = y ↔ x = if y < p then y else y - n := by
  unfold removeSrc; split <;> split <;> omega

/-- the surviving interval is exactly the image of the surviving lines of `[a, b]` -/
theorem intervalRemove_spec (a b p n : Nat) (hab : a ≤ b) (hp : 1 ≤ p) (x : Nat) :
    (∃ y, a ≤ y ∧ y ≤ b ∧ ¬ (p ≤ y ∧ y < p + n) ∧ x = (if y < p then y else y - n)) ↔
    (∃ i, intervalRemove a b p n = some i ∧ i.1 ≤ x ∧ x ≤ i.2) := by
  unfold intervalRemove
  by_cases hin : (p ≤ a ∧ a < p + n) ∧ (p ≤ b ∧ b < p + n)
  · rw [if_pos hin]
    constructor
    · rintro ⟨y, h1, h2, h3, -⟩; omega
    · rintro ⟨i, hi, -⟩; cases hi
  · rw [if_neg hin]
    constructor
    · rintro ⟨y, h1, h2, h3, hx⟩
      have hy := (removeSrc_eq_iff h3 x).2 hx
      exact ⟨_, rfl, (intervalRemove_start_le a p n x).2 (hy ▸ h1), (intervalRemove_le_end b p n x hp).2 (hy ▸ h2)⟩
    · rintro ⟨i, hi, h1, h2⟩
      cases hi
      have ho := removeSrc_outside p n x
      exact ⟨_, (intervalRemove_start_le a p n x).1 h1, (intervalRemove_le_end b p n x hp).1 h2, ho,
        (removeSrc_eq_iff ho x).1 rfl⟩

/-! ## moving / copying a rectangle (written from the property text)

  "Moving a range leaves the source rectangle empty and the destination rectangle holding exactly
  the source cells (value, style and formula text as they were) at their translated positions,
  while copying keeps the source and places every non-blank source cell at its translated
  position."  A position is *blank* when the grid holds nothing there (`none`). -/

/-- the rectangle rows `rs..re` × columns `cs..ce` (inclusive) -/
structure Rect where
  rs : Nat
  re : Nat
  cs : Nat
  ce : Nat
  deriving Repr, DecidableEq

/-- `(r, c)` lies in the rectangle (integers, so that pre-images under a negative offset can be asked) -/
def Rect.has (ρ : Rect) (r c : Int) : Prop :=
  (ρ.rs : Int) ≤ r ∧ r ≤ (ρ.re : Int) ∧ (ρ.cs : Int) ≤ c ∧ c ≤ (ρ.ce : Int)

instance (ρ : Rect) (r c : Int) : Decidable (ρ.has r c) := by unfold Rect.has; exact inferInstance

/-- `(r, c)` lies in the destination rectangle `ρ + (dr, dc)`: its pre-image lies in `ρ` -/
def Rect.hasImage (ρ : Rect) (dr dc : Int) (r c : Nat) : Prop := ρ.has ((r : Int) - dr) ((c : Int) - dc)

instance (ρ : Rect) (dr dc : Int) (r c : Nat) : Decidable (ρ.hasImage dr dc r c) := by
  unfold Rect.hasImage; exact inferInstance

/-- the grid limits of the file format -/
def maxRow : Nat := 1048576
def maxCol : Nat := 16384

/-- in-range arguments of a move / copy: a non-empty rectangle inside the grid whose image under
    the offset `(dr, dc)` is inside the grid as well -/
def InRange (ρ : Rect) (dr dc : Int) : Prop :=
  1 ≤ ρ.rs ∧ ρ.rs ≤ ρ.re ∧ ρ.re ≤ maxRow ∧ 1 ≤ ρ.cs ∧ ρ.cs ≤ ρ.ce ∧ ρ.ce ≤ maxCol ∧
  1 ≤ (ρ.rs : Int) + dr ∧ (ρ.re : Int) + dr ≤ (maxRow : Int) ∧
  1 ≤ (ρ.cs : Int) + dc ∧ (ρ.ce : Int) + dc ≤ (maxCol : Int)

instance (ρ : Rect) (dr dc : Int) : Decidable (InRange ρ dr dc) := by unfold InRange; exact inferInstance

/-- Move: every position of the destination rectangle takes what the source held at the pre-image
    (a blank source position makes the destination position blank); a position of the source
    rectangle outside the destination becomes blank; everything else is unchanged.
    Source and destination may overlap. -/
def moveRect {α} (g : Grid α) (ρ : Rect) (dr dc : Int) : Grid α :=
  fun r c =>
    if ρ.hasImage dr dc r c then g ((r : Int) - dr).toNat ((c : Int) - dc).toNat
    else if ρ.has r c then none
    else g r c

/-- Copy: every non-blank source cell overwrites its image; under a blank source position the
    destination keeps what it had; everything outside the destination (the source included) is
    unchanged.  The source content is read before anything is written (overlap included). -/
def copyRect {α} (g : Grid α) (ρ : Rect) (dr dc : Int) : Grid α :=
  fun r c =>
    if ρ.hasImage dr dc r c then
      match g ((r : Int) - dr).toNat ((c : Int) - dc).toNat with
      | some x => some x
      | none => g r c
    else g r c

end Umya.Spec.Grid
