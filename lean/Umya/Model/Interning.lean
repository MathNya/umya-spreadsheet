/-
  Find-or-append ("interning") on a list, as done by every table of the style sheet
  (`Fonts::set_style`, `Fills::set_style`, `BordersCrate::set_style`, `NumberingFormats::set_style`)
  and by the shared-string table:

      let mut id = 0;
      for e in &self.table { if <e matches x> { return id; } id += 1; }
      self.table.push(x.clone()); id

  `internBy m t x` is that loop for an arbitrary match predicate `m x e`.
  * `internEq`  — the predicate is `e = x`            (the tables AFTER fix_1 of C05, commit 76f6c24: `font == v`)
  * `internKey` — the predicate is `key e = key x`    (the tables BEFORE that fix: md5 of a concatenation
                   of the field texts; number formats are keyed so after it as well, key = md5 of the code)
  Core Lean only.
-/
namespace Umya.Interning

variable {α : Type}

/-- index of the first element satisfying `p` (the `for … { if … return id; id += 1 }` loop) -/
def find (p : α → Bool) : List α → Option Nat
  | [] => none
  | a :: l => if p a then some 0 else (find p l).map (· + 1)

/-- find-or-append with match predicate `m x e` ("entry `e` matches the value `x` looked for") -/
def internBy (m : α → α → Bool) (t : List α) (x : α) : List α × Nat :=
  match find (m x) t with
  | some i => (t, i)
  | none => (t ++ [x], t.length)

/-- look-up by equality of the components (`font == v`) -/
def internEq [DecidableEq α] (t : List α) (x : α) : List α × Nat :=
  internBy (fun x e => decide (e = x)) t x

/-- look-up by equality of a key (`e.get_hash_code() == x.get_hash_code()`) -/
def internKey {κ : Type} [DecidableEq κ] (key : α → κ) (t : List α) (x : α) : List α × Nat :=
  internBy (fun x e => decide (key e = key x)) t x

/-- intern a whole sequence, left to right; returns the final table and the index given to each element -/
def internAll (m : α → α → Bool) : List α → List α → List α × List Nat
  | t, [] => (t, [])
  | t, x :: xs =>
    let r := internBy m t x
    let r' := internAll m r.1 xs
    (r'.1, r.2 :: r'.2)

/-- the loop is the library's `List.findIdx?` -/
theorem find_eq_findIdx? (p : α → Bool) : ∀ l : List α, find p l = l.findIdx? p
  | [] => rfl
  | a :: l => by rw [find, List.findIdx?_cons, find_eq_findIdx? p l]

theorem find_some {p : α → Bool} : ∀ {l : List α} {i : Nat}, find p l = some i →
    ∃ a, l[i]? = some a ∧ p a = true := by
  intro l i h
  obtain ⟨hi, hp, _⟩ := List.findIdx?_eq_some_iff_getElem.1 (find_eq_findIdx? p l ▸ h)
  exact ⟨l[i], List.getElem?_eq_getElem hi, hp⟩

theorem find_none {p : α → Bool} : ∀ {l : List α}, find p l = none → ∀ a ∈ l, p a = false :=
  fun {l} h => List.findIdx?_eq_none_iff.1 (find_eq_findIdx? p l ▸ h)

theorem find_append_of_some {p : α → Bool} : ∀ {l : List α} {i : Nat} (l' : List α),
    find p l = some i → find p (l ++ l') = some i := by
  intro l i l' h
  rw [find_eq_findIdx?] at h ⊢
  rw [List.findIdx?_append, h, Option.some_or]

theorem find_append_of_none {p : α → Bool} : ∀ {l : List α} (x : α),
    find p l = none → p x = true → find p (l ++ [x]) = some l.length := by
  intro l x h hx
  rw [find_eq_findIdx?] at h ⊢
  simp [List.findIdx?_append, h, List.findIdx?_cons, hx]

section one
variable (m : α → α → Bool) (t : List α) (x : α)

theorem internBy_prefix : ∃ l, (internBy m t x).1 = t ++ l ∧ l.length ≤ 1 := by
  unfold internBy
  cases find (m x) t with
  | some i => exact ⟨[], by simp, by simp⟩
  | none => exact ⟨[x], rfl, by simp⟩

theorem internBy_get_old {i : Nat} (h : i < t.length) : (internBy m t x).1[i]? = t[i]? := by
  obtain ⟨l, hl, _⟩ := internBy_prefix m t x
  rw [hl, List.getElem?_append_left h]

theorem internBy_length_le : t.length ≤ (internBy m t x).1.length := by
  obtain ⟨l, hl, _⟩ := internBy_prefix m t x
  rw [hl]; simp

theorem internBy_get : ∃ e, (internBy m t x).1[(internBy m t x).2]? = some e ∧ (e = x ∨ m x e = true) := by
  unfold internBy
  cases h : find (m x) t with
  | some i =>
    obtain ⟨a, ha, hp⟩ := find_some h
    exact ⟨a, ha, Or.inr hp⟩
  | none => exact ⟨x, by simp, Or.inl rfl⟩

theorem internBy_lt : (internBy m t x).2 < (internBy m t x).1.length := by
  obtain ⟨e, he, _⟩ := internBy_get m t x
  exact (List.getElem?_eq_some_iff.mp he).1

theorem internBy_of_find {i : Nat} (h : find (m x) t = some i) : internBy m t x = (t, i) := by
  simp [internBy, h]

theorem internBy_idem (hrefl : m x x = true) :
    internBy m (internBy m t x).1 x = internBy m t x := by
  cases h : find (m x) t with
  | some i => simp [internBy, h]
  | none =>
    have h2 := find_append_of_none (p := m x) x h hrefl
    simp [internBy, h, h2]

theorem internBy_idem_length (hrefl : m x x = true) :
    (internBy m (internBy m t x).1 x).1.length = (internBy m t x).1.length := by
  rw [internBy_idem m t x hrefl]

end one

/-- no-merge, two values: when the returned index always denotes the value itself, interning `x` and then `y ≠ x`
    gives two different indices — the index of `x` keeps denoting `x` in the second table -/
theorem internBy_no_merge (m : α → α → Bool) (hget : ∀ t x, (internBy m t x).1[(internBy m t x).2]? = some x)
    (t : List α) (x y : α) (hxy : x ≠ y) : (internBy m t x).2 ≠ (internBy m (internBy m t x).1 y).2 := by
  intro h
  have hy := hget (internBy m t x).1 y
  rw [← h, internBy_get_old m _ y (internBy_lt m t x), hget t x] at hy
  exact hxy (Option.some.inj hy)

/-! ### equality-based look-up (the tables after the fix): unconditional -/

section eq
variable [DecidableEq α] (t : List α) (x : α)

theorem find_eq_some {t : List α} {x : α} {i : Nat} (h : find (fun e => decide (e = x)) t = some i) : t[i]? = some x := by
  obtain ⟨a, ha, hp⟩ := find_some h
  rw [ha, of_decide_eq_true hp]

theorem find_eq_none {t : List α} {x : α} : find (fun e => decide (e = x)) t = none ↔ x ∉ t := by
  rw [find_eq_findIdx?, List.findIdx?_eq_none_iff]
  exact ⟨fun h hx => by simpa using h x hx, fun h y hy => decide_eq_false fun e => h (e ▸ hy)⟩

theorem internEq_get : (internEq t x).1[(internEq t x).2]? = some x := by
  obtain ⟨e, he, h⟩ := internBy_get (fun x e => decide (e = x)) t x
  rcases h with rfl | h
  · exact he
  · exact he.trans (congrArg some (of_decide_eq_true h))

theorem internEq_ext : ∃ ext, (internEq t x).1 = t ++ ext ∧ ∀ y ∈ ext, y = x ∧ x ∉ t := by
  unfold internEq internBy
  cases h : find (fun e => decide (e = x)) t with
  | some i => exact ⟨[], (List.append_nil t).symm, fun _ hy => nomatch hy⟩
  | none => exact ⟨[x], rfl, fun y hy => ⟨List.mem_singleton.1 hy, find_eq_none.1 h⟩⟩

theorem internEq_mem (y : α) : y ∈ (internEq t x).1 ↔ y ∈ t ∨ y = x := by
  unfold internEq internBy
  cases h : find (fun e => decide (e = x)) t with
  | some i =>
    have hx : x ∈ t := List.mem_of_getElem? (find_eq_some h)
    exact ⟨Or.inl, fun hy => hy.elim id fun e => e ▸ hx⟩
  | none => exact List.mem_append.trans (or_congr_right List.mem_singleton)

theorem internEq_nodup (h : t.Nodup) : (internEq t x).1.Nodup := by
  unfold internEq internBy
  cases hf : find (fun e => decide (e = x)) t with
  | some i => exact h
  | none =>
    refine List.nodup_append.2 ⟨h, List.nodup_cons.2 ⟨List.not_mem_nil, List.nodup_nil⟩, fun a ha b hb => ?_⟩
    rw [List.mem_singleton.1 hb]
    exact fun e => find_eq_none.1 hf (e ▸ ha)

theorem internEq_get_old {i : Nat} (h : i < t.length) : (internEq t x).1[i]? = t[i]? :=
  internBy_get_old _ t x h

theorem internEq_idem : internEq (internEq t x).1 x = internEq t x :=
  internBy_idem _ t x (by simp)

theorem internEq_no_merge (y : α) (hxy : x ≠ y) :
    (internEq t x).2 ≠ (internEq (internEq t x).1 y).2 :=
  internBy_no_merge _ internEq_get t x y hxy

end eq

/-! ### key-based look-up: correct exactly when the key is injective -/

section key
variable {κ : Type} [DecidableEq κ] (key : α → κ) (t : List α) (x : α)

theorem internKey_get_key : ∃ e, (internKey key t x).1[(internKey key t x).2]? = some e ∧ key e = key x := by
  obtain ⟨e, he, h⟩ := internBy_get (fun x e => decide (key e = key x)) t x
  refine ⟨e, he, ?_⟩
  rcases h with rfl | h
  · rfl
  · simpa using h

theorem internKey_get (hinj : ∀ a b, key a = key b → a = b) :
    (internKey key t x).1[(internKey key t x).2]? = some x := by
  obtain ⟨e, he, hk⟩ := internKey_get_key key t x
  rw [he, hinj e x hk]

theorem internKey_idem : internKey key (internKey key t x).1 x = internKey key t x :=
  internBy_idem _ t x (by simp)

theorem internKey_no_merge (hinj : ∀ a b, key a = key b → a = b) (y : α) (hxy : x ≠ y) :
    (internKey key t x).2 ≠ (internKey key (internKey key t x).1 y).2 :=
  internBy_no_merge _ (fun t x => internKey_get key t x hinj) t x y hxy

/-- without injectivity the key-based table merges: a different value with the same key is not added,
    it is given the index of an entry that was already there -/
theorem internKey_merges (y : α) (hk : key x = key y) :
    (internKey key (internKey key t x).1 y).1 = (internKey key t x).1 ∧
    (internKey key (internKey key t x).1 y).2 < (internKey key t x).1.length := by
  obtain ⟨e, he, hke⟩ := internKey_get_key key t x
  have hmem : e ∈ (internKey key t x).1 := List.mem_of_getElem? he
  cases hf : find (fun e => decide (key e = key y)) (internKey key t x).1 with
  | some i =>
    have h2 : internKey key (internKey key t x).1 y = ((internKey key t x).1, i) :=
      internBy_of_find (fun x e => decide (key e = key x)) _ _ hf
    rw [h2]
    obtain ⟨a, ha, _⟩ := find_some hf
    exact ⟨rfl, (List.getElem?_eq_some_iff.mp ha).1⟩
  | none =>
    have := find_none hf e hmem
    simp [hke, hk] at this

end key

section all
variable (m : α → α → Bool)

theorem internAll_length : ∀ (xs t : List α), (internAll m t xs).2.length = xs.length
  | [], _ => rfl
  | x :: xs, t => by simp [internAll, internAll_length xs]

theorem internAll_prefix : ∀ (xs t : List α), ∃ l, (internAll m t xs).1 = t ++ l
  | [], t => ⟨[], by simp [internAll]⟩
  | x :: xs, t => by
    obtain ⟨l1, h1, _⟩ := internBy_prefix m t x
    obtain ⟨l2, h2⟩ := internAll_prefix xs (internBy m t x).1
    refine ⟨l1 ++ l2, ?_⟩
    simp only [internAll]
    rw [h2, h1, List.append_assoc]

theorem internAll_get_old (xs t : List α) {i : Nat} (h : i < t.length) :
    (internAll m t xs).1[i]? = t[i]? := by
  obtain ⟨l, hl⟩ := internAll_prefix m xs t
  rw [hl, List.getElem?_append_left h]

theorem internAll_get : ∀ (xs t : List α) (k : Nat) (x : α), xs[k]? = some x →
    ∃ i e, (internAll m t xs).2[k]? = some i ∧ (internAll m t xs).1[i]? = some e ∧ (e = x ∨ m x e = true)
  | [], _, k, x, h => by simp at h
  | y :: ys, t, 0, x, h => by
    have hx : y = x := by simpa using h
    subst hx
    obtain ⟨e, he, hm⟩ := internBy_get m t y
    refine ⟨(internBy m t y).2, e, by simp [internAll], ?_, hm⟩
    have hlt := internBy_lt m t y
    simp only [internAll]
    rw [internAll_get_old m ys _ hlt]; exact he
  | y :: ys, t, k + 1, x, h => by
    have h' : ys[k]? = some x := by simpa using h
    obtain ⟨i, e, hi, he, hm⟩ := internAll_get ys (internBy m t y).1 k x h'
    exact ⟨i, e, by simpa [internAll] using hi, by simpa [internAll] using he, hm⟩

end all

/-! ### a whole insertion sequence under equality look-up

A table of the library that a save fills by find-or-append (shared strings, dxf styles) is `(internAllEq t xs).1` for
the sequence `xs` of the values registered, in writing order; the writers' own loops are tied to it where they stand. -/

section allEq
variable [DecidableEq α]

abbrev internAllEq (t xs : List α) : List α × List Nat := internAll (fun x e => decide (e = x)) t xs

theorem internAllEq_cons (t : List α) (x : α) (xs : List α) :
    (internAllEq t (x :: xs)).1 = (internAllEq (internEq t x).1 xs).1 := rfl

theorem internAllEq_append : ∀ (a t b : List α), (internAllEq t (a ++ b)).1 = (internAllEq (internAllEq t a).1 b).1
  | [], _, _ => rfl
  | x :: a, t, b => internAllEq_append a (internEq t x).1 b

theorem internAllEq_ext : ∀ (xs t : List α), ∃ ext, (internAllEq t xs).1 = t ++ ext ∧ ∀ y ∈ ext, y ∈ xs ∧ y ∉ t
  | [], t => ⟨[], (List.append_nil t).symm, fun _ h => nomatch h⟩
  | x :: xs, t => by
    obtain ⟨e1, h1, n1⟩ := internEq_ext t x
    obtain ⟨e2, h2, n2⟩ := internAllEq_ext xs (internEq t x).1
    refine ⟨e1 ++ e2, by rw [internAllEq_cons, h2, h1, List.append_assoc], fun y hy => ?_⟩
    rcases List.mem_append.1 hy with hy | hy
    · obtain ⟨rfl, hn⟩ := n1 y hy
      exact ⟨List.mem_cons_self .., hn⟩
    · exact ⟨List.mem_cons_of_mem _ (n2 y hy).1, fun hyt => (n2 y hy).2 (h1 ▸ List.mem_append_left _ hyt)⟩

theorem internAllEq_mem : ∀ (xs t : List α) (y : α), y ∈ (internAllEq t xs).1 ↔ y ∈ t ∨ y ∈ xs
  | [], t, y => by simp [internAllEq, internAll]
  | x :: xs, t, y => by
    rw [internAllEq_cons, internAllEq_mem xs, internEq_mem, List.mem_cons, or_assoc]

theorem internAllEq_nodup : ∀ (xs t : List α), t.Nodup → (internAllEq t xs).1.Nodup
  | [], _, h => h
  | x :: xs, t, h => internAllEq_nodup xs _ (internEq_nodup t x h)

theorem internAllEq_absorb (xs t : List α) (h : ∀ x ∈ xs, x ∈ t) : (internAllEq t xs).1 = t := by
  obtain ⟨ext, he, hn⟩ := internAllEq_ext xs t
  cases ext with
  | nil => rw [he, List.append_nil]
  | cons y _ => exact absurd (h y (hn y (List.mem_cons_self ..)).1) (hn y (List.mem_cons_self ..)).2

theorem internAllEq_twice (xs t : List α) : (internAllEq (internAllEq t xs).1 xs).1 = (internAllEq t xs).1 :=
  internAllEq_absorb xs _ fun x hx => (internAllEq_mem xs t x).2 (Or.inr hx)

theorem internAllEq_get (xs t : List α) (k : Nat) (x : α) (h : xs[k]? = some x) :
    ∃ i, (internAllEq t xs).2[k]? = some i ∧ (internAllEq t xs).1[i]? = some x := by
  obtain ⟨i, e, hi, he, hm⟩ := internAll_get (fun x e => decide (e = x)) xs t k x h
  exact ⟨i, hi, (hm.elim id of_decide_eq_true) ▸ he⟩

end allEq

/-- no-merge for any order of insertion and any table size (equality-based look-up):
    two positions of the sequence that hold different values were given different indices -/
theorem internAll_no_merge [DecidableEq α] (t xs : List α) (k l : Nat) (x y : α)
    (hk : xs[k]? = some x) (hl : xs[l]? = some y) (hxy : x ≠ y) :
    (internAll (fun x e => decide (e = x)) t xs).2[k]? ≠ (internAll (fun x e => decide (e = x)) t xs).2[l]? := by
  obtain ⟨i, hi, he⟩ := internAllEq_get xs t k x hk
  obtain ⟨j, hj, hf⟩ := internAllEq_get xs t l y hl
  intro hEq
  rw [hi, hj] at hEq
  cases Option.some.inj hEq
  exact hxy (Option.some.inj (he.symm.trans hf))

end Umya.Interning
