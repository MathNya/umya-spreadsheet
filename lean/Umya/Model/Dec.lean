/-
  Decimal text of naturals, as `List Char`.

  Models Rust's `u32`/`usize` `Display` (`format!("{}", n)`) and `str::parse::<u32>()`
  restricted to ASCII digit strings (the only strings the modelled code ever parses:
  the coordinate regex only hands `[0-9]+` to `parse`).
-/
namespace Umya.Dec

def digitChar : Nat → Char
  | 0 => '0' | 1 => '1' | 2 => '2' | 3 => '3' | 4 => '4'
  | 5 => '5' | 6 => '6' | 7 => '7' | 8 => '8' | _ => '9'

def isDigit (c : Char) : Bool := c.toNat ≥ 48 && c.toNat ≤ 57

def digitVal (c : Char) : Nat := c.toNat - 48

/-- Shortest decimal text of `n` (`0 ↦ "0"`), most significant digit first. -/
def decDigits (n : Nat) : List Char :=
  if n < 10 then [digitChar n] else decDigits (n / 10) ++ [digitChar (n % 10)]
termination_by n
decreasing_by omega

/-- Value of a digit string (no validation; callers check `all isDigit`). -/
def parseDec (cs : List Char) : Nat := cs.foldl (fun a c => 10 * a + digitVal c) 0

/-- `str::parse::<u32>()` on a non-empty ASCII digit string: `none` on overflow. -/
def parseU32 (cs : List Char) : Option Nat :=
  if cs.isEmpty then none
  else if cs.all isDigit then
    let v := parseDec cs
    if v < 4294967296 then some v else none
  else none

theorem digitVal_digitChar (d : Nat) (h : d < 10) : digitVal (digitChar d) = d := by
  have : ∀ d : Fin 10, digitVal (digitChar d.val) = d.val := by decide
  exact this ⟨d, h⟩

theorem isDigit_digitChar (d : Nat) : isDigit (digitChar d) = true := by
  unfold digitChar
  split <;> decide

theorem parseDec_append_single (xs : List Char) (c : Char) :
    parseDec (xs ++ [c]) = 10 * parseDec xs + digitVal c := by
  simp [parseDec, List.foldl_append]

theorem parseDec_decDigits (n : Nat) : parseDec (decDigits n) = n := by
  induction n using Nat.strongRecOn with
  | _ n ih =>
    rw [decDigits]
    split
    · rename_i h; simp [parseDec, digitVal_digitChar n h]
    · rename_i h
      rw [parseDec_append_single, ih (n / 10) (by omega), digitVal_digitChar _ (by omega)]
      omega

theorem decDigits_injective {a b : Nat} (h : decDigits a = decDigits b) : a = b := by
  rw [← parseDec_decDigits a, h, parseDec_decDigits]

/-- `parseDec_decDigits` with the fold written out, as the decoders of `Umya/Spec` have it -/
theorem foldl_decDigits (n : Nat) : (decDigits n).foldl (fun a c => 10 * a + (c.toNat - 48)) 0 = n :=
  parseDec_decDigits n

/-- What holds of the ten digit characters holds of every character of a numeral. -/
theorem decDigits_forall (P : Char → Prop) (h : ∀ d < 10, P (digitChar d)) (n : Nat) : ∀ c ∈ decDigits n, P c := by
  induction n using Nat.strongRecOn with
  | _ n ih =>
    rw [decDigits]
    split
    · rename_i hn
      intro c hc; rw [List.mem_singleton.1 hc]; exact h n hn
    · intro c hc
      rcases List.mem_append.1 hc with hc | hc
      · exact ih (n / 10) (by omega) c hc
      · rw [List.mem_singleton.1 hc]; exact h _ (by omega)

theorem isDigit_of_mem_decDigits {n : Nat} {c : Char} (h : c ∈ decDigits n) : isDigit c = true :=
  decDigits_forall (isDigit · = true) (fun d _ => isDigit_digitChar d) n c h

theorem decDigits_all_digit (n : Nat) : (decDigits n).all isDigit = true :=
  List.all_eq_true.2 fun _ => isDigit_of_mem_decDigits

/-- a character class that contains the ten digit characters (a finite check) contains every character of a numeral -/
theorem decDigits_all {p : Char → Bool} (hp : ∀ d < 10, p (digitChar d) = true) (n : Nat) :
    (decDigits n).all p = true :=
  List.all_eq_true.2 (decDigits_forall _ hp n)

theorem not_mem_decDigits {c : Char} (hc : isDigit c = false) (n : Nat) : c ∉ decDigits n :=
  fun h => Bool.false_ne_true (hc.symm.trans (isDigit_of_mem_decDigits h))

/-- a digit string does not begin with a sign, a `$` or any other non-digit: the parsers' first `match` falls through -/
theorem ne_cons_of_all_isDigit {c : Char} (hc : isDigit c = false) {s : List Char} (hs : s.all isDigit = true)
    (r : List Char) : s ≠ c :: r := by
  intro e; subst e; simp [hc] at hs

theorem decDigits_ne_cons {c : Char} (hc : isDigit c = false) (n : Nat) (r : List Char) : decDigits n ≠ c :: r :=
  ne_cons_of_all_isDigit hc (decDigits_all_digit n) r

/-- the model's digit test is core's (`Umya/Spec` uses the latter) -/
theorem charIsDigit_eq : Char.isDigit = isDigit := by
  funext c; simp [isDigit, Char.isDigit, UInt32.le_iff_toNat_le]

theorem decDigits_all_charDigit (n : Nat) : (decDigits n).all Char.isDigit = true := by
  rw [charIsDigit_eq]; exact decDigits_all_digit n

theorem decDigits_ne_nil (n : Nat) : decDigits n ≠ [] := by
  rw [decDigits]; split <;> simp

theorem decDigits_lt10 (v : Nat) (h : v < 10) : decDigits v = [digitChar v] := by
  rw [decDigits, if_pos h]

theorem decDigits_ge10 (v : Nat) (h : 10 ≤ v) : decDigits v = decDigits (v / 10) ++ [digitChar (v % 10)] := by
  rw [decDigits, if_neg (by omega)]

theorem decDigits_head (n : Nat) : ∃ c r, decDigits n = c :: r ∧ isDigit c = true := by
  cases h : decDigits n with
  | nil => exact absurd h (decDigits_ne_nil n)
  | cons c r => exact ⟨c, r, rfl, isDigit_of_mem_decDigits (h ▸ List.mem_cons_self)⟩

theorem decDigits_isEmpty (n : Nat) : (decDigits n).isEmpty = false := by
  cases h : decDigits n with
  | nil => exact absurd h (decDigits_ne_nil _)
  | cons _ _ => rfl

theorem parseU32_decDigits (n : Nat) (h : n < 4294967296) : parseU32 (decDigits n) = some n := by
  unfold parseU32
  simp [decDigits_isEmpty, decDigits_all_digit, parseDec_decDigits, h]

theorem digitChar_toNat (d : Nat) (h : d < 10) : (digitChar d).toNat = 48 + d := by
  have : ∀ k : Fin 10, (digitChar k.val).toNat = 48 + k.val := by decide
  exact this ⟨d, h⟩

theorem digitChar_digitVal (c : Char) (h : isDigit c = true) : digitChar (digitVal c) = c := by
  simp only [isDigit, Bool.and_eq_true, decide_eq_true_eq] at h
  apply Char.toNat_inj.1
  rw [digitChar_toNat _ (by simp only [digitVal]; omega)]
  simp only [digitVal]; omega

theorem digitVal_lt (c : Char) (h : isDigit c = true) : digitVal c < 10 := by
  simp only [isDigit, Bool.and_eq_true, decide_eq_true_eq] at h
  simp only [digitVal]; omega

theorem digitVal_pos (c : Char) (h : isDigit c = true) (h0 : c ≠ '0') : 1 ≤ digitVal c := by
  simp only [isDigit, Bool.and_eq_true, decide_eq_true_eq] at h
  have : c.toNat ≠ 48 := by
    intro e; apply h0; apply Char.toNat_inj.1; rw [e]; rfl
  simp only [digitVal]; omega

theorem decDigits_snoc (n d : Nat) (hn : 1 ≤ n) (hd : d < 10) : decDigits (10 * n + d) = decDigits n ++ [digitChar d] := by
  rw [decDigits_ge10 _ (by omega), Nat.mul_add_div (by decide), Nat.mul_add_mod, Nat.div_eq_of_lt hd, Nat.mod_eq_of_lt hd,
    Nat.add_zero]

/-- reading further digits after a value `acc ≥ 1` appends them to its decimal text -/
theorem decDigits_foldl (ds : List Char) (hd : ds.all isDigit = true) : ∀ acc, 1 ≤ acc →
    decDigits (ds.foldl (fun a c => 10 * a + digitVal c) acc) = decDigits acc ++ ds := by
  induction ds with
  | nil => intro acc _; simp
  | cons c r ih =>
    intro acc h
    simp only [List.all_cons, Bool.and_eq_true] at hd
    rw [List.foldl_cons, ih hd.2 _ (by omega), decDigits_snoc acc _ h (digitVal_lt c hd.1), digitChar_digitVal c hd.1]
    simp

theorem decDigits_parseDec (a : Char) (r : List Char) (hd : (a :: r).all isDigit = true) (ha : a ≠ '0') :
    decDigits (parseDec (a :: r)) = a :: r := by
  simp only [List.all_cons, Bool.and_eq_true] at hd
  have := decDigits_foldl r hd.2 (digitVal a) (digitVal_pos a hd.1 ha)
  rw [decDigits_lt10 _ (digitVal_lt a hd.1), digitChar_digitVal a hd.1] at this
  simpa [parseDec] using this

theorem decDigits_head_ne_zero (n : Nat) (h : 1 ≤ n) : (decDigits n).head? ≠ some '0' := by
  induction n using Nat.strongRecOn with
  | _ n ih =>
    by_cases h10 : n < 10
    · rw [decDigits_lt10 n h10]
      have : ∀ k : Fin 10, 1 ≤ k.val → digitChar k.val ≠ '0' := by decide
      simpa using this ⟨n, h10⟩ h
    · rw [decDigits_ge10 n (by omega)]
      have := ih (n / 10) (by omega) (by omega)
      obtain ⟨c, r, hc, _⟩ : ∃ c r, decDigits (n / 10) = c :: r ∧ True := by
        cases hd : decDigits (n / 10) with
        | nil => exact absurd hd (decDigits_ne_nil _)
        | cons c r => exact ⟨c, r, rfl, trivial⟩
      rw [hc] at this ⊢
      simpa using this

end Umya.Dec
