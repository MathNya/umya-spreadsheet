/-
  The three adjusters of `helper/formula.rs` are one function of two parameters: which sheets an
  edit concerns, and what becomes of the list of corner texts of a reference (`adjustRef`).  What a
  token becomes is settled once (`tokMap_adjustRef`) from what the body does on the corner texts of a
  well-formed area and on texts that are no corners (`BodySpec`).
-/
import Umya.Lemmas.FormulaRemove
namespace Umya.Formula
open Umya.Coord Umya.Dec
open Umya.Spec (Area Axis CRef Expr trArea insArea remArea remAxis startOf endOf refOr concernsRef)

/-- a Range operand is split into qualifier and corner texts; if the edit concerns the sheet the
    corner texts go through `body` and are written back behind the qualifier as it stood -/
def adjustRef (c : List Char → Bool) (body : List (List Char) → Res (Option (List (List Char))))
    (t : Tok) : Res Tok :=
  if isRangeOperand t then
    if c (splitSheetQualifier t.val).2.1 then
      rewriteRef t (splitSheetQualifier t.val).1 (body (splitColon (splitSheetQualifier t.val).2.2))
    else .ok t
  else .ok t

/-- `translateTok` and `insertTok` are `adjustRef` as they are written; `removeTok` (`removeTok_eq`) handles the `#REF!`
    outcome of either axis where it arises, `adjustRef` once at the end -/
theorem translateTok_eq (dc dr : Int) :
    translateTok dc dr = adjustRef (fun _ => true) (translateList dc dr) :=
  funext fun _ => rfl

theorem insertTok_eq (rc oc rr orr : Nat) (ws selfWs : List Char) (ig : Bool) :
    insertTok rc oc rr orr ws selfWs ig
      = adjustRef (fun nm => concerns ig nm ws selfWs) (insertList rc oc rr orr false) :=
  funext fun _ => rfl

/-- the body of `removeTok`: all corners are parsed, the columns go through `remove_parts`, then the
    rows, and the corners are rendered again (a text that is no corner is kept) -/
def removeTexts (rc oc rr orr : Nat) (coords : List (List Char)) : Res (Option (List (List Char))) :=
  match removeParts (colsOf (coords.map parseCorner)) rc oc with
  | .panic => .panic
  | .ok none => .ok none
  | .ok (some cols') =>
    match removeParts (rowsOf (putCols (coords.map parseCorner) cols')) rr orr with
    | .panic => .panic
    | .ok none => .ok none
    | .ok (some rows') =>
      match renderCorners (putRows (putCols (coords.map parseCorner) cols') rows') coords with
      | .panic => .panic
      | .ok l => .ok (some l)

theorem removeTok_eq (rc oc rr orr : Nat) (ws selfWs : List Char) (ig : Bool) :
    removeTok rc oc rr orr ws selfWs ig
      = adjustRef (fun nm => concerns ig nm ws selfWs) (removeTexts rc oc rr orr) := by
  funext t
  rcases hq : splitSheetQualifier t.val with ⟨q, nm, rg⟩
  simp only [removeTok, adjustRef, removeTexts, hq]
  by_cases hr : isRangeOperand t = true
  · by_cases hc : concerns ig nm ws selfWs = true
    · simp only [if_pos hr, if_pos hc]
      cases removeParts (colsOf ((splitColon rg).map parseCorner)) rc oc with
      | panic => rfl
      | ok o =>
        cases o with
        | none => rfl
        | some cols' =>
          simp only
          cases removeParts (rowsOf (putCols ((splitColon rg).map parseCorner) cols')) rr orr with
          | panic => rfl
          | ok o =>
            cases o with
            | none => rfl
            | some rows' =>
              simp only
              cases renderCorners (putRows (putCols ((splitColon rg).map parseCorner) cols') rows') (splitColon rg) <;> rfl
    · simp only [if_pos hr, if_neg hc]
  · simp only [if_neg hr]

/-- `body` computes the area function `A` on the corner texts of a well-formed area and leaves
    texts alone none of which is a corner (the pieces of a defined name) -/
structure BodySpec (body : List (List Char) → Res (Option (List (List Char))))
    (A : Area → Option Area) : Prop where
  area : ∀ a, a.WF → body (cornerTexts a) = .ok ((A a).map cornerTexts)
  inert : ∀ l, (∀ s ∈ l, parseCorner s = none) → body l = .ok (some l)

/-- a defined name that the adjusters leave alone: no `!`, and no colon-separated piece of it is a
    cell / column / row reference (`AB12` is a reference, `Q1Sales` is not) -/
def NameInert (n : List Char) : Bool :=
  !n.contains '!' && (splitColon n).all (fun s => (parseCorner s).isNone)

def nameTok (n : List Char) : Tok := ⟨n, .operand, .range, .none⟩

/-- what the three adjusters have in common.  `g` is the adjuster on one token, `F` the Spec's shifter on a
    reference: `g` leaves all but Range operands alone, takes the token of a well-formed `r` to that of `F r`, and
    leaves an inert name alone; `shape` (of `F` alone): the shifter returns a reference or `#REF!` -/
structure TokMap (g : Tok → Res Tok) (F : CRef → Expr) : Prop where
  other : ∀ t, isRangeOperand t = false → g t = .ok t
  ref : ∀ r, r.WF → g (refTok r) = .ok (exprTok (F r))
  name : ∀ n, NameInert n = true → g (nameTok n) = .ok (nameTok n)
  shape : ∀ r, (∃ r', F r = .ref r') ∨ F r = .err .ref

theorem joinColon_same (l : List (List Char)) : joinColon l = AnnotCodec.joinCh ':' l := by
  induction l with
  | nil => rfl
  | cons a r ih =>
    cases r with
    | nil => rfl
    | cons b r' => simp only [joinColon, AnnotCodec.joinCh, ih]; simp

theorem joinColon_split (n : List Char) : joinColon (splitColon n) = n := by
  rw [joinColon_same, Thm.C17.splitColon_eq, AnnotCodec.joinCh_splitCh]

/-- `c` has to agree with `C` only on the names that `split_sheet_qualifier` returns for well-formed
    qualifiers; an inert name has no qualifier, and where `c []` sends its pieces through `body` they
    come back as they were -/
theorem tokMap_adjustRef {c : List Char → Bool} {body} {A : Area → Option Area} (hb : BodySpec body A)
    (C : CRef → Bool) (hc : ∀ r : CRef, (∀ q, r.sheet = some q → q.WF) → c (qualName r) = C r) :
    TokMap (adjustRef c body) (fun r => if C r then refOr r (A r.area) else .ref r) where
  other := fun t h => by simp [adjustRef, h]
  ref := fun r hw => by
    have hro : isRangeOperand (refTok r) = true := rfl
    have hv : (refTok r).val = r.text := rfl
    simp only [adjustRef, hro, if_true, hv, splitSheetQualifier_text r hw.2, hc r hw.2, splitColon_area,
      hb.area r.area hw.1, rewriteRef_texts]
    cases C r <;> rfl
  name := fun n h => by
    simp only [NameInert, Bool.and_eq_true, Bool.not_eq_true', List.all_eq_true, Option.isNone_iff_eq_none,
      List.contains_eq_mem, decide_eq_false_iff_not] at h
    simp only [adjustRef, nameTok, isRangeOperand, splitSheetQualifier_bare n h.1, hb.inert _ h.2, rewriteRef, joinColon_split]
    simp
  shape := fun r => by
    split
    · cases A r.area <;> simp [refOr]
    · exact Or.inl ⟨r, rfl⟩

theorem translateList_inert (dc dr : Int) (l : List (List Char)) (h : ∀ s ∈ l, parseCorner s = none) :
    translateList dc dr l = .ok (some l) := by
  induction l with
  | nil => rfl
  | cons s r ih =>
    have hs := h s (List.mem_cons_self ..)
    simp [translateList, translateCoord, hs, ih (fun x hx => h x (List.mem_cons_of_mem _ hx))]

theorem insertList_inert (rc oc rr orr : Nat) (isEnd : Bool) (l : List (List Char))
    (h : ∀ s ∈ l, parseCorner s = none) : insertList rc oc rr orr isEnd l = .ok (some l) := by
  induction l generalizing isEnd with
  | nil => rfl
  | cons s r ih =>
    have hs := h s (List.mem_cons_self ..)
    simp [insertList, insertCoord, hs, ih true (fun x hx => h x (List.mem_cons_of_mem _ hx))]

theorem bodySpec_translate (dc dr : Int) : BodySpec (translateList dc dr) (fun a => trArea a dc dr) :=
  ⟨fun a hw => translateList_area a hw dc dr, translateList_inert dc dr⟩

theorem bodySpec_insert (ax : Axis) (at_ n : Nat) (hn : n ≠ 0) {rc oc rr orr : Nat} (hA : axisArgs ax at_ n = (rc, oc, rr, orr)) :
    BodySpec (insertList rc oc rr orr false) (fun a => insArea a ax at_ n) :=
  ⟨fun a hw => by rw [insertList_area a hw ax at_ n hn hA, insAreaM_spec a hw], insertList_inert _ _ _ _ _⟩

/-- no corner parses, so neither axis has a part: `putCols_colsOf`, `putRows_rowsOf` put nothing back -/
theorem removeTexts_inert {rc oc rr orr : Nat} (l : List (List Char)) (h : ∀ s ∈ l, parseCorner s = none) :
    removeTexts rc oc rr orr l = .ok (some l) := by
  have c1 : colsOf (l.map fun _ => none) = [] := by simp [colsOf]
  have c2 : rowsOf (l.map fun _ => none) = [] := by simp [rowsOf]
  have c3 := putCols_colsOf (l.map fun _ => none)
  have c4 := putRows_rowsOf (l.map fun _ => none)
  rw [c1] at c3; rw [c2] at c4
  simp only [removeTexts, List.map_congr_left h, c1, removeParts_nil, c3, c2, c4, renderCorners_none]

theorem cornerTexts_eq (a : Area) : cornerTexts a = (cornersOf a).map (·.text) := by cases a <;> rfl

theorem bodySpec_remove (ax : Axis) (at_ n : Nat) (h1 : 1 ≤ at_) (hn : n ≠ 0) (ho : at_ + n ≤ u32Max) {rc oc rr orr : Nat}
    (hA : axisArgs ax at_ n = (rc, oc, rr, orr)) : BodySpec (removeTexts rc oc rr orr) (fun a => remArea a ax at_ n) where
  inert := removeTexts_inert
  area := fun a hw => by
    obtain ⟨hs, he, hle⟩ := area_cols a hw
    unfold removeTexts
    rw [parse_cornerTexts a hw]
    cases ax with
    | col =>
      cases hA
      rw [colsOf_area, removeParts_axis at_ n h1 hn ho]
      simp only [remArea]
      cases hr : remAxis (startOf a).col (endOf a).col at_ n with
      | none => rfl
      | some c =>
        obtain ⟨p1, p2⟩ := remAxis_pos _ _ at_ n h1 c hr hs he hle
        simp only [Option.map_some, removeParts_zero, putRows_rowsOf]
        rw [putCols_area a at_ n c hr, renderCorners_rebuild a c _ p1 p2, cornerTexts_eq]
    | row =>
      cases hA
      simp only [removeParts_zero, putCols_colsOf]
      rw [rowsOf_area, removeParts_axis at_ n h1 hn ho]
      simp only [remArea]
      cases hr : remAxis (startOf a).row (endOf a).row at_ n with
      | none => rfl
      | some c =>
        simp only [Option.map_some]
        rw [putRows_area a at_ n c hr, renderCorners_rebuild a _ c hs he, cornerTexts_eq]

theorem tokMap_translate (dc dr : Int) :
    TokMap (translateTok dc dr) (fun r => Spec.translateRef r dc dr) := by
  rw [translateTok_eq]
  exact tokMap_adjustRef (bodySpec_translate dc dr) (fun _ => true) (fun _ _ => rfl)

theorem tokMap_insert (ax : Axis) (at_ n : Nat) (hn : n ≠ 0) (ws selfWs : List Char) (hws : ws ≠ []) :
    TokMap (insertTok (axisArgs ax at_ n).1 (axisArgs ax at_ n).2.1 (axisArgs ax at_ n).2.2.1
      (axisArgs ax at_ n).2.2.2 ws selfWs false) (Spec.shiftInsertRef selfWs ws ax at_ n) := by
  have e : Spec.shiftInsertRef selfWs ws ax at_ n
      = fun r => if concernsRef r selfWs ws then refOr r (insArea r.area ax at_ n) else .ref r := by
    funext r; simp [Spec.shiftInsertRef, hn]
  rw [insertTok_eq, e]
  exact tokMap_adjustRef (bodySpec_insert ax at_ n hn rfl) _ (fun r hq => concerns_spec r hq ws selfWs hws)

theorem tokMap_remove (ax : Axis) (at_ n : Nat) (h1 : 1 ≤ at_) (hn : n ≠ 0) (ho : at_ + n ≤ u32Max)
    (ws selfWs : List Char) (hws : ws ≠ []) :
    TokMap (removeTok (axisArgs ax at_ n).1 (axisArgs ax at_ n).2.1 (axisArgs ax at_ n).2.2.1
      (axisArgs ax at_ n).2.2.2 ws selfWs false) (Spec.shiftRemoveRef selfWs ws ax at_ n) := by
  have e : Spec.shiftRemoveRef selfWs ws ax at_ n
      = fun r => if concernsRef r selfWs ws then refOr r (remArea r.area ax at_ n) else .ref r := by
    funext r; simp [Spec.shiftRemoveRef, hn]
  rw [removeTok_eq, e]
  exact tokMap_adjustRef (bodySpec_remove ax at_ n h1 hn ho rfl) _ (fun r hq => concerns_spec r hq ws selfWs hws)

end Umya.Formula
