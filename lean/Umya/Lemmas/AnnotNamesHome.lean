import Umya.Model.AnnotNames
import Umya.Lemmas.ListFacts
/-! The reader's re-homing loop computes `rehome`: every list of the reloaded book is the written list filtered by
    destination (`homes_snoc`, `readFrom_rehome`).  `Stable` says every name is stored at its `target`, position by
    position (`stable_iff`): for a stable book the filter gives the book back (`rehome_stable`); `target_remove` says
    where a name goes after `remove_sheet`, `target_append` after an appended sheet. -/
namespace Umya.AnnotNames

theorem indexOf_eq (t : Text) : ∀ l : List Text, indexOf t l = l.findIdx? (fun x => decide (x = t))
  | [] => rfl
  | x :: r => by by_cases h : x = t <;> simp [indexOf, List.findIdx?_cons, h, indexOf_eq t r]

theorem indexOf_lt (t : Text) (l : List Text) (k : Nat) (h : indexOf t l = some k) : k < l.length := by
  rw [indexOf_eq, List.findIdx?_eq_some_iff_getElem] at h
  exact h.1

theorem indexOf_append (t : Text) (l m : List Text) :
    indexOf t (l ++ m) = (indexOf t l).or ((indexOf t m).map (· + l.length)) := by
  simp only [indexOf_eq, List.findIdx?_append]

theorem homes_eq (tg : DN → Option Nat) (ds : List DN) : ∀ (ts : List Text) (k : Nat),
    homes tg ds k ts = (ts.zipIdx k).map fun p => ⟨p.1, ds.filter fun d => tg d = some p.2⟩
  | [], _ => rfl
  | _ :: r, k => by simp [homes, homes_eq tg ds r (k + 1)]

theorem homes_getElem? (tg : DN → Option Nat) (ds : List DN) (ts : List Text) (k p : Nat) :
    (homes tg ds k ts)[p]? = ts[p]?.map fun t => ⟨t, ds.filter fun d => tg d = some (k + p)⟩ := by
  simp [homes_eq, List.getElem?_zipIdx, Function.comp_def]

theorem addAt_eq (d : DN) : ∀ (ss : List Sheet) (j : Nat),
    addAt j d ss = ss.modify j fun s => { s with names := s.names ++ [d] }
  | [], _ => by simp [addAt]
  | _ :: _, 0 => rfl
  | _ :: r, j + 1 => by simp [addAt, addAt_eq d r j]

theorem homes_snoc (tg : DN → Option Nat) (ds : List DN) (d : DN) (ts : List Text) :
    homes tg (ds ++ [d]) 0 ts = match tg d with | some j => addAt j d (homes tg ds 0 ts) | none => homes tg ds 0 ts := by
  apply List.ext_getElem?
  intro p
  cases h : tg d with
  | none => simp [homes_getElem?, List.filter_append, h]
  | some j =>
    simp only [homes_getElem?, addAt_eq, List.getElem?_modify, Option.map_eq_map, List.filter_append, List.filter_cons, h,
      Option.map_map]
    congr 1; funext t
    by_cases hp : j = p
    · subst hp; simp [Function.comp]
    · simp [hp, Function.comp]

/-- `place` through `target`.  Its last `else` (a first-area sheet found among the titles, no such sheet in the book) is
    `place` on an arbitrary book: from `read` the book has one sheet per title (`target_lt`). -/
theorem place_eq (titles : List Text) (b : Book) (d : DN) : place titles b d =
    match target titles d with
    | some k => if k < b.sheets.length then some { b with sheets := addAt k d b.sheets }
                else if d.lsid.isSome then none else some { b with wb := b.wb ++ [d] }
    | none => some { b with wb := b.wb ++ [d] } := by
  obtain ⟨n, l, a, f⟩ := d
  cases l with
  | some j => simp only [place, target]; split <;> rfl
  | none =>
    cases f with
    | none => rfl
    | some t => simp only [place, target, byName]; cases indexOf t titles <;> rfl

theorem target_lt {titles : List Text} {d : DN} {k : Nat} (hl : ∀ j, d.lsid = some j → j < titles.length)
    (h : target titles d = some k) : k < titles.length := by
  obtain ⟨n, l, a, f⟩ := d
  cases l with
  | some j => cases h; exact hl _ rfl
  | none =>
    cases f with
    | none => cases h
    | some t => exact indexOf_lt t titles k h

theorem readFrom_eq (titles : List Text) : ∀ (ds : List DN) (b : Book), readFrom titles b ds = ds.foldlM (place titles) b
  | [], _ => rfl
  | d :: r, b => by
    rw [readFrom, List.foldlM_cons]
    cases place titles b d with
    | none => rfl
    | some b' => exact readFrom_eq titles r b'

theorem readFrom_rehome (titles : List Text) :
    ∀ (ds r : List DN), (∀ d ∈ r, ∀ k, d.lsid = some k → k < titles.length) →
      readFrom titles (rehome titles ds) r = some (rehome titles (ds ++ r))
  | ds, [], _ => by simp [readFrom]
  | ds, d :: r, h => by
    have step : place titles (rehome titles ds) d = some (rehome titles (ds ++ [d])) := by
      simp only [place_eq, rehome, homes_snoc, List.filter_append, List.filter_cons, List.filter_nil]
      cases tg : target titles d with
      | none => simp
      | some k => simp [homes_eq, target_lt (h d List.mem_cons_self) tg]
    simp only [readFrom, step]
    rw [readFrom_rehome titles (ds ++ [d]) r (fun x hx => h x (List.mem_cons_of_mem _ hx))]
    simp

theorem emptyBook_eq (titles : List Text) : emptyBook titles = rehome titles [] := by
  simp only [emptyBook, rehome, List.filter_nil, Book.mk.injEq, true_and]
  apply List.ext_getElem?
  intro p
  simp [homes_getElem?]

theorem indexOf_eraseIdx (t : Text) : ∀ (l : List Text) (i : Nat), indexOf t l ≠ some i →
    indexOf t (l.eraseIdx i) = (indexOf t l).map fun k => if k < i then k else k - 1
  | [], _, _ => rfl
  | x :: r, 0, h => by
    have hx : ¬ x = t := fun e => h (by simp [indexOf, e])
    cases hr : indexOf t r <;> simp [indexOf, hx, hr]
  | x :: r, i + 1, h => by
    by_cases hx : x = t
    · simp [indexOf, hx]
    · have ih := indexOf_eraseIdx t r i (fun e => h (by simp [indexOf, hx, e]))
      cases hr : indexOf t r with
      | none => simp [indexOf, hx, hr, ih]
      | some j =>
        simp only [List.eraseIdx_cons_succ, indexOf, hx, if_false, ih, hr, Option.map_some]
        by_cases hj : j < i
        · simp [hj]
        · have : j ≠ i := fun e => h (by simp [indexOf, hx, hr, e])
          simp [hj]; omega

theorem target_remove {T : List Text} {i : Nat} {d : DN} (h : target T d ≠ some i) :
    target (T.eraseIdx i) (fixOne i d) = (target T d).map fun k => if k < i then k else k - 1 := by
  obtain ⟨n, l, a, f⟩ := d
  cases l with
  | some j =>
    have : j ≠ i := fun e => h (by rw [e]; rfl)
    by_cases hij : i < j
    · simp [target, fixOne, hij]; omega
    · have : j < i := by omega
      simp [target, fixOne, hij, this]
  | none =>
    cases f with
    | none => rfl
    | some t => exact indexOf_eraseIdx t T i h

theorem target_append (T : List Text) (x : Text) (d : DN) :
    target (T ++ [x]) d = (target T d).or (if d.lsid = none ∧ d.first = some x then some T.length else none) := by
  obtain ⟨n, l, a, f⟩ := d
  cases l with
  | some j => rfl
  | none =>
    cases f with
    | none => rfl
    | some t => by_cases hx : x = t <;> simp [target, byName, indexOf_append, indexOf, hx, eq_comm]

theorem mem_fixIds (i : Nat) (l : List DN) (x : DN) (h : x ∈ fixIds i l) : ∃ d ∈ l, d.lsid ≠ some i ∧ x = fixOne i d := by
  simp only [fixIds, List.mem_map, List.mem_filter, decide_eq_true_eq] at h
  obtain ⟨d, ⟨hd, hne⟩, rfl⟩ := h
  exact ⟨d, hd, hne, rfl⟩

theorem stableFrom_iff (tg : DN → Option Nat) : ∀ (ss : List Sheet) (k : Nat),
    StableFrom tg k ss ↔ ∀ p s, ss[p]? = some s → ∀ d ∈ s.names, tg d = some (k + p)
  | [], k => by simp [StableFrom]
  | x :: r, k => by
    rw [StableFrom, stableFrom_iff tg r (k + 1)]
    constructor
    · rintro ⟨h0, hr⟩ p s hp d hd
      cases p with
      | zero => cases hp; exact h0 d hd
      | succ p => rw [hr p s hp d hd, Nat.add_right_comm, Nat.add_assoc]
    · intro h
      exact ⟨h 0 x rfl, fun p s hp d hd => by rw [h (p + 1) s hp d hd, Nat.add_right_comm, Nat.add_assoc]⟩

theorem target_eq_none {T : List Text} {d : DN} : target T d = none ↔ d.lsid = none ∧ byName T d = none := by
  unfold target; cases d.lsid <;> simp

theorem stable_iff (b : Book) : Stable b ↔ (∀ d ∈ b.wb, target b.titles d = none) ∧
    ∀ p s, b.sheets[p]? = some s → ∀ d ∈ s.names, target b.titles d = some p := by
  simp only [Stable, stableFrom_iff, target_eq_none, Nat.zero_add]

theorem removeSheet_titles {b : Book} {i : Nat} (hi : i < b.sheets.length) :
    (removeSheet i b).titles = b.titles.eraseIdx i := by
  simp [removeSheet, hi, Book.titles, fixSheet, ← map_eraseIdx, Function.comp_def]

theorem fixIds_proj (i : Nat) (l : List DN) (h : ∀ d ∈ l, d.lsid ≠ some i) :
    (fixIds i l).map (fun d => (d.name, d.addr, d.first)) = l.map (fun d => (d.name, d.addr, d.first)) := by
  rw [fixIds, List.filter_eq_self.2 (fun d hd => by simpa using h d hd), List.map_map]
  apply List.map_congr_left
  intro d _
  simp only [Function.comp, fixOne]
  cases d.lsid with
  | none => rfl
  | some j => by_cases hij : i < j <;> simp [hij]

theorem flat_target (tg : DN → Option Nat) (ss : List Sheet) (k : Nat) (h : StableFrom tg k ss) (d : DN) (hd : d ∈ flat ss) :
    ∃ p, p < ss.length ∧ tg d = some (k + p) := by
  simp only [flat, List.mem_flatten, List.mem_map] at hd
  obtain ⟨_, ⟨s, hs, rfl⟩, hdl⟩ := hd
  obtain ⟨p, hp, rfl⟩ := List.getElem_of_mem hs
  exact ⟨p, hp, (stableFrom_iff tg ss k).1 h p _ (List.getElem?_eq_getElem hp) d hdl⟩

/-- the names with destination `m` are those of the sheet at position `m`, which is `ss[m - k]` when `ss` starts at `k` -/
theorem filter_flat (tg : DN → Option Nat) : ∀ (ss : List Sheet) (k : Nat), StableFrom tg k ss → ∀ m,
    (flat ss).filter (fun d => tg d = some m) = if k ≤ m then ((ss[m - k]?).map (·.names)).getD [] else []
  | [], k, _, m => by simp [flat]
  | s :: r, k, h, m => by
    have hf : flat (s :: r) = s.names ++ flat r := by simp [flat]
    rw [hf, List.filter_append, filter_flat tg r (k + 1) h.2 m]
    by_cases hm : m = k
    · subst hm
      have : ¬ m + 1 ≤ m := by omega
      rw [List.filter_eq_self.2 (fun d hd => by simp [h.1 d hd])]
      simp [this]
    · rw [List.filter_eq_nil_iff.2 (fun d hd => by simp [h.1 d hd, Ne.symm hm])]
      by_cases hk : k + 1 ≤ m
      · have : m - k = (m - (k + 1)) + 1 := by omega
        simp [hk, this, Nat.le_of_succ_le hk]
      · have : ¬ k ≤ m := by omega
        simp [hk, this]

theorem rehome_stable (b : Book) (h : Stable b) : rehome b.titles (write b) = b := by
  obtain ⟨wb, ss⟩ := b
  have hwb : ∀ d ∈ wb, target (ss.map (·.title)) d = none := ((stable_iff _).1 h).1
  have hs : StableFrom (target (ss.map (·.title))) 0 ss := h.2
  simp only [rehome, write, Book.titles, Book.mk.injEq]
  constructor
  · rw [List.filter_append, List.filter_eq_self.2 (fun d hd => by simp [hwb d hd]),
      List.filter_eq_nil_iff.2 (fun d hd => by obtain ⟨p, -, hp⟩ := flat_target _ ss 0 hs d hd; simp [hp]), List.append_nil]
  · apply List.ext_getElem?
    intro p
    rw [homes_getElem?, List.getElem?_map, Option.map_map]
    cases hp : ss[p]? with
    | none => rfl
    | some s =>
      simp only [Option.map_some, Function.comp, Nat.zero_add, List.filter_append]
      rw [List.filter_eq_nil_iff.2 (fun d hd => by simp [hwb d hd]), filter_flat _ ss 0 hs p]
      simp [hp]

/-- `Stable` of a given book is a computation -/
instance decStableFrom (tg : DN → Option Nat) : ∀ (k : Nat) (ss : List Sheet), Decidable (StableFrom tg k ss)
  | _, [] => isTrue trivial
  | k, _ :: r => @instDecidableAnd _ _ inferInstance (decStableFrom tg (k + 1) r)

instance (b : Book) : Decidable (Stable b) := inferInstanceAs (Decidable (_ ∧ _))

end Umya.AnnotNames
