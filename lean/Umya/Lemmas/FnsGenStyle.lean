/-
  (T) State-passing translation of a `&mut self` method: `NumberingFormats::set_style`
  (src/structs/numbering_formats.rs: reuse the id of an entry with the same code hash, else allocate max(175, ids) + 1 and
  insert) and its helper `set_numbering_format`, as compiled from the source on this run, are the hand model's `nfSetStyle`
  (`Umya/Model/Style.lean`), for every table (= for every iteration order of the HashMap), every style and every hash.

  The loop body is a definition of its own (lambda lifting); it is proved equal to a fixed specification by splitting every
  conditional (`gen_eq`), and the fold with early exit (`rt_foldl_ret`) is related to `List.find?` / the running maximum once
  and for all over that specification.
-/
import Umya.Lemmas.FnsGen
import Umya.Lemmas.StyleNf
namespace Umya.Gen
open Umya.Style

def recOf (v : NumFmt) : NumberingFormat_rec := ⟨v.id, v.code, v.builtIn⟩

def tableOf (t : List (Nat × NumFmt)) : List (Nat × NumberingFormat_rec) := t.map (fun p => (p.1, recOf p.2))

/-- `NumberingFormat::get_hash_code` = the key function of the model applied to the format code -/
def hashOf (key : Tok → Tok) (r : NumberingFormat_rec) : List Char := key r.format_code

/-- the early-exit fold over ANY body that leaves with the entry's index exactly on the entries satisfying `P` and otherwise
    keeps the running maximum of the indices (what the body does to the state when it leaves is irrelevant) -/
theorem foldl_ret_search {ρ} (f : Nat → Nat × ρ → Option Nat × Nat) (P : ρ → Bool)
    (h1 : ∀ st x, (f st x).1 = if P x.2 then some x.1 else none)
    (h2 : ∀ st x, P x.2 = false → (f st x).2 = if st < x.1 then x.1 else st) (l : List (Nat × ρ)) : ∀ id : Nat,
    (rt_foldl_ret f id l).1 = (l.find? (fun p => P p.2)).map (·.1) ∧
    (l.find? (fun p => P p.2) = none → (rt_foldl_ret f id l).2 = l.foldl (fun m p => if m < p.1 then p.1 else m) id) := by
  induction l with
  | nil => intro id; exact ⟨rfl, fun _ => rfl⟩
  | cons a l ih =>
    intro id
    have e1 := h1 id a
    cases hp : P a.2 with
    | true =>
      rw [hp] at e1
      have : rt_foldl_ret f id (a :: l) = (some a.1, (f id a).2) := by
        simp only [rt_foldl_ret]
        rcases hfa : f id a with ⟨r, s'⟩
        rw [hfa] at e1; simp only at e1; subst e1; rfl
      rw [this]
      simp [List.find?, hp]
    | false =>
      rw [hp] at e1
      have e2 := h2 id a hp
      have : rt_foldl_ret f id (a :: l) = rt_foldl_ret f (if id < a.1 then a.1 else id) l := by
        simp only [rt_foldl_ret]
        rcases hfa : f id a with ⟨r, s'⟩
        rw [hfa] at e1 e2; simp only at e1 e2; subst e1; subst e2; rfl
      rw [this]
      simp only [List.find?, hp, List.foldl]
      exact ih _

theorem map_insert_fresh {l : List (Nat × NumberingFormat_rec)} {k : Nat} {v : NumberingFormat_rec} (h : ∀ p ∈ l, p.1 ≠ k) :
    rt_map_insert l k v = l ++ [(k, v)] := by
  induction l with
  | nil => rfl
  | cons a l ih =>
    have ha : a.1 ≠ k := h a (List.mem_cons_self ..)
    obtain ⟨a1, a2⟩ := a
    simp only [rt_map_insert, List.cons_append]
    rw [if_neg ha, ih (fun p hp => h p (List.mem_cons_of_mem _ hp))]

theorem tableOf_find (key : Tok → Tok) (hc : List Char) (t : List (Nat × NumFmt)) :
    (tableOf t).find? (fun p => decide (hashOf key p.2 = hc)) = (t.find? (fun p => key p.2.code == hc)).map (fun p => (p.1, recOf p.2)) := by
  rw [tableOf, List.find?_map]
  congr 2
  funext p
  show decide (key p.2.code = hc) = (key p.2.code == hc)
  by_cases h : key p.2.code = hc <;> simp [h]

/-- the lifted loop body as it is in the source, whatever its shape (the two tests in either order, any spelling of the
    comparison): it leaves with the index exactly on a hash match, and keeps the running maximum otherwise -/
theorem gen_numfmt_loop (gh : NumberingFormat_rec → List Char) (hc : List Char) (id index : Nat) (nf : NumberingFormat_rec) :
    (numbering_formats_set_style_loop_0 gh hc id index nf).1 = (if decide (gh nf = hc) then some index else none) ∧
    (decide (gh nf = hc) = false → (numbering_formats_set_style_loop_0 gh hc id index nf).2 = if id < index then index else id) := by
  unfold numbering_formats_set_style_loop_0
  constructor
  · gen_eq
  · intro h
    gen_eq

theorem gen_numfmt_set_numbering_format (m : List (Nat × NumberingFormat_rec)) (v : NumberingFormat_rec) :
    numbering_formats_set_numbering_format m v = rt_map_insert m v.number_format_id v := by
  unfold numbering_formats_set_numbering_format
  rfl

/-- `NumberingFormats::set_style` as it is in the source = the model's `nfSetStyle`: for every table `t` (in any order —
    the list stands for the HashMap's entries in the iteration order of the call), every optional number format and every
    hash function: the same table afterwards, the same id. -/
theorem gen_numfmt_set_style (key : Tok → Tok) (t : List (Nat × NumFmt)) (o : Option NumFmt) :
    numbering_formats_set_style (hashOf key) (tableOf t) (o.map recOf) =
      (tableOf (nfSetStyle key t o).1, (nfSetStyle key t o).2) := by
  unfold numbering_formats_set_style
  simp only [gen_numfmt_set_numbering_format]
  cases o with
  | none => simp [nfSetStyle]
  | some v =>
    cases hb : v.builtIn with
    | true => simp [nfSetStyle, recOf, hb]
    | false =>
      have hv : (recOf v).is_build_in = false := hb
      have hk : hashOf key (recOf v) = key v.code := rfl
      have hf := tableOf_find key (key v.code) t
      -- the loop: an early-exit fold over the lifted body, which satisfies the two facts `foldl_ret_search` asks for
      obtain ⟨e1, e2⟩ := foldl_ret_search
        (fun st (x : Nat × NumberingFormat_rec) => numbering_formats_set_style_loop_0 (hashOf key) (key v.code) st x.1 x.2)
        (fun r => decide (hashOf key r = key v.code))
        (fun st x => (gen_numfmt_loop (hashOf key) (key v.code) st x.1 x.2).1)
        (fun st x h => (gen_numfmt_loop (hashOf key) (key v.code) st x.1 x.2).2 h) (tableOf t) 175
      simp only [Option.map_some, nfSetStyle, hb, hv, hk, Bool.false_eq_true, if_false]
      generalize hlr : rt_foldl_ret (fun st (x : Nat × NumberingFormat_rec) =>
        numbering_formats_set_style_loop_0 (hashOf key) (key v.code) st x.1 x.2) 175 (tableOf t) = lr at e1 e2
      rw [hf] at e1 e2
      cases hfind : t.find? (fun p => key p.2.code == key v.code) with
      | some p =>
        rw [hfind] at e1
        simp only [Option.map_some] at e1
        simp [e1]
      | none =>
        rw [hfind] at e1 e2
        simp only [Option.map_none] at e1
        have e2' := e2 rfl
        have hfresh : ∀ p ∈ tableOf t, p.1 ≠ maxId t + 1 := by
          intro p hp
          obtain ⟨q, hq, rfl⟩ := List.mem_map.1 hp
          have := (maxId_ge t).2 q hq
          omega
        have hm : (tableOf t).foldl (fun m p => if m < p.1 then p.1 else m) 175 = maxId t := List.foldl_map
        rw [hm] at e2'
        simp only [e1, e2']
        rw [map_insert_fresh hfresh]
        simp [tableOf, recOf]

end Umya.Gen
