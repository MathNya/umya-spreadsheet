/-
  Parse-then-print for sheet-qualified areas and defined-name texts in ANY canonical spelling
  (`canonAreaB`, `canonNameTextB` of `Umya/Model/CoordCanon.lean`): what `DefinedName::set_address` makes of such a
  text, and that `get_address` prints `canonArea` / `canonText` of it.  A piece is one of the comma-separated parts
  `split_str` cuts such a text into.
-/
import Umya.Lemmas.CoordParse
import Umya.Lemmas.AnnotNames
namespace Umya.Annot
open Umya.Coord Umya.Dec Umya.Thm.C17

theorem area_piece (t q : Text) (ρ : Range) (hsp : rsplitBang t = some (q, ρ.print)) (hq : canonQualB q = true)
    (hb : Range.InBounds ρ) :
    t = q ++ '!' :: ρ.print ∧ LegalSheet (nameOfQual q) ∧ Address.parse (undouble t) = .ok ⟨nameOfQual q, ρ⟩ ∧
      (⟨nameOfQual q, ρ⟩ : Address).text = canonArea t := by
  have ht := (rsplitBang_some_eq t q _ hsp).1
  have hleg := (canonQual_cases q hq).1
  refine ⟨ht, hleg, ht ▸ area_parse q ρ hb, ?_⟩
  simp only [canonArea, hsp]
  exact addressText_quoteName hleg.1.1

theorem canonArea_text_of_legal (a : Address) (hleg : LegalSheetName a.sheet) :
    rsplitBang a.text = some (quoteName a.sheet, a.range.print) ∧ canonArea a.text = a.text := by
  have ht : a.text = quoteName a.sheet ++ '!' :: a.range.print := addressText_quoteName hleg.1
  have hsp := rsplitBang_join (quoteName a.sheet) a.range.print (bang_free_print _)
  rw [ht]
  refine ⟨hsp, ?_⟩
  simp only [canonArea, hsp, nameOfQual_quoteName _ hleg]

theorem canonCellRange_spec (a : Text) (h : canonCellRangeB a = true) :
    ∃ ρ : Range, CellShape ρ ∧ Range.InBounds ρ ∧ a = ρ.print := by
  unfold canonCellRangeB at h
  split at h
  · rename_i x hx
    obtain ⟨c, r, hb, e⟩ := cellSingle_spec x h
    exact ⟨_, Or.inl ⟨rfl, rfl, rfl, rfl⟩, hb, (eq_of_splitColon hx).trans e⟩
  · rename_i x y hxy
    simp only [Bool.and_eq_true] at h
    obtain ⟨c, r, c', r', hb, e⟩ := cellPair_spec x y h.1 h.2
    exact ⟨_, Or.inr ⟨rfl, rfl, rfl, rfl⟩, hb, (eq_of_splitColon hxy).trans e⟩
  · cases h

theorem canonCellRange_print (ρ : Range) (hs : CellShape ρ) (hb : Range.InBounds ρ) : canonCellRangeB ρ.print = true := by
  obtain ⟨b1, b2, b3, b4⟩ := hb
  rw [canonCellRangeB, Range.splitColon_print]
  rcases hs.cases with ⟨a, b, rfl⟩ | ⟨a, b, x, y, rfl⟩
  · exact canonCell_print a b (b1 a rfl) (b3 b rfl)
  · simp [optText, canonCell_print a b (b1 a rfl) (b3 b rfl), canonCell_print x y (b2 x rfl) (b4 y rfl)]

theorem canonArea_piece (t : Text) (h : canonAreaB t = true) :
    ∃ a : Address, AreaOK a ∧ Neutral t ∧ t ≠ [] ∧ isAddress t = true ∧ Address.parse (undouble t) = .ok a ∧
      a.text = canonArea t := by
  unfold canonAreaB at h
  split at h
  · rename_i q r hsp
    simp only [Bool.and_eq_true] at h
    obtain ⟨ρ, hs, hb, rfl⟩ := canonCellRange_spec r h.2
    obtain ⟨ht, hl, hp, htx⟩ := area_piece t q ρ hsp h.1 hb
    exact ⟨⟨nameOfQual q, ρ⟩, ⟨hl, hs, hb⟩, ht ▸ area_neutral q ρ h.1, by rw [ht]; simp,
      ht ▸ area_isAddress q ρ h.1 hs hb, hp, htx⟩
  · cases h

theorem canonArea_text (a : Address) (h : AreaOK a) : canonAreaB a.text = true ∧ canonArea a.text = a.text := by
  obtain ⟨hleg, hs, hb⟩ := h
  obtain ⟨hsp, hfix⟩ := canonArea_text_of_legal a hleg.1
  refine ⟨?_, hfix⟩
  simp [canonAreaB, hsp, canonQual_quoteName a.sheet hleg, canonCellRange_print a.range hs hb]

theorem setAddress_canon (ts : List Text) (hne : ts ≠ []) (h : ∀ t ∈ ts, canonAreaB t = true) :
    ∃ as : List Address, (∀ a ∈ as, AreaOK a) ∧ DefName.setAddress {} (joinComma ts) = .ok { areas := as } ∧
      DefName.text { areas := as } = joinComma (ts.map canonArea) ∧ splitStr (joinComma ts) = ts ∧
      ts.all isAddress = true := by
  -- `setAddress_map` wants the areas as a function of the pieces: the parser itself, made total with a dummy
  let g : Text → Address := fun t => match Address.parse (undouble t) with | .ok a => a | .panic => ⟨[], {}⟩
  have hg : ∀ t ∈ ts, AreaOK (g t) ∧ (Neutral t ∧ t ≠ []) ∧ isAddress t = true ∧
      Address.parse (undouble t) = .ok (g t) ∧ (g t).text = canonArea t := by
    intro t ht
    obtain ⟨a, hok, hN, hn, hi, hp, htx⟩ := canonArea_piece t (h t ht)
    have e : g t = a := by simp only [g, hp]
    rw [e]; exact ⟨hok, ⟨hN, hn⟩, hi, hp, htx⟩
  obtain ⟨hsplit, hall, hset⟩ := setAddress_map id g ts hne
    (fun t ht => ⟨(hg t ht).2.1, (hg t ht).2.2.1, (hg t ht).2.2.2.1⟩)
  rw [List.map_id] at hsplit hall hset
  refine ⟨ts.map g, ?_, hset, ?_, hsplit, hall⟩
  · intro a ha; obtain ⟨t, ht, rfl⟩ := List.mem_map.1 ha; exact (hg t ht).1
  · simp only [DefName.text, List.map_map]
    congr 1; apply List.map_congr_left; intro t ht; exact (hg t ht).2.2.2.2

theorem canonText_join (ts : List Text) (hne : ts ≠ []) (h : ∀ t ∈ ts, canonAreaB t = true) :
    canonText (joinComma ts) = joinComma (ts.map canonArea) := by
  obtain ⟨_, _, _, _, hsplit, hall⟩ := setAddress_canon ts hne h
  simp only [canonText, hsplit, hall, if_true]

theorem canonNameText_spec (v : Text) (h : canonNameTextB v = true) :
    ∃ ts : List Text, (∀ t ∈ ts, canonAreaB t = true) ∧ v = joinComma ts := by
  simp only [canonNameTextB, Bool.and_eq_true, decide_eq_true_eq, List.all_eq_true] at h
  exact ⟨splitStr v, h.1, h.2.symm⟩

theorem canonArea_texts (as : List Address) (h : ∀ a ∈ as, AreaOK a) : ∀ t ∈ as.map Address.text, canonAreaB t = true := by
  intro t ht
  obtain ⟨x, hx, rfl⟩ := List.mem_map.1 ht
  exact (canonArea_text x (h x hx)).1

theorem canonNameText_text (as : List Address) (h : ∀ a ∈ as, AreaOK a) :
    canonNameTextB (DefName.text { areas := as }) = true := by
  cases as with
  | nil => decide
  | cons a r =>
    have hsplit := (setAddress_areas (a :: r) (by simp) h).1
    simp only [canonNameTextB, DefName.text, hsplit, Bool.and_eq_true, decide_eq_true_eq, List.all_eq_true, and_true]
    exact canonArea_texts (a :: r) h

theorem canonText_text (as : List Address) (h : ∀ a ∈ as, AreaOK a) :
    canonText (DefName.text { areas := as }) = DefName.text { areas := as } := by
  cases as with
  | nil => decide
  | cons a r =>
    have := canonText_join ((a :: r).map Address.text) (by simp) (canonArea_texts (a :: r) h)
    simp only [DefName.text]
    rw [this, List.map_map]
    congr 1
    apply List.map_congr_left
    intro x hx
    exact (canonArea_text x (h x hx)).2

end Umya.Annot
