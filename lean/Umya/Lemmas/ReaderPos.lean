/-
  Positions: the library's `set_coordinate` / `coordinate_from_index`
  (`Umya.Model.Coord`, regex based, 1–3 upper-case letters) against the spec's `colOf` / `rowOf` /
  `refText` (`Umya.Spec.Sml`, `Char.isAlpha`, `Char.isDigit`, `toString`).
  The model states the position rule twice: alone (`cellPositions` / `sheetPositions` of `Model/Reader`: `cells_agree`,
  `rows_agree`, for `C03_positions`) and inside the sheet loop (`readCells` / `readRows` of `Model/ReaderSheet`).  The loop's
  lemmas (`cells_sheet`, `rows_sheet` of `ReaderSheet`) rest on the steps `cell_position`, `rowNumber_step`, not on `rows_agree`.
-/
import Umya.Lemmas.SmlRef
import Umya.Lemmas.ReaderCell
import Umya.Model.ReaderSheet
namespace Umya.Reader.Lemmas
open Umya.Reader Umya.Spec.Xml Umya.Spec.Sml Umya.Coord Umya.Dec

-- `refText` prints the row with core's `toString` (`Nat.toDigits 10`), the library's side with the model's `decDigits`
theorem digitChar_bridge (d : Nat) (h : d < 10) : Nat.digitChar d = Umya.Dec.digitChar d := by
  have : ∀ d : Fin 10, Nat.digitChar d.val = Umya.Dec.digitChar d.val := by decide
  exact this ⟨d, h⟩

theorem toDigits_eq (n : Nat) : Nat.toDigits 10 n = decDigits n := by
  induction n using Nat.strongRecOn with
  | _ n ih =>
    rw [Nat.toDigits_eq_if (by decide), decDigits]
    split
    · rename_i h; rw [digitChar_bridge n h]
    · rename_i h
      rw [ih (n / 10) (by omega), digitChar_bridge (n % 10) (by omega)]

theorem refText_eq (col row : Nat) : refText col row = coordinateFromIndexWithLock col row false false := by
  simp [refText, colLetters, coordinateFromIndexWithLock, toDigits_eq]

-- 4294967296 is `u32Bound`, written out as in `Dec.parseU32`; 18278 below is ZZZ, the last column three letters reach
theorem setCoordinate_append {ls ds : List Char} (hu : ls.all isUpperAZ = true) (h1 : 1 ≤ ls.length)
    (h3 : ls.length ≤ 3) (hd : ds.all Umya.Dec.isDigit = true) (hne : ds ≠ []) (hb : parseDec ds < 4294967296) :
    setCoordinate (ls ++ ds) = some (alphaToIndexGen ls, parseDec ds) := by
  obtain ⟨d, dr, rfl⟩ := List.exists_cons_of_ne_nil hne
  obtain ⟨a, ar, rfl⟩ := List.exists_cons_of_ne_nil (List.ne_nil_of_length_pos h1)
  have hdd : Umya.Dec.isDigit d = true := List.all_eq_true.1 hd d List.mem_cons_self
  have hau : isUpperAZ a = true := List.all_eq_true.1 hu a List.mem_cons_self
  have hcol : matchColGroup (a :: (ar ++ d :: dr)) = some (false, a :: ar, d :: dr) := by
    rw [matchColGroup_bare _ (isUpperAZ_ne_dollar hau), ← List.cons_append, takeUpTo3Upper,
      takeUpper_append 3 hu h3 (Or.inr (Or.inr ⟨d, dr, rfl, isDigit_not_upper d hdd⟩))]
    rfl
  have hrow : matchRowGroup (d :: dr) = some (false, d :: dr) := by
    simpa using matchRowGroup_digits hd hne (Or.inl rfl)
  have hp : Umya.Dec.parseU32 (d :: dr) = some (parseDec (d :: dr)) := by simp [Umya.Dec.parseU32, hd, hb]
  simp [setCoordinate, indexFromCoordinate, hcol, hrow, hp, alphaVal]

theorem colOf_refText (col row : Nat) (h : 1 ≤ col) : colOf (refText col row) = col := by
  rw [refText_eq]; exact colOf_position col row h

theorem rowOf_refText (col row : Nat) : rowOf (refText col row) = row := by
  rw [refText_eq]; exact rowOf_position col row

theorem setCoordinate_position (col row : Nat) (h1 : 1 ≤ col) (h2 : col ≤ 18278) (hr : row < 4294967296) :
    setCoordinate (coordinateFromIndexWithLock col row false false) = some (col, row) := by
  have h := indexFromCoordinate_suffix ⟨col, false⟩ ⟨row, false⟩ [] ⟨h1, h2⟩ hr (Or.inl rfl)
  rw [List.append_nil] at h
  unfold setCoordinate
  rw [show coordinateFromIndexWithLock col row false false = colRefText ⟨col, false⟩ ++ rowRefText ⟨row, false⟩ from
    List.append_assoc .., h]

/-- an A1 reference as ST_CellRef writes it: 1–3 upper-case letters, then decimal digits (a value
    that fits `u32`) -/
def validRef (t : Text) : Bool :=
  decide (1 ≤ (t.takeWhile isUpperAZ).length) && decide ((t.takeWhile isUpperAZ).length ≤ 3) &&
  decide (t.dropWhile isUpperAZ ≠ []) && (t.dropWhile isUpperAZ).all Umya.Dec.isDigit &&
  decide (parseDec (t.dropWhile isUpperAZ) < 4294967296)

theorem validRef_pos (t : Text) (h : validRef t = true) :
    t.isEmpty = false ∧ setCoordinate t = some (colOf t, rowOf t) := by
  simp only [validRef, Bool.and_eq_true, decide_eq_true_eq] at h
  obtain ⟨⟨⟨⟨h1, h3⟩, hne⟩, hd⟩, hb⟩ := h
  have hu : (t.takeWhile isUpperAZ).all isUpperAZ = true := List.all_takeWhile
  have ht : t.takeWhile isUpperAZ ++ t.dropWhile isUpperAZ = t := List.takeWhile_append_dropWhile
  refine ⟨?_, ?_⟩
  · cases t with
    | nil => exact absurd rfl hne
    | cons _ _ => rfl
  · rw [← ht, setCoordinate_append hu h1 h3 hd hne hb, colOf_append hu hd, rowOf_append hu hd hne]

def cellRefsOk (cells : List Node) : Bool :=
  cells.all fun c => match c.attr? "r".toList with | some v => validRef v | none => true

-- `hok` is the conjunct of `cellRefsOk` for `c`, in the form `simp only [cellRefsOk, List.all_cons]` leaves it (as `h1` of
-- `rowNumber_step` is that of `rowRefsOk`)
theorem cell_position (sst : List Text) (rn : Nat) (hrn : rn < 4294967296) (prev : Nat) (c : Node) {rest : List CellV}
    (hok : (match c.attr? "r".toList with | some v => validRef v | none => true) = true)
    (hgrid : (fillRefs rn prev ((decodeCell sst c).1 :: rest)).all (fun c => decide (colOf c.ref ≤ 16384)) = true) :
    ∃ ref',
      setCoordinate (cellRefText rn prev c) = some (colOf ref', rowOf ref') ∧
      fillRefs rn prev ((decodeCell sst c).1 :: rest) =
        { (decodeCell sst c).1 with ref := ref' } :: fillRefs rn (colOf ref') rest := by
  simp only [fillRefs, decode_ref, cellRefText] at hgrid ⊢
  rcases Option.eq_none_or_eq_some (c.attr? "r".toList) with hr | ⟨v, hr⟩
  · simp only [hr, Option.getD_none, List.isEmpty_nil, if_true, List.all_cons, Bool.and_eq_true,
      decide_eq_true_eq] at hgrid ⊢
    have hcol : colOf (refText (prev + 1) rn) = prev + 1 := colOf_refText _ _ (by omega)
    have hle : prev + 1 ≤ 16384 := by rw [← hcol]; exact hgrid.1
    refine ⟨refText (prev + 1) rn, ?_, by rw [hcol]⟩
    rw [hcol, rowOf_refText]
    exact setCoordinate_position (prev + 1) rn (by omega) (by omega) hrn
  · have hv : validRef v = true := by rw [hr] at hok; exact hok
    obtain ⟨hemp, hset⟩ := validRef_pos v hv
    simp only [hr, Option.getD_some, hemp, Bool.false_eq_true, if_false]
    refine ⟨v, hset, ?_⟩
    have hre : (decodeCell sst c).1.ref = v := by rw [decode_ref, hr]; rfl
    rw [← hre]

theorem cellPositions_cons (rn prev : Nat) (c : Node) (rs : List (Option Text)) :
    cellPositions rn prev (c.attr? "r".toList :: rs) =
      (setCoordinate (cellRefText rn prev c)).bind fun p => (cellPositions rn p.1 rs).map (p :: ·) := by
  conv => lhs; unfold cellPositions
  unfold cellRefText
  cases c.attr? "r".toList <;> simp only [] <;> rcases setCoordinate _ with _ | ⟨_, _⟩ <;> rfl

theorem cells_agree (sst : List Text) (rn : Nat) (hrn : rn < 4294967296) : ∀ (cells : List Node) (prev : Nat),
    cellRefsOk cells = true →
    (fillRefs rn prev ((cells.map (decodeCell sst)).map (·.1))).all (fun c => decide (colOf c.ref ≤ 16384)) = true →
    cellPositions rn prev (cells.map (·.attr? "r".toList)) =
      some ((fillRefs rn prev ((cells.map (decodeCell sst)).map (·.1))).map fun c => (colOf c.ref, rowOf c.ref)) := by
  intro cells
  induction cells with
  | nil => intro prev _ _; rfl
  | cons c rest ih =>
    intro prev hok hgrid
    simp only [cellRefsOk, List.all_cons, Bool.and_eq_true] at hok
    simp only [List.map_cons] at hgrid ⊢
    obtain ⟨ref', hset, hfill⟩ := cell_position sst rn hrn prev c hok.1 hgrid
    rw [hfill] at hgrid ⊢
    simp only [List.all_cons, Bool.and_eq_true] at hgrid
    rw [cellPositions_cons, hset]
    simp only [Option.bind_some, ih _ hok.2 hgrid.2, Option.map_some, List.map_cons]

def rowRefsOk (rows : List Node) : Bool :=
  rows.all fun r => match r.attr? "r".toList with | some v => uintOk u32Bound v | none => true

/-- the positions the SPEC assigns lie inside the grid: rows ≤ 1048576, columns ≤ 16384 (what
    `decodeSheet` reports as an error otherwise).  Needed because `validRef` is wider: three letters reach ZZZ = 18278 >
    16384 and a row any `u32`; the implied positions (`prev + 1`) must stay in `set_coordinate`'s range as well. -/
def inGrid (sst : List Text) (prev : Nat) (rows : List Node) : Bool :=
  (rowNumbers prev rows).all (fun n => decide (n ≤ 1048576)) &&
  (specPositions sst prev rows).all fun p => p.2.all fun q => decide (q.1 ≤ 16384)

theorem rowNumber_step (sst : List Text) (prev : Nat) (r : Node) (rest : List Node)
    (h1 : (match r.attr? "r".toList with | some v => uintOk u32Bound v | none => true) = true)
    (h3 : inGrid sst prev (r :: rest) = true) :
    ∃ n, rowNumber prev (r.attr? "r".toList) = some n ∧ ((r.attr? "r".toList).bind natOf).getD (prev + 1) = n ∧
      n ≤ 1048576 ∧
      (fillRefs n 0 (((r.kids "c").map (decodeCell sst)).map (·.1))).all (fun c => decide (colOf c.ref ≤ 16384)) = true ∧
      inGrid sst n rest = true := by
  simp only [inGrid, specPositions, rowNumbers, List.zip_cons_cons, List.map_cons, List.all_cons, Bool.and_eq_true,
    decide_eq_true_eq] at h3 ⊢
  obtain ⟨⟨hn, hrows⟩, hcols, hrest⟩ := h3
  refine ⟨_, ?_, rfl, hn, by simpa [specRowPositions, List.all_map] using hcols, hrows, hrest⟩
  cases hr : r.attr? "r".toList with
  | none =>
    rw [hr] at hn
    have hlt : prev + 1 < u32Bound := by unfold u32Bound; exact Nat.lt_of_le_of_lt hn (by decide)
    simp only [rowNumber, if_pos hlt, Option.bind_none, Option.getD_none]
  | some v =>
    rw [hr] at h1
    obtain ⟨n, e1, e2⟩ := uintOk_parse h1
    simp only [rowNumber, Option.bind_some, e1, Option.getD_some]
    exact e2

theorem rows_agree (sst : List Text) : ∀ (rows : List Node) (prev : Nat),
    rowRefsOk rows = true → rows.all (fun r => cellRefsOk (r.kids "c")) = true → inGrid sst prev rows = true →
    sheetPositions prev rows = some (specPositions sst prev rows) := by
  intro rows
  induction rows with
  | nil => intro prev _ _ _; rfl
  | cons r rest ih =>
    intro prev h1 h2 h3
    simp only [rowRefsOk, List.all_cons, Bool.and_eq_true] at h1 h2
    obtain ⟨n, hn1, hn2, hn3, hcols, hrest⟩ := rowNumber_step sst prev r rest h1.1 h3
    unfold sheetPositions
    simp only [hn1, cells_agree sst n (by omega) (r.kids "c") 0 h2.1 hcols, ih n h1.2 h2.2 hrest, Option.map_some,
      specPositions, rowNumbers, hn2, List.zip_cons_cons, List.map_cons, specRowPositions]

end Umya.Reader.Lemmas
