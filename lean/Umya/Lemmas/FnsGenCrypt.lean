/-
  Tie to the source (T) — `src/helper/crypt.rs`: the constants (`const` items, compiled by the expression
  compiler) and the literal `let` initialisers of `encrypt_parts` and of the three `encrypt_*_protection` setters
  (token-level scan inside the function) as read from the source on this
  run are the values the hand models use (`Umya/Model/Crypt.lean`, `Umya/Model/PwHash.lean`).
  Only the constants are tied here; the functions are tied in `FnsGenCryptBuf.lean`, `FnsGenCryptPw.lean` (C15) and
  `FnsGenCryptPkg.lean` (C14).
-/
import Umya.Lemmas.FnsGen
import Umya.Model.Crypt
import Umya.Model.PwHash
namespace Umya.Gen
open Umya.Crypt Umya.Crypto Umya.Agile

/-- value of `function.variable` in a table of literal `let` initialisers -/
def litOf {α} (tbl : List (String × α)) (k : String) : Option α := (tbl.find? (fun p => p.1 == k)).map (·.2)

/-- the `const` items are the model's block keys, prefix, chunk size and stream offset (the offset also as the length of the prefix
    `le32 len ++ [0, 0, 0, 0]` the model's `cryptPackage` writes); the last clause, every byte literal below 256, is what makes
    `List.map UInt8.ofNat` in the first six lose nothing -/
theorem gen_crypt_consts :
    crypt_block_keys_data_integrity_hmac_key.map UInt8.ofNat = blkHmacKey ∧
    crypt_block_keys_data_integrity_hmac_value.map UInt8.ofNat = blkHmacValue ∧
    crypt_block_keys_key.map UInt8.ofNat = blkKey ∧
    crypt_block_verifier_hash_input.map UInt8.ofNat = blkVerifierInput ∧
    crypt_block_verifier_hash_value.map UInt8.ofNat = blkVerifierValue ∧
    crypt_encryption_info_prefix.map UInt8.ofNat = encryptionInfoPrefix ∧
    crypt_package_encryption_chunk_size = chunkSize ∧
    crypt_package_offset = 8 ∧ crypt_package_offset = (le32 0 ++ [0, 0, 0, 0]).length ∧
    (crypt_block_keys_data_integrity_hmac_key ++ crypt_block_keys_data_integrity_hmac_value ++ crypt_block_keys_key ++
      crypt_block_verifier_hash_input ++ crypt_block_verifier_hash_value ++ crypt_encryption_info_prefix).all (· < 256) = true := by
  decide +kernel

/-- the literals of `encrypt_parts` are the numbers `encryptWith` / `encrypt` of the model use (`blockSize := 16`,
    `hashSize := 64`, `keyBits := 256`, `createIv … 16 …`, `convertPasswordToKey … 256 …`, spin count of `encrypt`) -/
theorem gen_crypt_encrypt_literals :
    litOf crypt_encrypt_literals_ints "encrypt_parts.package_hash_size" = some 64 ∧
    litOf crypt_encrypt_literals_ints "encrypt_parts.package_block_size" = some 16 ∧
    litOf crypt_encrypt_literals_ints "encrypt_parts.key_hash_size" = some 64 ∧
    litOf crypt_encrypt_literals_ints "encrypt_parts.key_block_size" = some 16 ∧
    litOf crypt_encrypt_literals_ints "encrypt_parts.key_spin_count" = some 100000 ∧
    litOf crypt_encrypt_literals_ints "encrypt_parts.key_key_bits" = some 256 ∧
    (litOf crypt_encrypt_literals_strs "encrypt_parts.package_hash_algorithm").map String.toList = some sha512Name ∧
    (litOf crypt_encrypt_literals_strs "encrypt_parts.key_hash_algorithm").map String.toList = some sha512Name ∧
    (litOf crypt_encrypt_literals_strs "encrypt_parts.package_cipher_algorithm").map String.toList = some aes ∧
    (litOf crypt_encrypt_literals_strs "encrypt_parts.key_cipher_algorithm").map String.toList = some aes ∧
    (litOf crypt_encrypt_literals_strs "encrypt_parts.package_cipher_chaining").map String.toList = some cbc ∧
    (litOf crypt_encrypt_literals_strs "encrypt_parts.key_cipher_chaining").map String.toList = some cbc := by
  decide +kernel

/-- the model's `encrypt` runs `encryptWith` with the spin count that is in the source -/
theorem gen_crypt_encrypt_spin (P : Prims) (data : Bytes) (pw : List Char) (ρ : Randoms) (n : Nat)
    (h : litOf crypt_encrypt_literals_ints "encrypt_parts.key_spin_count" = some n) :
    encrypt P data pw ρ = encryptWith P n data pw ρ := by
  rw [gen_crypt_encrypt_literals.2.2.2.2.1] at h
  cases h
  rfl

/-- the three `encrypt_*_protection` setters: spin count and algorithm name of the model (`Umya/Model/PwHash.lean`) -/
theorem gen_protection_literals :
    crypt_protection_literals_ints.map (·.2) = [Umya.PwHash.spinCountConst, Umya.PwHash.spinCountConst, Umya.PwHash.spinCountConst] ∧
    crypt_protection_literals_strs.map (fun p => p.2.toList) = [Umya.PwHash.algName, Umya.PwHash.algName, Umya.PwHash.algName] ∧
    crypt_protection_literals_ints.map (·.1) =
      ["encrypt_sheet_protection.key_spin_count", "encrypt_workbook_protection.key_spin_count", "encrypt_revisions_protection.key_spin_count"] := by
  decide +kernel

end Umya.Gen
