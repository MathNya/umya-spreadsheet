/-
  One save + load of a sheet's cell list (`normS`) against edits that create or delete a cell; and the row / column record a creating
  edit adds when there is none (`ensureRow`, `ensureCol`) against the normal forms of the records: the added record is in normal
  form and the old ones keep their places.
-/
import Umya.Model.CellEdit
import Umya.Lemmas.ResaveCells
namespace Umya.CellXml
open Umya.Num

section
variable (F : NumFmt)

theorem normS_append (a b : List (Cell F.Num)) : normS F (a ++ b) = normS F a ++ normS F b := by
  simp [normS, List.filter_append]

theorem normS_cons_kept (c : Cell F.Num) (s : List (Cell F.Num)) (hc : blankUnstyled F c = false) :
    normS F (c :: s) = Cell.resolved F c :: normS F s := by
  simp [normS, hc]

theorem normS_cons_dropped (c : Cell F.Num) (s : List (Cell F.Num)) (hc : blankUnstyled F c = true) :
    normS F (c :: s) = normS F s := by
  simp [normS, hc]

theorem normS_createSheet (n : Nat) (c : Cell F.Num) (s : List (Cell F.Num)) (hc : blankUnstyled F c = false) :
    normS F (createSheet F n c s) = createSheet F (keptBefore F s n) (Cell.resolved F c) (normS F s) := by
  have hs : normS F s = normS F (s.take n) ++ normS F (s.drop n) := by
    rw [← normS_append, List.take_append_drop]
  unfold createSheet keptBefore
  rw [normS_append, normS_cons_kept F c _ hc, hs, List.take_left', List.drop_left']
  all_goals rfl

/-- a created cell that is blank and has no style is not written: nothing changes -/
theorem normS_createSheet_blank (n : Nat) (c : Cell F.Num) (s : List (Cell F.Num)) (hc : blankUnstyled F c = true) :
    normS F (createSheet F n c s) = normS F s := by
  unfold createSheet
  rw [normS_append, normS_cons_dropped F c _ hc, ← normS_append, List.take_append_drop]

theorem lookup_append (a b : List (Cell F.Num)) (k : Nat × Nat) :
    lookup F (a ++ b) k = (lookup F a k).or (lookup F b k) := by
  simp [lookup, List.find?_append]

theorem lookup_eq_none_iff {s : List (Cell F.Num)} {k : Nat × Nat} : lookup F s k = none ↔ ∀ c ∈ s, (c.row, c.col) ≠ k := by
  simp [lookup]

theorem lookup_createSheet_other {n : Nat} {c : Cell F.Num} {s : List (Cell F.Num)} {k : Nat × Nat}
    (hk : k ≠ (c.row, c.col)) : lookup F (createSheet F n c s) k = lookup F s k := by
  have h2 : lookup F (c :: s.drop n) k = lookup F (s.drop n) k := by
    simp [lookup, hk.symm]
  unfold createSheet
  rw [lookup_append, h2, ← lookup_append, List.take_append_drop]

theorem lookup_normS_none (s : List (Cell F.Num)) (k : Nat × Nat) (h : lookup F s k = none) :
    lookup F (normS F s) k = none := by
  rw [lookup_eq_none_iff] at h ⊢
  intro x hx
  obtain ⟨y, hy, rfl⟩ := List.mem_map.1 hx
  exact h y (List.mem_filter.1 hy).1

theorem lookup_take_none (s : List (Cell F.Num)) (n : Nat) (k : Nat × Nat) (h : lookup F s k = none) :
    lookup F (s.take n) k = none := by
  rw [lookup_eq_none_iff] at h ⊢
  exact fun x hx => h x (List.mem_of_mem_take hx)

theorem lookup_createSheet_self {n : Nat} {c : Cell F.Num} {s : List (Cell F.Num)}
    (h : lookup F s (c.row, c.col) = none) : lookup F (createSheet F n c s) (c.row, c.col) = some c := by
  unfold createSheet
  rw [lookup_append, lookup_take_none F s n _ h]
  simp [lookup]

theorem createSheet_perm (n : Nat) (c : Cell F.Num) (s : List (Cell F.Num)) : (createSheet F n c s).Perm (c :: s) := by
  unfold createSheet
  exact List.perm_middle.trans (by rw [List.take_append_drop])

theorem length_createSheet {n : Nat} {c : Cell F.Num} {s : List (Cell F.Num)} :
    (createSheet F n c s).length = s.length + 1 :=
  (createSheet_perm F n c s).length_eq

theorem normS_deleteSheet (k : Nat × Nat) (s : List (Cell F.Num)) :
    normS F (deleteSheet F k s) = deleteSheet F k (normS F s) := by
  simp only [normS_eq_filterMap, deleteSheet, List.filterMap_filter, List.filter_filterMap]
  congr 1; funext c
  by_cases hk : (c.row, c.col) = k <;> cases hb : blankUnstyled F c <;> simp [keepR, hb, hk, Option.filter]

theorem lookup_deleteSheet_other (k k' : Nat × Nat) (s : List (Cell F.Num)) (hk : k' ≠ k) :
    lookup F (deleteSheet F k s) k' = lookup F s k' := by
  unfold lookup deleteSheet
  rw [List.find?_filter]
  congr 1; funext c
  by_cases h : (c.row, c.col) = k' <;> simp [h, hk]

theorem lookup_deleteSheet_self (k : Nat × Nat) (s : List (Cell F.Num)) : lookup F (deleteSheet F k s) k = none := by
  rw [lookup_eq_none_iff]
  intro x hx
  simpa using (List.mem_filter.1 hx).2

theorem normS_editSheet_blank (k : Nat × Nat) (f : Cell F.Num → Cell F.Num)
    (hf : ∀ c, blankUnstyled F (f c) = true) (s : List (Cell F.Num)) :
    normS F (editSheet F k f s) = normS F (deleteSheet F k s) := by
  simp only [normS_eq_filterMap, deleteSheet, editSheet, List.filterMap_filter, List.filterMap_map]
  congr 1; funext c
  by_cases hk : (c.row, c.col) = k <;> simp [hk, keepR, hf]

end

-- `ensureRow` and `ensureCol` are both `if l.any p then l else l ++ [a]`
theorem getElem?_ite_append {α : Type} {c : Prop} [Decidable c] {l : List α} {a p : α} {j : Nat} (h : l[j]? = some p) :
    (if c then l else l ++ [a])[j]? = some p := by
  split
  · exact h
  · exact getElem?_append_left' h

theorem length_ite_append_le {α : Type} (c : Prop) [Decidable c] (l : List α) (a : α) :
    (if c then l else l ++ [a]).length ≤ l.length + 1 := by
  split <;> simp

theorem forall_mem_ite_append {α : Type} {P : α → Prop} {c : Prop} [Decidable c] {l : List α} {a : α}
    (h : ∀ p ∈ l, P p) (ha : P a) : ∀ p ∈ (if c then l else l ++ [a]), P p := by
  intro p hp
  split at hp
  · exact h p hp
  · exact (List.mem_append.1 hp).elim (h p) fun hp => List.mem_singleton.1 hp ▸ ha

theorem map_ite_any_append {α β : Type} (f : α → β) (p : α → Bool) (q : β → Bool) (hq : ∀ x, q (f x) = p x) (l : List α) (a : α) :
    (if l.any p then l else l ++ [a]).map f = if (l.map f).any q then l.map f else l.map f ++ [f a] := by
  have : (l.map f).any q = l.any p := by simp [List.any_map, Function.comp_def, hq]
  rw [this]; split <;> simp

-- that the default record added is in normal form is no step of the proof: it is checked by unfolding `Row.norm` on it
-- (`Col.norm` below) when the `[f a]` of `map_ite_any_append` is unified with the record `ensureRow` adds
open Umya.StyleCodec in
theorem ensureRow_map_norm (r x : Nat) (rows : List (Row × Nat)) :
    (ensureRow r x rows).map (fun p => (p.1.norm, p.2)) = ensureRow r x (rows.map (fun p => (p.1.norm, p.2))) :=
  map_ite_any_append _ _ (fun p : Row × Nat => p.1.num == r) (fun _ => rfl) rows _

open Umya.StyleCodec in
theorem ensureRow_old (r x : Nat) (rows : List (Row × Nat)) (j : Nat) (p : Row × Nat) (h : rows[j]? = some p) :
    (ensureRow r x rows)[j]? = some p :=
  getElem?_ite_append h

open Umya.StyleCodec in
theorem ensureCol_map_norm (k x : Nat) (cols : List (Col × Nat × Nat × Nat)) :
    (ensureCol k x cols).map (fun p => (p.1.norm, p.2)) = ensureCol k x (cols.map (fun p => (p.1.norm, p.2))) :=
  map_ite_any_append _ _ (fun p : Col × Nat × Nat × Nat => p.2.1 == k) (fun _ => rfl) cols _

open Umya.StyleCodec in
theorem ensureCol_old (k x : Nat) (cols : List (Col × Nat × Nat × Nat)) (j : Nat) (p : Col × Nat × Nat × Nat)
    (h : cols[j]? = some p) : (ensureCol k x cols)[j]? = some p :=
  getElem?_ite_append h

end Umya.CellXml
