import Umya.Lemmas.ReaderStyle
namespace Umya.Reader.Lemmas
open Umya.Reader Umya.Spec.Xml Umya.Spec.Sml
open Umya.StyleCodec

/-- a valid `<patternFill>`: unprefixed children, at most one `fgColor` / `bgColor`, each a `colorOk`;
    `patternType`, when present, a word of ST_PatternType -/
def validPattern (pf : Node) : Bool :=
  pf.children.all plain && colorKidOk pf.children "fgColor" && colorKidOk pf.children "bgColor" &&
  valIn Pattern.fromStr "patternType" pf.attrs

/-- the decoder's view of a `<patternFill>`: what `fillV` shows of a `<fill>` with this `patternFill` child, by `rfl`
    (the last step of `fill_agrees`) -/
def patV (pf : Node) : FillV :=
  { pattern := (pf.attr? "patternType".toList).getD "none".toList,
    fg := (pf.kid? "fgColor").map colorV, bg := (pf.kid? "bgColor").map colorV }

/-- the reader's record of it, in the same type -/
def patFacts (p : PatternFill) : FillV :=
  { pattern := (p.patternType.getD .none).toStr.toList, fg := p.fg.map colorFacts, bg := p.bg.map colorFacts }

theorem PatternFill.step_spec (cf : Tok → Tok) (p p' : PatternFill) (n : Node) (h : PatternFill.step cf p n = some p') :
    p'.patternType = p.patternType ∧
    p'.fg = (if named "fgColor" n then Color.readInto cf {} n.attrs else p.fg) ∧
    p'.bg = (if named "bgColor" n then Color.readInto cf {} n.attrs else p.bg) := by
  cases n with
  | text t => simp only [PatternFill.step, Option.some.injEq] at h; subst h; simp [named, Node.isElem]
  | elem nm as cs =>
    simp only [PatternFill.step] at h
    by_cases c1 : nm = "fgColor".toList
    · rw [if_pos c1] at h
      obtain ⟨c, hc, rfl⟩ := Option.map_eq_some_iff.mp h
      subst c1; simp [named, Node.isElem, Node.name, Node.attrs, hc]
    rw [if_neg c1] at h
    by_cases c2 : nm = "bgColor".toList
    · rw [if_pos c2] at h
      obtain ⟨c, hc, rfl⟩ := Option.map_eq_some_iff.mp h
      subst c2; simp [named, Node.isElem, Node.name, Node.attrs, hc]
    rw [if_neg c2] at h
    simp only [Option.some.injEq] at h; subst h
    simp_all [named, Node.isElem, Node.name]

def patKidOk (c : Node) : Bool :=
  (if named "fgColor" c then colorOk c.attrs else true) && (if named "bgColor" c then colorOk c.attrs else true)

theorem PatternFill.step_total (cf : Tok → Tok) (p : PatternFill) (c : Node) (h : patKidOk c = true) :
    ∃ p', PatternFill.step cf p c = some p' := by
  cases c with
  | text t => exact ⟨p, rfl⟩
  | elem nm as cs =>
    simp only [PatternFill.step]
    by_cases c1 : nm = "fgColor".toList
    · rw [if_pos c1]
      have : colorOk as = true := by subst c1; simpa [patKidOk, named, Node.isElem, Node.name, Node.attrs] using h
      obtain ⟨c', hc'⟩ := Color.readInto_total cf {} as this
      exact ⟨_, by rw [hc']; rfl⟩
    rw [if_neg c1]
    by_cases c2 : nm = "bgColor".toList
    · rw [if_pos c2]
      have : colorOk as = true := by subst c2; simpa [patKidOk, named, Node.isElem, Node.name, Node.attrs] using h
      obtain ⟨c', hc'⟩ := Color.readInto_total cf {} as this
      exact ⟨_, by rw [hc']; rfl⟩
    rw [if_neg c2]; exact ⟨_, rfl⟩

theorem optColorKid_agrees (cf : Tok → Tok) (cs : List Node) (k : String)
    (hok : cs.all (fun c => if named k c then colorOk c.attrs else true) = true) :
    (((cs.find? (named k)).map (fun b => Color.readInto cf {} b.attrs)).getD none).map colorFacts =
      ((cs.find? (named k)).map colorV).map (cfColor cf) := by
  rw [Option.map_map]
  exact optKid_agrees fun b hf => color_agrees cf b (found_of_all_if hok hf)

theorem pattern_agrees (cf : Tok → Tok) (pf : Node) (h : validPattern pf = true) :
    ∃ p, PatternFill.read cf pf = some p ∧ patFacts p = cfFill cf (patV pf) := by
  simp only [validPattern, colorKidOk, Bool.and_eq_true, uniq, decide_eq_true_eq] at h
  obtain ⟨⟨⟨hpl, u1, k1⟩, u2, k2⟩, hv⟩ := h
  have hok : pf.children.all patKidOk = true :=
    List.all_eq_true.mpr fun c hc => Bool.and_eq_true_iff.mpr ⟨List.all_eq_true.mp k1 c hc, List.all_eq_true.mp k2 c hc⟩
  refine (foldOpt_total (PatternFill.step_total cf) pf.children _ hok).imp fun p hp => ⟨hp, ?_⟩
  have e0 := foldOpt_const (PatternFill.step cf) (·.patternType)
    (fun x b x' hx => (PatternFill.step_spec cf x x' b hx).1) hp
  have e1 := foldOpt_field (PatternFill.step cf) (·.fg) (named "fgColor") (fun _ b => Color.readInto cf {} b.attrs)
    (fun x b x' hx => (PatternFill.step_spec cf x x' b hx).2.1) hp u1
  have e2 := foldOpt_field (PatternFill.step cf) (·.bg) (named "bgColor") (fun _ b => Color.readInto cf {} b.attrs)
    (fun x b x' hx => (PatternFill.step_spec cf x x' b hx).2.2) hp u2
  simp only [patFacts, cfFill, patV, kid?_eq_find pf _ hpl, e0, e1, e2, attr?_eq_getAttr,
    enum_attr_text Pattern.fromStr Pattern.toStr .none "patternType" pf.attrs none Pattern.toStr_of_fromStr hv,
    optColorKid_agrees cf pf.children "fgColor" k1, optColorKid_agrees cf pf.children "bgColor" k2]
  rfl

/-- a valid `<fill>`: unprefixed children, at most one `patternFill` which is a `validPattern`, no `gradientFill` -/
def validFill (n : Node) : Bool :=
  n.children.all plain && uniq n.children "patternFill" && !(n.children.any (named "gradientFill")) &&
  n.children.all (fun c => if named "patternFill" c then validPattern c else true)

theorem Fill.step_spec (cf : Tok → Tok) (f f' : Fill) (n : Node) (h : Fill.step cf f n = some f') :
    f'.pattern = (if named "patternFill" n || named "gradientFill" n then
        (if named "patternFill" n then PatternFill.read cf n else none) else f.pattern) := by
  cases n with
  | text t => simp only [Fill.step, Option.some.injEq] at h; subst h; simp [named, Node.isElem]
  | elem nm as cs =>
    simp only [Fill.step] at h
    by_cases c1 : nm = "patternFill".toList
    · rw [if_pos c1] at h
      obtain ⟨c, hc, rfl⟩ := Option.map_eq_some_iff.mp h
      subst c1; simp [named, Node.isElem, Node.name]; exact hc.symm
    rw [if_neg c1] at h
    by_cases c2 : nm = "gradientFill".toList
    · rw [if_pos c2] at h
      obtain ⟨c, hc, rfl⟩ := Option.map_eq_some_iff.mp h
      subst c2; simp [named, Node.isElem, Node.name]
    rw [if_neg c2] at h
    simp only [Option.some.injEq] at h; subst h
    simp_all [named, Node.isElem, Node.name]

def fillKidOk (c : Node) : Bool := !(named "gradientFill" c) && (if named "patternFill" c then validPattern c else true)

theorem Fill.step_total (cf : Tok → Tok) (f : Fill) (c : Node) (h : fillKidOk c = true) :
    ∃ f', Fill.step cf f c = some f' := by
  cases c with
  | text t => exact ⟨f, rfl⟩
  | elem nm as cs =>
    simp only [Fill.step]
    by_cases c1 : nm = "patternFill".toList
    · rw [if_pos c1]
      have : validPattern (.elem nm as cs) = true := by
        subst c1; simpa [fillKidOk, named, Node.isElem, Node.name] using h
      obtain ⟨p, hp, _⟩ := pattern_agrees cf _ this
      exact ⟨_, by rw [hp]; rfl⟩
    rw [if_neg c1]
    by_cases c2 : nm = "gradientFill".toList
    · subst c2; simp [fillKidOk, named, Node.isElem, Node.name] at h
    rw [if_neg c2]; exact ⟨_, rfl⟩

theorem fill_agrees (cf : Tok → Tok) (n : Node) (h : validFill n = true) :
    ∃ f, Fill.read cf n = some f ∧ fillFacts f = cfFill cf (fillV n) := by
  simp only [validFill, Bool.and_eq_true, uniq, decide_eq_true_eq, Bool.not_eq_true'] at h
  obtain ⟨⟨⟨hpl, u1⟩, hng⟩, hk⟩ := h
  have hng' : ∀ c ∈ n.children, named "gradientFill" c = false := fun c hc => by
    simpa using List.any_eq_false.mp hng c hc
  have hok : n.children.all fillKidOk = true := by
    apply List.all_eq_true.mpr
    intro c hc
    simp only [fillKidOk, hng' c hc, Bool.not_false, Bool.true_and]
    exact List.all_eq_true.mp hk c hc
  obtain ⟨f, hf⟩ := foldOpt_total (Fill.step_total cf) n.children {} hok
  refine ⟨f, hf, ?_⟩
  obtain ⟨hfil, hfind⟩ := or_absent (named "patternFill") (named "gradientFill") n.children hng
  have e1 := foldOpt_field (Fill.step cf) (·.pattern) (fun c => named "patternFill" c || named "gradientFill" c)
    (fun _ b => if named "patternFill" b then PatternFill.read cf b else none)
    (fun x b x' hx => Fill.step_spec cf x x' b hx) hf (by rw [hfil]; exact u1)
  rw [hfind] at e1
  unfold fillFacts fillV
  rw [e1, kid?_eq_find n _ hpl]
  cases hp : n.children.find? (named "patternFill") with
  | none => rfl
  | some b =>
    obtain ⟨p, hpr, hpv⟩ := pattern_agrees cf b (found_of_all_if hk hp)
    simp only [Option.map_some, Option.getD_some, List.find?_some hp, if_true, hpr]
    exact hpv

end Umya.Reader.Lemmas
