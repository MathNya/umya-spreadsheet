import Umya.Lemmas.ReaderStyleFont
import Umya.Lemmas.ReaderStyleFill
import Umya.Lemmas.ReaderStyleBorder
import Umya.Lemmas.ReaderStyleXf
import Umya.Lemmas.ListFacts
namespace Umya.Reader.Lemmas
open Umya.Reader Umya.Spec.Xml Umya.Spec.Sml
open Umya.StyleCodec

theorem filter_key_le_one {α β : Type} [DecidableEq α] (l : List (α × β)) (id : α) (h : (l.map (·.1)).Nodup) :
    (l.filter (fun p => decide (p.1 = id))).length ≤ 1 := by
  have := List.nodup_iff_count.mp h id
  rwa [List.count_eq_countP, List.countP_map, List.countP_eq_length_filter] at this

/-- The library searches the custom formats from the BACK, the decoder from the front: with no id twice both find the same
    entry; where there is none, the built-in table answers (`hk` is the fourth clause of `xfInRange`). -/
theorem nfLookup_agrees (customs : List NumFmt) (nfs : List (Nat × Text))
    (hnf : customs.map (fun v => (v.id, v.code)) = nfs) (hnd : (nfs.map (·.1)).Nodup) (id : Nat)
    (hk : (nfs.any (fun p => decide (p.1 = id)) || (Umya.Style.builtin id).isSome) = true) :
    ∃ v, nfLookup customs id = some v ∧ v.id = id ∧
      (if v.builtIn then none else some v.code) = (nfs.find? (fun p => decide (p.1 = id))).map (·.2) := by
  have hu : (customs.filter (fun c => decide (c.id = id))).length ≤ 1 := by
    have := filter_key_le_one nfs id hnd
    rwa [← hnf, List.filter_map, List.length_map] at this
  have hfind : nfs.find? (fun p => decide (p.1 = id)) =
      (customs.find? (fun c => decide (c.id = id))).map (fun v => (v.id, v.code)) := by
    rw [← hnf, List.find?_map]; rfl
  unfold nfLookup
  rw [find?_reverse_unique hu, hfind]
  cases hc : customs.find? (fun c => decide (c.id = id)) with
  | some c => exact ⟨_, rfl, rfl, rfl⟩
  | none =>
    rw [hc] at hfind
    rw [List.any_eq_false.mpr (List.find?_eq_none.mp hfind), Bool.false_or] at hk
    obtain ⟨code, hcode⟩ := Option.isSome_iff_exists.mp hk
    refine ⟨{ id := id, code := code, builtIn := true }, ?_, rfl, rfl⟩
    simp only [Umya.Style.NumFmt.ofId, hcode, Option.map_some]

/-- the record `make_style` uses as `def_cell_format` carries no `apply*` flag (`make_style` does not look at its alignment /
    protection child) -/
def Neutral (d : XfR) : Prop :=
  d.applyNumFmt = none ∧ d.applyFont = none ∧ d.applyFill = none ∧ d.applyBorder = none ∧ d.applyAlignment = none ∧
  d.applyProtection = none

/-- ids inside their tables where the component is applied; an applied number-format id is defined in `<numFmts>`
    or is one of the built-in ids (the library's table, regenerated from the source) -/
def xfInRange (nfs : List (Nat × Text)) (nFonts nFills nBorders : Nat) (xn : Node) : Bool :=
  (!applied xn "applyFont" || decide (((xn.attr? "fontId".toList).bind natOf).getD 0 < nFonts)) &&
  (!applied xn "applyFill" || decide (((xn.attr? "fillId".toList).bind natOf).getD 0 < nFills)) &&
  (!applied xn "applyBorder" || decide (((xn.attr? "borderId".toList).bind natOf).getD 0 < nBorders)) &&
  (!applied xn "applyNumberFormat" ||
    (nfs.any (fun p => decide (p.1 = ((xn.attr? "numFmtId".toList).bind natOf).getD 0)) ||
     (Umya.Style.builtin (((xn.attr? "numFmtId".toList).bind natOf).getD 0)).isSome))

theorem pick_agrees {α β γ : Type} {l : List α} {m : List β} {f : α → γ} {g : β → γ} (h : l.map f = m.map g)
    {flag : Option Bool} {ap : Bool} (hflag : flag.getD true = ap) {i : Nat} (hr : (!ap || decide (i < m.length)) = true) :
    ∃ o, Umya.Style.pick flag l i = some o ∧ o.map f = (if ap then m[i]? else none).map g := by
  unfold Umya.Style.pick
  rw [hflag]
  cases ap with
  | false => exact ⟨none, rfl, rfl⟩
  | true =>
    simp only [Bool.not_true, Bool.false_or, decide_eq_true_eq] at hr
    have hb : m[i]? = some m[i] := List.getElem?_eq_getElem hr
    have : (l[i]?).map f = some (g m[i]) := by rw [← List.getElem?_map, h, List.getElem?_map, hb]; rfl
    obtain ⟨a, ha, hfa⟩ := Option.map_eq_some_iff.mp this
    refine ⟨some a, by simp [ha], ?_⟩
    simp only [if_true, hb, Option.map_some, hfa]

/-- the component tables the reader built hold, item by item, the decoder's facts of the item lists -/
structure TablesAgree (cf : Tok → Tok) (t : StyleTables) (nfs : List (Nat × Text)) (fontNs fillNs borderNs : List Node) : Prop where
  fonts : t.fonts.map fontFacts = fontNs.map (fun n => cfFont cf (fontV n))
  fills : t.fills.map fillFacts = fillNs.map (fun n => cfFill cf (fillV n))
  borders : t.borders.map borderFacts = borderNs.map (fun n => cfBorder cf (borderV n))
  numFmts : t.numFmts.map (fun v => (v.id, v.code)) = nfs
  nodup : (nfs.map (·.1)).Nodup

theorem resolve_agrees (cf : Tok → Tok) (t : StyleTables) {nfs : List (Nat × Text)} {fontNs fillNs borderNs : List Node}
    (ht : TablesAgree cf t nfs fontNs fillNs borderNs) {d : XfR} (x : XfR) (xn : Node) (hd : Neutral d) (hx : XfAgrees x xn)
    (hr : xfInRange nfs fontNs.length fillNs.length borderNs.length xn = true) :
    ∃ s, resolveXf t d x = some s ∧ styleFacts s = xfFacts cf (xfV nfs fontNs fillNs borderNs xn) := by
  obtain ⟨d1, d2, d3, d4, d5, d6⟩ := hd
  simp only [xfInRange, Bool.and_eq_true] at hr
  obtain ⟨⟨⟨r1, r2⟩, r3⟩, r4⟩ := hr
  rw [← hx.fontId] at r1; rw [← hx.fillId] at r2; rw [← hx.borderId] at r3; rw [← hx.numFmtId] at r4
  obtain ⟨fo, hfo, hfov⟩ := pick_agrees ht.fonts hx.aFont r1
  obtain ⟨fi, hfi, hfiv⟩ := pick_agrees ht.fills hx.aFill r2
  obtain ⟨bo, hbo, hbov⟩ := pick_agrees ht.borders hx.aBorder r3
  have fl : ∀ o : Option Bool, flagOf none o = o := fun o => by cases o <;> rfl
  unfold resolveXf
  simp only [d1, d2, d3, d4, d5, d6, fl, hfo, hfi, hbo]
  refine ⟨_, rfl, ?_⟩
  simp only [styleFacts, xfFacts, xfV, hx.aNumFmt, hx.aAlignment, hx.aProtection, ← hx.fontId, ← hx.fillId,
    ← hx.borderId, ← hx.numFmtId, hfov, hfiv, hbov, apply_ite (Option.map alignFacts), apply_ite (Option.map protFacts),
    Option.map_none, hx.alignment, hx.protection]
  cases hap : applied xn "applyNumberFormat" with
  | false => simp [Option.map_map]; exact ⟨rfl, rfl, rfl⟩
  | true =>
    rw [hap] at r4
    simp only [Bool.not_true, Bool.false_or] at r4
    obtain ⟨v, hv, hvid, hvc⟩ := nfLookup_agrees t.numFmts nfs ht.numFmts ht.nodup x.numFmtId r4
    simp only [if_true, hv, Option.map_some, Option.bind_some, hvid, hvc, Option.map_map]
    rfl

end Umya.Reader.Lemmas
