/-
  The independent XML 1.0 lexer (`Umya/Spec/XmlLex.lean::lexGo`) on the characters the writer model
  (`Umya/Model/XmlWrite.lean`) produces: one lemma per token kind of the shape

      lexGo (.text acc) (<what the writer emits for tok> ++ rest) = flushText acc ((lexGo (.text []) rest).map (tok :: ·))
-/
import Umya.Model.XmlWrite
import Umya.Lemmas.XmlChannel
import Umya.Lemmas.ListFacts
namespace Umya.XmlWrite
open Umya.XmlEsc Umya.XmlChannel
open Umya.Spec.Xml

/-- a name start is none of the characters `lexGo` tests for before it tests for a name start (`/ ? !` in `.lt`; blank, `>`, `/` in
    `.inTag`), nor the `=` that ends an attribute name -/
theorem nameStart_facts (c : Char) (h : isNameStart c = true) :
    isSpace c = false ∧ c ≠ '>' ∧ c ≠ '/' ∧ c ≠ '?' ∧ c ≠ '!' ∧ c ≠ '=' ∧ isNameChar c = true := by
  refine ⟨?_, ?_, ?_, ?_, ?_, ?_, ?_⟩
  · cases hs : isSpace c
    · rfl
    · exfalso
      simp only [isSpace, Bool.or_eq_true, decide_eq_true_eq] at hs
      rcases hs with ((rfl | rfl) | rfl) | rfl <;> revert h <;> decide
  · rintro rfl; revert h; decide
  · rintro rfl; revert h; decide
  · rintro rfl; revert h; decide
  · rintro rfl; revert h; decide
  · rintro rfl; revert h; decide
  · simp [isNameChar, h]

theorem xml_consts : isXmlChar '<' = true ∧ isXmlChar '>' = true ∧ isXmlChar '/' = true ∧ isXmlChar ' ' = true ∧
    isXmlChar '=' = true ∧ isXmlChar '"' = true ∧ isXmlChar '?' = true ∧ isXmlChar '\r' = true ∧ isXmlChar '\n' = true := by decide

theorem wfName_cases {n : List Char} (h : wfName n = true) :
    ∃ c cs, n = c :: cs ∧ isNameStart c = true ∧ isXmlChar c = true ∧ ∀ d ∈ cs, isNameChar d = true ∧ isXmlChar d = true := by
  cases n with
  | nil => simp [wfName] at h
  | cons c cs =>
    simp only [wfName, Bool.and_eq_true, List.all_eq_true] at h
    exact ⟨c, cs, rfl, h.1.1, h.1.2, h.2⟩

theorem allXml_iff (s : List Char) : allXml s = true ↔ ∀ c ∈ s, isXmlChar c = true := by
  simp [allXml, List.all_eq_true]

theorem escaped_xml {f : Char → List Char} {sp : List Char} (hf : Escapes f sp) (s : List Char) (h : allXml s = true) :
    ∀ c ∈ s.flatMap f, isXmlChar c = true :=
  hf.all _ (fun p hp x hx => ((entities_chars p hp).2 x hx).2.2.2.2.2.2.2.2) s (fun c hc _ => (allXml_iff s).1 h c hc)

theorem lex_lt_name (c : Char) (r : List Char) (hs : isNameStart c = true) (hx : isXmlChar c = true) :
    lexGo .lt (c :: r) = lexGo (.startName [c]) r := by
  obtain ⟨_, _, h2, h3, h4, _, _⟩ := nameStart_facts c hs
  rw [lexGo]; simp [hx, h2, h3, h4, hs]

theorem lex_lt_slash (r : List Char) : lexGo .lt ('/' :: r) = lexGo (.endName []) r := by
  rw [lexGo]; simp [xml_consts]

theorem lex_name_run (M : List Char → Mode) (hM : M = .startName ∨ ∃ n as, M = .attrName n as) (cs : List Char)
    (h : ∀ d ∈ cs, isNameChar d = true ∧ isXmlChar d = true) :
    ∀ (acc rest : List Char), lexGo (M acc) (cs ++ rest) = lexGo (M (cs.reverse ++ acc)) rest :=
  run_pushed (fun acc => lexGo (M acc)) (fun c => isNameChar c = true ∧ isXmlChar c = true)
    (fun acc c r hc => by
      rcases hM with rfl | ⟨n, as, rfl⟩ <;>
        (rw [lexGo]; simp only [hc.1, hc.2, Bool.not_true, Bool.false_eq_true, if_false, if_true])) cs h

/-- after the element name the three possible continuations behave as after an attribute -/
theorem lex_startName_delim (acc : List Char) (c : Char) (r : List Char) (hc : c = ' ' ∨ c = '>' ∨ c = '/') :
    lexGo (.startName acc) (c :: r) = lexGo (.needSpace acc.reverse []) (c :: r) := by
  rcases hc with rfl | rfl | rfl <;> (rw [lexGo, lexGo]; simp [xml_consts, isNameChar, isNameStart, isSpace])

theorem lex_attrVal_run (n : List Char) (as : List Attr) (an : List Char) (v : List Char)
    (hx : ∀ c ∈ v, isXmlChar c = true) (hq : '"' ∉ v) (hlt : '<' ∉ v) :
    ∀ (acc rest : List Char), lexGo (.attrVal n as an '"' acc) (v ++ rest) = lexGo (.attrVal n as an '"' (v.reverse ++ acc)) rest :=
  run_pushed (fun acc => lexGo (.attrVal n as an '"' acc)) (fun c => isXmlChar c = true ∧ c ≠ '"' ∧ c ≠ '<')
    (fun acc c r hc => by rw [lexGo]; simp only [hc.1, hc.2.1, hc.2.2, Bool.not_true, Bool.false_eq_true, if_false]) v
    (fun c hc => ⟨hx c hc, fun e => hq (e ▸ hc), fun e => hlt (e ▸ hc)⟩)

theorem lex_attr (n : List Char) (as : List Attr) (a : Attr) (hn : wfName a.name = true) (hv : allXml a.value = true)
    (hnew : a.name ∉ as.map (·.name)) (rest : List Char) :
    lexGo (.needSpace n as) (renderAttr a ++ rest) = lexGo (.needSpace n (as ++ [a])) rest := by
  obtain ⟨k, v⟩ := a
  obtain ⟨c, cs, rfl, hs, hxc, hcs⟩ := wfName_cases hn
  obtain ⟨f1, f2, f3, _, _, _, _⟩ := nameStart_facts c hs
  have hsafe := attrEscape_safe v
  simp only [renderAttr, List.cons_append, List.append_assoc, List.nil_append]
  -- one step of the lexer per delimiter (blank, first character of the name, `=`, the two quotes), the runs between them
  rw [lexGo]; simp only [xml_consts, Bool.not_true, Bool.false_eq_true, if_false]
  simp only [show isSpace ' ' = true by decide, if_true]
  rw [lexGo]; simp only [hxc, f1, f2, f3, hs, Bool.not_true, Bool.false_eq_true, if_false, if_true]
  rw [lex_name_run (.attrName n as) (.inr ⟨n, as, rfl⟩) cs hcs]
  rw [lexGo]; simp only [xml_consts, show isNameChar '=' = false by decide, Bool.not_true, Bool.false_eq_true, if_false, if_true]
  rw [lexGo]; simp only [xml_consts, show isSpace '"' = false by decide, Bool.not_true, Bool.false_eq_true, if_false, true_or, if_true]
  rw [lex_attrVal_run n as _ (attrEscape v) (escaped_xml attrEscChar_cases v hv) (fun h => (hsafe _ h).2.1 rfl) (fun h => (hsafe _ h).1 rfl)]
  rw [lexGo]; simp only [xml_consts, Bool.not_true, Bool.false_eq_true, if_false, if_true]
  have hany : as.any (fun x => decide (x.name = c :: cs)) = false := by
    rw [List.any_eq_false]
    intro x hx
    simp only [decide_eq_true_eq]
    intro e
    exact hnew (by simp only [List.mem_map]; exact ⟨x, hx, e⟩)
  simp [finishAttr, hany, attrValue_attrEscape]

def tagTail (e : Bool) : List Char := if e then ['/', '>'] else ['>']

theorem lex_attrs (n : List Char) (bs : List Attr) :
    ∀ (as : List Attr) (e : Bool) (rest : List Char),
      (∀ b ∈ bs, wfName b.name = true ∧ allXml b.value = true) → ((as ++ bs).map (·.name)).Nodup →
      lexGo (.needSpace n as) (renderAttrs bs ++ (tagTail e ++ rest)) =
        (lexGo (.text []) rest).map (Token.open n (as ++ bs) e :: ·) := by
  induction bs with
  | nil =>
    intro as e rest _ _
    cases e
    · simp only [renderAttrs, List.flatMap_nil, List.nil_append, tagTail, Bool.false_eq_true, if_false, List.cons_append, List.append_nil]
      rw [lexGo]; simp [xml_consts, isSpace]
    · simp only [renderAttrs, List.flatMap_nil, List.nil_append, tagTail, if_true, List.cons_append, List.append_nil]
      rw [lexGo]; simp only [xml_consts, Bool.not_true, Bool.false_eq_true, if_false]
      simp only [show isSpace '/' = false by decide, Bool.false_eq_true, if_false, show ('/' = '>') = False by decide, if_true]
      rw [lexGo]; simp [xml_consts]
  | cons b bs ih =>
    intro as e rest hb hnd
    have hb1 := hb b (by simp)
    have hnew : b.name ∉ as.map (·.name) := by
      simp only [List.map_append, List.map_cons] at hnd
      have := (List.nodup_append.1 hnd).2.2
      intro hm
      exact this _ hm _ (by simp) rfl
    simp only [renderAttrs, List.flatMap_cons, List.append_assoc]
    rw [lex_attr n as b hb1.1 hb1.2 hnew]
    have := ih (as ++ [b]) e rest (fun x hx => hb x (by simp [hx])) (by simpa using hnd)
    simp only [renderAttrs] at this
    rw [this]
    simp

theorem attrs_head (as : List Attr) (e : Bool) (rest : List Char) :
    ∃ d r, renderAttrs as ++ (tagTail e ++ rest) = d :: r ∧ (d = ' ' ∨ d = '>' ∨ d = '/') := by
  cases as with
  | nil =>
    cases e
    · exact ⟨'>', rest, by simp [renderAttrs, tagTail], by simp⟩
    · exact ⟨'/', '>' :: rest, by simp [renderAttrs, tagTail], by simp⟩
  | cons a as => exact ⟨' ', _, by simp only [renderAttrs, List.flatMap_cons, renderAttr, List.cons_append]; rfl, by simp⟩

theorem wfAttrs_iff (as : List Attr) : wfAttrs as = true ↔
    (∀ b ∈ as, wfName b.name = true ∧ allXml b.value = true) ∧ (as.map (·.name)).Nodup := by
  simp [wfAttrs, List.all_eq_true]

theorem flushText_nil (x : Option (List Token)) : flushText [] x = x := by simp [flushText]

theorem writeStartTag_eq (n : List Char) (as : List Attr) (e : Bool) (rest : List Char) :
    writeStartTag n as e ++ rest = '<' :: (n ++ (renderAttrs as ++ (tagTail e ++ rest))) := by
  cases e <;> simp [writeStartTag, startKind, writeEvent, tagTail]

theorem lex_startTag (n : List Char) (as : List Attr) (e : Bool) (hn : wfName n = true) (ha : wfAttrs as = true)
    (acc rest : List Char) :
    lexGo (.text acc) (writeStartTag n as e ++ rest) =
      flushText acc ((lexGo (.text []) rest).map (Token.open n as e :: ·)) := by
  obtain ⟨c, cs, rfl, hs, hxc, hcs⟩ := wfName_cases hn
  obtain ⟨ha1, ha2⟩ := (wfAttrs_iff as).1 ha
  rw [writeStartTag_eq, lex_text_lt, List.cons_append, lex_lt_name c _ hs hxc, lex_name_run .startName (.inl rfl) cs hcs]
  obtain ⟨d, r, hdr, hd⟩ := attrs_head as e rest
  rw [hdr, lex_startName_delim _ d r hd, ← hdr]
  have := lex_attrs (c :: cs) as [] e rest ha1 (by simpa using ha2)
  simp only [List.nil_append] at this
  simp only [List.reverse_append, List.reverse_cons, List.reverse_nil, List.nil_append, List.reverse_reverse, List.singleton_append]
  rw [this]

/-- after the first character of the name (`c0`, which makes the accumulator non-empty) -/
theorem lex_endName_run (c0 : Char) (cs : List Char) (h : ∀ d ∈ cs, isNameChar d = true ∧ isXmlChar d = true) (rest : List Char) :
    lexGo (.endName [c0]) (cs ++ rest) = lexGo (.endName (cs.reverse ++ [c0])) rest := by
  have := run_pushed (fun a => lexGo (.endName (a ++ [c0]))) (fun c => isNameChar c = true ∧ isXmlChar c = true)
    (fun acc c r hc => by
      have he : (acc ++ [c0]).isEmpty = false := by simp
      rw [lexGo]
      simp only [hc.1, hc.2, he, Bool.not_true, Bool.false_eq_true, if_false, if_true, List.cons_append])
    cs h [] rest
  simpa using this

theorem lex_endTag (n : List Char) (hn : wfName n = true) (acc rest : List Char) :
    lexGo (.text acc) (writeEndTag n ++ rest) = flushText acc ((lexGo (.text []) rest).map (Token.close n :: ·)) := by
  obtain ⟨c, cs, rfl, hs, hxc, hcs⟩ := wfName_cases hn
  simp only [writeEndTag, writeEvent, List.cons_append, List.append_assoc, List.nil_append]
  rw [lex_text_lt, lex_lt_slash]
  rw [lexGo]; simp only [hxc, hs, List.isEmpty_nil, Bool.not_true, Bool.false_eq_true, if_false, if_true]
  rw [lex_endName_run c cs hcs]
  rw [lexGo]
  have he : (cs.reverse ++ [c]).isEmpty = false := by simp
  simp only [xml_consts, he, show isNameChar '>' = false by decide, show isSpace '>' = false by decide,
    Bool.not_true, Bool.false_eq_true, if_false, if_true]
  simp

/-- the lexer ends a processing instruction only at `?>`; a body with no `>` at all is the simple way to have none inside -/
theorem lex_pi_run (body : List Char) (h : ∀ c ∈ body, isXmlChar c = true ∧ c ≠ '>') :
    ∀ (q : Bool) (rest : List Char), lexGo (.pi q) (body ++ '?' :: '>' :: rest) = lexGo (.text []) rest := by
  induction body with
  | nil =>
    intro q rest
    rw [List.nil_append, lexGo]; simp only [xml_consts, Bool.not_true, Bool.false_eq_true, if_false]
    simp only [show ('?' = '>') = False by decide, false_and, if_false]
    rw [lexGo]; simp [xml_consts]
  | cons c r ih =>
    intro q rest
    rw [List.cons_append, lexGo]
    simp only [(h c (by simp)).1, (h c (by simp)).2, Bool.not_true, Bool.false_eq_true, if_false, false_and]
    exact ih (fun d hd => h d (by simp [hd])) _ rest

theorem lex_pi (body : List Char) (h : ∀ c ∈ body, isXmlChar c = true ∧ c ≠ '>') (rest : List Char) :
    lexGo (.text []) ('<' :: '?' :: body ++ ['?', '>'] ++ rest) = lexGo (.text []) rest := by
  simp only [List.cons_append, List.append_assoc, List.nil_append]
  rw [lex_text_lt, flushText_nil]
  rw [lexGo]; simp only [xml_consts, Bool.not_true, Bool.false_eq_true, if_false]
  simp only [show ('?' = '/') = False by decide, if_false, if_true]
  exact lex_pi_run body h false rest

/-- the sweep runs on the literal's characters (`toList_lit`) -/
theorem lex_decl (rest : List Char) : lexGo (.text []) (writeDecl ++ rest) = lexGo (.text []) rest :=
  lex_pi declBody (by unfold declBody; simp only [toList_lit]; decide +kernel) rest

end Umya.XmlWrite
