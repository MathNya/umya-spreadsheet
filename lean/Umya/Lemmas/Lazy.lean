/-
  Materialisation commutes with every operation of Model/Lazy.lean; no operation changes the workbook-level tables
  (`run_tables`), and interning, which a save does, only appends to them (`internAll_prefix`); the writer manager only
  ever appends (first writer wins), so names stay unique, parts that are there stay there with their content (`Ext`);
  the smallest-free-index allocation is fresh (`firstFree_free`).
-/
import Umya.Model.Lazy
import Umya.Lemmas.FreeIndex
import Umya.Lemmas.ListFacts
namespace Umya.Lazy

section view
variable {C E : Type} (cd : Codec C E)

theorem materialise_name (T : Tables) (s : Sheet C) : (materialise cd T s).name = s.name := by
  unfold materialise; cases s.body <;> rfl

theorem materialise_notRaw (T : Tables) (s : Sheet C) : (materialise cd T s).isRaw = false := by
  unfold materialise Sheet.isRaw
  cases h : s.body <;> simp [h]

theorem materialise_of_notRaw (T : Tables) (s : Sheet C) (h : s.isRaw = false) : materialise cd T s = s := by
  unfold materialise
  unfold Sheet.isRaw at h
  cases hb : s.body <;> simp [hb] at h ⊢

theorem materialise_idem (T : Tables) (s : Sheet C) :
    materialise cd T (materialise cd T s) = materialise cd T s :=
  materialise_of_notRaw cd T _ (materialise_notRaw cd T s)

theorem editSheet_name (T : Tables) (e : E) (s : Sheet C) : (editSheet cd T e s).name = s.name := by
  unfold editSheet; split <;> rfl

theorem editSheet_notRaw (T : Tables) (e : E) (s : Sheet C) : (editSheet cd T e s).isRaw = false := by
  have h := materialise_notRaw cd T s
  unfold editSheet
  cases hb : (materialise cd T s).body with
  | loaded l => simp [Sheet.isRaw]
  | raw r => simp [Sheet.isRaw, hb] at h

theorem editSheet_materialise (T : Tables) (e : E) (s : Sheet C) :
    editSheet cd T e (materialise cd T s) = editSheet cd T e s := by
  unfold editSheet
  rw [materialise_idem]
  unfold materialise
  cases hb : s.body <;> simp

theorem materialise_editSheet (T : Tables) (e : E) (s : Sheet C) :
    materialise cd T (editSheet cd T e s) = editSheet cd T e s :=
  materialise_of_notRaw cd T _ (editSheet_notRaw cd T e s)

theorem map_modifyAt {α β} (f : α → β) (g : α → α) (g' : β → β) (h : ∀ x, f (g x) = g' (f x)) :
    ∀ (l : List α) (i : Nat), (modifyAt g l i).map f = modifyAt g' (l.map f) i
  | [], _ => rfl
  | x :: xs, 0 => by simp [modifyAt, h]
  | x :: xs, i + 1 => by simp [modifyAt, map_modifyAt f g g' h xs i]

theorem modifyAt_eq_modify {α} (f : α → α) : ∀ (l : List α) (i : Nat), modifyAt f l i = l.modify i f
  | [], _ => by simp [modifyAt]
  | _ :: _, 0 => rfl
  | x :: xs, i + 1 => by simp [modifyAt, modifyAt_eq_modify f xs i]

theorem modifyAt_length {α} (f : α → α) (l : List α) (i : Nat) : (modifyAt f l i).length = l.length := by
  rw [modifyAt_eq_modify, List.length_modify]

theorem modifyAt_getElem? {α} (f : α → α) (l : List α) (i j : Nat) :
    (modifyAt f l i)[j]? = if i = j then (l[j]?).map f else l[j]? := by
  rw [modifyAt_eq_modify, List.getElem?_modify]
  split <;> simp

theorem findName_map (f : Sheet C → Sheet C) (hf : ∀ s, (f s).name = s.name) (n : Name) :
    ∀ l : List (Sheet C), findName n (l.map f) = findName n l
  | [] => rfl
  | s :: ss => by simp [findName, hf, findName_map f hf n ss]

theorem hasName_map (f : Sheet C → Sheet C) (hf : ∀ s, (f s).name = s.name) (n : Name) (l : List (Sheet C)) :
    hasName n (l.map f) = hasName n l := by
  unfold hasName
  rw [List.any_map]
  exact congrArg _ (funext fun s => by simp [hf])

theorem filter_name_map (f : Sheet C → Sheet C) (hf : ∀ s, (f s).name = s.name) (n : Name) (l : List (Sheet C)) :
    (l.filter (fun s => s.name ≠ n)).map f = (l.map f).filter (fun s => s.name ≠ n) := by
  rw [List.filter_map]
  congr 2
  funext s
  simp [hf]

theorem step_tables (b : Book C) (op : Op E) : (step cd b op).1.tables = b.tables := by
  unfold step; (repeat' split) <;> rfl

theorem run_tables (b : Book C) (ops : List (Op E)) : (run cd b ops).tables = b.tables :=
  List.foldlRecOn (motive := fun b' => b'.tables = b.tables) ops _ rfl fun b' h o _ => (step_tables cd b' o).trans h

theorem eagerOf_tables (b : Book C) : (eagerOf cd b).tables = b.tables := rfl

/-- case by case: what an operation does to the list of sheets commutes with `map (materialise …)` (`map_modifyAt`,
    `map_eraseIdx`, `filter_name_map`), and what it asks of the list (a length, a name) does not see `materialise` -/
theorem step_eagerOf (b : Book C) (op : Op E) :
    (step cd (eagerOf cd b) op).2 = (step cd b op).2 ∧
    (step cd (eagerOf cd b) op).1 = eagerOf cd (step cd b op).1 := by
  have hn := materialise_name cd b.tables
  have hmm := map_modifyAt (materialise cd b.tables) (materialise cd b.tables) (materialise cd b.tables) (fun _ => rfl)
  cases op with
  | readSheet i | getMut i => by_cases h : i < b.sheets.length <;> simp [step, eagerOf, h, hmm]
  | byName n => cases h : findName n b.sheets <;> simp [step, eagerOf, findName_map _ hn, h, hmm]
  | readAll => simp [step, eagerOf]
  | edit i e =>
    have h2 : ∀ x, materialise cd b.tables (editSheet cd b.tables e x) = editSheet cd b.tables e (materialise cd b.tables x) := by
      intro x; rw [materialise_editSheet, editSheet_materialise]
    by_cases h : i < b.sheets.length <;>
      simp [step, eagerOf, h, map_modifyAt (materialise cd b.tables) (editSheet cd b.tables e) (editSheet cd b.tables e) h2]
  | newSheet n => by_cases h : hasName n b.sheets = true <;> simp [step, eagerOf, hasName_map _ hn, h, materialise]
  | removeSheet i => by_cases h : i < b.sheets.length <;> simp [step, eagerOf, h, map_eraseIdx]
  | removeByName n =>
    by_cases h : hasName n b.sheets = true
    · simp only [step, eagerOf, hasName_map _ hn, h, if_true, filter_name_map _ hn]
      exact ⟨trivial, trivial⟩
    · simp [step, eagerOf, hasName_map _ hn, h]
  | setName i n =>
    have h3 : ∀ x : Sheet C, materialise cd b.tables { x with name := n } = { materialise cd b.tables x with name := n } := by
      intro x; cases x with | mk nm body => cases body <;> rfl
    by_cases h : hasName n b.sheets = true <;> by_cases h' : i < b.sheets.length <;>
      simp [step, eagerOf, hasName_map _ hn, h, h',
        map_modifyAt (materialise cd b.tables) (fun s => { s with name := n }) (fun s => { s with name := n }) h3]
  | wbEdit n e1 e2 =>
    refine ⟨rfl, ?_⟩
    simp only [step, eagerOf, List.map_map]
    congr 1
    apply List.map_congr_left
    intro s _
    simp only [Function.comp, hn]
    split
    · rw [materialise_editSheet, editSheet_materialise]
    · rw [materialise_editSheet, editSheet_materialise]

theorem run_eagerOf (b : Book C) (ops : List (Op E)) :
    run cd (eagerOf cd b) ops = eagerOf cd (run cd b ops) := by
  induction ops generalizing b with
  | nil => rfl
  | cons o os ih =>
    simp only [run, List.foldl_cons] at ih ⊢
    rw [(step_eagerOf cd b o).2, ih]

end view

theorem intern_prefix (t : List Nat) (x : Nat) : t <+: intern t x := by
  unfold intern; split
  · exact List.prefix_refl _
  · exact List.prefix_append _ _

theorem internAll_prefix (t : List Nat) (xs : List Nat) : t <+: internAll t xs :=
  List.foldlRecOn (motive := fun t' => t <+: t') xs intern (List.prefix_refl t) fun t' h x _ => h.trans (intern_prefix t' x)

section wm
variable {C : Type}

theorem lookupPart_eq_find (ps : List (PName × Content C)) (n : PName) :
    lookupPart ps n = (ps.find? (·.1 = n)).map (·.2) := by
  induction ps with
  | nil => rfl
  | cons x xs ih =>
    rw [lookupPart, List.find?_cons]
    by_cases e : x.1 = n <;> simp [e, ih]

theorem hasPart_eq_isSome (ps : List (PName × Content C)) (n : PName) : hasPart ps n = (lookupPart ps n).isSome := by
  induction ps with
  | nil => rfl
  | cons x xs ih =>
    obtain ⟨m, c⟩ := x
    by_cases h : m = n <;> simp [hasPart, lookupPart, h, ih]

theorem lookupPart_none_of_not_has {ps : List (PName × Content C)} {n : PName} (h : hasPart ps n = false) : lookupPart ps n = none := by
  rwa [hasPart_eq_isSome, Option.isSome_eq_false_iff, Option.isNone_iff_eq_none] at h

theorem has_of_lookup_some {ps : List (PName × Content C)} {n : PName} {c : Content C} (h : lookupPart ps n = some c) : hasPart ps n = true := by
  rw [hasPart_eq_isSome, h]; rfl

theorem lookupPart_mem {l : List (PName × Content C)} {n : PName} {c : Content C} (h : lookupPart l n = some c) : (n, c) ∈ l := by
  rw [lookupPart_eq_find] at h
  obtain ⟨p, hp, rfl⟩ := Option.map_eq_some_iff.1 h
  have e : p.1 = n := by simpa using List.find?_some hp
  exact e ▸ List.mem_of_find?_eq_some hp

theorem hasPart_iff (ps : List (PName × Content C)) (n : PName) : hasPart ps n = true ↔ ∃ c, (n, c) ∈ ps := by
  rw [hasPart_eq_isSome, lookupPart_eq_find, Option.isSome_map, List.find?_isSome]
  simp

theorem hasPart_of_mem {l : List (PName × Content C)} {n : PName} {c : Content C} (h : (n, c) ∈ l) : hasPart l n = true :=
  (hasPart_iff l n).mpr ⟨c, h⟩

theorem lookupPart_of_unique {l : List (PName × Content C)} {n : PName} {c : Content C} (h : (n, c) ∈ l)
    (hu : ∀ c', (n, c') ∈ l → c' = c) : lookupPart l n = some c := by
  cases hl : lookupPart l n with
  | none => have := hasPart_of_mem h; rw [hasPart_eq_isSome, hl] at this; cases this
  | some c' => rw [hu c' (lookupPart_mem hl)]

theorem lookupPart_append (ps qs : List (PName × Content C)) (n : PName) :
    lookupPart (ps ++ qs) n = (lookupPart ps n).or (lookupPart qs n) := by
  simp only [lookupPart_eq_find, List.find?_append, Option.map_or]

theorem hasPart_append (ps qs : List (PName × Content C)) (n : PName) :
    hasPart (ps ++ qs) n = (hasPart ps n || hasPart qs n) := by
  simp only [hasPart_eq_isSome, lookupPart_append, Option.isSome_or]

theorem mem_add {w : WM C} {n : PName} {c : Content C} {x : PName × Content C} (h : x ∈ (w.add n c).parts) :
    x ∈ w.parts ∨ x = (n, c) := by
  unfold WM.add at h
  split at h
  · exact Or.inl h
  · simpa using h

theorem add_lookup (w : WM C) (n m : PName) (c : Content C) :
    lookupPart (w.add n c).parts m = lookupPart (w.parts ++ [(n, c)]) m := by
  unfold WM.add
  split
  · rename_i h
    rw [lookupPart_append]
    cases hw : lookupPart w.parts m with
    | some d => rfl
    | none =>
      have hne : n ≠ m := fun e => by rw [WM.has, e, hasPart_eq_isSome, hw] at h; cases h
      simp [lookupPart, hne]
  · rfl

theorem add_has_iff {w : WM C} {n m : PName} {c : Content C} : (w.add n c).has m = true ↔ (w.has m = true ∨ m = n) := by
  have e : n = m ↔ m = n := eq_comm
  rw [WM.has, hasPart_eq_isSome, add_lookup, ← hasPart_eq_isSome, hasPart_append]
  simp [WM.has, hasPart, e]

theorem add_has_self {w : WM C} {n : PName} {c : Content C} : (w.add n c).has n = true :=
  add_has_iff.mpr (Or.inr rfl)

theorem add_has_mono {w : WM C} {n m : PName} {c : Content C} (h : w.has m = true) : (w.add n c).has m = true :=
  add_has_iff.mpr (Or.inl h)

theorem add_lookup_of_has (w : WM C) (n m : PName) (c : Content C) (h : w.has m = true) :
    (w.add n c).lookup m = w.lookup m := by
  rw [WM.has, hasPart_eq_isSome, Option.isSome_iff_exists] at h
  obtain ⟨d, hd⟩ := h
  simp only [WM.lookup, add_lookup, lookupPart_append, hd, Option.some_or]

theorem add_lookup_new (w : WM C) (n : PName) (c : Content C) (h : w.has n = false) :
    (w.add n c).lookup n = some c := by
  rw [WM.lookup, add_lookup, lookupPart_append, lookupPart_none_of_not_has h]
  simp [lookupPart]

/-- `b` arises from `a` by `add`s of names that satisfy `P` -/
inductive Ext (P : PName → Prop) : WM C → WM C → Prop where
  | refl (w : WM C) : Ext P w w
  | add {a b : WM C} (n : PName) (c : Content C) : P n → Ext P a b → Ext P a (b.add n c)

theorem Ext.trans {P : PName → Prop} {a b c : WM C} (h1 : Ext P a b) (h2 : Ext P b c) : Ext P a c := by
  induction h2 with
  | refl => exact h1
  | add n c hp _ ih => exact Ext.add n c hp ih

theorem Ext.single {P : PName → Prop} (w : WM C) (n : PName) (c : Content C) (h : P n) : Ext P w (w.add n c) :=
  Ext.add n c h (Ext.refl w)

theorem Ext.has_mono {P : PName → Prop} {a b : WM C} (h : Ext P a b) (m : PName) (hm : a.has m = true) : b.has m = true := by
  induction h with
  | refl => exact hm
  | add n c _ _ ih => exact add_has_mono ih

theorem Ext.lookup_stable {P : PName → Prop} {a b : WM C} (h : Ext P a b) (m : PName) (hm : a.has m = true) :
    b.lookup m = a.lookup m := by
  induction h with
  | refl => rfl
  | add n c _ h' ih => rw [add_lookup_of_has _ n m c (h'.has_mono m hm), ih]

theorem Ext.new_name {P : PName → Prop} {a b : WM C} (h : Ext P a b) (m : PName) (hm : b.has m = true) :
    a.has m = true ∨ P m := by
  induction h with
  | refl => exact Or.inl hm
  | add n c hp _ ih =>
    rcases add_has_iff.mp hm with h1 | rfl
    · exact ih h1
    · exact Or.inr hp

theorem Ext.lookup_eq {P : PName → Prop} {a b : WM C} (h : Ext P a b) (n : PName) (hn : ¬ P n) : b.lookup n = a.lookup n := by
  cases hh : a.has n with
  | true => exact h.lookup_stable n hh
  | false =>
    have hb : b.has n = false := eq_false_of_ne_true fun h' => by
      rcases h.new_name n h' with h1 | h1
      · rw [hh] at h1; cases h1
      · exact hn h1
    exact (lookupPart_none_of_not_has hb).trans (lookupPart_none_of_not_has hh).symm

def NoDupNames (w : WM C) : Prop := (w.parts.map (·.1)).Nodup

theorem add_nodup (w : WM C) (n : PName) (c : Content C) (h : NoDupNames w) : NoDupNames (w.add n c) := by
  unfold WM.add
  split
  · exact h
  · rename_i hn
    unfold NoDupNames at h ⊢
    rw [List.map_append, List.nodup_append]
    refine ⟨h, by simp, ?_⟩
    intro a ha b hb e
    simp only [List.map_cons, List.map_nil, List.mem_singleton] at hb
    subst e hb
    obtain ⟨x, hx, rfl⟩ := List.mem_map.mp ha
    exact hn (hasPart_of_mem hx)

theorem Ext.nodup {P : PName → Prop} {a b : WM C} (h : Ext P a b) (ha : NoDupNames a) : NoDupNames b := by
  induction h with
  | refl => exact ha
  | add n c _ _ ih => exact add_nodup _ n c ih

def NotSheet (n : PName) : Prop := ∀ k, n ≠ .sheet k

def leafNames : List Leaf → List PName
  | [] => []
  | .fixed n :: r => n :: leafNames r
  | _ :: r => leafNames r

/-- the fixed names a profile mentions -/
def profNames : Profile → List PName
  | [] => []
  | .leaf (.fixed n) :: r => n :: profNames r
  | .leaf _ :: r => profNames r
  | .node _ kids :: r => leafNames kids ++ profNames r

def Item.leaves : Item → List Leaf
  | .leaf l => [l]
  | .node _ kids => kids

theorem mem_leafNames {n : PName} : ∀ {ls : List Leaf}, n ∈ leafNames ls ↔ Leaf.fixed n ∈ ls
  | [] => by simp [leafNames]
  | l :: ls => by cases l <;> simp [leafNames, mem_leafNames (ls := ls), eq_comm]

theorem profNames_cons (x : Item) (xs : Profile) : profNames (x :: xs) = leafNames (Item.leaves x) ++ profNames xs := by
  cases x with
  | leaf l => cases l <;> rfl
  | node f kids => rfl

theorem mem_profNames {n : PName} : ∀ {prof : Profile}, n ∈ profNames prof ↔ ∃ x ∈ prof, Leaf.fixed n ∈ Item.leaves x
  | [] => by simp [profNames]
  | x :: xs => by
    rw [profNames_cons, List.mem_append, mem_leafNames, mem_profNames (prof := xs)]
    simp only [List.mem_cons, exists_eq_or_imp]

theorem has_le_maxIdx (f : Fam) : ∀ (ps : List (PName × Content C)) (i : Nat), hasPart ps (.fam f i) = true → i ≤ maxIdx f ps
  | [], _, h => by simp [hasPart] at h
  | (m, c) :: r, i, h => by
    by_cases hm : m = .fam f i
    · subst hm
      simp only [maxIdx, if_true]
      exact Nat.le_max_left _ _
    · simp only [hasPart, hm, if_false] at h
      have ih := has_le_maxIdx f r i h
      cases m with
      | fam g k =>
        simp only [maxIdx]
        split
        · exact Nat.le_trans ih (Nat.le_max_right _ _)
        · exact ih
      | sheet _ | other _ | rels _ => simpa [maxIdx] using ih

theorem firstFreeFrom_eq (w : WM C) (f : Fam) : ∀ (fuel i : Nat), firstFreeFrom w f fuel i = freeFrom (fun i => w.has (.fam f i)) fuel i
  | 0, _ => rfl
  | fuel + 1, i => by rw [firstFreeFrom, freeFrom, firstFreeFrom_eq w f fuel]

theorem firstFree_free (w : WM C) (f : Fam) : w.has (.fam f (w.firstFree f)) = false := by
  rw [WM.firstFree, firstFreeFrom_eq]
  -- the fuel is `maxIdx f w.parts` and every taken index is at most that: the candidates from 1 on cannot all be taken
  exact freeFrom_free _ (maxIdx f w.parts) 1 fun j hj => by have := has_le_maxIdx f w.parts j hj; omega

theorem firstFree_smallest (w : WM C) (f : Fam) (k : Nat) (h1 : 1 ≤ k) (h2 : k < w.firstFree f) : w.has (.fam f k) = true := by
  rw [WM.firstFree, firstFreeFrom_eq] at h2
  exact (freeFrom_spec _ _ 1).2.1 k h1 h2

theorem firstFree_pos (w : WM C) (f : Fam) : 1 ≤ w.firstFree f := by
  rw [WM.firstFree, firstFreeFrom_eq]
  exact (freeFrom_spec _ _ 1).1

end wm

end Umya.Lazy
