/-
  `Columns::write_to` merges adjacent equal columns into one `<col min max>`; the reader expands
  `min..=max` again.  The expansion of the merged list is the list itself.
-/
import Umya.Model.Style
namespace Umya.Style

variable {σ : Type}

theorem bit_inj {a b : Bool} (h : bit a = bit b) : a = b := by
  cases a <;> cases b <;> simp [bit] at h ⊢

/-- the concatenated key of a column is injective (unlike the font key before 76f6c24, `Thm.C05.C05_key_lookup_merges_fails`): the two
    flags are one character each, so the width text is whatever precedes them -/
theorem Col.keyText_inj {c d : Col σ} (h : c.keyText = d.keyText) :
    c.width = d.width ∧ c.hidden = d.hidden ∧ c.bestFit = d.bestFit := by
  unfold Col.keyText at h
  obtain ⟨h1, h2⟩ := List.append_inj' h rfl
  obtain ⟨h3, h4⟩ := List.append_inj' h1 rfl
  exact ⟨h3, bit_inj (by simpa using h4), bit_inj (by simpa using h2)⟩

theorem sameRun_eq [DecidableEq σ] {key : Tok → Tok} (hkey : ∀ a b, key a = key b → a = b) {obj c : Col σ} {max : Nat}
    (h : sameRun key obj c max = true) : c = { obj with num := max + 1 } := by
  unfold sameRun at h
  simp only [Bool.and_eq_true, beq_iff_eq] at h
  obtain ⟨⟨hn, hk⟩, hs⟩ := h
  obtain ⟨hw, hh, hb⟩ := Col.keyText_inj (hkey _ _ hk)
  cases c; cases obj
  cases hn; cases hw; cases hh; cases hb; cases hs
  rfl

theorem expand_cons (r : ColRun σ) (rs : List (ColRun σ)) : expand (r :: rs) = expandRun r ++ expand rs := by
  simp [expand]

theorem expandRun_self (c : Col σ) : expandRun ⟨c.num, c.num, c⟩ = [c] := by
  simp [expandRun, show c.num + 1 - c.num = 1 by omega]

theorem expandRun_succ (obj : Col σ) {min max : Nat} (h : min ≤ max) :
    expandRun ⟨min, max + 1, obj⟩ = expandRun ⟨min, max, obj⟩ ++ [{ obj with num := max + 1 }] := by
  simp only [expandRun]
  rw [show max + 1 + 1 - min = (max + 1 - min) + 1 by omega, List.range'_concat, List.map_append]
  simp [show min + (max + 1 - min) = max + 1 by omega]

theorem mergeGo_expand [DecidableEq σ] {key : Tok → Tok} (hkey : ∀ a b, key a = key b → a = b) :
    ∀ (cs : List (Col σ)) (obj : Col σ) (min max : Nat), min ≤ max →
      expand (mergeGo key obj min max cs) = expandRun ⟨min, max, obj⟩ ++ cs
  | [], obj, min, max, _ => by simp [mergeGo, expand]
  | c :: cs, obj, min, max, hle => by
    unfold mergeGo
    split
    · next hs =>
      rw [mergeGo_expand hkey cs obj min (max + 1) (by omega), expandRun_succ obj hle, sameRun_eq hkey hs,
        List.append_assoc]
      rfl
    · rw [expand_cons, mergeGo_expand hkey cs c c.num c.num (Nat.le_refl _), expandRun_self]
      rfl

/-- for ANY list: the merge only ever joins a column to the run that ends just before it and has the same
    width / hidden / bestFit / style -/
theorem expand_mergeCols [DecidableEq σ] {key : Tok → Tok} (hkey : ∀ a b, key a = key b → a = b) (l : List (Col σ)) :
    expand (mergeCols key l) = l := by
  cases l with
  | nil => rfl
  | cons c cs => rw [mergeCols, mergeGo_expand hkey cs c c.num c.num (Nat.le_refl _), expandRun_self]; rfl

end Umya.Style
