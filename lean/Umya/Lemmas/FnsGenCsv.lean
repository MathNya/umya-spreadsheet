/-
  Tie to the source, `src/writer/csv.rs::write_writer`: the per-field pipeline of the column loop
  (trim → wrap with doubling / conditional quoting) and the per-row output (`join(",")`, `"\r\n"`) as compiled from
  the source on this run are the hand model's `renderField` / `renderRow` (`Umya/Model/Csv.lean`).
  Representation: the source handles `wrap_with_char` as a string; the model covers the empty string (`none`) and
  one-character strings (`some q`): `wrapText`.
-/
import Umya.Lemmas.FnsGen
import Umya.Model.Csv
namespace Umya.Gen
open Umya.Csv
set_option linter.unusedSimpArgs false

def wrapText : Option Char → List Char
  | none => []
  | some q => [q]

theorem rt_trim_eq (s : List Char) : rt_trim s = trim s := rfl

theorem rt_join_eq (sep : List Char) (l : List (List Char)) : rt_join sep l = join sep l := by
  fun_induction join sep l with
  | case1 => rfl
  | case2 x => rfl
  | case3 x y r ih => simp [rt_join, ih]

theorem replace_str_one (q : Char) (to v : List Char) :
    rt_replace_str v [q] to = v.flatMap (fun c => if c = q then to else [c]) := by
  unfold rt_replace_str
  induction v with
  | nil => rfl
  | cons c r ih =>
    by_cases h : c = q
    · subst h; simp [replaceGo, List.isPrefixOf, ih]
    · have h' : ¬ q = c := fun e => h e.symm
      simp [replaceGo, List.isPrefixOf, ih, h, h']

theorem replace_char_one (q : Char) (to v : List Char) :
    rt_replace_char v q to = v.flatMap (fun c => if c = q then to else [c]) := by
  unfold rt_replace_char replaceChars
  congr 1; funext c
  by_cases h : c = q
  · subst h; simp
  · have h' : ¬ q = c := fun e => h e.symm
    simp [h, h']

/-- `wrap.repeat(2)`: the wrap character doubled inside a field (csv.rs) -/
theorem rt_repeat_two (s : List Char) : rt_repeat s 2 = s ++ s := by simp [rt_repeat, List.replicate]

attribute [gen_nf] rt_trim_eq rt_join_eq replace_str_one replace_char_one rt_repeat_two

/-- the quoting test, whatever the order of the alternatives of the `matches!` (or a chain of `==`) in the source -/
theorem any_quote (v : List Char) (f : Char → Bool) (h : ∀ c, f c = (c == ',' || c == '"' || c == '\r' || c == '\n')) :
    List.any v f = needsQuote v := by
  unfold needsQuote; congr 1; funext c; exact h c

/-- discharges the side condition of `any_quote`: a Boolean combination of comparisons of one character with literals -/
macro "char_cases" : tactic => `(tactic|
  (intro (c : Char)        -- fails cleanly on any other side goal `simp` hands to the discharger
   by_cases h1 : c = ','
   · subst h1; decide
   by_cases h2 : c = '"'
   · subst h2; decide
   by_cases h3 : c = '\r'
   · subst h3; decide
   by_cases h4 : c = '\n'
   · subst h4; decide
   have e1 : (c == ',') = false := beq_eq_false_iff_ne.2 h1
   have e2 : (c == '"') = false := beq_eq_false_iff_ne.2 h2
   have e3 : (c == '\r') = false := beq_eq_false_iff_ne.2 h3
   have e4 : (c == '\n') = false := beq_eq_false_iff_ne.2 h4
   simp [e1, e2, e3, e4]))

/-- the column loop's statements between the fetch of the value and `row_vec.push(value)` = `renderField`
    (compiled once on their own, here, and once inside the loop body, `gen_csv_column_body`: each copy is compared with the
    model by itself) -/
theorem gen_csv_field (o : Opts) (v : Text) : csv_field o.trim (wrapText o.wrap) v = renderField o v := by
  unfold csv_field renderField fieldValue quoted escape
  -- the quoting test brought to the model's `needsQuote`, whatever its spelling
  try simp (disch := char_cases) only [any_quote]
  try simp only [Nat.add_comm 1]
  cases hw : o.wrap with
  | none =>
    cases ht : o.trim <;>
      simp [wrapText, gen_nf] <;>
      (repeat' split) <;> simp_all
  | some q =>
    cases ht : o.trim <;>
      simp [wrapText, gen_nf]

/-- what one iteration of the row loop appends after the column loop = `join(",")` followed by CR LF -/
theorem gen_csv_row (o : Opts) (row : List Text) : csv_row (row.map (renderField o)) = renderRow o row := by
  unfold csv_row renderRow
  simp [rt_join_eq]

/-- `worksheet.get_cell((column, row))` + `get_value()` on the model's grid -/
def gridCell (g : Grid) : Nat × Nat → Option Text := fun p => g.lookup (p.2, p.1)

/-- the body of the column loop: fetch (a missing cell is the empty text), the field pipeline, `row_vec.push(value)` -/
theorem gen_csv_column_body (g : Grid) (o : Opts) (row : Nat) (rv : List Text) (col : Nat) :
    csv_text_loop_0_loop_0 o.trim (gridCell g) (wrapText o.wrap) row rv col =
      rv ++ [renderField o (g.get (row + 1) (col + 1))] := by
  unfold csv_text_loop_0_loop_0 renderField fieldValue quoted escape Grid.get gridCell
  -- the quoting test brought to the model's `needsQuote`, whatever its spelling
  try simp (disch := char_cases) only [any_quote]
  try simp only [Nat.add_comm 1]
  cases hl : List.lookup (row + 1, col + 1) g <;> cases hw : o.wrap with
  | none =>
    cases ht : o.trim <;>
      simp [wrapText, gen_nf] <;>
      (repeat' split) <;> simp_all
  | some q =>
    cases ht : o.trim <;>
      simp [wrapText, gen_nf]

/-- the body of the row loop: the column loop from an empty `row_vec`, then `join(",")` and CR LF appended to `data` -/
theorem gen_csv_row_body (g : Grid) (o : Opts) (mc : Nat) (data : Text) (row : Nat) :
    csv_text_loop_0 o.trim (gridCell g) (wrapText o.wrap) mc data row =
      data ++ renderRow o ((List.range mc).map fun col => g.get (row + 1) (col + 1)) := by
  unfold csv_text_loop_0 renderRow
  simp only [gen_csv_column_body, foldl_push, rt_join_eq, List.nil_append, List.map_map, Function.comp_def, List.append_assoc] <;>
    (try simp)

/-- the string `data` built by `write_writer` as it is in the source — both loops, the fetch of every cell, the field
    pipeline, `join`, the line terminator — is the model's text, for every grid, every option record of the modelled
    fragment and every pair of bounds -/
theorem gen_csv_text (g : Grid) (o : Opts) (mc mr : Nat) :
    csv_text o.trim (gridCell g) (wrapText o.wrap) mc mr =
      (List.range mr).flatMap fun row => renderRow o ((List.range mc).map fun col => g.get (row + 1) (col + 1)) := by
  unfold csv_text
  simp only [gen_csv_row_body, foldl_append_flatMap, List.nil_append] <;> (try simp)

end Umya.Gen
