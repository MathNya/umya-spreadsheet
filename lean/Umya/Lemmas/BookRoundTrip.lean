/-
  The cell round trip over lists.  Every `<c>` is read against the FINAL table, which extends the table it was written
  on, so the per-cell statement for any extension is what the induction needs.
-/
import Umya.Lemmas.CellRoundTrip
namespace Umya.CellXml
open Umya.Xml Umya.Num Umya.Coord Umya.Dec Umya.InternC01

section
variable (F : NumFmt)

/-- the filter inside `normalize` (`Umya/Model/CellXml.lean`), named so that one sheet's result can be stated: `normalize_cons` -/
def keep (c : Cell F.Num) : Bool := !blankUnstyled F c

theorem normalize_cons (s : List (Cell F.Num)) (ss : List (List (Cell F.Num))) :
    normalize F (s :: ss) = (s.filter (keep F)).map (Cell.resolved F) :: normalize F ss := rfl

theorem writeCells_readCells (hF : F.Sound) (cs : List (Cell F.Num)) :
    ∀ (tbl : Table), (∀ c ∈ cs, cellOK F c = true) →
    ∃ tbl' xs, writeCells F tbl cs = some (tbl', xs) ∧
      (∃ ext, tbl' = tbl ++ ext ∧ ∀ it ∈ ext, ItemOK it) ∧
      ∀ sst : Table, sst.length < 18446744073709551616 → Extends sst tbl' →
        mapOpt (readCell F sst) xs = some ((cs.filter (keep F)).map (Cell.resolved F)) := by
  induction cs with
  | nil =>
    intro tbl _
    exact ⟨tbl, [], rfl, ⟨[], by simp, by simp⟩, fun _ _ _ => rfl⟩
  | cons c cs ih =>
    intro tbl h
    obtain ⟨t1, ox, hw, hg1, hblank, hkeep⟩ := writeTo_readCell F hF tbl c (h c (by simp))
    obtain ⟨t2, xs, hws, hg2, hrd⟩ := ih t1 (fun d hd => h d (by simp [hd]))
    refine ⟨t2, consOpt ox xs, by simp [writeCells, hw, hws], grows_trans hg1 hg2, fun sst hlen hx => ?_⟩
    cases hb : blankUnstyled F c with
    | true =>
      rw [hblank hb]
      simp only [consOpt, List.filter_cons, keep, hb, Bool.not_true, Bool.false_eq_true, if_false]
      exact hrd sst hlen hx
    | false =>
      obtain ⟨x, hox, hrx⟩ := hkeep hb
      rw [hox]
      simp only [consOpt, mapOpt, hrx sst hlen (hx.of_grows hg2), hrd sst hlen hx, List.filter_cons, keep, hb, Bool.not_false,
        if_true, List.map_cons]

theorem writeSheets_readSheets (hF : F.Sound) (sheets : List (List (Cell F.Num))) :
    ∀ (tbl : Table), (∀ s ∈ sheets, ∀ c ∈ s, cellOK F c = true) →
    ∃ tbl' xss, writeSheets F tbl sheets = some (tbl', xss) ∧
      (∃ ext, tbl' = tbl ++ ext ∧ ∀ it ∈ ext, ItemOK it) ∧
      ∀ sst : Table, sst.length < 18446744073709551616 → Extends sst tbl' →
        mapOpt (mapOpt (readCell F sst)) xss = some (normalize F sheets) := by
  induction sheets with
  | nil =>
    intro tbl _
    exact ⟨tbl, [], rfl, ⟨[], by simp, by simp⟩, fun _ _ _ => rfl⟩
  | cons s ss ih =>
    intro tbl h
    obtain ⟨t1, xs, hw, hg1, hr1⟩ := writeCells_readCells F hF s tbl (h s (by simp))
    obtain ⟨t2, xss, hws, hg2, hr2⟩ := ih t1 (fun s' hs' => h s' (by simp [hs']))
    refine ⟨t2, xs :: xss, by simp [writeSheets, hw, hws], grows_trans hg1 hg2, fun sst hlen hx => ?_⟩
    simp only [mapOpt, hr1 sst hlen (hx.of_grows hg2), hr2 sst hlen hx, normalize_cons]

theorem writeBook_readBook (hF : F.Sound) (light : Bool) (sheets : List (List (Cell F.Num)))
    (h : ∀ s ∈ sheets, ∀ c ∈ s, cellOK F c = true) :
    ∃ b, writeBook F light sheets = some b ∧
      (b.sst.length < 18446744073709551616 → readBook F b = some (normalize F sheets)) := by
  obtain ⟨t, xss, hw, hg, hr⟩ := writeSheets_readSheets F hF sheets [] h
  refine ⟨{ sheets := xss, sst := t.map siOf }, by simp [writeBook, hw], ?_⟩
  intro hlen
  have hs := readSst_writeSst t (all_of_grows (by simp) hg)
  have hl : t.length < 18446744073709551616 := by simpa using hlen
  simp only [readBook, hs, Option.bind_some]
  exact hr t hl (fun _ _ hi => hi)

end

end Umya.CellXml
