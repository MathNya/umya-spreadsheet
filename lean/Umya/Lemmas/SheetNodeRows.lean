/-
  The anatomy of `Spec.Sml.decodeSheet`, and the `<row>` / `<sheetData>` level: what the decoder reads from the rows
  the model of the row loop renders.

  The `ds*` functions, `perRowOf` and `linkOf` are transcriptions of the `let`s in the body of `decodeSheet`
  (names as character lists), one per component of its result; where the part is found and is XML, `decodeSheet` is
  equal to them by `rfl`: `decodeSheet_anatomy`.  The `dsE<i>` are its diagnostics, numbered in the order in which it concatenates them (those of
  the cells and of the hyperlinks, third and fourth, come with `dsPerRow` and `dsLinksE`).
-/
import Umya.Lemmas.SheetNodeLoop
import Umya.Lemmas.CellDecode
import Umya.Lemmas.SmlRef
import Umya.Lemmas.ListRel
import Umya.Lemmas.AnnotCodec
namespace Umya.SheetNode
open Umya.CellXml Umya.CellNode Umya.Dec Umya.Coord
open Umya.Spec.Sml
open Umya.Spec.Xml (Node Attr localName)

/-- `Node.kids` / `Node.kid?` / `boolAttr` with the name as a character list -/
def kidsL (n : Node) (name : List Char) : List Node := n.children.filter (isKid name)
def kidL (n : Node) (name : List Char) : Option Node := (kidsL n name).head?
def boolAttrL (n : Node) (name : List Char) : Bool :=
  match n.attr? name with
  | some v => v = ['1'] ∨ v = ['t', 'r', 'u', 'e']
  | none => false

/-- element names the decoder reads and `Model/SheetNode.lean` never writes (so it has no name for them) -/
def nCols : List Char := ['c', 'o', 'l', 's']
def nCondFmt : List Char := ['c', 'o', 'n', 'd', 'i', 't', 'i', 'o', 'n', 'a', 'l', 'F', 'o', 'r', 'm', 'a', 't', 't', 'i', 'n', 'g']
def nTableParts : List Char := ['t', 'a', 'b', 'l', 'e', 'P', 'a', 'r', 't', 's']

def dsRows (root : Node) : List Node := ((kidL root nSheetData).map (kidsL · nRow)).getD []

def perRowOf (path : String) (sst : List (List Char)) (nXf : Nat) (r : Node) (rn : Nat) : List CellV × List String :=
  let cs0 : List (CellV × List String) := (kidsL r ['c']).map (decodeCell sst)
  let cells : List CellV := fillRefs rn 0 (cs0.map (·.1))
  let cols := cells.map (fun c => colOf c.ref)
  let errs := (cs0.flatMap (·.2)) ++
    (if ascending cols then [] else [s!"{path}: cells of row {rn} not strictly ascending"]) ++
    (if cells.all (fun c => rowOf c.ref = rn ∧ 1 ≤ colOf c.ref ∧ colOf c.ref ≤ 16384) then []
     else [s!"{path}: a cell of row {rn} has a reference outside its row or the grid"]) ++
    (if cells.all (fun c => c.style < nXf) then [] else [s!"{path}: a cell style index of row {rn} is outside cellXfs ({nXf})"])
  (cells, errs)

def dsPerRow (path : String) (sst : List (List Char)) (nXf : Nat) (rows : List Node) : List (List CellV × List String) :=
  (rows.zip (rowNumbers 0 rows)).map fun (r, rn) => perRowOf path sst nXf r rn

def dsRowVs (rows : List Node) : List RowV :=
  (rows.zip (rowNumbers 0 rows)).map fun (r, rn) =>
    { num := rn, height := r.attr? ['h', 't'], hidden := boolAttrL r ['h', 'i', 'd', 'd', 'e', 'n'],
      style := if boolAttrL r ['c', 'u', 's', 't', 'o', 'm', 'F', 'o', 'r', 'm', 'a', 't'] then (r.attr? ['s']).bind natOf else none : RowV }

def dsKidsNames (root : Node) : List String :=
  ((root.children.filter (·.isElem)).map (fun k => str (localName k.name))).filter (· ≠ "AlternateContent")

def dsE1 (path : String) (root : Node) : List String :=
  if nonDecreasing ((dsKidsNames root).filterMap (indexIn worksheetOrder)) then []
  else [s!"{path}: worksheet children out of schema order: {dsKidsNames root}"]

def dsE1b (path : String) (root : Node) : List String :=
  ((dsKidsNames root).filter (fun k => (indexIn worksheetOrder k).isNone)).map (fun k => s!"{path}: unknown worksheet child {k}")

def dsE2 (path : String) (rows : List Node) : List String :=
  if ascending (rowNumbers 0 rows) then [] else [s!"{path}: rows not strictly ascending"]

def dsE2b (path : String) (rows : List Node) : List String :=
  if (rowNumbers 0 rows).all (fun r => 1 ≤ r ∧ r ≤ 1048576) then [] else [s!"{path}: row number outside 1..1048576"]

def dsColVs (root : Node) : List ColV :=
  (((kidL root nCols).map (kidsL · ['c', 'o', 'l'])).getD []).map fun c =>
    { min := ((c.attr? ['m', 'i', 'n']).bind natOf).getD 0, max := ((c.attr? ['m', 'a', 'x']).bind natOf).getD 0,
      width := c.attr? ['w', 'i', 'd', 't', 'h'], hidden := boolAttrL c ['h', 'i', 'd', 'd', 'e', 'n'],
      style := ((c.attr? ['s', 't', 'y', 'l', 'e']).bind natOf).getD 0 : ColV }

def dsE3b (path : String) (nXf : Nat) (root : Node) : List String :=
  if (dsColVs root).all (fun c => 1 ≤ c.min ∧ c.min ≤ c.max ∧ c.max ≤ 16384 ∧ c.style < nXf) then []
  else [s!"{path}: a col element is outside the grid, inverted or has a style outside cellXfs"]

def dsMerges (root : Node) : List (List Char) :=
  ((kidL root nMergeCells).map (kidsL · nMergeCell)).getD [] |>.filterMap (·.attr? ['r', 'e', 'f'])

def linkOf (path : String) (rels : List Rel) (h : Node) : Link × List String :=
  let ref := (h.attr? ['r', 'e', 'f']).getD []
  let tip := h.attr? ['t', 'o', 'o', 'l', 't', 'i', 'p']
  let disp := h.attr? ['d', 'i', 's', 'p', 'l', 'a', 'y']
  match h.attr? ['r', ':', 'i', 'd'] with
  | some rid =>
    (match rels.find? (fun (r : Rel) => r.id = str rid) with
     | some r => ({ ref := ref, external := true, target := r.target.toList, location := h.attr? ['l', 'o', 'c', 'a', 't', 'i', 'o', 'n'], tooltip := tip, display := disp : Link }, ([] : List String))
     | none => ({ ref := ref, external := true, target := [], tooltip := tip, display := disp : Link }, [s!"{path}: hyperlink {str ref} refers to relationship {str rid} which does not exist"]))
  | none => ({ ref := ref, external := false, target := (h.attr? ['l', 'o', 'c', 'a', 't', 'i', 'o', 'n']).getD [], tooltip := tip, display := disp : Link }, [])

def dsLinksE (path : String) (rels : List Rel) (root : Node) : List (Link × List String) :=
  (((kidL root nHyperlinks).map (kidsL · nHyperlink)).getD []).map (linkOf path rels)

def dsE5 (path : String) (rels : List Rel) (root : Node) : List String :=
  ((root.children.filter (·.isElem)).filter (fun k => (k.attr? ['r', ':', 'i', 'd']).isSome)).filterMap fun k =>
    match k.attr? ['r', ':', 'i', 'd'] with
    | some rid => if rels.any (fun (r : Rel) => r.id = str rid) then none else some s!"{path}: <{str k.name}> refers to relationship {str rid} which does not exist"
    | none => none

def dsDxfIds (root : Node) : List Nat :=
  (kidsL root nCondFmt).flatMap (fun cf => (kidsL cf ['c', 'f', 'R', 'u', 'l', 'e']).filterMap (fun r => (r.attr? ['d', 'x', 'f', 'I', 'd']).bind natOf))

def dsE6 (path : String) (nDxf : Nat) (root : Node) : List String :=
  if (dsDxfIds root).all (· < nDxf) then [] else [s!"{path}: a dxfId is outside dxfs ({nDxf})"]

def dsTables (p : Package) (path : String) (rels : List Rel) (root : Node) : List TableV :=
  (((kidL root nTableParts).map (kidsL · ['t', 'a', 'b', 'l', 'e', 'P', 'a', 'r', 't'])).getD []).filterMap fun tp =>
    ((tp.attr? ['r', ':', 'i', 'd']).bind (fun rid => rels.find? (fun (r : Rel) => r.id = str rid))).bind fun r =>
      decodeTable p (resolveTarget path r.target)

def dsNoR (rows : List Node) : Bool :=
  rows.any (fun r => (r.attr? ['r']).isNone ∨ (kidsL r ['c']).any (fun c => (c.attr? ['r']).isNone))

theorem decodeSheet_anatomy (p : Package) (path : String) (sst : List (List Char)) (nXf nDxf : Nat) (root : Node)
    (h : (p.part? path).bind (·.xml) = some root) :
    decodeSheet p path sst nXf nDxf =
      ({ cells := expandShared [] ((dsPerRow path sst nXf (dsRows root)).flatMap (·.1)),
         merges := dsMerges root, links := (dsLinksE path (relsOf p path) root).map (·.1),
         cols := dsColVs root, rows := dsRowVs (dsRows root), tables := dsTables p path (relsOf p path) root,
         noR := dsNoR (dsRows root) },
       dsE1 path root ++ dsE1b path root ++ dsE2 path (dsRows root) ++ dsE2b path (dsRows root) ++
         (dsPerRow path sst nXf (dsRows root)).flatMap (·.2) ++ dsE3b path nXf root ++
         (dsLinksE path (relsOf p path) root).flatMap (·.2) ++ dsE5 path (relsOf p path) root ++ dsE6 path nDxf root) := by
  unfold decodeSheet
  rw [h]
  simp only [toList_lit]  -- the names as character lists before the comparison: evaluating `"lit".toList` is the dear part
  rfl

theorem renderCells_isC (xf : List Char → Nat) (xs : List CellX) (nodes : List Node) (h : renderCells xf xs = some nodes) :
    ∀ k ∈ nodes, IsC k := by
  intro k hk
  obtain ⟨cx, _, hcx⟩ := (mapOpt_some.1 h).mem_left hk
  exact cellNode_isC _ cx k hcx

theorem kids_c_all (nodes : List Node) (h : ∀ k ∈ nodes, IsC k) : nodes.filter (isKid ['c']) = nodes := by
  apply List.filter_eq_self.2
  intro k hk
  obtain ⟨ref, as, ks, rfl⟩ := h k hk
  exact isKid_self _ _ _ (localName_plain (by decide))

theorem isC_has_r (k : Node) (h : IsC k) : (k.attr? ['r']).isNone = false := by
  obtain ⟨ref, as, ks, rfl⟩ := h
  simp [Node.attr?, Node.attrs]

section
variable (F : Umya.Num.NumFmt)

/-- a row of the loop and the `<row>` rendered for it, against the final table `tblF` -/
def RowRel (xf : List Char → Nat) (tblF : Table) (g : RowW × List (Cell F.Num)) (n : Node) : Prop :=
  ∃ nodes, n = Node.elem nRow (rowAttrs g.1 g.2) nodes ∧ (∀ k ∈ nodes, IsC k) ∧
    ∀ sst : Table, Extends sst tblF →
      nodes.map (decodeCell (sst.map itemText)) = viewCells F xf (g.2.filter (fun c => !blankUnstyled F c))

theorem writeRows_decodes (xf : List Char → Nat) (gs : List (RowW × List (Cell F.Num))) :
    ∀ (tbl tbl' : Table) (ws : List (RowX F.Num)), writeRows F tbl gs = some (tbl', ws) →
      (∃ ext, tbl' = tbl ++ ext) ∧
      ∃ rowNodes, mapOpt (rowNode xf) ws = some rowNodes ∧ Forall₂ (RowRel F xf tbl') gs rowNodes := by
  induction gs with
  | nil =>
    intro tbl tbl' ws h
    cases h
    exact ⟨⟨[], by simp⟩, [], rfl, Forall₂.nil⟩
  | cons g gs ih =>
    intro tbl tbl' ws h
    obtain ⟨r, cs⟩ := g
    obtain ⟨t1, xs, ys, hw, hws, rfl⟩ := writeRows_cons_some F h
    obtain ⟨⟨e1, he1⟩, nodes, hn, hd⟩ := writeCells_decodes F xf cs tbl t1 xs hw
    obtain ⟨⟨e2, he2⟩, rowNodes, hrn, hrel⟩ := ih t1 tbl' ys hws
    refine ⟨⟨e1 ++ e2, by rw [he2, he1, List.append_assoc]⟩,
      Node.elem nRow (rowAttrs r cs) nodes :: rowNodes, ?_, ?_⟩
    · simp only [mapOpt, rowNode, hn, Option.map_some, hrn]
    · refine Forall₂.cons ⟨nodes, rfl, renderCells_isC xf xs nodes hn, ?_⟩ hrel
      intro sst hx
      have hx1 : Extends sst t1 := by rw [he2] at hx; exact hx.restrict
      exact hd sst hx1

theorem attr_head (nm : List Char) (a : Attr) (as : List Attr) (ks : List Node) (n : List Char) (h : a.name = n) :
    (Node.elem nm (a :: as) ks).attr? n = some a.value := by
  simp [Node.attr?, Node.attrs, h]

theorem attr_skip (nm : List Char) (a : Attr) (as : List Attr) (ks : List Node) (n : List Char) (h : a.name ≠ n) :
    (Node.elem nm (a :: as) ks).attr? n = (Node.elem nm as ks).attr? n := by
  simp [Node.attr?, Node.attrs, h]

theorem attr_nil (nm : List Char) (ks : List Node) (n : List Char) : (Node.elem nm [] ks).attr? n = none := rfl

/-- `rowAttrs` as a field table (`AnnotCodec.render`): every attribute of `Row::write_to` with the text it writes, if any -/
def rowFields {N} (r : RowW) (cs : List (Cell N)) : List (List Char × Option (List Char)) :=
  [(['r'], some (decDigits r.num)),
   (['s', 'p', 'a', 'n', 's'], if cs.isEmpty then none else some (spansText cs)),
   (['h', 't'], r.ht),
   (['c', 'u', 's', 't', 'o', 'm', 'F', 'o', 'r', 'm', 'a', 't'], if r.xf > 0 then some ['1'] else none),
   (['h', 'i', 'd', 'd', 'e', 'n'], if r.hidden then some ['1'] else none),
   (['s'], if r.xf > 0 then some (decDigits r.xf) else none)]

theorem rowAttrs_eq {N} (r : RowW) (cs : List (Cell N)) : rowAttrs r cs = AnnotCodec.render (rowFields r cs) := by
  obtain ⟨num, ht, hidden, x⟩ := r
  cases ht <;> cases hidden <;> cases cs <;> by_cases hx : x > 0 <;> simp only [rowAttrs, rowFields, hx, ↓reduceIte] <;> rfl

theorem row_attrs {N} (r : RowW) (cs : List (Cell N)) (nodes : List Node) :
    ∀ p ∈ rowFields r cs, (Node.elem nRow (rowAttrs r cs) nodes).attr? p.1 = p.2 :=
  AnnotCodec.getAttr_written (rowAttrs_eq r cs) (by simp only [rowFields, List.map_cons, List.map_nil]; decide)

theorem row_attr_r {N} (r : RowW) (cs : List (Cell N)) (nodes : List Node) :
    (Node.elem nRow (rowAttrs r cs) nodes).attr? ['r'] = some (decDigits r.num) :=
  row_attrs r cs nodes _ (.head _)

theorem row_kids_c {N} (r : RowW) (cs : List (Cell N)) (nodes : List Node) (h : ∀ k ∈ nodes, IsC k) :
    kidsL (Node.elem nRow (rowAttrs r cs) nodes) ['c'] = nodes :=
  kids_c_all nodes h

theorem fileView_ref (xf : Nat) (c : Cell F.Num) : (fileView F xf c).ref = coordinateFromIndexWithLock c.col c.row false false := rfl

theorem fileView_style (xf : Nat) (c : Cell F.Num) : (fileView F xf c).style = if c.styled then xf else 0 := rfl

theorem fileView_ref_nonempty (xf : Nat) (c : Cell F.Num) : (fileView F xf c).ref.isEmpty = false := by
  simp [fileView_ref, coordinateFromIndexWithLock, decDigits_ne_nil]

theorem viewCells_fst (xf : List Char → Nat) (l : List (Cell F.Num)) :
    (viewCells F xf l).map (·.1) = l.map (fun c => fileView F (xf (coordinateFromIndexWithLock c.col c.row false false)) c) := by
  simp [viewCells]

theorem viewCells_snd (xf : List Char → Nat) (l : List (Cell F.Num)) : (viewCells F xf l).flatMap (·.2) = [] :=
  errs_flat _ l

/-- a cell without a style of its own is read as style 0, which the decoder checks against `cellXfs` too: `hxf []` covers it -/
theorem perRow_rendered (path : String) (nXf : Nat) (xf : List Char → Nat) (tblF sst : Table) (hx : Extends sst tblF)
    (g : RowW × List (Cell F.Num)) (n : Node) (hrel : RowRel F xf tblF g n)
    (hrow : ∀ c ∈ g.2, c.row = g.1.num) (hcol : g.2.Pairwise (fun a b => a.col < b.col))
    (hrng : ∀ c ∈ g.2, 1 ≤ c.col ∧ c.col ≤ 16384) (hxf : ∀ ref, xf ref < nXf) :
    perRowOf path (sst.map itemText) nXf n g.1.num = (cellViews F xf g.2, []) := by
  obtain ⟨r, cs⟩ := g
  obtain ⟨nodes, rfl, hc, hd⟩ := hrel
  simp only at hrow hcol hrng ⊢
  unfold perRowOf
  simp only [row_kids_c r cs nodes hc, hd sst hx, viewCells_fst, viewCells_snd, cellViews]
  -- all that is used of the cells that are written
  have hk : ∀ c ∈ cs.filter (fun c => !blankUnstyled F c), c.row = r.num ∧ 1 ≤ c.col ∧ c.col ≤ 16384 := fun c hc' =>
    ⟨hrow c (List.mem_filter.1 hc').1, hrng c (List.mem_filter.1 hc').1⟩
  have hcol' : (cs.filter (fun c => !blankUnstyled F c)).Pairwise (fun a b => a.col < b.col) := hcol.sublist List.filter_sublist
  generalize cs.filter (fun c => !blankUnstyled F c) = ks at hk hcol' ⊢
  rw [fillRefs_id _ _ _ (fun v hv => by obtain ⟨c, _, rfl⟩ := List.mem_map.1 hv; exact fileView_ref_nonempty F _ c)]
  have hcols : (ks.map fun c => fileView F (xf (coordinateFromIndexWithLock c.col c.row false false)) c).map (fun c => colOf c.ref)
      = ks.map (·.col) := by
    rw [List.map_map]
    exact List.map_congr_left fun c hc' => (ref_position c.col c.row (hk c hc').2.1).1
  have hall1 : (ks.map fun c => fileView F (xf (coordinateFromIndexWithLock c.col c.row false false)) c).all
      (fun c => decide (rowOf c.ref = r.num ∧ 1 ≤ colOf c.ref ∧ colOf c.ref ≤ 16384)) = true := by
    rw [List.all_map, List.all_eq_true]
    intro c hc'
    obtain ⟨hr, hg⟩ := hk c hc'
    have hp := ref_position c.col c.row hg.1
    simp only [Function.comp_apply, fileView_ref, hp.1, hp.2]
    exact decide_eq_true (by omega)
  have hall2 : (ks.map fun c => fileView F (xf (coordinateFromIndexWithLock c.col c.row false false)) c).all
      (fun c => decide (c.style < nXf)) = true := by
    rw [List.all_map, List.all_eq_true]
    intro c _
    apply decide_eq_true
    simp only [fileView_style]
    split
    · exact hxf _
    · exact Nat.lt_of_le_of_lt (Nat.zero_le _) (hxf [])
  rw [hcols, ascending_of_pairwise _ (List.pairwise_map.2 hcol'), hall1, hall2]
  rfl

end

end Umya.SheetNode
