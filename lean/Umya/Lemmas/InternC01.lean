/-
  The string table of the cell codec (`Umya/Model/InternC01.lean`: `indexOf?`, `intern` over any type with decidable
  equality) is the equality-based find-or-append of `Umya/Model/Interning.lean`, whose facts are cited.  The model
  defines the registration a second time at plain text (`Umya/Model/SharedStrings.lean`); `sst_intern_eq` says the two agree.
-/
import Umya.Model.InternC01
import Umya.Lemmas.SharedStrings
namespace Umya.InternC01

variable {α : Type} [DecidableEq α]

theorem indexOf?_eq_find (x : α) : ∀ t : List α, indexOf? x t = Interning.find (fun e => decide (e = x)) t
  | [] => rfl
  | y :: ys => by simp only [indexOf?, Interning.find, indexOf?_eq_find x ys, decide_eq_true_eq]

theorem intern_eq_internEq (t : List α) (x : α) : intern t x = Interning.internEq t x := by
  unfold intern Interning.internEq Interning.internBy
  rw [indexOf?_eq_find]; rfl

theorem indexOf?_some {x : α} {t : List α} {i : Nat} (h : indexOf? x t = some i) : t[i]? = some x :=
  Interning.find_eq_some (indexOf?_eq_find x t ▸ h)

theorem intern_spec (t : List α) (x : α) :
    (∃ ext, (intern t x).1 = t ++ ext ∧ ∀ y ∈ ext, y = x ∧ x ∉ t) ∧ (intern t x).1[(intern t x).2]? = some x :=
  intern_eq_internEq t x ▸ ⟨Interning.internEq_ext t x, Interning.internEq_get t x⟩

/-- the shared-string registration of `Umya/Model/SharedStrings.lean` is this function at plain text -/
theorem sst_intern_eq (t : Umya.Sst.Table) (x : Umya.Sst.Text) : Umya.Sst.intern t x = intern t x :=
  (Umya.Sst.intern_eq_internEq t x).trans (intern_eq_internEq t x).symm

end Umya.InternC01
