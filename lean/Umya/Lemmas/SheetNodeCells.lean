/-
  The whole-sheet cell writer of `Umya/Model/SheetNode.lean` (`writeRows`: the shared-string table
  threaded through the rows of the row loop) IS C01's `writeCells` on the cells of the sheet:
  `writeRows_flat` for any grouping, `rowGroups_cells` for a well-formed sheet (where the row loop
  hands over every cell, in order: `rowGroups_all`).
-/
import Umya.Lemmas.SheetNodeLoop
namespace Umya.SheetNode
open Umya.Xml Umya.CellXml Umya.CellNode

section
variable (F : Umya.Num.NumFmt)

theorem consOpt_append {α} (o : Option α) (a b : List α) : consOpt o a ++ b = consOpt o (a ++ b) := by
  cases o <;> rfl

theorem writeCells_append (a b : List (Cell F.Num)) : ∀ tbl : Table,
    writeCells F tbl (a ++ b) =
      match writeCells F tbl a with
      | none => none
      | some (t1, xs) =>
        match writeCells F t1 b with
        | none => none
        | some (t2, ys) => some (t2, xs ++ ys) := by
  induction a with
  | nil =>
    intro tbl
    simp only [List.nil_append, writeCells]
    cases writeCells F tbl b with
    | none => rfl
    | some p => rfl
  | cons c cs ih =>
    intro tbl
    simp only [List.cons_append, writeCells]
    cases hw : writeTo F tbl c with
    | none => rfl
    | some p =>
      obtain ⟨t1, ox⟩ := p
      simp only [ih t1]
      cases h1 : writeCells F t1 cs with
      | none => rfl
      | some q =>
        obtain ⟨t2, xs⟩ := q
        simp only
        cases h2 : writeCells F t2 b with
        | none => rfl
        | some r => simp [consOpt_append]

theorem writeRows_flat (gs : List (RowW × List (Cell F.Num))) : ∀ tbl : Table,
    (writeRows F tbl gs).map (fun p => (p.1, p.2.flatMap (·.xs))) = writeCells F tbl (gs.flatMap (·.2)) := by
  induction gs with
  | nil => intro _; rfl
  | cons g gs ih =>
    intro tbl
    simp only [List.flatMap_cons, writeCells_append, ← ih, writeRows]
    cases writeCells F tbl g.2 with
    | none => rfl
    | some p =>
      obtain ⟨t1, xs⟩ := p
      dsimp only
      cases writeRows F t1 gs with
      | none => rfl
      | some q => rfl

theorem writeRows_groups : ∀ (gs : List (RowW × List (Cell F.Num))) (tbl t : Table) (ws : List (RowX F.Num)),
    writeRows F tbl gs = some (t, ws) → ws.map (fun w => (w.row, w.cells)) = gs := by
  intro gs
  induction gs with
  | nil => intro tbl t ws h; cases h; rfl
  | cons g gs ih =>
    intro tbl t ws h
    obtain ⟨t1, xs, ys, _, hws, rfl⟩ := writeRows_cons_some F h
    rw [List.map_cons, ih t1 t ys hws]

theorem writeRows_eq_writeCells (gs : List (RowW × List (Cell F.Num))) (tbl t : Table) (ws : List (RowX F.Num))
    (h : writeRows F tbl gs = some (t, ws)) :
    writeCells F tbl (gs.flatMap (·.2)) = some (t, ws.flatMap (·.xs)) ∧ ws.map (fun w => (w.row, w.cells)) = gs :=
  ⟨by rw [← writeRows_flat, h]; rfl, writeRows_groups F gs tbl t ws h⟩

theorem writeRows_of_writeCells (gs : List (RowW × List (Cell F.Num))) (tbl t : Table) (xs : List CellX)
    (h : writeCells F tbl (gs.flatMap (·.2)) = some (t, xs)) :
    ∃ ws, writeRows F tbl gs = some (t, ws) ∧ ws.flatMap (·.xs) = xs := by
  rw [← writeRows_flat, Option.map_eq_some_iff] at h
  obtain ⟨p, hw, he⟩ := h
  cases he
  exact ⟨p.2, hw, rfl⟩

theorem renderSheet_inv (xf : List Char → Nat) (fr : Frame) (tbl : Table) (s : SheetW F.Num) (t : Table) (root : Spec.Xml.Node)
    (h : renderSheet F xf fr tbl s = some (t, root)) :
    ∃ ws sd, writeRows F tbl (rowGroups s.rows s.cells) = some (t, ws) ∧ sheetDataNode xf ws = some sd ∧
      root = worksheetNode fr sd s.merges s.links := by
  unfold renderSheet at h
  cases hw : writeRows F tbl (rowGroups s.rows s.cells) with
  | none => simp [hw] at h
  | some q =>
    obtain ⟨t1, ws⟩ := q
    simp only [hw, Option.map_eq_some_iff] at h
    obtain ⟨sd, hsd, he⟩ := h
    cases he
    exact ⟨ws, sd, rfl, hsd, rfl⟩

theorem rowGroups_cells (s : SheetW F.Num) (hwf : s.WF) : (rowGroups s.rows s.cells).flatMap (·.2) = s.cells := by
  apply rowGroups_all s.rows s.cells hwf.rowsAsc _ hwf.rowKnown
  exact hwf.cellsAsc.imp (fun h => by omega)

end
end Umya.SheetNode
