import Umya.Lemmas.CoherentShift
namespace Umya.Sheet
open Umya.Coord (Res)

theorem setVal_coherent {s : Sheet} {c r v : Nat} (h : Coherent s) : Coherent (setVal s c r v) :=
  modify_coherent (fun _ => ⟨rfl, rfl⟩) (getMut_coherent h)

theorem setStyle_coherent {s : Sheet} {c r v : Nat} (h : Coherent s) : Coherent (setStyle s c r v) :=
  modify_coherent (fun _ => ⟨rfl, rfl⟩) (getMut_coherent h)

theorem setCell_coherent {s : Sheet} {c r v st : Nat} (h : Coherent s) : Coherent (setCell s c r v st) :=
  modify_coherent (fun _ => ⟨rfl, rfl⟩) (getMut_coherent h)

theorem setStyleRect_coherent {s : Sheet} {rs re cs ce st : Nat} (h : Coherent s) :
    Coherent (setStyleRect s rs re cs ce st) := by
  unfold setStyleRect
  refine List.foldlRecOn _ _ h fun s hs r _ => ?_
  exact List.foldlRecOn _ _ hs fun _ hs _ _ => setStyle_coherent hs

theorem copyCellStyling_coherent {s : Sheet} {a b c d : Nat} (h : Coherent s) :
    Coherent (copyCellStyling s a b c d) := setStyle_coherent h

theorem copyRowStyling_coherent {s : Sheet} {src tgt : Nat} {st en : Option Nat} (h : Coherent s) :
    Coherent (copyRowStyling s src tgt st en) := by
  unfold copyRowStyling
  simp only
  refine List.foldlRecOn _ _ ?_ fun _ hs _ _ => copyCellStyling_coherent hs
  split
  · exact setRowSty_coherent h
  · exact h

theorem copyColStyling_coherent {s : Sheet} {src tgt : Nat} {st en : Option Nat} (h : Coherent s) :
    Coherent (copyColStyling s src tgt st en) := by
  unfold copyColStyling
  simp only
  refine List.foldlRecOn _ _ ?_ fun _ hs _ _ => copyCellStyling_coherent hs
  split
  · exact setColSty_coherent h
  · exact h

theorem moveOrCopy_keeps (P : Sheet → Prop) (hrem : ∀ s c r, P s → P (removeCell s c r))
    (hset : ∀ s c r v st, P s → P (setCell s c r v st)) {s t : Sheet} {rs re cs ce : Nat} {dr dc : Int} {mv : Bool}
    (h : P s) (hok : moveOrCopy s rs re cs ce dr dc mv = .ok t) : P t := by
  unfold moveOrCopy at hok
  split at hok
  · simp at hok
  · split at hok
    · simp at hok
    · split at hok
      · simp at hok
      · injection hok with hok; subst hok
        refine List.foldlRecOn _ _ ?_ fun s hs c _ => hset _ _ _ _ _ hs
        split
        · exact List.foldlRecOn _ _ h fun s hs p _ => hrem _ _ _ (hrem _ _ _ hs)
        · exact h

theorem moveOrCopy_coherent {s t : Sheet} {rs re cs ce : Nat} {dr dc : Int} {mv : Bool} (h : Coherent s)
    (hok : moveOrCopy s rs re cs ce dr dc mv = .ok t) : Coherent t :=
  moveOrCopy_keeps Coherent (fun _ _ _ => removeCell_coherent) (fun _ _ _ _ _ => setCell_coherent) h hok

theorem removeCell_rows_comm (s : Sheet) (R : List (Nat × RowM)) (c r : Nat) :
    removeCell { s with rows := R } c r = { removeCell s c r with rows := R } := by
  unfold removeCell
  simp only
  split <;> rfl

theorem foldl_removeCell_rows_comm (cols : List Nat) (s : Sheet) (R : List (Nat × RowM)) (row : Nat) :
    cols.foldl (fun s c => removeCell s c row) { s with rows := R }
      = { cols.foldl (fun s c => removeCell s c row) s with rows := R } := by
  induction cols generalizing s with
  | nil => rfl
  | cons c cs ih =>
    simp only [List.foldl_cons]
    rw [removeCell_rows_comm, ih]

theorem mem_keys_removeCell (s : Sheet) (c r : Nat) (k : Key) :
    k ∈ keysOf (removeCell s c r) ↔ k ∈ keysOf s ∧ k ≠ (r, c) := by
  unfold removeCell
  split
  · simp only [keysOf, keys_eraseKey, List.mem_filter]; simp
  · rename_i hnone
    have := lookup_none_iff.1 hnone
    constructor
    · intro hk; exact ⟨hk, fun e => this (e ▸ hk)⟩
    · intro hk; exact hk.1

theorem mem_keys_foldl_removeCell (cols : List Nat) (s : Sheet) (row : Nat) (k : Key) :
    k ∈ keysOf (cols.foldl (fun s c => removeCell s c row) s) ↔ k ∈ keysOf s ∧ ∀ c ∈ cols, k ≠ (row, c) := by
  induction cols generalizing s with
  | nil => simp
  | cons c cs ih =>
    simp only [List.foldl_cons]
    rw [ih, mem_keys_removeCell]
    simp only [List.mem_cons, forall_eq_or_imp, and_assoc]

theorem cleanupLoop_coherent (l : List Nat) {s : Sheet} (h : Coherent s) : Coherent (cleanupLoop s l) := by
  induction l generalizing s with
  | nil => exact h
  | cons row rest ih =>
    unfold cleanupLoop
    split
    · exact ih h
    · simp only
      split
      · exact h
      · apply ih
        -- The row filter commutes with the `removeCell`s.  The cells they leave have their rows in the filtered
        -- table: `colsInRow` lists every column of the dropped row, so no key of that row is left.
        rw [foldl_removeCell_rows_comm (colsInRow s row) s (s.rows.filter (·.1 ≠ row)) row]
        have hF : Coherent ((colsInRow s row).foldl (fun s c => removeCell s c row) s) :=
          List.foldlRecOn _ _ h fun _ hs _ _ => removeCell_coherent hs
        generalize hT : (colsInRow s row).foldl (fun s c => removeCell s c row) s = T at hF
        refine coherent_of_rows hF rfl rfl rfl (fun k hk => ?_) (fun q hq => h.rowKey q (List.mem_filter.1 hq).1) ?_
        · obtain ⟨hks, hne⟩ := (mem_keys_foldl_removeCell _ _ _ _).1 (hT ▸ hk)
          obtain ⟨w, hw, ew⟩ := List.mem_map.1 (h.rowKnown k hks)
          refine List.mem_map.2 ⟨w, List.mem_filter.2 ⟨hw, ?_⟩, ew⟩
          simp only [ne_eq, decide_not, Bool.not_eq_true', decide_eq_false_iff_not]
          intro e
          have : k.2 ∈ colsInRow s row :=
            List.mem_map.2 ⟨k, List.mem_filter.2 ⟨(h.rmem k).2 hks, by simp [← e, ew]⟩, rfl⟩
          exact hne k.2 this (by rw [← e, ew])
        · rw [show (s.rows.filter (·.1 ≠ row)).map (·.1) = (s.rows.map (·.1)).filter (· ≠ row) from by
            rw [List.filter_map]; rfl]
          exact List.Pairwise.filter _ h.rowNodup

theorem cleanup_coherent {s : Sheet} (h : Coherent s) : Coherent (cleanup s) := by
  unfold cleanup; exact cleanupLoop_coherent _ h

theorem step_coherent {s t : Sheet} {op : Op} (h : Coherent s) (hok : step s op = .ok t) : Coherent t := by
  cases op <;> simp only [step] at hok
  case getMut c r => cases hok; exact getMut_coherent h
  case setVal c r v => cases hok; exact setVal_coherent h
  case setCell c r v st => cases hok; exact setCell_coherent h
  case removeCell c r => cases hok; exact removeCell_coherent h
  case setStyle c r st => cases hok; exact setStyle_coherent h
  case setStyleRect a b c d st => cases hok; exact setStyleRect_coherent h
  case setRowSty r st => cases hok; exact setRowSty_coherent h
  case setColSty c st => cases hok; exact setColSty_coherent h
  case insRows | insCols => cases hok; exact insertAdj_coherent h _ _ _ _
  case remRows | remCols => exact removeAdj_coherent h hok
  case move | copy => exact moveOrCopy_coherent h hok
  case cleanup => cases hok; exact cleanup_coherent h
  case copyRowStyling a b st en => cases hok; exact copyRowStyling_coherent h
  case copyColStyling a b st en => cases hok; exact copyColStyling_coherent h

theorem run_coherent (ops : List Op) {s t : Sheet} (h : Coherent s) (hok : run s ops = .ok t) : Coherent t := by
  induction ops generalizing s with
  | nil => simp only [run] at hok; cases hok; exact h
  | cons op ops ih =>
    simp only [run] at hok
    split at hok
    · rename_i s' hs'; exact ih (step_coherent h hs') hok
    · simp at hok

end Umya.Sheet
