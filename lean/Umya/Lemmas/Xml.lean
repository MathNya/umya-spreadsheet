/-
  C01's text channel (`Umya.Xml`): `escape`, `partialEscape`, `unescape` are the functions of `Umya.XmlEsc`
  (`xml_escape_eq`, `xml_unescape_eq`), so the round trips are those of `Lemmas/XmlAgree.lean`; what is proved here
  is what the text events add: trimming and the absent event for empty content.
-/
import Umya.Lemmas.XmlAgree
namespace Umya.Xml
open Umya.XmlChannel

theorem unescape_escape (s : Text) : unescape (escape s) = some s := by
  rw [xml_unescape_eq, xml_escape_eq]; exact Umya.XmlEsc.unescape_escape s

theorem unescape_partialEscape (s : Text) : unescape (partialEscape s) = some s := by
  rw [xml_unescape_eq, xml_partialEscape_eq]; exact Umya.XmlEsc.unescape_partialEscape s

/-- what the writer emits contains no literal carriage return, so the reader's line-end
    normalisation leaves it alone and the round trip is exact for every text -/
theorem unescapeText_escape (s : Text) : unescapeText (escape s) = some s := by
  rw [xml_unescapeText_eq, xml_escape_eq]; exact Umya.Reader.Lemmas.textRead_of_textValue (textValue_escape s)

theorem unescapeText_partialEscape (s : Text) : unescapeText (partialEscape s) = some s := by
  rw [xml_unescapeText_eq, xml_partialEscape_eq]; exact Umya.Reader.Lemmas.textRead_of_textValue (textValue_partialEscape s)

theorem escape_eq_nil {s : Text} : escape s = [] ↔ s = [] := by
  rw [xml_escape_eq]; exact Umya.XmlEsc.escChar_cases.flatMap_eq_nil

/-- a literal CR LF in character data is ONE line feed for the application (XML 1.0 2.11) while
    a carriage return written as a reference survives -/
example : unescapeText ['a', '\r', '\n', 'b', '\r', 'c', '&', '#', '1', '3', ';'] =
    some ['a', '\n', 'b', '\n', 'c', '\r'] := by decide

theorem readText_false_of {e s : Text} (h : unescapeText e = some s) : readText false e = some s := by
  by_cases he : e = []
  · -- no text event for empty content: the variable stays empty, and that is what `unescapeText []` computes to
    subst he; exact h
  · simpa [readText, textEvent, he] using h

theorem readText_false_escape (s : Text) : readText false (escape s) = some s :=
  readText_false_of (unescapeText_escape s)

theorem readText_false_partialEscape (s : Text) : readText false (partialEscape s) = some s :=
  readText_false_of (unescapeText_partialEscape s)

theorem textEvent_true_of_no_ws (s : Text) (hne : s ≠ []) (h : ∀ c ∈ s, isXmlWs c = false) :
    textEvent true s = some s := by
  unfold textEvent trimStart trimEnd
  rw [dropWhile_of_head?_false _ s fun c hc => h c (List.mem_of_mem_head? hc)]
  rw [dropWhile_of_head?_false _ s.reverse fun c hc => h c (List.mem_reverse.1 (List.mem_of_mem_head? hc))]
  simp [hne]

/-- no entity contains an XML blank, so escaping brings none in -/
theorem readText_true_escaped {f : Char → List Char} {sp : List Char} (hf : Umya.XmlEsc.Escapes f sp) (s : Text)
    (hu : unescapeText (s.flatMap f) = some s) (hne : s ≠ []) (h : ∀ c ∈ s, isXmlWs c = false) :
    readText true (s.flatMap f) = some s := by
  have hws : ∀ d ∈ s.flatMap f, isXmlWs d = false :=
    hf.all _ (fun p hp x hx => by
      have := (Umya.XmlEsc.entities_chars p hp).2 x hx
      simp [isXmlWs, this]) s (fun c hc _ => h c hc)
  unfold readText
  rw [textEvent_true_of_no_ws _ (fun e => hne (hf.flatMap_eq_nil.1 e)) hws]
  exact hu

theorem readText_true_escape (s : Text) (hne : s ≠ []) (h : ∀ c ∈ s, isXmlWs c = false) :
    readText true (escape s) = some s :=
  readText_true_escaped (funext xml_escChar_eq ▸ Umya.XmlEsc.escChar_cases) s (unescapeText_escape s) hne h

theorem readText_true_partialEscape (s : Text) (hne : s ≠ []) (h : ∀ c ∈ s, isXmlWs c = false) :
    readText true (partialEscape s) = some s :=
  readText_true_escaped (funext xml_pescChar_eq ▸ Umya.XmlEsc.pescChar_cases) s (unescapeText_partialEscape s) hne h

/-- with trimming ON, padded text does NOT survive: why the sheet reader reads `<v>` of a `t="str"` cell and `<f>` untrimmed
    (commits 12ac4b7 and 045f37e, "fix 3" and "fix 4" of `Model/CellXml.lean`) -/
theorem readText_true_trims : readText true (partialEscape [' ', 'x', ' ']) = some ['x'] := by decide

end Umya.Xml
