/-
  What every `read (write x) = some (norm x)` of the style codecs (Umya/Model/StyleCodec.lean) reduces to: the scalar decoders
  invert the encoders, a key is looked up in an attribute list written from segments, a reader loop (`foldOpt`) runs over
  written children one segment at a time.
-/
import Umya.Model.StyleCodec
namespace Umya.StyleCodec
open Umya.Spec.Xml (Node Attr)
open Umya.Dec

-- element and attribute names are compared as `String`s (`String.reduceEq`), not character by character
attribute [local simp] String.toList_inj
attribute [-simp] String.reduceToList

theorem foldOpt_append {α β : Type} (step : α → β → Option α) (l₁ l₂ : List β) (a : α) :
    foldOpt step (l₁ ++ l₂) a = (foldOpt step l₁ a).bind (foldOpt step l₂) := by
  induction l₁ generalizing a with
  | nil => simp [foldOpt]
  | cons b r ih =>
    simp only [List.cons_append, foldOpt]
    cases step a b with
    | none => simp
    | some a' => simpa using ih a'

@[simp] theorem foldOpt_nil {α β : Type} (step : α → β → Option α) (a : α) : foldOpt step [] a = some a := rfl
@[simp] theorem foldOpt_single {α β : Type} (step : α → β → Option α) (b : β) (a : α) :
    foldOpt step [b] a = step a b := by
  simp [foldOpt]

theorem u32Of_decDigits (n : Nat) (h : u32Range n) : u32Of (decDigits n) = some n := by
  unfold u32Of
  split
  · next r heq => exact absurd heq (decDigits_ne_cons (by decide) n r)
  · exact parseU32_decDigits n h

theorem natBelow_decDigits (b n : Nat) (h : n < b) : natBelow b (decDigits n) = some n := by
  simp [natBelow, decDigits_isEmpty, decDigits_all_digit, parseDec_decDigits, h]

theorem i32Of_i32Str (z : Int) (h : i32Range z) : i32Of (i32Str z) = some z := by
  unfold i32Range at h
  cases z with
  | ofNat n =>
    have h1 := natBelow_decDigits 2147483648 n (by have := h.2; simp only [Int.ofNat_eq_natCast] at this; omega)
    simp only [i32Str]
    unfold i32Of
    split
    · next r heq => exact absurd heq (decDigits_ne_cons (by decide) n r)
    · next r heq => exact absurd heq (decDigits_ne_cons (by decide) n r)
    · simp [h1]
  | negSucc n =>
    have hn : n + 1 < 2147483649 := by
      have := h.1
      simp only [Int.negSucc_eq] at this
      omega
    simp only [i32Str, i32Of, natBelow_decDigits _ _ hn, Option.map_some]
    rfl

@[simp] theorem boolOf_boolStr (b : Bool) : boolOf (boolStr b) = b := by cases b <;> decide

/-! `fromStr_toStr`: `from_str (get_value_string v) = Ok v` for every constructor of the seven enums. -/

/-- on the characters of a string the decoder compares names as strings: the kernel compares two literals far more cheaply than
    it decodes one to its characters -/
theorem fromStrIn_toList {ε : Type} (table : List (String × ε)) (s : String) :
    fromStrIn table s.toList = (table.find? (·.1 = s)).map (·.2) := by
  simp only [fromStrIn, String.toList_inj]

theorem Underline.mem_all (v : Underline) : v ∈ Underline.all := by cases v <;> decide +kernel
theorem FontScheme.mem_all (v : FontScheme) : v ∈ FontScheme.all := by cases v <;> decide +kernel
theorem VertRun.mem_all (v : VertRun) : v ∈ VertRun.all := by cases v <;> decide +kernel
theorem Pattern.mem_all (v : Pattern) : v ∈ Pattern.all := by cases v <;> decide +kernel
theorem BorderStyle.mem_all (v : BorderStyle) : v ∈ BorderStyle.all := by cases v <;> decide +kernel
theorem HAlign.mem_all (v : HAlign) : v ∈ HAlign.all := by cases v <;> decide +kernel
theorem VAlign.mem_all (v : VAlign) : v ∈ VAlign.all := by cases v <;> decide +kernel

theorem Underline.fromStr_toStr (v : Underline) : Underline.fromStr v.toStr.toList = some v :=
  (by simp only [Underline.fromStr, fromStrIn_toList]; decide +kernel :
    ∀ v ∈ Underline.all, Underline.fromStr v.toStr.toList = some v) v v.mem_all
theorem FontScheme.fromStr_toStr (v : FontScheme) : FontScheme.fromStr v.toStr.toList = some v :=
  (by simp only [FontScheme.fromStr, fromStrIn_toList]; decide +kernel :
    ∀ v ∈ FontScheme.all, FontScheme.fromStr v.toStr.toList = some v) v v.mem_all
theorem VertRun.fromStr_toStr (v : VertRun) : VertRun.fromStr v.toStr.toList = some v :=
  (by simp only [VertRun.fromStr, fromStrIn_toList]; decide +kernel :
    ∀ v ∈ VertRun.all, VertRun.fromStr v.toStr.toList = some v) v v.mem_all
theorem Pattern.fromStr_toStr (v : Pattern) : Pattern.fromStr v.toStr.toList = some v :=
  (by simp only [Pattern.fromStr, fromStrIn_toList]; decide +kernel :
    ∀ v ∈ Pattern.all, Pattern.fromStr v.toStr.toList = some v) v v.mem_all
theorem BorderStyle.fromStr_toStr (v : BorderStyle) : BorderStyle.fromStr v.toStr.toList = some v :=
  (by simp only [BorderStyle.fromStr, fromStrIn_toList]; decide +kernel :
    ∀ v ∈ BorderStyle.all, BorderStyle.fromStr v.toStr.toList = some v) v v.mem_all
theorem HAlign.fromStr_toStr (v : HAlign) : HAlign.fromStr v.toStr.toList = some v :=
  (by simp only [HAlign.fromStr, fromStrIn_toList]; decide +kernel :
    ∀ v ∈ HAlign.all, HAlign.fromStr v.toStr.toList = some v) v v.mem_all
theorem VAlign.fromStr_toStr (v : VAlign) : VAlign.fromStr v.toStr.toList = some v :=
  (by simp only [VAlign.fromStr, fromStrIn_toList]; decide +kernel :
    ∀ v ∈ VAlign.all, VAlign.fromStr v.toStr.toList = some v) v v.mem_all

theorem toStr_inj_of {ε : Type} {fromStr : Tok → Option ε} {toStr : ε → String}
    (h : ∀ v, fromStr (toStr v).toList = some v) {a b : ε} (e : toStr a = toStr b) : a = b :=
  Option.some.inj (by rw [← h a, ← h b, e])

/-! Keys are compared as `String`s and `mkAttr` stays folded: unfolding it makes the unifier decode the key literal
  (`String.toList`) by well-founded recursion. -/

@[simp] theorem getAttr_nil (k : String) : getAttr [] k = none := rfl

theorem getAttr_cons (a : Attr) (as : List Attr) (k : String) :
    getAttr (a :: as) k = if a.name = k.toList then some a.value else getAttr as k := by
  unfold getAttr
  by_cases h : a.name = k.toList <;> simp [List.find?, h]

@[simp] theorem mkAttr_name (k : String) (v : Tok) : (mkAttr k v).name = k.toList := rfl
@[simp] theorem mkAttr_value (k : String) (v : Tok) : (mkAttr k v).value = v := rfl

theorem getAttr_mkAttr (k k' : String) (v : Tok) (as : List Attr) :
    getAttr (mkAttr k v :: as) k' = if k = k' then some v else getAttr as k' := by
  simp only [getAttr_cons, mkAttr_name, mkAttr_value, String.toList_inj]

theorem getAttr_append (as bs : List Attr) (k : String) : getAttr (as ++ bs) k = (getAttr as k).or (getAttr bs k) := by
  induction as with
  | nil => simp
  | cons a as ih =>
    simp only [List.cons_append, getAttr_cons]
    by_cases h : a.name = k.toList <;> simp [h, ih]

theorem getAttr_optAttr {α : Type} (k k' : String) (o : Option α) (f : α → Tok) :
    getAttr (optAttr k o f) k' = if k = k' then o.map f else none := by
  cases o <;> simp [optAttr, getAttr_mkAttr]

theorem getAttr_flagAttr (k k' : String) (o : Option Bool) :
    getAttr (flagAttr k o) k' = if k = k' ∧ o.getD false = true then some (boolStr true) else none := by
  unfold flagAttr
  cases o.getD false <;> simp [getAttr_mkAttr]

theorem getAttr_ite (c : Prop) [Decidable c] (a b : List Attr) (k : String) :
    getAttr (if c then a else b) k = if c then getAttr a k else getAttr b k := by
  split <;> rfl

theorem enumAttr_none {ε : Type} (fromStr : Tok → Option ε) (as : List Attr) (k : String) :
    enumAttr fromStr as k none = (getAttr as k).bind fromStr := by
  unfold enumAttr
  cases getAttr as k with
  | none => rfl
  | some v => cases h : fromStr v <;> simp [h]

theorem boolAttr_none (as : List Attr) (k : String) : boolAttr as k none = (getAttr as k).map boolOf := by
  unfold boolAttr; cases getAttr as k <;> rfl

theorem floatAttr_none (cf : Tok → Tok) (as : List Attr) (k : String) : floatAttr cf as k none = (getAttr as k).map cf := by
  unfold floatAttr; cases getAttr as k <;> rfl

theorem u32Attr_none (as : List Attr) (k : String) :
    u32Attr as k none = match getAttr as k with | some v => (u32Of v).map some | none => some none := rfl

theorem enumAttr_optAttr {ε : Type} {fromStr : Tok → Option ε} {toStr : ε → String}
    (h : ∀ v, fromStr (toStr v).toList = some v) (k : String) (t : Option ε) :
    enumAttr fromStr (optAttr k t (fun t => (toStr t).toList)) k none = t := by
  simp [enumAttr_none, getAttr_optAttr, Option.bind_map, Function.comp_def, h]

/-- `hacc`: the field `set` writes is still at its default in `acc`, so an absent child leaves the accumulator right (likewise
    `hset` of `Color.write_fold` and `optColor_fold`) -/
theorem foldOpt_optEl {α β : Type} {step : β → Node → Option β} {f : α → Node} (set : β → Option α → β) (o : Option α) (acc : β)
    (hstep : ∀ a, o = some a → step acc (f a) = some (set acc (some a))) (hacc : set acc none = acc) :
    foldOpt step (optEl o f) acc = some (set acc o) := by
  cases o with
  | none => simp [optEl, hacc]
  | some a => simp [optEl, hstep a rfl]

theorem isEmpty_attrs {c : Color} (h : c.attrs ≠ []) : c.attrs.isEmpty = false := by simpa [List.isEmpty_iff] using h

theorem Color.read_attrs (cf : Tok → Tok) (c : Color) (h : c.Range cf) :
    Color.readInto cf {} c.attrs = some c.norm := by
  obtain ⟨indexed, theme, argb, tint⟩ := c
  obtain ⟨hi, ht, hf⟩ := h
  simp only at hi ht hf
  -- in the order `Color.attrs` prefers: theme, else indexed, else argb
  cases theme with
  | some t =>
    have h1 := u32Of_decDigits t (ht t rfl)
    cases tint with
    | none => simp [Color.attrs, Color.readInto, Color.attrStep, mkAttr, h1, Color.norm]
    | some f => simp [Color.attrs, Color.readInto, foldOpt, Color.attrStep, mkAttr, h1, Color.norm, hf f rfl]
  | none =>
    cases indexed with
    | some i =>
      have h1 := u32Of_decDigits i (hi i rfl)
      cases tint with
      | none => simp [Color.attrs, Color.readInto, Color.attrStep, mkAttr, h1, Color.norm]
      | some f => simp [Color.attrs, Color.readInto, foldOpt, Color.attrStep, mkAttr, h1, Color.norm, hf f rfl]
    | none =>
      cases argb <;> cases tint <;>
        simp_all [Color.attrs, Color.readInto, foldOpt, Color.attrStep, mkAttr, Color.norm]

theorem Color.norm_of_oneForm (c : Color) (h : c.OneForm = true) : c.norm = c := by
  obtain ⟨indexed, theme, argb, tint⟩ := c
  cases theme <;> cases indexed <;> cases argb <;> simp_all [Color.norm, Color.OneForm]

theorem Color.norm_range (cf : Tok → Tok) (c : Color) (h : c.Range cf) : c.norm.Range cf := by
  obtain ⟨indexed, theme, argb, tint⟩ := c
  obtain ⟨hi, ht, hf⟩ := h
  cases theme <;> cases indexed <;> simp_all [Color.norm, Color.Range]

theorem Color.norm_oneForm (c : Color) : c.norm.OneForm = true := by
  obtain ⟨indexed, theme, argb, tint⟩ := c
  cases theme <;> cases indexed <;> cases argb <;> simp [Color.norm, Color.OneForm]

theorem Color.norm_idem (c : Color) : c.norm.norm = c.norm := Color.norm_of_oneForm _ (Color.norm_oneForm c)

theorem Color.attrs_norm (c : Color) : c.norm.attrs = c.attrs := by
  obtain ⟨indexed, theme, argb, tint⟩ := c
  cases theme <;> cases indexed <;> cases argb <;> simp [Color.norm, Color.attrs]

/-- `set_attributes` into a fresh colour on the first node of a list — for what `Color::write_to` emits, which is at most
    one element; no node = the colour stays `Color::default()` -/
def Color.readKids (cf : Tok → Tok) (l : List Node) : Option Color :=
  match l with
  | [] => some {}
  | n :: _ => Color.read cf n

theorem Color.attrs_empty_norm (c : Color) (h : c.attrs = []) : c.norm = {} := by
  obtain ⟨indexed, theme, argb, tint⟩ := c
  cases theme <;> cases indexed <;> cases argb <;> cases tint <;> simp_all [Color.norm, Color.attrs]

theorem position_get (x : Tok) : ∀ (l : List Tok) (i : Nat), position x l = some i → l[i]? = some x
  | [], _, h => by simp [position] at h
  | y :: l, i, h => by
    unfold position at h
    by_cases hy : y = x
    · simp [hy] at h; subst h; simp [hy]
    · simp only [hy, if_false, Option.map_eq_some_iff] at h
      obtain ⟨j, hj, rfl⟩ := h
      simpa using position_get x l j hj

@[simp] theorem children_mkEl (n : String) (as : List Attr) (cs : List Node) : (mkEl n as cs).children = cs := rfl
@[simp] theorem attrs_mkEl (n : String) (as : List Attr) (cs : List Node) : (mkEl n as cs).attrs = as := rfl

theorem Color.write_fold {α : Type} (cf : Tok → Tok) (tag : String) (c : Color) (h : c.Range cf)
    (step : α → Node → Option α) (acc : α) (set : α → Color → α)
    (hstep : ∀ as, step acc (mkEl tag as []) = (Color.readInto cf {} as).map (set acc))
    (hset : c.attrs = [] → set acc {} = acc) :
    foldOpt step (c.write tag) acc = some (set acc c.norm) := by
  unfold Color.write
  by_cases he : c.attrs = []
  · simp [he, Color.attrs_empty_norm c he, hset he]
  · simp [isEmpty_attrs he, hstep, Color.read_attrs cf c h]

theorem normFlag_getD (b : Option Bool) : (normFlag b).getD false = b.getD false := by
  cases b with
  | none => rfl
  | some v => cases v <;> rfl

theorem normFlag_idem (b : Option Bool) : normFlag (normFlag b) = normFlag b := by
  rw [normFlag, normFlag_getD, normFlag]

end Umya.StyleCodec
