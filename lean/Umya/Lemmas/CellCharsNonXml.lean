/-
  A character outside production [2] `Char` of XML 1.0 that reaches the buffer unescaped makes the part
  ill-formed for the independent XML 1.0 reader: `parse` returns `none`.  Shown on the smallest part that has
  such a text, the document `<t>c</t>` as `write_text_node` writes it.
-/
import Umya.Lemmas.XmlWriteLex
namespace Umya.CellTree
open Umya.XmlWrite Umya.XmlEsc
open Umya.Spec.Xml (Node Attr Token parse lex lexGo flushText isXmlChar Mode)

theorem lexGo_bad_char (c : Char) (r : List Char) (hc : isXmlChar c = false) : lexGo (.text []) (c :: r) = none := by
  rw [lexGo]
  simp [hc]

theorem flushText_none (acc : List Char) : flushText acc none = none := by
  unfold flushText
  split
  · rfl
  · split <;> simp_all

theorem parse_t_nonxml (c : Char) (hc : isXmlChar c = false) (hesc : escape [c] = [c]) :
    parse (renderDoc (.elem ['t'] [] [.text [c]])) = none := by
  have h : lex (renderDoc (.elem ['t'] [] [.text [c]])) = none := by
    unfold lex
    simp only [renderDoc, renderNode, renderKids, writeTextNode, writeEvent, hesc, writeNewLine, writeTextNodeNoEscape,
      newLineLit, List.append_nil, List.cons_append, List.nil_append]
    rw [lex_decl]
    rw [Umya.XmlChannel.lex_text_step [] '\r' _ (by decide) (by decide),
      Umya.XmlChannel.lex_text_step ['\r'] '\n' _ (by decide) (by decide),
      lex_startTag ['t'] [] false (by decide) (by decide)]
    rw [lexGo_bad_char c _ hc]
    simp [flushText_none]
  unfold parse
  rw [h]
  rfl

end Umya.CellTree
