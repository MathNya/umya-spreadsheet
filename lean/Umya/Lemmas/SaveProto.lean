/-
  The protocol language of `Model/SaveProto.lean`.  A program runs like its normal form, the decision tree obtained
  by symbolic execution (`exec_norm`); the source's temp-name expression evaluates to the model's `tmpOf` for every path
  with an extension (`evalE_tmpE`); the trees of the hand model's protocols, interpreted, return what `savePath` / `savePw` /
  `setPw` / `writeWriter` return, seen through `outcome` (`interpT_*`).
-/
import Umya.Model.SaveProto
import Umya.Lemmas.Fs
-- `outcome` is in the namespace of the theorems that are stated with it (`Thm/C13Gen.lean`); it stands here because the
-- lemmas below are stated with it too
namespace Umya.Thm.C13
open Umya.Fs Umya.SaveProto

/-- the result of a model protocol as the protocol language sees it: `ok`, or an error -/
def outcome (x : St × R) : St × R := (x.1, okErr x.2)

end Umya.Thm.C13
namespace Umya.SaveProto
open Umya.Fs
open Umya.Thm.C13 (outcome)

theorem interpT_mkCall (c : Ctx) (op : Op) (a b : Tree) (m : M) :
    interpT c (mkCall op a b) m = interpT c (.call op a b) m := by
  unfold mkCall
  split
  · next h =>
    subst h
    simp only [interpT]
    cases step c op m with
    | none => rfl
    | some x => obtain ⟨m', r⟩ := x; cases r <;> rfl
  · rfl

/-- soundness of the normal form: running a program = interpreting its decision tree -/
theorem exec_norm (c : Ctx) (p : Prog) : ∀ (e : List (Nat × Bool)) (m : M),
    exec c p e m = interpT c (norm p e) m := by
  induction p with
  | ret v =>
    intro e m
    simp only [exec, norm]
    cases lookup e v with
    | none => rfl
    | some b => cases b <;> rfl
  | retOk => intro e m; rfl
  | retErr => intro e m; rfl
  | panic => intro e m; rfl
  | act op k ih =>
    intro e m
    simp only [exec, norm, interpT]
    cases step c op m with
    | none => rfl
    | some x => exact ih e x.1
  | set v op k ih =>
    intro e m
    simp only [exec, norm, interpT_mkCall, interpT]
    cases step c op m with
    | none => rfl
    | some x =>
      obtain ⟨m', r⟩ := x
      cases r
      · exact ih _ m'
      · exact ih _ m'
  | const v b k ih => intro e m; exact ih _ m
  | branch op a b iha ihb =>
    intro e m
    simp only [exec, norm, interpT_mkCall, interpT]
    cases step c op m with
    | none => rfl
    | some x =>
      obtain ⟨m', r⟩ := x
      cases r
      · exact ihb e m'
      · exact iha e m'
  | test v a b iha ihb =>
    intro e m
    simp only [exec, norm]
    cases lookup e v with
    | none => rfl
    | some r =>
      cases r
      · exact ihb e m
      · exact iha e m

theorem splitRev_spec : ∀ (r acc pre ext : List Char),
    splitRev r acc = some (pre, ext) → r.reverse ++ acc = pre ++ '.' :: ext
  | [], _, _, _, h => nomatch h
  | c :: r, acc, pre, ext, h => by
    unfold splitRev at h
    by_cases h1 : c = '/'
    · rw [if_pos h1] at h; cases h
    · rw [if_neg h1] at h
      by_cases h2 : c = '.'
      · -- at the dot: none if nothing, a `/` or only the leading dot of `.foo` / `..` stands before it, else the answer
        rw [if_pos h2] at h
        cases r with
        | nil => cases h
        | cons d r' =>
          dsimp only at h
          split at h
          · cases h
          · split at h
            · cases h
            · cases h; simp [h2]
      · rw [if_neg h2] at h
        simpa using splitRev_spec r (c :: acc) pre ext h

theorem splitExt_spec (p : Path) (pre ext : List Char) (h : splitExt p = some (pre, ext)) :
    p = pre ++ '.' :: ext := by
  have := splitRev_spec p.reverse [] pre ext h
  simpa using this

/-- the temp-name computation of the source, `path.with_extension(format!("{}{}", extension, "tmp"))`
    with `extension = path.extension().unwrap().to_str().unwrap()`, yields the model's `<dest>tmp` -/
theorem evalE_tmpE (fs0 : Fs) (dest src : Path) (h : (splitExt dest).isSome) :
    evalE fs0 dest src (tmpE .dest) = some (tmpOf dest) := by
  obtain ⟨⟨pre, ext⟩, h⟩ := Option.isSome_iff_exists.mp h
  have hd := splitExt_spec dest pre ext h
  simp only [tmpE, evalE, h, withExtension]
  have hne : ext ++ ['t', 'm', 'p'] ≠ [] := by simp
  simp only [hne, if_false, tmpOf]
  rw [hd]; simp

theorem writeChunks_append (φ : Fault) (h : Path) : ∀ (a b : List Bytes) (st : St),
    writeChunks φ h (a ++ b) st =
      (match writeChunks φ h a st with
       | (st', .ok) => writeChunks φ h b st'
       | x => x) := by
  intro a
  induction a with
  | nil => intro b st; simp [writeChunks]
  | cons x a ih =>
    intro b st
    simp only [List.cons_append, writeChunks]
    rcases hw : writeAll φ h x.length x st with ⟨st', r⟩
    cases r <;> simp [ih]

theorem isOk_iff (r : R) : isOk r = true ↔ r = .ok := by cases r <;> simp [isOk]

theorem step_create (c : Ctx) (st : St) (rd pkg : Option Bytes) {p : E} {q : Path}
    (he : evalE c.fs0 c.dest c.src p = some q) :
    step c (.create p) ⟨st, none, none, rd, pkg⟩ =
      (match sysCreate c.φ q st with
       | (st1, none) => some (⟨st1, none, none, rd, pkg⟩, false)
       | (st1, some h) => some (⟨st1, some h, none, rd, pkg⟩, true)) := by
  simp only [step, he]
  rcases sysCreate c.φ q st with ⟨st1, _ | h⟩ <;> rfl

theorem step_bufNew (c : Ctx) (st : St) (h : Path) (rd pkg : Option Bytes) :
    step c (.bufNew cap) ⟨st, some h, none, rd, pkg⟩ = some (⟨st, some h, some ⟨h, []⟩, rd, pkg⟩, true) := by
  simp [step]

theorem step_compute_ok (c : Ctx) (f : Bool) (hc : f = false ∨ c.cok = true) (st : St) (fl : Option Path)
    (bw : Option BufW) (rd pkg : Option Bytes) :
    step c (.compute f) ⟨st, fl, bw, rd, pkg⟩ = some (⟨st, fl, bw, rd, some c.data⟩, true) := by
  rcases hc with hc | hc <;> simp [step, hc]

theorem step_writeAll_bw (c : Ctx) (st : St) (fl : Option Path) (b : BufW) (rd : Option Bytes) (d : Bytes) :
    step c .writeAll ⟨st, fl, some b, rd, some d⟩ =
      some (⟨(bufWriteAll c.φ b d st).2.1, fl, some (bufWriteAll c.φ b d st).1, rd, some d⟩,
            isOk (bufWriteAll c.φ b d st).2.2) := by
  simp only [step]

theorem step_flush_bw (c : Ctx) (st : St) (fl : Option Path) (b : BufW) (rd pkg : Option Bytes) :
    step c .flush ⟨st, fl, some b, rd, pkg⟩ =
      some (⟨(bufFlush c.φ b st).2.1, fl, some (bufFlush c.φ b st).1, rd, pkg⟩, isOk (bufFlush c.φ b st).2.2) := by
  simp only [step]

theorem step_drop_bw (c : Ctx) (st : St) (fl : Option Path) (b : BufW) (rd pkg : Option Bytes) :
    step c .drop ⟨st, fl, some b, rd, pkg⟩ = some (⟨bufDrop c.φ b st, none, none, rd, pkg⟩, true) := by
  simp only [step]

/-- where a path save goes once everything before the rename has returned `r`: the rename, or the error path.  The tree has the two
    spelled out at each place an error can arise; the model hands `r` to `finish`. -/
def tailT (r : R) : Tree := if r = .ok then finishT .dest else cleanupT .dest

theorem interpT_tailT (c : Ctx) (hx : (splitExt c.dest).isSome) (r : R) (m : M) :
    interpT c (tailT r) m = some (outcome (finish c.φ c.dest m.st r)) := by
  have he := evalE_tmpE c.fs0 c.dest c.src hx
  have hcl : ∀ m : M, interpT c (cleanupT .dest) m = some ((sysRemove c.φ (tmpOf c.dest) m.st).1, .err) := fun m => by
    simp only [cleanupT, interpT, step, he]
  cases r
  case ok =>
    simp only [tailT, if_true, finishT, interpT, step, he, evalE, finish]
    rcases sysRename c.φ (tmpOf c.dest) c.dest m.st with ⟨s, r⟩
    cases r
    case ok => rfl
    all_goals exact hcl _
  all_goals exact hcl m

theorem interpT_drop_tailT (c : Ctx) (hx : (splitExt c.dest).isSome) (r : R)
    (st : St) (fl : Option Path) (b : BufW) (rd pkg : Option Bytes) :
    interpT c (.act .drop (tailT r)) ⟨st, fl, some b, rd, pkg⟩ = some (outcome (finish c.φ c.dest (bufDrop c.φ b st) r)) := by
  rw [interpT, step_drop_bw]
  exact interpT_tailT c hx r _

/-- the part of the path saves after the output exists, shared by xlsx and csv:
    `write_all`?, flush if ok, drop, rename if ok / remove on error = `writeTmp` then `finish`.  `savePathT` and `savePathCsvT` of the
    model contain this term spelled out (and `8192` for `cap`), hence the `rfl`s of `interpT_savePathT`, `interpT_savePathCsvT`. -/
def writeTmpT : Tree :=
  .call .writeAll
    (.call .flush (.act .drop (finishT .dest)) (.act .drop (cleanupT .dest)))
    (.act .drop (cleanupT .dest))

theorem interpT_writeTmpT (c : Ctx) (hx : (splitExt c.dest).isSome)
    (st : St) (h : Path) (rd : Option Bytes) :
    interpT c writeTmpT ⟨st, some h, some ⟨h, []⟩, rd, some c.data⟩ =
      some (outcome (finish c.φ c.dest (writeTmp c.φ h c.data st).1 (writeTmp c.φ h c.data st).2)) := by
  unfold writeTmpT writeTmp
  rw [interpT, step_writeAll_bw]
  rcases bufWriteAll c.φ ⟨h, []⟩ c.data st with ⟨bw1, st2, r⟩
  -- a failed `write_all`: no flush on either side, `drop`, the tail for `r`
  have hr := interpT_drop_tailT c hx r st2 (some h) bw1 rd (some c.data)
  cases r
  case ok =>
    show interpT c (.call .flush _ _) _ = _
    rw [interpT, step_flush_bw]
    dsimp only
    rcases bufFlush c.φ bw1 st2 with ⟨bw2, st3, r2⟩
    have hr2 := interpT_drop_tailT c hx r2 st3 (some h) bw2 rd (some c.data)
    cases r2 <;> exact hr2
  all_goals exact hr

/-- `T` is what stands between `BufWriter::new` and `write_all`: any tree that amounts to having the output -/
theorem interpT_savePath (c : Ctx) (st : St) (hx : (splitExt c.dest).isSome) (T : Tree)
    (hT : ∀ st fl bw rd pkg, interpT c T ⟨st, fl, bw, rd, pkg⟩ = interpT c writeTmpT ⟨st, fl, bw, rd, some c.data⟩) :
    interpT c (.call (.create (tmpE .dest)) (.act (.bufNew cap) T) .retErr) (M.init st) =
      some (outcome (savePath c.φ c.data c.dest st)) := by
  unfold savePath M.init
  rw [interpT, step_create c st none none (evalE_tmpE c.fs0 c.dest c.src hx)]
  rcases sysCreate c.φ (tmpOf c.dest) st with ⟨st1, _ | h⟩
  · rfl
  · show interpT c (.act (.bufNew cap) _) _ = _
    rw [interpT, step_bufNew]
    exact (hT ..).trans (interpT_writeTmpT c hx st1 h none)

theorem interpT_savePathT (c : Ctx) (st : St) (hc : c.cok = true) (hx : (splitExt c.dest).isSome) :
    interpT c savePathT (M.init st) = some (outcome (savePath c.φ c.data c.dest st)) :=
  interpT_savePath c st hx _ fun _ _ _ _ _ => by rw [interpT, step_compute_ok c true (.inr hc)]; rfl

theorem interpT_savePathCsvT (c : Ctx) (st : St) (hx : (splitExt c.dest).isSome) :
    interpT c savePathCsvT (M.init st) = some (outcome (savePath c.φ c.data c.dest st)) :=
  interpT_savePath c st hx _ fun _ _ _ _ _ => by rw [interpT, step_compute_ok c false (.inl rfl)]; rfl

theorem step_cfbCreate (c : Ctx) (st : St) (bw : Option BufW) (rd : Option Bytes) (d : Bytes) {p : E} {q : Path}
    (he : evalE c.fs0 c.dest c.src p = some q) :
    step c (.cfbCreate p) ⟨st, none, bw, rd, some d⟩ =
      (match sysCreate c.φ q st with
       | (st1, none) => some (⟨st1, none, bw, rd, some d⟩, false)
       | (st1, some h) =>
         some (⟨(writeChunks c.φ h (c.enc1 d) st1).1, some h, bw, rd, some d⟩, isOk (writeChunks c.φ h (c.enc1 d) st1).2)) := by
  simp only [step, he]
  rcases sysCreate c.φ q st with ⟨st1, _ | h⟩ <;> rfl

theorem step_cfbWrite (c : Ctx) (st : St) (h : Path) (bw : Option BufW) (rd : Option Bytes) (d : Bytes) :
    step c .cfbWrite ⟨st, some h, bw, rd, some d⟩ =
      some (⟨(writeChunks c.φ h (c.enc2 d) st).1, none, bw, rd, some d⟩, isOk (writeChunks c.φ h (c.enc2 d) st).2) := by
  simp only [step]

/-- `encryptT` is the part of `savePw` after the buffer exists; the container writer's `write_all` sequence is
    `cfb::create`'s followed by `write_compound_file`'s -/
theorem interpT_encryptT (c : Ctx) (hx : (splitExt c.dest).isSome)
    (st : St) (rd : Option Bytes) (d : Bytes) :
    interpT c encryptT ⟨st, none, none, rd, some d⟩ = some (outcome (savePw c.φ (c.enc1 d ++ c.enc2 d) c.dest st)) := by
  unfold encryptT savePw
  rw [interpT, step_cfbCreate c st none rd d (evalE_tmpE c.fs0 c.dest c.src hx)]
  rcases sysCreate c.φ (tmpOf c.dest) st with ⟨st1, _ | h⟩
  · exact interpT_tailT c hx .err _
  · dsimp only
    rw [writeChunks_append]
    rcases writeChunks c.φ h (c.enc1 d) st1 with ⟨s1, r1⟩
    -- every leaf is the tail for the result so far
    have h1 := interpT_tailT c hx r1 ⟨s1, some h, none, rd, some d⟩
    cases r1
    case ok =>
      show interpT c (.call .cfbWrite _ _) _ = _
      rw [interpT, step_cfbWrite]
      dsimp only
      rcases writeChunks c.φ h (c.enc2 d) s1 with ⟨s2, r2⟩
      have h2 := interpT_tailT c hx r2 ⟨s2, none, none, rd, some d⟩
      cases r2 <;> exact h2
    all_goals exact h1

theorem interpT_savePwT (c : Ctx) (st : St) (hc : c.cok = true) (hx : (splitExt c.dest).isSome) :
    interpT c savePwT (M.init st) = some (outcome (savePw c.φ (c.enc1 c.data ++ c.enc2 c.data) c.dest st)) := by
  unfold savePwT M.init
  rw [interpT, step_compute_ok c true (.inr hc)]
  exact interpT_encryptT c hx st none c.data

theorem interpT_setPwT (c : Ctx) (st : St) (hx : (splitExt c.dest).isSome) :
    interpT c setPwT (M.init st) = some (outcome (setPw c.φ (fun b => c.enc1 b ++ c.enc2 b) c.src c.dest st)) := by
  unfold setPwT setPw M.init
  rw [interpT]
  simp only [step, evalE]
  cases content st.cur c.src with
  | none => rfl
  | some b =>
    show interpT c (.call .readAll _ _) _ = _
    rw [interpT]
    exact interpT_encryptT c hx st (some b) b

theorem step_writeAll_file (c : Ctx) (st : St) (h : Path) (rd : Option Bytes) (d : Bytes) :
    step c .writeAll ⟨st, some h, none, rd, some d⟩ =
      some (⟨(writeAll c.φ h d.length d st).1, some h, none, rd, some d⟩, isOk (writeAll c.φ h d.length d st).2) := by
  simp only [step]

/-- once the output is there, `writeWriterT` and `writeWriterCsvT` are this tree -/
theorem interpT_writeWriter (c : Ctx) :
    interpT c (.call .writeAll .retOk .retErr) ⟨St.init [(sinkPath, .file [])], some sinkPath, none, none, some c.data⟩ =
      some (outcome (writeAll c.φ sinkPath c.data.length c.data (St.init [(sinkPath, .file [])]))) := by
  rw [interpT, step_writeAll_file]
  rcases writeAll c.φ sinkPath c.data.length c.data (St.init [(sinkPath, .file [])]) with ⟨s, r⟩
  cases r <;> rfl

theorem interpT_writeWriterT (c : Ctx) (hc : c.cok = true) :
    interpT c writeWriterT M.sink =
      some (outcome (writeAll c.φ sinkPath c.data.length c.data (St.init [(sinkPath, .file [])]))) := by
  rw [writeWriterT, M.sink, interpT, step_compute_ok c true (.inr hc)]
  exact interpT_writeWriter c

theorem interpT_writeWriterCsvT (c : Ctx) :
    interpT c writeWriterCsvT M.sink =
      some (outcome (writeAll c.φ sinkPath c.data.length c.data (St.init [(sinkPath, .file [])]))) := by
  rw [writeWriterCsvT, M.sink, interpT, step_compute_ok c false (.inl rfl)]
  exact interpT_writeWriter c

/-! `make_buffer` fails: an in-memory error, no parameter of `savePath` / `savePw` -/

theorem step_compute_fail (c : Ctx) (hc : c.cok = false) (m : M) :
    step c (.compute true) m = some (m, false) := by
  simp [step, hc]

theorem interpT_savePathT_compute_fail (c : Ctx) (st : St) (hc : c.cok = false) (hx : (splitExt c.dest).isSome) :
    interpT c savePathT (M.init st) =
      some (match sysCreate c.φ (tmpOf c.dest) st with
            | (st1, none) => (st1, .err)
            | (st1, some _) => ((sysRemove c.φ (tmpOf c.dest) st1).1, .err)) := by
  unfold savePathT M.init
  rw [interpT, step_create c st none none (evalE_tmpE c.fs0 c.dest c.src hx)]
  rcases sysCreate c.φ (tmpOf c.dest) st with ⟨st1, _ | h⟩
  · rfl
  · show interpT c (.act (.bufNew cap) _) _ = _
    rw [interpT, step_bufNew]
    show interpT c (.call (.compute true) _ _) _ = _
    rw [interpT, step_compute_fail c hc]
    exact (interpT_drop_tailT c hx .err st1 _ ⟨h, []⟩ _ _).trans (by rw [bufDrop_empty]; rfl)

theorem interpT_savePwT_compute_fail (c : Ctx) (st : St) (hc : c.cok = false) :
    interpT c savePwT (M.init st) = some (st, .err) := by
  unfold savePwT M.init
  rw [interpT, step_compute_fail c hc]
  rfl

/-- the model's `SinkOut` as a view of the final machine state -/
def sinkView (x : St × R) : SinkOut :=
  ⟨x.2, (match get x.1.cur sinkPath with | some (.file b) => some b | _ => none), x.1.calls⟩

theorem writeWriter_eq_sinkView (φ : Fault) (data : Bytes) :
    writeWriter φ data = sinkView (writeAll φ sinkPath data.length data (St.init [(sinkPath, .file [])])) := rfl

end Umya.SaveProto
