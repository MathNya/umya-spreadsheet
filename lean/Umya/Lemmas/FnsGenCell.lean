/-
  (T) the `t=` choice of a cell: `CellRawValue::get_data_type`
  (src/structs/cell_raw_value.rs) and `CellValue::get_data_type_crate` (src/structs/cell_value.rs) as compiled
  from the source on this run are the hand model's `RawValue.dataType` / `dataTypeOf` (`Umya/Model/CellXml.lean`).
  The compiled code matches on the variant TAG of `CellRawValue` (payloads are wildcards in the
  source) and on `formula.is_some()`; `tagOf` / `Option.map (fun _ => ())` are the obvious abstractions.
-/
import Umya.Lemmas.FnsGen
import Umya.Model.CellXml
namespace Umya.Gen
open Umya.CellXml Umya.Num

/-- the variant of `CellRawValue` a model value stands for -/
def tagOf {N} : RawValue N → CellRawValue_tag
  | .empty => .Empty
  | .str _ => .String
  | .rich _ => .RichText
  | .num _ => .Numeric
  | .bool _ => .Bool
  | .err _ => .Error
  | .lazy _ => .Lazy

/-- the enum declaration has no variant the model lacks -/
theorem tagOf_surjective (t : CellRawValue_tag) :
    ∃ r : RawValue Nat, tagOf r = t := by
  cases t
  · exact ⟨.str [], rfl⟩
  · exact ⟨.rich [], rfl⟩
  · exact ⟨.lazy [], rfl⟩
  · exact ⟨.num 0, rfl⟩
  · exact ⟨.bool true, rfl⟩
  · exact ⟨.err .div0, rfl⟩
  · exact ⟨.empty, rfl⟩

theorem gen_raw_get_data_type {N} (r : RawValue N) : raw_get_data_type (tagOf r) = r.dataType := by
  cases r <;> simp [raw_get_data_type, tagOf, RawValue.dataType, tS, tN, tB, tE]

theorem gen_get_data_type_crate (F : NumFmt) (r : RawValue F.Num) (f : Option (List Char)) :
    get_data_type_crate (tagOf r) (f.map fun _ => ()) = dataTypeOf F r f := by
  cases f <;> cases r <;>
    simp [get_data_type_crate, raw_get_data_type, tagOf, dataTypeOf, RawValue.dataType, tS, tN, tB, tE, tSTR]

end Umya.Gen
