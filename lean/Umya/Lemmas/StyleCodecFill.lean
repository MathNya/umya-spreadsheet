/-
  An optional colour child of a fill without attributes is not written at all and reads back as `none` (`normOptColor`); a `Fill`
  holds a pattern or a gradient, the reader of either element drops the other.  An unset gradient degree / stop position is
  WRITTEN as `0` (`zeroTok`), so a gradient reads back as its normal form only if `0` is a float text: `hz : cf zeroTok = zeroTok`.
-/
import Umya.Lemmas.StyleCodec
namespace Umya.StyleCodec
open Umya.Spec.Xml (Node Attr)
open Umya.Dec

-- element and attribute names are compared as `String`s (`String.reduceEq`), not character by character
attribute [local simp] String.toList_inj
attribute [-simp] String.reduceToList

section
variable (cf : Tok → Tok)

theorem optColor_fold {α : Type} (tag : String) {o : Option Color} (h : optColorRange cf o) {step : α → Node → Option α} {acc : α}
    (set : α → Option Color → α)
    (hstep : ∀ as, step acc (mkEl tag as []) = (Color.readInto cf {} as).map (fun c => set acc (some c)))
    (hset : set acc none = acc) :
    foldOpt step (optKids o (Color.write tag)) acc = some (set acc (normOptColor o)) := by
  cases o with
  | none => simp [optKids, normOptColor, hset]
  | some c =>
    by_cases he : c.attrs = []
    · simp [optKids, Color.write, normOptColor, he, hset]
    · simp [optKids, Color.write, normOptColor, isEmpty_attrs he, hstep, Color.read_attrs cf c (h c rfl)]

theorem PatternFill.read_write (p : PatternFill) (h : p.Range cf) : PatternFill.read cf p.write = some p.norm := by
  simp only [PatternFill.read, PatternFill.write, children_mkEl, attrs_mkEl, enumAttr_optAttr Pattern.fromStr_toStr]
  rw [foldOpt_append, optColor_fold cf "fgColor" h.1 (fun a o => { a with fg := o }) (by simp [PatternFill.step, mkEl]) rfl,
    Option.bind_some, optColor_fold cf "bgColor" h.2 (fun a o => { a with bg := o }) (by simp [PatternFill.step, mkEl]) rfl]
  rfl

theorem normOptColor_idem (o : Option Color) : normOptColor (normOptColor o) = normOptColor o := by
  cases o with
  | none => rfl
  | some c =>
    by_cases he : c.attrs = []
    · simp [normOptColor, he]
    · simp [normOptColor, isEmpty_attrs he, Color.attrs_norm, Color.norm_idem]

theorem PatternFill.norm_idem (p : PatternFill) : p.norm.norm = p.norm := by
  simp [PatternFill.norm, normOptColor_idem]

theorem normOptColor_range (o : Option Color) (h : optColorRange cf o) : optColorRange cf (normOptColor o) := by
  intro c hc
  cases o with
  | none => simp [normOptColor] at hc
  | some d =>
    by_cases he : d.attrs.isEmpty = true
    · simp [normOptColor, he] at hc
    · simp only [normOptColor, he] at hc
      cases hc; exact Color.norm_range cf d (h d rfl)

theorem PatternFill.norm_range (p : PatternFill) (h : p.Range cf) : p.norm.Range cf :=
  ⟨normOptColor_range cf _ h.1, normOptColor_range cf _ h.2⟩

theorem optColorEff_norm (o : Option Color) (h : optOneForm o = true) : optColorEff (normOptColor o) = optColorEff o := by
  cases o with
  | none => rfl
  | some c =>
    have h' : c.OneForm = true := h
    by_cases he : c.attrs = []
    · have := Color.attrs_empty_norm c he
      rw [Color.norm_of_oneForm c h'] at this
      subst this
      rfl
    · simp [normOptColor, isEmpty_attrs he, optColorEff, Color.norm_of_oneForm c h']

theorem PatternFill.eff_norm (p : PatternFill) (h1 : p.OneForm = true) : p.norm.eff = p.eff := by
  simp only [PatternFill.OneForm, Bool.and_eq_true] at h1
  simp only [PatternFill.norm, PatternFill.eff, optColorEff_norm _ h1.1, optColorEff_norm _ h1.2]

/-- in the shape `Range` asks it of the field `some (o.getD zeroTok)` of the normal form -/
theorem getD_float {o : Option Tok} (hz : cf zeroTok = zeroTok) (h : ∀ t, o = some t → cf t = t) :
    ∀ t, some (o.getD zeroTok) = some t → cf t = t := by
  rintro _ ⟨⟩
  cases o with
  | none => exact hz
  | some t => exact h t rfl

theorem floatAttr_getD (k : String) {o : Option Tok} (hz : cf zeroTok = zeroTok) (h : ∀ t, o = some t → cf t = t) :
    floatAttr cf [mkAttr k (o.getD zeroTok)] k none = some (o.getD zeroTok) := by
  simp [floatAttr_none, getAttr_mkAttr, getD_float cf hz h _ rfl]

theorem GradientStop.read_write (hz : cf zeroTok = zeroTok) (s : GradientStop) (h : s.Range cf) :
    GradientStop.read cf s.write = some s.norm := by
  have hfold := Color.write_fold cf "color" s.color h.2 (GradientStop.step cf)
    { position := some (s.position.getD zeroTok) } (fun a c => { a with color := c })
    (by intro as; simp [GradientStop.step, mkEl]) (by intro _; rfl)
  simp only [GradientStop.read, GradientStop.write, children_mkEl, attrs_mkEl, floatAttr_getD cf "position" hz h.1, hfold]
  rfl

theorem GradientFill.step_stop (g : GradientFill) (as : List Attr) (cs : List Node) :
    GradientFill.step cf g (mkEl "stop" as cs) =
      (GradientStop.read cf (mkEl "stop" as cs)).map (fun s => { g with stops := g.stops ++ [s] }) := by
  simp [GradientFill.step, mkEl]

theorem GradientFill.stops_fold (hz : cf zeroTok = zeroTok) (l : List GradientStop) (h : ∀ s ∈ l, s.Range cf) (g : GradientFill) :
    foldOpt (GradientFill.step cf) (l.map GradientStop.write) g = some { g with stops := g.stops ++ l.map GradientStop.norm } := by
  induction l generalizing g with
  | nil => simp
  | cons s l ih =>
    have hstep : GradientFill.step cf g s.write = some { g with stops := g.stops ++ [s.norm] } := by
      have hs := GradientStop.read_write cf hz s (h s (by simp))
      unfold GradientStop.write at hs ⊢
      rw [GradientFill.step_stop, hs]; rfl
    simp only [List.map_cons, foldOpt, hstep, Option.bind_some]
    rw [ih (fun s hs => h s (by simp [hs]))]
    simp

theorem GradientFill.read_write (hz : cf zeroTok = zeroTok) (g : GradientFill) (h : g.Range cf) :
    GradientFill.read cf g.write = some g.norm := by
  simp only [GradientFill.read, GradientFill.write, children_mkEl, attrs_mkEl, floatAttr_getD cf "degree" hz h.1]
  rw [GradientFill.stops_fold cf hz _ h.2]
  simp [GradientFill.norm]

theorem GradientStop.norm_idem (s : GradientStop) : s.norm.norm = s.norm := by
  simp [GradientStop.norm, Color.norm_idem]

theorem GradientFill.norm_idem (g : GradientFill) : g.norm.norm = g.norm := by
  simp [GradientFill.norm, GradientStop.norm_idem]

theorem GradientFill.eff_norm (g : GradientFill) (h : g.stops.all (fun s => s.color.OneForm) = true) : g.norm.eff = g.eff := by
  simp only [List.all_eq_true] at h
  simp only [GradientFill.norm, GradientFill.eff, Option.getD_some, List.map_map, Prod.mk.injEq, true_and]
  apply List.map_congr_left
  intro s hs
  simp [GradientStop.norm, Color.norm_of_oneForm _ (h s hs)]

theorem Fill.step_pattern (f : Fill) (p : PatternFill) :
    Fill.step cf f p.write = (PatternFill.read cf p.write).map (fun p => { pattern := some p, gradient := none }) := by
  simp [Fill.step, PatternFill.write, mkEl]

theorem Fill.step_gradient (f : Fill) (g : GradientFill) :
    Fill.step cf f g.write = (GradientFill.read cf g.write).map (fun g => { pattern := none, gradient := some g }) := by
  simp [Fill.step, GradientFill.write, mkEl]

theorem Fill.read_write (hz : cf zeroTok = zeroTok) (f : Fill) (h : f.Range cf) : Fill.read cf f.write = some f.norm := by
  simp only [Fill.read, Fill.write, children_mkEl]
  -- `Fill.step` on `<patternFill>` resets the gradient and the other way round, so the `set` functions are not field updates
  rw [foldOpt_append,
    foldOpt_optEl (step := Fill.step cf) (fun a o => match o with | some p => ⟨some p.norm, none⟩ | none => a) f.pattern {}
      (fun p hp => by rw [Fill.step_pattern, PatternFill.read_write cf p (h.1 p hp)]; rfl) rfl,
    Option.bind_some,
    foldOpt_optEl (step := Fill.step cf) (fun a o => match o with | some g => ⟨none, some g.norm⟩ | none => a) f.gradient _
      (fun g hg => by rw [Fill.step_gradient, GradientFill.read_write cf hz g (h.2 g hg)]; rfl) rfl]
  obtain ⟨pat, grad⟩ := f
  cases pat <;> cases grad <;> rfl

theorem Fill.norm_idem (f : Fill) : f.norm.norm = f.norm := by
  obtain ⟨pat, grad⟩ := f
  cases grad with
  | some g => simp [Fill.norm, GradientFill.norm_idem]
  | none => cases pat <;> simp [Fill.norm, PatternFill.norm_idem]

theorem Fill.eff_norm (f : Fill) (h : f.WF = true) : f.norm.eff = f.eff := by
  obtain ⟨pat, grad⟩ := f
  cases grad with
  | some g =>
    cases pat with
    | some p => simp [Fill.WF] at h
    | none =>
      simp only [Fill.WF, Bool.true_and, Bool.and_eq_true] at h
      simp [Fill.norm, Fill.eff, GradientFill.eff_norm g h.1]
  | none =>
    cases pat with
    | none => simp [Fill.norm, Fill.eff]
    | some p =>
      simp only [Fill.WF, Bool.and_true] at h
      simp [Fill.norm, Fill.eff, PatternFill.eff_norm p h]

theorem GradientStop.norm_range (hz : cf zeroTok = zeroTok) (s : GradientStop) (h : s.Range cf) : s.norm.Range cf :=
  ⟨getD_float cf hz h.1, Color.norm_range cf _ h.2⟩

theorem GradientFill.norm_range (hz : cf zeroTok = zeroTok) (g : GradientFill) (h : g.Range cf) : g.norm.Range cf := by
  refine ⟨getD_float cf hz h.1, fun s hs => ?_⟩
  obtain ⟨s0, hs0, rfl⟩ := List.mem_map.1 hs
  exact GradientStop.norm_range cf hz s0 (h.2 s0 hs0)

/-- the pattern half of `Fill.norm_range`, which does not need `cf zeroTok = zeroTok` -/
theorem Fill.norm_pattern_range (f : Fill) (h : ∀ p, f.pattern = some p → p.Range cf) :
    ∀ p, f.norm.pattern = some p → p.Range cf := by
  intro p hp
  unfold Fill.norm at hp
  split at hp
  · cases hp
  · obtain ⟨q, hq, rfl⟩ := Option.map_eq_some_iff.mp hp
    exact PatternFill.norm_range cf q (h q hq)

theorem Fill.norm_range (hz : cf zeroTok = zeroTok) (f : Fill) (h : f.Range cf) : f.norm.Range cf := by
  refine ⟨Fill.norm_pattern_range cf f h.1, fun g' hg' => ?_⟩
  unfold Fill.norm at hg'
  split at hg'
  · next g hg => cases hg'; exact GradientFill.norm_range cf hz g (h.2 g hg)
  · cases hg'

theorem optOneForm_norm (o : Option Color) : optOneForm (normOptColor o) = true := by
  cases o with
  | none => rfl
  | some c =>
    simp only [normOptColor]
    split
    · rfl
    · exact Color.norm_oneForm c

theorem Fill.norm_WF (f : Fill) : f.norm.WF = true := by
  obtain ⟨pat, grad⟩ := f
  cases grad with
  | some g =>
    simp only [Fill.norm, Fill.WF, GradientFill.norm, List.all_map, Bool.true_and, Option.isNone_none, Bool.and_true,
      List.all_eq_true]
    intro s _
    exact Color.norm_oneForm s.color
  | none =>
    cases pat with
    | none => rfl
    | some p =>
      simp [Fill.norm, Fill.WF, PatternFill.norm, PatternFill.OneForm, optOneForm_norm]

end
end Umya.StyleCodec
