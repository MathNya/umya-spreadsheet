/-
  Rows of written fields (`rows_read`: any reader that takes one written field up to a delimiter or a line break reads
  the rows back; the RFC 4180 reader `run` and the string-quote reader `runW` of `Umya/Spec/CsvWrap.lean` are such), and
  how the RFC 4180 reader consumes a field the CSV model writes.
-/
import Umya.Model.Csv
import Umya.Spec.Rfc4180
namespace Umya.Lemmas.Csv
open Umya.Csv Umya.Rfc4180

/-! `R rec out text` is a reader at the start of a field, `d` the delimiter, `f` writes a field, `g` is the value to be read
  back, `P` is what the reader needs to know of the text after a delimiter or line break (nothing for the RFC 4180
  reader, "begins with the quote" for the string-quote reader). -/
section rows
variable {R : Record → List Record → Text → Option (List Record)} {d : Char} {f g : Text → Text} {P : Text → Prop}

theorem join_starts (d : Char) (hP : ∀ v t, P (f v ++ t)) (row : List Text) (hne : row ≠ []) (t : Text) :
    P (join [d] (row.map f) ++ t) := by
  match row, hne with
  | [v], _ => exact hP v t
  | v :: v2 :: r, _ => simpa [join] using hP v _

variable (hsep : ∀ v rec out rest, P rest → R rec out (f v ++ d :: rest) = R (rec ++ [g v]) out rest)
  (heol : ∀ v rec out rest, rest = [] ∨ P rest →
    R rec out (f v ++ '\r' :: '\n' :: rest) = R [] (out ++ [rec ++ [g v]]) rest)
  (hP : ∀ v t, P (f v ++ t))
include hsep heol hP

theorem row_read (row : List Text) (hne : row ≠ []) (rec : Record) (out : List Record) (rest : Text)
    (hr : rest = [] ∨ P rest) :
    R rec out (join [d] (row.map f) ++ '\r' :: '\n' :: rest) = R [] (out ++ [rec ++ row.map g]) rest := by
  induction row generalizing rec with
  | nil => exact absurd rfl hne
  | cons v row ih =>
    cases row with
    | nil => exact heol v rec out rest hr
    | cons v2 row =>
      have ih' := ih (by simp) (rec ++ [g v])
      have hp := join_starts d hP (v2 :: row) (by simp) ('\r' :: '\n' :: rest)
      simp only [List.map_cons, join, List.append_assoc, List.cons_append, List.nil_append] at ih' hp ⊢
      rw [hsep v rec out _ hp, ih']

theorem rows_read (hend : ∀ out, R [] out [] = some out) (rows : List (List Text)) (hne : ∀ r ∈ rows, r ≠ [])
    (out : List Record) :
    R [] out (rows.flatMap fun r => join [d] (r.map f) ++ ['\r', '\n']) = some (out ++ rows.map (·.map g)) := by
  induction rows generalizing out with
  | nil => simpa using hend out
  | cons row rows ih =>
    simp only [List.flatMap_cons, List.map_cons, List.append_assoc, List.cons_append, List.nil_append]
    rw [row_read hsep heol hP row (hne row (by simp)) [] out _ ?_, ih (fun r hr => hne r (by simp [hr]))]
    · simp
    · cases rows with
      | nil => exact .inl rfl
      | cons r2 rows2 => exact .inr (by simpa using join_starts d hP r2 (hne r2 (by simp)) _)

end rows

theorem run_escape (d q : Char) (v fld : List Char) (rec : Record) (out : List Record) (rest : List Char) :
    run d q .quoted fld rec out (escape q v ++ q :: rest) = run d q .closing (fld ++ v) rec out rest := by
  induction v generalizing fld with
  | nil => simp [escape, run]
  | cons c v ih =>
    have := ih (fld ++ [c])
    simp only [escape, List.flatMap_cons, List.append_assoc, List.cons_append, List.nil_append] at this ⊢
    by_cases h : c = q
    · subst h; simpa [run] using this
    · simpa [run, h] using this

theorem run_quoted (d q : Char) (v : List Char) (rec : Record) (out : List Record) (rest : List Char) :
    run d q .start [] rec out (quoted q v ++ rest) = run d q .closing v rec out rest := by
  have := run_escape d q v [] rec out rest
  simp only [quoted, List.cons_append, List.append_assoc, List.nil_append, run, if_true]
  simpa using this

def Plain (d q : Char) (v : List Char) : Prop := ∀ c ∈ v, c ≠ q ∧ c ≠ d ∧ c ≠ '\r' ∧ c ≠ '\n'

theorem run_plain (d q : Char) (v : List Char) (hv : Plain d q v) (m : Mode) (hm : m = .start ∨ m = .plain)
    (fld : List Char) (rec : Record) (out : List Record) (rest : List Char) :
    run d q m fld rec out (v ++ rest) = run d q (if v = [] then m else .plain) (fld ++ v) rec out rest := by
  induction v generalizing m fld with
  | nil => simp
  | cons c v ih =>
    have hc := hv c (by simp)
    have := ih (fun x hx => hv x (by simp [hx])) .plain (.inr rfl) (fld ++ [c])
    rcases hm with rfl | rfl <;>
      simpa [run, if_neg hc.1, if_neg hc.2.1, if_neg hc.2.2.1, if_neg hc.2.2.2] using this

/-- the modes in which a field may end: there the reader takes a delimiter or a CRLF as such (`run_delim`, `run_crlf`) -/
def Ends (m : Mode) : Prop := m = .start ∨ m = .plain ∨ m = .closing

theorem run_delim (d q : Char) (m : Mode) (hm : Ends m) (hdq : d ≠ q) (fld : List Char) (rec : Record)
    (out : List Record) (rest : List Char) :
    run d q m fld rec out (d :: rest) = run d q .start [] (rec ++ [fld]) out rest := by
  rcases hm with h | h | h <;> subst h <;> simp [run, hdq]

theorem run_crlf (d q : Char) (m : Mode) (hm : Ends m) (hd : d ≠ '\r') (hq : q ≠ '\r') (fld : List Char)
    (rec : Record) (out : List Record) (rest : List Char) :
    run d q m fld rec out ('\r' :: '\n' :: rest) = run d q .start [] [] (out ++ [rec ++ [fld]]) rest := by
  have hd' : ¬ '\r' = d := fun h => hd h.symm
  have hq' : ¬ '\r' = q := fun h => hq h.symm
  rcases hm with h | h | h <;> subst h <;> simp [run, hd', hq']

/-- the quote character a reader has to be configured with: the wrap character, `"` if none -/
def quoteOf (o : Opts) : Char :=
  match o.wrap with
  | some q => q
  | none => '"'

theorem plain_of_not_needsQuote (v : Text) (h : needsQuote v = false) : Plain ',' '"' v := by
  intro c hc
  simp only [needsQuote, List.any_eq_false] at h
  have := h c hc
  simp only [Bool.or_eq_true, beq_iff_eq, not_or] at this
  exact ⟨this.1.1.2, this.1.1.1, this.1.2, this.2⟩

/-- The mode after the field depends on how it was written (`.closing` after a quoted field, `.plain` after a bare one,
    still `.start` after an empty bare one); the callers need only that it is one in which a field may end. -/
theorem run_field (o : Opts) (v : Text) (rec : Record) (out : List Record) :
    ∃ m, Ends m ∧ ∀ rest, run ',' (quoteOf o) .start [] rec out (renderField o v ++ rest)
        = run ',' (quoteOf o) m (fieldValue o v) rec out rest := by
  unfold renderField quoteOf
  cases hw : o.wrap with
  | some q =>
    exact ⟨.closing, Or.inr (Or.inr rfl), fun rest => by simpa using run_quoted ',' q _ rec out rest⟩
  | none =>
    by_cases hn : needsQuote (fieldValue o v) = true
    · exact ⟨.closing, Or.inr (Or.inr rfl), fun rest => by simpa [hn] using run_quoted ',' '"' _ rec out rest⟩
    · have hn' : needsQuote (fieldValue o v) = false := by simpa using hn
      have hp := plain_of_not_needsQuote _ hn'
      refine ⟨if fieldValue o v = [] then .start else .plain, ?_, fun rest => ?_⟩
      · by_cases h : fieldValue o v = [] <;> simp [h, Ends]
      · simpa [hn'] using run_plain ',' '"' _ hp .start (.inl rfl) [] rec out rest

end Umya.Lemmas.Csv
