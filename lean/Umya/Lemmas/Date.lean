/-
  `convertDateCrate` on March-based years (`marchYear y m`) 1000..9999: every checked `i32` step succeeds and the year-string slices are `Y / 100`, `Y % 100`,
  so the result is the Julian-day formula, which is `daysFromCivil` plus constants (`julianDay_eq`).
  The way back: `ofEpochSeconds` on a day number and a second of the day, and the three `x - x.floor()` steps of
  `excel_to_date_time_object` (`frac`, `splitParts`), which in `Fix` are division with remainder by 86400 (`fix_secs`).
-/
import Umya.Model.Date
import Umya.Lemmas.Calendar
namespace Umya.Lemmas.Date
open Umya.Date Umya.Dec Umya.Spec.Calendar Umya.Lemmas.Calendar

theorem parse2 : ∀ a b : Fin 10, parseI32 [digitChar a.val, digitChar b.val] = some ((10 * a.val + b.val : Nat) : Int) := by
  decide +kernel

theorem decDigits4 (k : Nat) (h0 : 1000 ≤ k) (h1 : k ≤ 9999) :
    decDigits k = [digitChar (k / 1000), digitChar (k / 100 % 10), digitChar (k / 10 % 10), digitChar (k % 10)] := by
  rw [decDigits, if_neg (by omega), decDigits, if_neg (by omega), decDigits, if_neg (by omega), decDigits, if_pos (by omega)]
  have e1 : k / 10 / 10 / 10 = k / 1000 := by omega
  have e2 : k / 10 / 10 % 10 = k / 100 % 10 := by omega
  rw [e1, e2]; rfl

theorem i32_ok (x : Int) (h : -2147483648 ≤ x ∧ x ≤ 2147483647) : i32? x = some x := by
  unfold i32?; rw [if_pos h]

theorem i32_bind {β : Type} (x : Int) (h : -2147483648 ≤ x ∧ x ≤ 2147483647) (f : Int → Option β) :
    (i32? x).bind f = f x := by rw [i32_ok x h]; rfl

theorem adjust_eq (y m : Int) (hm : 1 ≤ m ∧ m ≤ 12) (hYb : 1000 ≤ marchYear y m ∧ marchYear y m ≤ 9999) :
    adjustMonthYear y m = some (marchMonth m, marchYear y m) := by
  unfold marchYear at hYb
  unfold adjustMonthYear marchYear marchMonth
  by_cases h2 : m > 2
  · rw [if_neg (by omega)] at hYb
    rw [if_pos h2, if_pos h2, if_pos h2, if_neg (by omega), i32_ok _ (by omega)]; rfl
  · rw [if_pos (by omega)] at hYb
    rw [if_neg h2, if_neg h2, if_neg h2, if_pos (by omega), i32_ok _ (by omega), i32_ok _ (by omega)]; rfl

theorem centuryDecade_eq (Y : Int) (hYb : 1000 ≤ Y ∧ Y ≤ 9999) :
    centuryDecade Y = some (Y / 100, Y % 100) := by
  have hn : ¬ Y < 0 := by omega
  unfold centuryDecade i32ToString
  rw [if_neg hn, decDigits4 Y.toNat (by omega) (by omega)]
  have p1 := parse2 ⟨Y.toNat / 1000, by omega⟩ ⟨Y.toNat / 100 % 10, by omega⟩
  have p2 := parse2 ⟨Y.toNat / 10 % 10, by omega⟩ ⟨Y.toNat % 10, by omega⟩
  simp only at p1 p2
  -- the slices of a four-character text are its halves, by evaluation of `slice`
  show (parseI32 [_, _]).bind (fun c => (parseI32 [_, _]).bind fun d => some (c, d)) = _
  rw [p1, p2]
  show some (_, _) = _
  congr 2 <;> omega

theorem excelDate_eq (cen dec mp d base leap : Int) (hc : 10 ≤ cen ∧ cen ≤ 99) (hdc : 0 ≤ dec ∧ dec ≤ 99)
    (hmpb : 0 ≤ mp ∧ mp ≤ 11) (hd : 1 ≤ d ∧ d ≤ 31) (hb : 0 ≤ base ∧ base ≤ 2147483647) (hleap : 0 ≤ leap ∧ leap ≤ 1) :
    excelDate cen dec mp d base leap =
      some (146097 * cen / 4 + 1461 * dec / 4 + (153 * mp + 2) / 5 + d + 1721119 - base + leap) := by
  unfold excelDate
  simp only [Option.bind_eq_bind]
  rw [i32_bind (146097 * cen) (by omega), i32_bind (1461 * dec) (by omega), i32_bind (153 * mp) (by omega),
    i32_bind (153 * mp + 2) (by omega), Int.tdiv_eq_ediv_of_nonneg (by omega : 0 ≤ 146097 * cen),
    Int.tdiv_eq_ediv_of_nonneg (by omega : 0 ≤ 1461 * dec), Int.tdiv_eq_ediv_of_nonneg (by omega : 0 ≤ 153 * mp + 2)]
  -- the three quotients are small; from here on they are variables
  have hA : 0 ≤ 146097 * cen / 4 ∧ 146097 * cen / 4 ≤ 3615900 := by omega
  have hB : 0 ≤ 1461 * dec / 4 ∧ 1461 * dec / 4 ≤ 36159 := by omega
  have hC : 0 ≤ (153 * mp + 2) / 5 ∧ (153 * mp + 2) / 5 ≤ 337 := by omega
  generalize 146097 * cen / 4 = A at hA ⊢
  generalize 1461 * dec / 4 = B at hB ⊢
  generalize (153 * mp + 2) / 5 = C at hC ⊢
  rw [i32_bind _ (by omega), i32_bind _ (by omega), i32_bind _ (by omega), i32_bind _ (by omega),
    i32_bind _ (by omega), i32_ok _ (by omega)]

theorem excelSecs_eq (h mi s : Int) (hh : 0 ≤ h ∧ h < 24) (hmi : 0 ≤ mi ∧ mi < 60) (hs : 0 ≤ s ∧ s < 60) :
    excelSecs h mi s = some (h * 3600 + mi * 60 + s) := by
  unfold excelSecs
  simp only [Option.bind_eq_bind]
  rw [i32_bind _ (by omega), i32_bind _ (by omega), i32_bind _ (by omega), i32_ok _ (by omega)]

/-- 2440588 is the Julian day number of 1970-01-01 -/
theorem julianDay_eq (Y X d : Int) :
    146097 * (Y / 100) / 4 + 1461 * (Y % 100) / 4 + X + d + 1721119 = yearStart Y + (X + d - 1) - 719468 + 2440588 := by
  unfold yearStart
  have h1 : 146097 * (Y / 100) / 4 = 36524 * (Y / 100) + Y / 100 / 4 := by omega
  have h2 : 1461 * (Y % 100) / 4 = 365 * (Y % 100) + Y % 100 / 4 := by omega
  have h3 : Y / 4 = 25 * (Y / 100) + Y % 100 / 4 := by omega
  have h4 : Y / 400 = Y / 100 / 4 := by omega
  rw [h1, h2, h3, h4]; omega

/-- 2415020 (`myexcel_base_date` of the 1900 system) is the Julian day number of 1899-12-31.  For the 1900 system only,
    and a March-based year of four digits, whose text `centuryDecade` cuts in halves. -/
theorem convertDateCrate_eq (y m d h mi s : Int) (hm : 1 ≤ m ∧ m ≤ 12) (hd : 1 ≤ d ∧ d ≤ 31)
    (hYb : 1000 ≤ marchYear y m ∧ marchYear y m ≤ 9999)
    (hh : 0 ≤ h ∧ h < 24) (hmi : 0 ≤ mi ∧ mi < 60) (hs : 0 ≤ s ∧ s < 60) :
    convertDateCrate y m d h mi s true =
      some (daysFromCivil y m d + 2440588 - 2415020 + (if y = 1900 ∧ m ≤ 2 then 0 else 1), h * 3600 + mi * 60 + s) := by
  have hleap : 0 ≤ (if y = 1900 ∧ m ≤ 2 then (0 : Int) else 1) ∧ (if y = 1900 ∧ m ≤ 2 then (0 : Int) else 1) ≤ 1 := by
    split <;> omega
  have a1 := adjust_eq y m hm hYb
  have a2 := centuryDecade_eq _ hYb
  have a3 := excelDate_eq (marchYear y m / 100) (marchYear y m % 100) (marchMonth m) d 2415020 _ (by omega) (by omega)
    (marchMonth_props m hm.1 hm.2).2 hd (by decide) hleap
  have a4 := excelSecs_eq h mi s hh hmi hs
  unfold convertDateCrate
  simp only [if_true, a1, a2, a3, a4, Option.bind_eq_bind, Option.bind_some, Option.pure_def]
  rw [julianDay_eq, daysFromCivil_linear]
  rfl

/-- the day numbers of the dates the 1900 system turns on -/
theorem landmark_days : daysFromCivil 1899 12 30 = -25569 ∧ daysFromCivil 1899 12 31 = -25568 ∧
    daysFromCivil 1900 1 1 = -25567 ∧ daysFromCivil 1900 3 1 = -25508 ∧ daysFromCivil 9999 12 31 = 2932896 := by decide

theorem ofEpochSeconds_add (n T : Int) (hT : 0 ≤ T ∧ T < 86400) :
    ofEpochSeconds (n * 86400 + T) =
      ⟨(civilFromDays n).1, (civilFromDays n).2.1, (civilFromDays n).2.2, T / 3600, T % 3600 / 60, T % 60, n⟩ := by
  unfold ofEpochSeconds
  have q1 : (n * 86400 + T) / 86400 = n := by omega
  have q2 : (n * 86400 + T) % 86400 = T := by omega
  simp only [q1, q2]

theorem ofEpochSeconds_civil (y m d h mi s : Int) (hv : ValidDate y m d)
    (ht : 0 ≤ h ∧ h < 24 ∧ 0 ≤ mi ∧ mi < 60 ∧ 0 ≤ s ∧ s < 60) :
    ofEpochSeconds (daysFromCivil y m d * 86400 + (h * 3600 + mi * 60 + s)) =
      ⟨y, m, d, h, mi, s, daysFromCivil y m d⟩ := by
  rw [ofEpochSeconds_add _ _ (by omega), civilFromDays_daysFromCivil y m d hv]
  have r1 : (h * 3600 + mi * 60 + s) / 3600 = h := by omega
  have r2 : (h * 3600 + mi * 60 + s) % 3600 / 60 = mi := by omega
  have r3 : (h * 3600 + mi * 60 + s) % 60 = s := by omega
  rw [r1, r2, r3]

section split
open Umya.Date.FloatOps

def frac {F : Type} [FloatOps F] (x : F) : F := sub x (floor x)

/-- `(days, hours, minutes, seconds)` of `excel_to_date_time_object`, as floats: the part that `splitSeconds` and
    `excelToEpochSecondsChecked` have in common (`splitSeconds_parts`, `checked_parts`) -/
def splitParts {F : Type} [FloatOps F] (ts : F) : F × F × F × F :=
  let a := mul (frac ts) (ofInt 24)
  let b := mul (frac a) (ofInt 60)
  (floor ts, floor a, floor b, round (mul (frac b) (ofInt 60)))

theorem splitSeconds_parts {F : Type} [FloatOps F] (ts : F) (base : Int) :
    splitSeconds ts base = (base + toInt (splitParts ts).1) * 86400 + toInt (splitParts ts).2.1 * 3600 +
      toInt (splitParts ts).2.2.1 * 60 + toInt (splitParts ts).2.2.2 := rfl

theorem checked_parts {F : Type} [FloatOps F] (ts : F) :
    excelToEpochSecondsChecked ts = (do
      let d ← tryUnits 86400 (clampI64 (toInt (splitParts ts).1))
      let t ← checkedAddSigned (baseFor ts * 86400) d
      let h ← tryUnits 3600 (clampI64 (toInt (splitParts ts).2.1))
      let t ← checkedAddSigned t h
      let mi ← tryUnits 60 (clampI64 (toInt (splitParts ts).2.2.1))
      let t ← checkedAddSigned t mi
      let s ← tryUnits 1 (clampI64 (toInt (splitParts ts).2.2.2))
      checkedAddSigned t s) := rfl

theorem fix_toInt_floor (a : Fix) : toInt (floor a) = a.n / 86400 :=
  Int.mul_tdiv_cancel _ (by decide)

theorem fix_frac_n (a : Fix) : (frac a).n = a.n % 86400 := by
  show a.n - a.n / 86400 * 86400 = a.n % 86400
  omega

theorem fix_mul_ofInt_n (a : Fix) (k : Int) : (mul a (ofInt k)).n = a.n * k := by
  show a.n * (86400 * k) / 86400 = a.n * k
  rw [Int.mul_left_comm, Int.mul_ediv_cancel_left _ (by decide)]

theorem fix_toInt_round (a : Fix) :
    toInt (round a) = if 0 ≤ a.n then (2 * a.n + 86400) / 172800 else -((-2 * a.n + 86400) / 172800) :=
  Int.mul_tdiv_cancel _ (by decide)

theorem fix_secs (D T base : Int) (hT : 0 ≤ T ∧ T < 86400) :
    (serialOf Fix D T).n = 86400 * D + T ∧
    splitSeconds (serialOf Fix D T) base = (base + D) * 86400 + T := by
  have hn : (serialOf Fix D T).n = 86400 * D + T := by
    show 86400 * D + 86400 * (86400 * T) / (86400 * 86400) = 86400 * D + T
    omega
  refine ⟨hn, ?_⟩
  have hq : (serialOf Fix D T).n / 86400 = D := by omega
  have hr : (serialOf Fix D T).n % 86400 = T := by omega
  rw [splitSeconds_parts]
  simp only [splitParts, fix_toInt_floor, fix_toInt_round, fix_mul_ofInt_n, fix_frac_n, hq, hr]
  rw [if_pos (by omega)]
  -- hours, minutes and seconds of a second count, as the chain computes them in units of 1/86400 day
  have : T * 24 / 86400 * 3600 + T * 24 % 86400 * 60 / 86400 * 60 +
      (2 * (T * 24 % 86400 * 60 % 86400 * 60) + 86400) / 172800 = T := by omega
  omega

end split

end Umya.Lemmas.Date
