/-
  The whole-sheet reader model (`reload` = `set_attributes` of every table through the codecs, then
  `make_style`) agrees with the per-index view `styleAt` used by the theorems, and succeeds
  (no `unwrap` panic) on every style sheet satisfying the invariant.
-/
import Umya.Lemmas.Style
import Umya.Lemmas.ListRel
namespace Umya.Style

theorem mapOpt_eq_mapM {α β : Type} (f : α → Option β) (l : List α) : mapOpt f l = l.mapM f := by
  induction l with
  | nil => rfl
  | cons a l ih => rw [mapOpt, ih, List.mapM_cons]; cases f a <;> cases l.mapM f <;> rfl

theorem mapOpt_total {α β : Type} {f : α → Option β} {g : α → β} (h : ∀ a, f a = some (g a)) (l : List α) :
    mapOpt f l = some (l.map g) :=
  (mapOpt_eq_mapM f l).trans (mapM_some f g l fun a _ => h a)

theorem Xf.rt_eq (cs : Codecs) (x : Xf) : Xf.rt cs x = some (Xf.norm cs x) := by
  unfold Xf.rt Xf.norm optRt
  cases ha : x.alignment <;> cases hp : x.protection <;>
    simp [cs.alignment.rt_eq, cs.protection.rt_eq]

theorem reloadNumFmts_eq (cs : Codecs) (t : List (Nat × NumFmt)) :
    reloadNumFmts cs t = some (reloadNumFmtsN cs t) := by
  unfold reloadNumFmts reloadNumFmtsN
  rw [mapOpt_total (g := fun p : Nat × NumFmt =>
      (p.1, ({ id := p.1, code := cs.code.norm p.2.code, builtIn := false } : NumFmt)))
      (fun p => by simp [cs.code.rt_eq])]
  rfl

theorem reload_eq (cs : Codecs) (ss : Sheet) : reload cs ss = makeStyle (reloadTables cs ss) := by
  unfold reload
  rw [mapOpt_total cs.font.rt_eq, mapOpt_total cs.fill.rt_eq, mapOpt_total cs.borders.rt_eq,
      mapOpt_total (Xf.rt_eq cs), reloadNumFmts_eq]
  rfl

theorem reload_getStyle (cs : Codecs) (ss r : Sheet) (h : reload cs ss = some r) (i : Nat) :
    getStyle r i = styleAt cs ss i := by
  rw [reload_eq, makeStyle, mapOpt_eq_mapM] at h
  obtain ⟨m, hm, rfl⟩ := Option.map_eq_some_iff.mp h
  have e : (m[i]?).map some = ((ss.xfs[i]?).map (Xf.norm cs)).map (rebuild (reloadTables cs ss)) := by
    rw [← List.getElem?_map, ← List.getElem?_map, ← List.getElem?_map]
    exact congrArg (·[i]?) (mapM_eq_some.1 hm).map_some
  -- each side of the goal is the `join` of a side of `e`
  calc m[i]? = ((m[i]?).map some).join := by cases m[i]? <;> rfl
    _ = styleAt cs ss i := by rw [e, styleAt]; cases ss.xfs[i]? <;> rfl

theorem reload_succeeds (cs : Codecs) (ss : Sheet) (h : Inv cs ss) : ∃ r, reload cs ss = some r := by
  rw [reload_eq, makeStyle, mapOpt_eq_mapM]
  obtain ⟨m, hm, _⟩ := mapM_rel (rebuild (reloadTables cs ss)) (fun _ _ => True) (reloadTables cs ss).xfs fun a ha => by
    obtain ⟨x, hx, rfl⟩ := List.mem_map.mp (show a ∈ ss.xfs.map (Xf.norm cs) from ha)
    obtain ⟨i, hi⟩ := List.mem_iff_getElem?.mp hx
    have hlt : i < ss.made.length := by
      rw [h.len]; exact (List.getElem?_eq_some_iff.mp hi).1
    obtain ⟨x', st, _, hx', _, hr, _, _⟩ := h.rt i ss.made[i] (List.getElem?_eq_getElem hlt)
    rw [hi] at hx'; cases hx'
    exact ⟨st, hr, trivial⟩
  exact ⟨_, by rw [hm]; rfl⟩

end Umya.Style
