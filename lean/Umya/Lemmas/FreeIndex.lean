/-
  The smallest-free-index loop of `WriterManager` (`index = 0; loop { index += 1; if !exists(index) { return index } }`),
  which `Model/PackageNodeCmt.lean` (`firstFreeGo`, over a list of numbers) and `Model/Lazy.lean` (`firstFreeFrom`, over the
  parts written) both run on fuel: what it returns, for any test `taken`.
-/
namespace Umya

def freeFrom (taken : Nat → Bool) : (fuel i : Nat) → Nat
  | 0, i => i
  | fuel + 1, i => if taken i then freeFrom taken fuel (i + 1) else i

theorem freeFrom_spec (taken : Nat → Bool) : ∀ (fuel i : Nat),
    i ≤ freeFrom taken fuel i ∧ (∀ j, i ≤ j → j < freeFrom taken fuel i → taken j = true) ∧
    (taken (freeFrom taken fuel i) = false ∨ freeFrom taken fuel i = i + fuel)
  | 0, i => ⟨Nat.le_refl i, fun j h1 h2 => by simp only [freeFrom] at h2; omega, Or.inr rfl⟩
  | fuel + 1, i => by
    simp only [freeFrom]
    cases hi : taken i with
    | false => exact ⟨Nat.le_refl i, fun j h1 h2 => by simp at h2; omega, Or.inl (by simpa using hi)⟩
    | true =>
      obtain ⟨h1, h2, h3⟩ := freeFrom_spec taken fuel (i + 1)
      simp only [if_true]
      refine ⟨by omega, fun j hj1 hj2 => ?_, h3.imp id fun e => by omega⟩
      by_cases hji : j = i
      · exact hji ▸ hi
      · exact h2 j (by omega) hj2

theorem freeFrom_free (taken : Nat → Bool) (fuel i : Nat) (hb : ∀ j, taken j = true → j < i + fuel) :
    taken (freeFrom taken fuel i) = false :=
  (freeFrom_spec taken fuel i).2.2.elim id fun e => by
    cases h : taken (freeFrom taken fuel i) with
    | false => rfl
    | true => have := hb _ h; omega

end Umya
