/-
  `Model/AnnotProt.lean`: each record's `read (write x)` is `getAttr_written` over its literal field list followed
  by the scalar codecs (`u32`, `bool`); the tab colour is read by a fold over all attributes and comes back up to
  `normTab`.
-/
import Umya.Model.AnnotProt
import Umya.Lemmas.AnnotCodec
namespace Umya.AnnotProt
open Umya.Spec.Xml (Node Attr)
open Umya.Dec Umya.AnnotCodec

theorem flag_mem_all (f : Flag) : f ∈ Flag.all := by cases f <;> decide

theorem sheetProtectionKeys_nodup : sheetProtectionKeys.Nodup := by
  have e : sheetProtectionKeys = (sheetProtectionTable.map (·.2)).map String.toList := by
    simp only [sheetProtectionKeys, sheetProtectionTable, List.map_append, List.map_map, List.map_cons, List.map_nil]
    rfl
  rw [e]; exact nodup_map_toList (by decide +kernel)

theorem SheetProtection.fields_keys (x : SheetProtection) : x.fields.map (·.1) = sheetProtectionKeys := by
  simp only [SheetProtection.fields, sheetProtectionKeys, List.map_append, List.map_map, List.map_cons, List.map_nil]
  rfl

theorem SheetProtection.fields_nodup (x : SheetProtection) : (x.fields.map (·.1)).Nodup := by
  rw [x.fields_keys]; exact sheetProtectionKeys_nodup

theorem SheetProtection.flag_mem (x : SheetProtection) (f : Flag) :
    (f.attr, (x.flags f).map boolStr) ∈ x.fields := by
  unfold SheetProtection.fields
  exact List.mem_append_right _ (List.mem_map.mpr ⟨f, flag_mem_all f, rfl⟩)

theorem SheetProtection.read_write (x : SheetProtection) (h : x.WF) : SheetProtection.read x.write = some x := by
  obtain ⟨as, has⟩ : ∃ as, as = render x.fields := ⟨_, rfl⟩
  have g := getAttr_written has x.fields_nodup
  simp only [SheetProtection.fields, List.forall_mem_append, List.forall_mem_cons, List.forall_mem_map] at g
  obtain ⟨⟨e1, e2, e3, e4, e5, -⟩, e6⟩ := g
  simp only [SheetProtection.read, SheetProtection.write, elem, Node.attrs, ← has, e1, e2, e3, e4, e5,
    fun f => e6 f (flag_mem_all f), optU32_map_decDigits h, optBool_map_boolStr, Option.map_some]

theorem workbookProtectionKeys_nodup : workbookProtectionKeys.Nodup := by
  have e : workbookProtectionKeys = (workbookProtectionTable.map (·.2)).map String.toList := by
    simp only [workbookProtectionKeys, List.map_map]
    rfl
  rw [e]; exact nodup_map_toList (by decide +kernel)

theorem WorkbookProtection.fields_nodup (x : WorkbookProtection) : (x.fields.map (·.1)).Nodup := by
  have : x.fields.map (·.1) = workbookProtectionKeys := by
    simp only [WorkbookProtection.fields, workbookProtectionKeys, workbookProtectionTable, List.map_cons, List.map_nil]
  rw [this]; exact workbookProtectionKeys_nodup

theorem WorkbookProtection.read_write (x : WorkbookProtection) (h : x.WF) :
    WorkbookProtection.read x.write = some x := by
  obtain ⟨as, has⟩ : ∃ as, as = render x.fields := ⟨_, rfl⟩
  have g := getAttr_written has x.fields_nodup
  simp only [WorkbookProtection.fields, List.forall_mem_cons] at g
  obtain ⟨e1, e2, e3, e4, e5, e6, e7, e8, e9, e10, e11, e12, e13, -⟩ := g
  simp only [WorkbookProtection.read, WorkbookProtection.write, elem, Node.attrs, ← has, e1, e2, e3, e4, e5, e6, e7,
    e8, e9, e10, e11, e12, e13, optU32_map_decDigits h.1, optU32_map_decDigits h.2, optBool_map_boolStr,
    Option.map_some, Option.bind_some]

theorem WorkbookView.fields_nodup (v : WorkbookView) : (v.fields.map (·.1)).Nodup := by
  simp only [WorkbookView.fields, List.map_cons, List.map_nil]; decide +kernel

theorem WorkbookView.read_write (v : WorkbookView) (h : ∀ n, v.activeTab = some n → n < 4294967296) :
    WorkbookView.read v.write = some v := by
  obtain ⟨as, has⟩ : ∃ as, as = render v.fields := ⟨_, rfl⟩
  have g := getAttr_written has v.fields_nodup
  simp only [WorkbookView.fields, List.forall_mem_cons] at g
  obtain ⟨-, -, -, -, e, -⟩ := g
  simp only [WorkbookView.read, WorkbookView.write, elem, Node.attrs, ← has, e, optU32_map_decDigits h, Option.map_some]

theorem DnAttrs.fields_nodup (d : DnAttrs) : (d.fields.map (·.1)).Nodup := by
  simp only [DnAttrs.fields, List.map_cons, List.map_nil]; decide +kernel

theorem DnAttrs.read_write (d : DnAttrs) (h : ∀ n, d.localSheetId = some n → n < 4294967296) :
    DnAttrs.read d.writeAttrs = some d.norm := by
  obtain ⟨as, has⟩ : ∃ as, as = render d.fields := ⟨_, rfl⟩
  have g := getAttr_written has d.fields_nodup
  simp only [DnAttrs.fields, List.forall_mem_cons] at g
  obtain ⟨e1, e2, e3, -⟩ := g
  simp only [DnAttrs.read, DnAttrs.writeAttrs, ← has, e1, e2, e3, optU32_map_decDigits h, optBool_map_boolStr,
    Option.map_some, DnAttrs.norm]

theorem Color.read_writeTab {Z : NumZ} (hs : Z.F.Sound) {codeName : List Attr} (c : Color Z)
    (h3 : ∀ n, c.theme = some n → n < 4294967296) (h4 : ∀ n, c.indexed = some n → n < 4294967296) :
    readSheetPr (writeSheetPr codeName (some c)) = some (normTab (some c)) := by
  obtain ⟨ix, th, ar, ti⟩ := c
  have e3 : ∀ n, th = some n → u32Attr (decDigits n) = some n := fun n e => u32Attr_decDigits n (h3 n e)
  have e4 : ∀ n, ix = some n → u32Attr (decDigits n) = some n := fun n e => u32Attr_decDigits n (h4 n e)
  -- what is written: theme, or else indexed, or else rgb or none of them; then tint or not
  rcases th with _ | t
  rcases ix with _ | i
  cases ar
  all_goals cases ti
  all_goals
    simp [readSheetPr, writeSheetPr, Color.writeTab, Color.fields, render, elem, elemKids, Node.children,
      Node.isElem, Node.name, Color.read, Node.attrs, Color.step, e3, e4, normTab, Color.isEmpty, Color.norm,
      numRead_fmt Z hs]

theorem Color.norm_of_WF {Z : NumZ} (c : Color Z) (h : c.WF) : c.norm = c := by
  obtain ⟨ix, th, ar, ti⟩ := c
  obtain ⟨h1, h2, _, _⟩ := h
  simp only at h1 h2
  cases th with
  | some t => obtain ⟨a, b⟩ := h1 rfl; subst a; subst b; simp [Color.norm]
  | none =>
    cases ix with
    | some i => have := h2 rfl; subst this; simp [Color.norm]
    | none => simp [Color.norm]

theorem Color.norm_idem {Z : NumZ} (c : Color Z) : c.norm.norm = c.norm := by
  obtain ⟨ix, th, ar, ti⟩ := c
  cases th <;> cases ix <;> simp [Color.norm]

end Umya.AnnotProt
