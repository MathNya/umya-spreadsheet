/-
  (T) The tag-level structure of `writer/driver.rs` as regenerated from the source on every run
  (`Umya.Gen.driver_shape`, `Umya.Gen.write_*_escape` in `Umya/Model/Gen/Tables.lean`) yields the functions of
  the hand model `Umya/Model/XmlWrite.lean`, for all arguments.
-/
import Umya.Model.XmlWrite
import Umya.Lemmas.TablesGen
namespace Umya.XmlWrite
open Umya.XmlEsc Umya.Gen
open Umya.Spec.Xml (Attr)

/-- quick-xml event names as they appear in the source -/
def kindOfEvent (s : String) : Option EvKind :=
  if s = "Start" then some .start else if s = "Empty" then some .empty
  else if s = "End" then some .stop else if s = "Text" then some .text else none

/-! the writer functions as read off a generated description `G` and the generated escape pipelines;
    `none` = the description is outside what the model covers.  A pipeline is run on quick-xml's own `escape` / `partial_escape`, which
    are the model's `escapeOld` / `partialEscapeOld` (`Model/XmlEsc.lean`); the model's `escape` / `partialEscape` are what the
    pipelines of `writer/driver.rs` make of them. -/

def genAttr (a : Attr) : Text :=
  ' ' :: a.name ++ '=' :: '"' :: write_start_tag_escape.run escapeOld partialEscapeOld a.value ++ ['"']

def genStartTag (G : DriverShape) (n : Text) (as : List Attr) (e : Bool) : Option Text :=
  if G.attrValueIsEscaped then
    (kindOfEvent (if e then G.startTagWhenEmpty else G.startTagOtherwise)).map fun k => writeEvent k (n ++ as.flatMap genAttr)
  else none

def genEndTag (G : DriverShape) (n : Text) : Option Text := (kindOfEvent G.endTag).map fun k => writeEvent k n

def genNoEscape (G : DriverShape) (s : Text) : Option Text := if G.noEscapeIsRawWrite then some s else none

def genTextNode (G : DriverShape) (s : Text) : Option Text :=
  if G.textNodeCtor = "from_escaped" then
    (kindOfEvent G.textNodeEvent).map fun k => writeEvent k (write_text_node_escape.run escapeOld partialEscapeOld s)
  else none

def genConversion (G : DriverShape) (s : Text) : Option Text :=
  if G.conversionVia = "write_text_node_no_escape" then
    genNoEscape G (write_text_node_conversion_escape.run escapeOld partialEscapeOld s)
  else none

def genNewLine (G : DriverShape) : Option Text :=
  if G.newLineVia = "write_text_node_no_escape" then genNoEscape G G.newLineLiteral.toList else none

theorem genAttr_eq (a : Attr) : genAttr a = renderAttr a := by
  simp [genAttr, renderAttr, gen_write_start_tag]

theorem writer_matches_source (n : Text) (as : List Attr) (e : Bool) (s : Text) :
    genStartTag driver_shape n as e = some (writeStartTag n as e) ∧
    genEndTag driver_shape n = some (writeEndTag n) ∧
    genTextNode driver_shape s = some (writeTextNode s) ∧
    genNoEscape driver_shape s = some (writeTextNodeNoEscape s) ∧
    genConversion driver_shape s = some (writeTextNodeConversion s) ∧
    genNewLine driver_shape = some writeNewLine := by
  have hA : (fun a => genAttr a) = renderAttr := funext genAttr_eq
  refine ⟨?_, ?_, ?_, ?_, ?_, ?_⟩
  · cases e <;> simp [genStartTag, driver_shape, kindOfEvent, writeStartTag, startKind, renderAttrs, hA]
  · simp [genEndTag, driver_shape, kindOfEvent, writeEndTag]
  · simp [genTextNode, driver_shape, kindOfEvent, writeTextNode, gen_write_text_node]
  · simp [genNoEscape, driver_shape, writeTextNodeNoEscape]
  · simp [genConversion, genNoEscape, driver_shape, writeTextNodeConversion, writeTextNodeNoEscape, gen_write_text_node_conversion]
  · simp [genNewLine, genNoEscape, driver_shape, writeNewLine, writeTextNodeNoEscape, newLineLit]

end Umya.XmlWrite
