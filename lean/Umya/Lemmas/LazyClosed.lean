/-
  C11: every relationship written resolves (`Closed`).  `RawRelationships::write_to` writes a relationships part
  BEFORE the parts it points to; looked at as a whole, the requests of the first loop hold every target of every
  relationships part they hold (`closed_addAll`, `loop1_closed`).  In the second loop every target is there when
  the relationships part is asked for (`keeps_closed`, `loop2_closed`).
-/
import Umya.Model.LazyPkg
import Umya.Lemmas.LazySave
import Umya.Lemmas.LazyReq2
namespace Umya.Lazy

variable {C : Type}

def Closed (w : WM C) : Prop :=
  ∀ n ts, (n, Content.relsOf ts) ∈ w.parts → ∀ t, some t ∈ ts → w.has t = true

theorem closed_addAll (w : WM C) (l : List (PName × Content C)) (h : Closed w)
    (hl : ∀ n ts, (n, Content.relsOf ts) ∈ l → ∀ t, some t ∈ ts → hasPart (w.parts ++ l) t = true) : Closed (addAll w l) := by
  intro n ts hm t ht
  rw [addAll_has]
  rcases List.mem_append.mp (addAll_parts_sub l w _ hm) with h1 | h1
  · rw [hasPart_append, show hasPart w.parts t = true from h n ts h1 t ht]; rfl
  · exact hl n ts h1 t ht

theorem closed_add {w : WM C} {n : PName} {c : Content C} (h : Closed w)
    (hc : ∀ ts, c = .relsOf ts → ∀ t, some t ∈ ts → w.has t = true) : Closed (w.add n c) :=
  closed_addAll w [(n, c)] h fun m ts hm t ht => by
    obtain ⟨_, rfl⟩ := Prod.mk.inj (List.mem_singleton.mp hm)
    rw [hasPart_append, show hasPart w.parts t = true from hc ts rfl t ht]; rfl

/-- in every non-external relationship the data is there: `RawFile::write_to` skips empty data, and the target would dangle -/
def RelsWritable (q : RawRels) : Prop := ∀ r ∈ q.rels, r.ext = false → r.empty = false

def RawWritable (r : RawSheet) : Prop := ∀ q ∈ r.closure, RelsWritable q

def LeafOk (l : Leaf) : Prop := ∀ n, l ≠ .missing n

def ItemOk : Item → Prop
  | .leaf l => LeafOk l
  | .node _ kids => ∀ l ∈ kids, LeafOk l

/-- what `C11_save_resolves` asks of a workbook: raw closures hold the data of their non-external targets (`RawWritable`);
    profiles name no part the serialiser fails to write (`ItemOk`: no leaf is `.missing`) -/
def SheetWritable (s : Sheet C) : Prop :=
  match s.body with
  | .raw r => RawWritable r
  | .loaded l => ∀ x ∈ l.prof, ItemOk x

theorem mem_closureTargets {r : RawSheet} {t : PName} :
    t ∈ closureTargets r ↔ ∃ q ∈ r.closure, ∃ r' ∈ q.rels, r'.ext = false ∧ r'.file = t := by
  unfold closureTargets
  simp only [List.mem_flatMap, List.mem_filterMap]
  refine ⟨fun ⟨q, hq, r', hr', h⟩ => ?_, fun ⟨q, hq, r', hr', hx, h⟩ => ⟨q, hq, r', hr', by simp [hx, h]⟩⟩
  cases hx : r'.ext <;> simp [hx] at h
  exact ⟨q, hq, r', hr', hx, h⟩

theorem targets_closure {r : RawSheet} {q : RawRels} (hq : q ∈ r.closure) {t : PName} (h : some t ∈ q.targets) :
    t ∈ closureTargets r :=
  List.mem_flatMap.mpr ⟨q, hq, List.mem_filterMap.mpr (List.mem_map.mp h)⟩

theorem target_mem_writes1 {ss : List (Sheet C)} {p j : Nat} {s : Sheet C} {r : RawSheet} (hj : ss[j]? = some s)
    (hb : s.body = .raw r) (hwr : RawWritable r) {m : PName} (hm : m ∈ closureTargets r) : hasPart (writes1 p ss) m = true := by
  obtain ⟨q, hq, r', hr', hx, rfl⟩ := mem_closureTargets.mp hm
  exact hasPart_of_mem (raw_mem_writes1 hj hb (mem_closureWrites.mpr (Or.inr ⟨q, hq, r', hr', hwr q hq r' hr' hx, rfl, rfl⟩)))

theorem loop1_closed (ss : List (Sheet C)) (p : Nat) (w : WM C) (hs : ∀ s ∈ ss, SheetWritable s) (h : Closed w) :
    Closed (loop1 false w p ss) := by
  rw [loop1_eq]
  refine closed_addAll w _ h fun n ts hm t ht => ?_
  obtain ⟨j, s, hj, hm'⟩ := mem_writes1.mp hm
  rcases mem_stepWrites.mp hm' with e | ⟨r, hb, hm'⟩
  · cases hb : s.body <;> simp [expectedSheet, hb] at e
  · have hsw : RawWritable r := by simpa [SheetWritable, hb] using hs s (List.mem_of_getElem? hj)
    rcases mem_closureWrites.mp hm' with ⟨q, hq, _, _, e⟩ | ⟨_, _, _, _, _, _, e⟩
    · cases e
      rw [hasPart_append, Bool.or_eq_true]
      exact Or.inr (target_mem_writes1 hj hb hsw (targets_closure hq ht))
    · cases e

theorem keeps_closed (base : WM C) (R : PName → Prop) : Keeps base LeafOk R Closed := by
  have key : ∀ (w : WM C) m ts, Closed w → (∀ t, some t ∈ ts → w.has t = true ∨ LeafOk (.missing t)) →
      Closed (w.add (.rels m) (.relsOf ts)) := fun w m ts h ht =>
    closed_add h fun ts' e t ht' => by
      cases e
      exact (ht t ht').resolve_right fun hm => hm t rfl
  rintro w _ _ _ h (f | ⟨n, _⟩ | ⟨f, i, ts, _, _, ht⟩ | ⟨m, ts, _, ht⟩)
  · exact closed_add h nofun
  · exact closed_add h nofun
  · exact key _ _ _ h ht
  · exact key _ _ _ h ht

theorem loop2_closed (ss : List (Sheet C)) (p : Nat) (w : WM C) (hs : ∀ s ∈ ss, SheetWritable s) (h : Closed w) :
    Closed (loop2 w p ss) := by
  refine (loop2_req (keeps_closed w (fun _ => True)) ss p w (fun _ _ _ _ _ => trivial) ?_ ⟨Ext.refl w, h⟩).2
  intro s hs' l hb x hx lf hlf
  have := hs s hs'
  simp only [SheetWritable, hb] at this
  cases x with
  | leaf l' => simp only [Item.leaves, List.mem_singleton] at hlf; exact hlf ▸ this _ hx
  | node f kids => exact this _ hx lf hlf

end Umya.Lazy
