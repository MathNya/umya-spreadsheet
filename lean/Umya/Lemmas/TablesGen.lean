/-
  Tie to the source: the tables and pipelines regenerated from the source on every run
  (`Umya/Model/Gen/Tables.lean`, by tools/extract_tables.py) are the ones the hand model uses.
  A change of a table entry, of an escape replacement or of a normalisation step in the Rust source
  changes the generated file and breaks one of these proofs.
-/
import Umya.Model.Gen.Tables
import Umya.Model.Style
import Umya.Model.Formula
import Umya.Model.Reader
import Umya.Model.CellXml
-- not for a name: `fun_induction` on `attrNorm` / `normEol` below creates auxiliary equations of their `match`, and so does
-- `Lemmas/XmlAgree`; two modules that create them independently cannot be imported together, so this one stands after the other
import Umya.Lemmas.XmlAgree
namespace Umya.Gen
open Umya.XmlEsc

/-! Where the generated table and the model's both spell a text as `String.toList` of a literal, equal tables are compared literal by
  literal and no text has to be decoded (`gen_builtin_formats`); where the model spells its texts as character lists the comparison is
  by evaluation. -/

theorem gen_builtin_formats :
    builtin_format_codes.map (fun p => (p.1, p.2.toList)) = Umya.Style.builtinCodes := rfl

theorem gen_formula_errors : formula_errors.map String.toList = Umya.Formula.errors := by decide +kernel

/-- `Display` and `FromStr` of `CellErrorType` are inverse tables, and their texts are the model's -/
theorem gen_cell_errors :
    cell_error_from_str = cell_error_display.map (fun p => (p.2, p.1)) ∧
    cell_error_display.map (fun p => p.2.toList) = Umya.CellXml.ErrT.all.map Umya.CellXml.ErrT.text ∧
    cell_error_display.map (fun p => p.2.toList) = Umya.Reader.errorLits := by decide +kernel

theorem replaceChars_append (ps to a b : List Char) :
    replaceChars ps to (a ++ b) = replaceChars ps to a ++ replaceChars ps to b := by
  simp [replaceChars]

theorem replaceChars_flatMap (ps to : List Char) (f : Char → List Char) (s : List Char) :
    replaceChars ps to (s.flatMap f) = s.flatMap (fun c => replaceChars ps to (f c)) := by
  induction s with
  | nil => rfl
  | cons c r ih => simp [List.flatMap_cons, replaceChars_append, ih]

theorem replaceChars_cons (ps to : List Char) (c : Char) (l : List Char) :
    replaceChars ps to (c :: l) = (if ps.contains c then to else [c]) ++ replaceChars ps to l := by
  simp [replaceChars]

theorem replaceChars_plain {ps : List Char} {c : Char} (h : c ∉ ps) (to : List Char) :
    replaceChars ps to [c] = [c] := by
  simp [replaceChars, h]

/-! The writer's escape pipelines (writer/driver.rs).
  Each per-character statement is an equation between two functions that are `[c]` off a handful of characters: on those
  characters it is a closed fact, elsewhere every conditional of either side takes its last branch.  (The entity texts are
  never spelled out in the second case: turning `"&#13;".toList` into a list of characters outside the kernel is what is
  slow to check.) -/

theorem attr_char (c : Char) :
    replaceChars ['\r'] "&#13;".toList (replaceChars ['\n'] "&#10;".toList (replaceChars ['\t'] "&#9;".toList (escCharOld c))) =
      attrEscChar c := by
  by_cases h : c ∈ ['<', '>', '&', '\'', '"', '\t', '\n', '\r']
  · revert c; decide +kernel
  · simp only [List.mem_cons, List.not_mem_nil, or_false, not_or] at h
    obtain ⟨h1, h2, h3, h4, h5, h6, h7, h8⟩ := h
    simp only [escCharOld, attrEscChar, escChar, if_neg, h1, h2, h3, h4, h5, h6, h7, h8, not_false_eq_true]
    rw [replaceChars_plain, replaceChars_plain, replaceChars_plain] <;> simpa

theorem text_char (c : Char) : replaceChars ['\r'] "&#13;".toList (escCharOld c) = escChar c := by
  by_cases h : c ∈ ['<', '>', '&', '\'', '"', '\r']
  · revert c; decide +kernel
  · simp only [List.mem_cons, List.not_mem_nil, or_false, not_or] at h
    obtain ⟨h1, h2, h3, h4, h5, h8⟩ := h
    simp only [escCharOld, escChar, if_neg, h1, h2, h3, h4, h5, h8, not_false_eq_true]
    exact replaceChars_plain (by simpa) _

theorem conv_char (c : Char) : replaceChars ['\r'] "&#13;".toList (pescCharOld c) = pescChar c := by
  by_cases h : c ∈ ['<', '>', '&', '\r']
  · revert c; decide +kernel
  · simp only [List.mem_cons, List.not_mem_nil, or_false, not_or] at h
    obtain ⟨h1, h2, h3, h8⟩ := h
    simp only [pescCharOld, pescChar, if_neg, h1, h2, h3, h8, not_false_eq_true]
    exact replaceChars_plain (by simpa) _

theorem gen_write_start_tag (s : List Char) :
    write_start_tag_escape.run escapeOld partialEscapeOld s = attrEscape s := by
  simp only [Pipeline.run, write_start_tag_escape, applySteps, List.foldl, Step.apply, escapeOld, attrEscape,
    replaceChars_flatMap]
  exact congrArg s.flatMap (funext attr_char)

theorem gen_write_text_node (s : List Char) :
    write_text_node_escape.run escapeOld partialEscapeOld s = escape s := by
  simp only [Pipeline.run, write_text_node_escape, applySteps, List.foldl, Step.apply, escapeOld, escape,
    replaceChars_flatMap]
  exact congrArg s.flatMap (funext text_char)

theorem gen_write_text_node_conversion (s : List Char) :
    write_text_node_conversion_escape.run escapeOld partialEscapeOld s = partialEscape s := by
  simp only [Pipeline.run, write_text_node_conversion_escape, applySteps, List.foldl, Step.apply, partialEscapeOld,
    partialEscape, replaceChars_flatMap]
  exact congrArg s.flatMap (funext conv_char)

theorem replaceGo_crlf (to cs : List Char) :
    replaceGo ['\r', '\n'] to 0 ('\r' :: '\n' :: cs) = to ++ replaceGo ['\r', '\n'] to 0 cs := by
  simp [replaceGo, List.isPrefixOf]

theorem replaceGo_other {to : List Char} (c : Char) (cs : List Char) (h : ∀ r, c = '\r' → cs = '\n' :: r → False) :
    replaceGo ['\r', '\n'] to 0 (c :: cs) = c :: replaceGo ['\r', '\n'] to 0 cs := by
  have hp : (['\r', '\n'].isPrefixOf (c :: cs)) = false := by
    cases cs with
    | nil => simp [List.isPrefixOf]
    | cons d r =>
      simp only [List.isPrefixOf, Bool.and_true, Bool.and_eq_false_iff, beq_eq_false_iff_ne, ne_eq]
      by_cases hc : c = '\r'
      · exact Or.inr fun hd => h r hc (by rw [hd])
      · exact Or.inl fun e => hc e.symm
  simp [replaceGo, hp]

/-- `unescape_text`'s `.replace("\r\n", "\n").replace('\r', "\n")` = the model's `normEol` -/
theorem gen_unescape_text (s : List Char) : applySteps unescape_text_normalise s = Umya.Xml.normEol s := by
  show replaceChars ['\r'] ['\n'] (replaceGo ['\r', '\n'] ['\n'] 0 s) = Umya.Xml.normEol s
  fun_induction Umya.Xml.normEol s with
  | case1 => rfl
  | case2 cs ih => rw [replaceGo_crlf, List.singleton_append, replaceChars_cons, ih]; rfl
  | case3 c cs hne ih =>
    rw [replaceGo_other c cs hne, replaceChars_cons, ih]
    by_cases hc : c = '\r' <;> simp [hc]

/-- `get_attribute_value`'s `.replace("\r\n", " ").replace(['\t', '\n', '\r'], " ")` = the model's `attrNorm` -/
theorem gen_get_attribute_value (s : List Char) : applySteps get_attribute_value_normalise s = attrNorm s := by
  show replaceChars ['\t', '\n', '\r'] [' '] (replaceGo ['\r', '\n'] [' '] 0 s) = attrNorm s
  fun_induction attrNorm s with
  | case1 => rfl
  | case2 cs ih => rw [replaceGo_crlf, List.singleton_append, replaceChars_cons, ih]; rfl
  | case3 c cs hne ih =>
    rw [replaceGo_other c cs hne, replaceChars_cons, ih]
    by_cases hc : c = '\t' ∨ c = '\n' ∨ c = '\r' <;> simp [hc] <;> simp_all

end Umya.Gen
