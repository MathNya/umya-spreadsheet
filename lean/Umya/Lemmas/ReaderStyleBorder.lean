import Umya.Lemmas.ReaderStyle
namespace Umya.Reader.Lemmas
open Umya.Reader Umya.Spec.Xml Umya.Spec.Sml
open Umya.StyleCodec

/-- a valid edge (`<left>` …): unprefixed children, at most one `color` which is a `colorOk`; `style`, when present, a word
    of ST_BorderStyle -/
def validEdge (e : Node) : Bool :=
  e.children.all plain && colorKidOk e.children "color" && valIn BorderStyle.fromStr "style" e.attrs

/-- the decoder's view of an edge element; `Spec.Sml.edgeV n k` is `edgeOf` of the child `k` of the border `n` -/
def edgeOf (e : Node) : EdgeV :=
  { style := (e.attr? "style".toList).getD "none".toList, color := ((e.kid? "color").map colorV).getD {} }

theorem Border.colorStep_spec (cf : Tok → Tok) (b b' : Border) (n : Node) (h : Border.colorStep cf b n = some b') :
    b'.style = b.style ∧ b'.color = (if named "color" n then colorG cf b.color n else b.color) := by
  cases n with
  | text t => simp only [Border.colorStep, Option.some.injEq] at h; subst h; simp [named, Node.isElem]
  | elem nm as cs =>
    simp only [Border.colorStep] at h
    by_cases c1 : nm = "color".toList
    · rw [if_pos c1] at h
      obtain ⟨c, hc, rfl⟩ := Option.map_eq_some_iff.mp h
      subst c1; simp [named, Node.isElem, Node.name, Node.attrs, colorG, hc]
    rw [if_neg c1] at h
    simp only [Option.some.injEq] at h; subst h
    simp_all [named, Node.isElem, Node.name]

theorem Border.colorStep_total (cf : Tok → Tok) (b : Border) (c : Node)
    (h : (if named "color" c then colorOk c.attrs else true) = true) : ∃ b', Border.colorStep cf b c = some b' := by
  cases c with
  | text t => exact ⟨b, rfl⟩
  | elem nm as cs =>
    simp only [Border.colorStep]
    by_cases c1 : nm = "color".toList
    · rw [if_pos c1]
      have : colorOk as = true := by subst c1; simpa [named, Node.isElem, Node.name, Node.attrs] using h
      obtain ⟨c', hc'⟩ := Color.readInto_total cf b.color as this
      exact ⟨_, by rw [hc']; rfl⟩
    rw [if_neg c1]; exact ⟨_, rfl⟩

theorem Border.readInto_total (cf : Tok → Tok) (b : Border) (e : Node) (h : validEdge e = true) :
    ∃ b', b.readInto cf e = some b' := by
  simp only [validEdge, colorKidOk, Bool.and_eq_true] at h
  exact foldOpt_total (Border.colorStep_total cf) e.children _ h.1.2.2

theorem edge_agrees (cf : Tok → Tok) (e : Node) (h : validEdge e = true) :
    ∃ b, Border.readInto cf {} e = some b ∧ edgeFacts b = cfEdge cf (edgeOf e) := by
  obtain ⟨b, hb⟩ := Border.readInto_total cf {} e h
  refine ⟨b, hb, ?_⟩
  simp only [validEdge, colorKidOk, Bool.and_eq_true, uniq, decide_eq_true_eq] at h
  obtain ⟨⟨hpl, u1, k1⟩, hv⟩ := h
  have e0 := foldOpt_const (Border.colorStep cf) (·.style)
    (fun x c x' hx => (Border.colorStep_spec cf x x' c hx).1) hb
  have e1 := foldOpt_field (Border.colorStep cf) (·.color) (named "color") (fun c n => colorG cf c n)
    (fun x c x' hx => (Border.colorStep_spec cf x x' c hx).2) hb u1
  simp only [edgeFacts, cfEdge, edgeOf, kid?_eq_find e _ hpl, e0, e1, attr?_eq_getAttr]
  have hs := enum_attr_text BorderStyle.fromStr BorderStyle.toStr .none "style" e.attrs none BorderStyle.toStr_of_fromStr hv
  have hc := colorKid_agrees cf e.children "color" fun n hn => found_of_all_if k1 hn
  show EdgeV.mk _ _ = EdgeV.mk _ _
  congr 1  -- the two fields: `hs` and `hc`, found by assumption

/-- the edge element `n` read into `b`; `b` stays where the read fails (as `colorG`) -/
def edgeG (cf : Tok → Tok) (b : Border) (n : Node) : Border := (b.readInto cf n).getD b

def isEdgeName (c : Node) : Bool :=
  named "left" c || named "right" c || named "top" c || named "bottom" c || named "diagonal" c ||
  named "vertical" c || named "horizontal" c

theorem Borders.step_spec (cf : Tok → Tok) (b b' : Borders) (n : Node) (h : Borders.step cf b n = some b') :
    b'.left = (if named "left" n then edgeG cf b.left n else b.left) ∧
    b'.right = (if named "right" n then edgeG cf b.right n else b.right) ∧
    b'.top = (if named "top" n then edgeG cf b.top n else b.top) ∧
    b'.bottom = (if named "bottom" n then edgeG cf b.bottom n else b.bottom) ∧
    b'.diagonal = (if named "diagonal" n then edgeG cf b.diagonal n else b.diagonal) ∧
    b'.diagonalUp = b.diagonalUp ∧ b'.diagonalDown = b.diagonalDown := by
  cases n with
  | text t => simp only [Borders.step, Option.some.injEq] at h; subst h; simp [named, Node.isElem]
  | elem nm as cs =>
    simp only [Borders.step] at h
    by_cases c1 : nm = "left".toList
    · rw [if_pos c1] at h
      obtain ⟨e, he, rfl⟩ := Option.map_eq_some_iff.mp h
      subst c1; simp [named, Node.isElem, Node.name, edgeG]; exact (congrArg (fun o => Option.getD o _) he).symm
    rw [if_neg c1] at h
    by_cases c2 : nm = "right".toList
    · rw [if_pos c2] at h
      obtain ⟨e, he, rfl⟩ := Option.map_eq_some_iff.mp h
      subst c2; simp [named, Node.isElem, Node.name, edgeG]; exact (congrArg (fun o => Option.getD o _) he).symm
    rw [if_neg c2] at h
    by_cases c3 : nm = "top".toList
    · rw [if_pos c3] at h
      obtain ⟨e, he, rfl⟩ := Option.map_eq_some_iff.mp h
      subst c3; simp [named, Node.isElem, Node.name, edgeG]; exact (congrArg (fun o => Option.getD o _) he).symm
    rw [if_neg c3] at h
    by_cases c4 : nm = "bottom".toList
    · rw [if_pos c4] at h
      obtain ⟨e, he, rfl⟩ := Option.map_eq_some_iff.mp h
      subst c4; simp [named, Node.isElem, Node.name, edgeG]; exact (congrArg (fun o => Option.getD o _) he).symm
    rw [if_neg c4] at h
    by_cases c5 : nm = "diagonal".toList
    · rw [if_pos c5] at h
      obtain ⟨e, he, rfl⟩ := Option.map_eq_some_iff.mp h
      subst c5; simp [named, Node.isElem, Node.name, edgeG]; exact (congrArg (fun o => Option.getD o _) he).symm
    rw [if_neg c5] at h
    by_cases c6 : nm = "vertical".toList
    · rw [if_pos c6] at h
      obtain ⟨e, he, rfl⟩ := Option.map_eq_some_iff.mp h
      subst c6; simp [named, Node.isElem, Node.name]
    rw [if_neg c6] at h
    by_cases c7 : nm = "horizontal".toList
    · rw [if_pos c7] at h
      obtain ⟨e, he, rfl⟩ := Option.map_eq_some_iff.mp h
      subst c7; simp [named, Node.isElem, Node.name]
    rw [if_neg c7] at h
    simp only [Option.some.injEq] at h; subst h
    simp_all [named, Node.isElem, Node.name]

def borderKidOk (c : Node) : Bool := if isEdgeName c then validEdge c else true

theorem Borders.step_total (cf : Tok → Tok) (b : Borders) (c : Node) (h : borderKidOk c = true) :
    ∃ b', Borders.step cf b c = some b' := by
  cases c with
  | text t => exact ⟨b, rfl⟩
  | elem nm as cs =>
    simp only [Borders.step]
    by_cases he : isEdgeName (.elem nm as cs) = true
    · -- an edge name: the child is a valid edge, so whichever branch reads it into its edge succeeds
      have hv : validEdge (.elem nm as cs) = true := by simpa only [borderKidOk, he, if_true] using h
      have key : ∀ e : Border, ∀ g : Border → Borders, ∃ b', (e.readInto cf (.elem nm as cs)).map g = some b' := fun e g => by
        obtain ⟨e', he'⟩ := Border.readInto_total cf e _ hv
        exact ⟨g e', by rw [he']; rfl⟩
      by_cases c1 : nm = "left".toList
      · rw [if_pos c1]; exact key _ _
      rw [if_neg c1]
      by_cases c2 : nm = "right".toList
      · rw [if_pos c2]; exact key _ _
      rw [if_neg c2]
      by_cases c3 : nm = "top".toList
      · rw [if_pos c3]; exact key _ _
      rw [if_neg c3]
      by_cases c4 : nm = "bottom".toList
      · rw [if_pos c4]; exact key _ _
      rw [if_neg c4]
      by_cases c5 : nm = "diagonal".toList
      · rw [if_pos c5]; exact key _ _
      rw [if_neg c5]
      by_cases c6 : nm = "vertical".toList
      · rw [if_pos c6]; exact key _ _
      rw [if_neg c6]
      by_cases c7 : nm = "horizontal".toList
      · rw [if_pos c7]; exact key _ _
      rw [if_neg c7]
      exact ⟨b, rfl⟩
    · simp only [isEdgeName, named_elem_eq, Bool.or_eq_true, decide_eq_true_eq, not_or] at he
      obtain ⟨⟨⟨⟨⟨⟨n1, n2⟩, n3⟩, n4⟩, n5⟩, n6⟩, n7⟩ := he
      rw [if_neg n1, if_neg n2, if_neg n3, if_neg n4, if_neg n5, if_neg n6, if_neg n7]
      exact ⟨b, rfl⟩

/-- a valid `<border>`: unprefixed children, each of `left right top bottom diagonal` at most once, every edge child a
    `validEdge`.  `vertical` / `horizontal` are read too (hence under `borderKidOk`) but no fact of them is compared: no `uniq` -/
def validBorder (n : Node) : Bool :=
  n.children.all plain && n.children.all borderKidOk &&
  uniq n.children "left" && uniq n.children "right" && uniq n.children "top" && uniq n.children "bottom" &&
  uniq n.children "diagonal"

/-- `hk` says that `k` is an edge name: `isEdgeName` tests a node, so it is asked of an empty element of that name, which
    `decide` settles at each call -/
theorem edgeKid_agrees (cf : Tok → Tok) (n : Node) (k : String) (hpl : n.children.all plain = true)
    (hok : n.children.all borderKidOk = true) (hk : isEdgeName (.elem k.toList [] []) = true) :
    edgeFacts (((n.children.find? (named k)).map (edgeG cf {})).getD {}) = cfEdge cf (edgeV n k) := by
  unfold edgeV
  rw [kid?_eq_find n k hpl]
  cases hf : n.children.find? (named k) with
  | none => rfl
  | some e =>
    have hn := List.find?_some hf
    have hv := List.all_eq_true.mp hok e (List.mem_of_find?_eq_some hf)
    obtain ⟨as, ks, rfl⟩ := elem_of_named k e hn
    have hedge : isEdgeName (.elem k.toList as ks) = true := hk
    simp only [borderKidOk, hedge, if_true] at hv
    obtain ⟨b, hb, hbv⟩ := edge_agrees cf _ hv
    simp only [Option.map_some, Option.getD_some, edgeG, hb, hbv]
    rfl

theorem border_agrees (cf : Tok → Tok) (n : Node) (h : validBorder n = true) :
    ∃ b, Borders.read cf n = some b ∧ borderFacts b = cfBorder cf (borderV n) := by
  simp only [validBorder, Bool.and_eq_true, uniq, decide_eq_true_eq] at h
  obtain ⟨⟨⟨⟨⟨⟨hpl, hok⟩, u1⟩, u2⟩, u3⟩, u4⟩, u5⟩ := h
  refine (foldOpt_total (Borders.step_total cf) n.children _ hok).imp fun b hb => ⟨hb, ?_⟩
  have e1 := foldOpt_field (Borders.step cf) (·.left) (named "left") (edgeG cf)
    (fun x c x' hx => (Borders.step_spec cf x x' c hx).1) hb u1
  have e2 := foldOpt_field (Borders.step cf) (·.right) (named "right") (edgeG cf)
    (fun x c x' hx => (Borders.step_spec cf x x' c hx).2.1) hb u2
  have e3 := foldOpt_field (Borders.step cf) (·.top) (named "top") (edgeG cf)
    (fun x c x' hx => (Borders.step_spec cf x x' c hx).2.2.1) hb u3
  have e4 := foldOpt_field (Borders.step cf) (·.bottom) (named "bottom") (edgeG cf)
    (fun x c x' hx => (Borders.step_spec cf x x' c hx).2.2.2.1) hb u4
  have e5 := foldOpt_field (Borders.step cf) (·.diagonal) (named "diagonal") (edgeG cf)
    (fun x c x' hx => (Borders.step_spec cf x x' c hx).2.2.2.2.1) hb u5
  have e6 := foldOpt_const (Borders.step cf) (·.diagonalUp)
    (fun x c x' hx => (Borders.step_spec cf x x' c hx).2.2.2.2.2.1) hb
  have e7 := foldOpt_const (Borders.step cf) (·.diagonalDown)
    (fun x c x' hx => (Borders.step_spec cf x x' c hx).2.2.2.2.2.2) hb
  simp only [borderFacts, cfBorder, borderV, e1, e2, e3, e4, e5, e6, e7, boolAttr_xsd, attr?_eq_getAttr]
  have l1 := edgeKid_agrees cf n "left" hpl hok (by decide +kernel)
  have l2 := edgeKid_agrees cf n "right" hpl hok (by decide +kernel)
  have l3 := edgeKid_agrees cf n "top" hpl hok (by decide +kernel)
  have l4 := edgeKid_agrees cf n "bottom" hpl hok (by decide +kernel)
  have l5 := edgeKid_agrees cf n "diagonal" hpl hok (by decide +kernel)
  show BorderV.mk _ _ _ _ _ _ _ = BorderV.mk _ _ _ _ _ _ _
  congr 1  -- the five edges: `l1` … `l5`, found by assumption

end Umya.Reader.Lemmas
