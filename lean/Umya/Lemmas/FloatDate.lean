/-
  Error analysis of the `f64` code of `helper/date.rs` under the standard model
  (`Umya.Lemmas.FloatStd.StdModel`):

    (i)   `serial_err`:  `fl(D + fl(T / 86400))` is within `eps0 = 2958469·2⁻⁵³` (≈ 3.3·10⁻¹⁰ day,
          ≈ 2.8·10⁻⁵ s) of `D + T/86400`;
    (ii)  `split_err`:   for ANY finite float within `eps0` of `D + T/86400`, the floor / subtract /
          ×24 / floor / ×60 / floor / ×60 / round chain of `excel_to_date_time_object` recomposes to
          exactly `86400·D + T` seconds.  The three floors are not claimed to be the "right" ones
          (they may be off by one, e.g. 23:59:59.99997 → hour 23 or 24·0 …): whatever integers
          `d, h, m` they return, the last product is within `1/2` of the integer
          `86400·(D − d) + T − 3600·h − 60·m`, so `round` returns that integer and the sum
          `86400·d + 3600·h + 60·m + s` is `86400·D + T`.

  Around these: the four integers are small enough for every `try_*` / `checked_add_signed` of the checked variant to
  succeed; the two comparisons that choose the base date see the right side of `1` and `60` (at serial exactly `1`,
  1900-01-01T00:00:00, this needs correct rounding: `ExactRepr`, `serial_one_exact`); distinct seconds have distinct
  serials in the same order.  The namespace of `FloatStd` continues.
-/
import Umya.Lemmas.FloatStd
import Umya.Lemmas.Date
namespace Umya.Lemmas.FloatStd
open Umya.Date Umya.Date.FloatOps Umya.Lemmas.Date

/-- bound on `|fl(D + fl(T/86400)) − (D + T/86400)|` in days, `D ≤ 2958465` (the serial of 9999-12-31): the sum is at most
    `2958467` in magnitude, which bounds the error of the addition in units of `u`; `2u` more cover the error `u + eta` of
    the quotient -/
def eps0 : ℚ := 2958469 * u

/-- far less than half a second -/
theorem eps0_small : 0 ≤ eps0 ∧ 172800 * eps0 < 1 := by unfold eps0; rw [u_val]; norm_num

theorem le_big {B : ℚ} (hB : B ≤ 2 ^ 53) : B ≤ big := le_trans hB big_ge

theorem baseFor_range {F : Type} [FloatOps F] (ts : F) : -25569 ≤ baseFor ts ∧ baseFor ts ≤ 0 := by
  have e1 : base18991231 = -25568 := by decide
  have e2 : base18991230 = -25569 := by decide
  unfold baseFor
  split
  · unfold base1970; omega
  · split <;> omega

/-- `10⁷` covers every count the split can return (days ≤ 2958465); `864000000000 = 10⁷ · 86400`, the largest unit, is far
    inside the range of `try_seconds` (`i64::MAX / 1000 ≈ 9.2·10¹⁵`) -/
theorem tryUnits_small (unit n : ℤ) (hn : -10000000 ≤ n ∧ n ≤ 10000000)
    (hp : -864000000000 ≤ n * unit ∧ n * unit ≤ 864000000000) :
    tryUnits unit (clampI64 n) = some (n * unit) := by
  have c : clampI64 n = n := by
    unfold clampI64; rw [if_neg (by omega), if_neg (by omega)]
  rw [c]
  unfold tryUnits i64? trySeconds
  rw [if_pos ⟨by omega, by omega⟩]
  simp only [Option.bind_some]
  rw [if_pos ⟨by omega, by omega⟩]

/-- `8·10¹²` lies inside chrono's range `chronoMinSec = −8334601228800 … chronoMaxSec = 8210266876799` -/
theorem checkedAdd_small {t d : ℤ} (h : -8000000000000 ≤ t + d ∧ t + d ≤ 8000000000000) :
    checkedAddSigned t d = some (t + d) := by
  have e1 : chronoMinSec = -8334601228800 := by decide
  have e2 : chronoMaxSec = 8210266876799 := by decide
  unfold checkedAddSigned
  rw [e1, e2, if_pos ⟨by omega, by omega⟩]

theorem near_day {x : ℚ} (D T : ℤ) (hT : 0 ≤ T ∧ T < 86400) (he : |x - ((D : ℚ) + (T : ℚ) / 86400)| ≤ eps0) :
    (D : ℚ) - 1 / 2 < x ∧ x < (D : ℚ) + 1 := by
  have hs := eps0_small.2
  have t0 : (0 : ℚ) ≤ T := by exact_mod_cast hT.1
  have t1 : (T : ℚ) ≤ 86399 := by exact_mod_cast (by omega : T ≤ 86399)
  obtain ⟨x1, x2⟩ := abs_le.1 he
  exact ⟨by linarith, by linarith⟩

section chain
variable {F : Type} [FloatOps F] {val : F → ℚ} {fin : F → Prop}

/-! Each step of the chain carries a target along: if the input is within `E` of `r`, the output is within `E'` of `r'`. -/

/-- `floor` of a float of moderate size is the integer `n = ⌊val y⌋`, which `as i64` reads off exactly; `y - y.floor()`
    is computed with relative error `u` from an exact difference in `[0, 1)`.  The bounds `± 2⁵²` keep `⌊val y⌋` within
    the `2⁵³` up to which `toInt_exact` speaks; the bound `2` on the fraction (`1 + u` in truth) is what `scale` asks for -/
theorem floor_frac (h : StdModel F val fin) {y : F} (fy : fin y) {lo hi : ℤ} (hlo : (lo : ℚ) ≤ val y)
    (hhi : val y < hi) (hb : -4503599627370496 ≤ lo ∧ hi ≤ 4503599627370496) {r E : ℚ} (hr : |val y - r| ≤ E) :
    ∃ n : ℤ, toInt (floor y) = n ∧ lo ≤ n ∧ n < hi ∧ fin (frac y) ∧ |val (frac y)| ≤ 2 ∧
      |val (frac y) - (r - n)| ≤ E + u := by
  obtain ⟨ff, vf⟩ := h.floor_exact y fy
  have fl1 := Int.floor_le (val y)
  have fl2 := Int.lt_floor_add_one (val y)
  have n1 : lo < ⌊val y⌋ + 1 := Int.cast_lt (R := ℚ) |>.1 (by push_cast; linarith)
  have n2 : ⌊val y⌋ < hi := Int.cast_lt (R := ℚ) |>.1 (by linarith)
  have hd : |val y - val (floor y)| ≤ 1 := by rw [vf]; exact abs_le.2 ⟨by linarith, by linarith⟩
  obtain ⟨fs, es⟩ : fin (frac y) ∧ |val (frac y) - (val y - val (floor y))| ≤ 1 * u :=
    sub_abs h fy ff hd (le_big (by norm_num))
  rw [vf, one_mul] at es
  obtain ⟨e1, e2⟩ := abs_le.1 es
  obtain ⟨r1, r2⟩ := abs_le.1 hr
  have hu := u_val
  exact ⟨_, toInt_int h ff vf (by omega) (by omega), by omega, n2, fs, abs_le.2 ⟨by linarith, by linarith⟩,
    abs_le.2 ⟨by linarith, by linarith⟩⟩

/-- multiplication by a constant `K ≤ 60` of a float of magnitude ≤ 2: the product (magnitude ≤ 120) has absolute
    error `120u + eta ≤ 121u`.  The bounds are casts of integer literals so that they unify with `lo hi : ℤ` of `floor_frac` -/
theorem scale (h : StdModel F val fin) {x k : F} (fx : fin x) (fk : fin k) {K r E : ℚ} (vk : val k = K)
    (hK : 0 ≤ K ∧ K ≤ 60) (hx : |val x| ≤ 2) (hr : |val x - r| ≤ E) :
    fin (mul x k) ∧ ((-121 : ℤ) : ℚ) ≤ val (mul x k) ∧ val (mul x k) < ((122 : ℤ) : ℚ) ∧
      |val (mul x k) - K * r| ≤ K * E + 121 * u := by
  obtain ⟨x1, x2⟩ := abs_le.1 hx
  have hp : |val x * val k| ≤ 120 := by rw [vk]; exact abs_le.2 ⟨by nlinarith, by nlinarith⟩
  obtain ⟨fy, ey⟩ := mul_abs h fx fk hp (le_big (by norm_num))
  rw [vk] at ey hp
  have hu := u_val
  have he := eta_le_u
  obtain ⟨p1, p2⟩ := abs_le.1 hp
  obtain ⟨y1, y2⟩ := abs_le.1 ey
  have hs : |val x * K - K * r| ≤ K * E := by
    rw [mul_comm (val x), ← mul_sub, abs_mul, abs_of_nonneg hK.1]
    exact mul_le_mul_of_nonneg_left hr hK.1
  obtain ⟨s1, s2⟩ := abs_le.1 hs
  exact ⟨fy, by push_cast; linarith, by push_cast; linarith, abs_le.2 ⟨by linarith, by linarith⟩⟩

/-- the range of `y`, as `scale` concludes it, only serves to keep `N` within what `toInt_int` reads -/
theorem round_near (h : StdModel F val fin) {y : F} (fy : fin y) (hlo : ((-121 : ℤ) : ℚ) ≤ val y)
    (hhi : val y < ((122 : ℤ) : ℚ)) (N : ℤ) (hN : |val y - N| < 1 / 2) :
    toInt (round y) = N ∧ -122 ≤ N ∧ N ≤ 122 := by
  obtain ⟨fr, vr⟩ := h.round_exact y fy
  obtain ⟨n1, n2⟩ := abs_lt.1 hN
  push_cast at hlo hhi
  have b1 : -123 < N := Int.cast_lt (R := ℚ).1 (by push_cast; linarith)
  have b2 : N < 123 := Int.cast_lt (R := ℚ).1 (by push_cast; linarith)
  rw [ratRound_eq _ N hN] at vr
  exact ⟨toInt_int h fr vr (by omega) (by omega), by omega, by omega⟩

theorem serial_err (h : StdModel F val fin) (D T : ℤ) (hD : 0 ≤ D ∧ D ≤ 2958465)
    (hT : 0 ≤ T ∧ T < 86400) :
    fin (serialOf F D T) ∧ |val (serialOf F D T) - ((D : ℚ) + (T : ℚ) / 86400)| ≤ eps0 := by
  obtain ⟨fT, vT⟩ := ofInt_ok h T (by omega) (by omega)
  obtain ⟨fK, vK⟩ := ofInt_ok h 86400 (by norm_num) (by norm_num)
  obtain ⟨fD, vD⟩ := ofInt_ok h D (by omega) (by omega)
  have t0 : (0 : ℚ) ≤ T := by exact_mod_cast hT.1
  have t1 : (T : ℚ) < 86400 := by exact_mod_cast hT.2
  have d0 : (0 : ℚ) ≤ D := by exact_mod_cast hD.1
  have d1 : (D : ℚ) ≤ 2958465 := by exact_mod_cast hD.2
  have r0 : (0 : ℚ) ≤ (T : ℚ) / 86400 := div_nonneg t0 (by norm_num)
  have r1 : (T : ℚ) / 86400 ≤ 1 := by rw [div_le_one (by norm_num)]; linarith
  push_cast at vK
  have hq : |val (ofInt T : F) / val (ofInt 86400 : F)| ≤ 1 := by
    rw [vT, vK]; exact abs_le.2 ⟨by linarith, r1⟩
  obtain ⟨fq, eq⟩ := div_abs h fT fK (by rw [vK]; norm_num) hq (le_big (by norm_num))
  rw [vT, vK] at eq
  obtain ⟨q1, q2⟩ := abs_le.1 eq
  have hu := u_val
  have he0 := eta_nonneg
  have he1 := eta_le_u
  have hs : |val (ofInt D : F) + val (div (ofInt T : F) (ofInt 86400))| ≤ 2958467 := by
    rw [vD]; exact abs_le.2 ⟨by linarith, by linarith⟩
  obtain ⟨fs, es⟩ := add_abs h fD fq hs (le_big (by norm_num))
  rw [vD] at es
  obtain ⟨s1, s2⟩ := abs_le.1 es
  refine ⟨fs, ?_⟩
  unfold serialOf eps0
  exact abs_le.2 ⟨by linarith, by linarith⟩

/-- the four integers are those that `excel_to_date_time_object` hands to chrono (`days as i64`, `hours as i64`,
    `minutes as i64`, `seconds as i64`).  The last product is within `86400·eps0 + 533041u` (< 3·10⁻⁵) of the integer;
    `533041 = 60·(60·(24·1 + 122) + 122) + 121` accumulates the `u` of each `floor_frac` and the `121u` of each `scale`. -/
theorem split_parts (h : StdModel F val fin) (ts : F) (fts : fin ts) (D T : ℤ)
    (hD : 0 ≤ D ∧ D ≤ 2958465) (hT : 0 ≤ T ∧ T < 86400)
    (he : |val ts - ((D : ℚ) + (T : ℚ) / 86400)| ≤ eps0) :
    ∃ d hh mm ss : ℤ, toInt (splitParts ts).1 = d ∧ toInt (splitParts ts).2.1 = hh ∧
      toInt (splitParts ts).2.2.1 = mm ∧ toInt (splitParts ts).2.2.2 = ss ∧
      D - 1 ≤ d ∧ d ≤ D ∧ -122 ≤ hh ∧ hh ≤ 121 ∧ -122 ≤ mm ∧ mm ≤ 121 ∧ -122 ≤ ss ∧ ss ≤ 122 ∧
      86400 * d + 3600 * hh + 60 * mm + ss = 86400 * D + T := by
  obtain ⟨f24, v24⟩ := ofInt_ok h 24 (by norm_num) (by norm_num)
  obtain ⟨f60, v60⟩ := ofInt_ok h 60 (by norm_num) (by norm_num)
  obtain ⟨n1, n2⟩ := near_day D T hT he
  have hts : ((D - 1 : ℤ) : ℚ) ≤ val ts ∧ val ts < ((D + 1 : ℤ) : ℚ) := by
    push_cast; exact ⟨by linarith, n2⟩
  obtain ⟨d, i0, l0, g0, f0, b0, r0⟩ := floor_frac h fts hts.1 hts.2 (by omega) he
  obtain ⟨fa, la, ga, ra⟩ := scale h f0 f24 v24 (by norm_num) b0 r0
  obtain ⟨hh, i1, l1, g1, f1, b1, r1⟩ := floor_frac h fa la ga (by omega) ra
  obtain ⟨fb, lb, gb, rb⟩ := scale h f1 f60 v60 (by norm_num) b1 r1
  obtain ⟨mm, i2, l2, g2, f2, b2, r2⟩ := floor_frac h fb lb gb (by omega) rb
  obtain ⟨fc, lc, gc, rc⟩ := scale h f2 f60 v60 (by norm_num) b2 r2
  have eN : ((60 : ℤ) : ℚ) * (((60 : ℤ) : ℚ) * (((24 : ℤ) : ℚ) * ((D : ℚ) + (T : ℚ) / 86400 - d) - hh) - mm) =
      ((86400 * (D - d) + T - 3600 * hh - 60 * mm : ℤ) : ℚ) := by push_cast; ring
  rw [eN] at rc
  obtain ⟨i3, s1, s2⟩ := round_near h fc lc gc _ (lt_of_le_of_lt rc (by unfold eps0; rw [u_val]; norm_num))
  exact ⟨d, hh, mm, _, i0, i1, i2, i3, l0, by omega, by omega, by omega, by omega, by omega, s1, s2, by ring⟩

theorem split_err (h : StdModel F val fin) (ts : F) (fts : fin ts) (D T : ℤ)
    (hD : 0 ≤ D ∧ D ≤ 2958465) (hT : 0 ≤ T ∧ T < 86400)
    (he : |val ts - ((D : ℚ) + (T : ℚ) / 86400)| ≤ eps0) (base : ℤ) :
    splitSeconds ts base = (base + D) * 86400 + T := by
  obtain ⟨d, hh, mm, ss, i1, i2, i3, i4, _, _, _, _, _, _, _, _, hsum⟩ := split_parts h ts fts D T hD hT he
  rw [splitSeconds_parts, i1, i2, i3, i4]
  linarith

/-- every `try_*` and every `checked_add_signed` of `excel_to_date_time_object_checked` succeeds: the partial sums stay
    within a few days of 1899-12-30 + `D` -/
theorem split_checked (h : StdModel F val fin) (ts : F) (fts : fin ts) (D T : ℤ)
    (hD : 0 ≤ D ∧ D ≤ 2958465) (hT : 0 ≤ T ∧ T < 86400)
    (he : |val ts - ((D : ℚ) + (T : ℚ) / 86400)| ≤ eps0) :
    excelToEpochSecondsChecked ts = some ((baseFor ts + D) * 86400 + T) := by
  obtain ⟨d, hh, mm, ss, i1, i2, i3, i4, b1, b2, b3, b4, b5, b6, b7, b8, hsum⟩ :=
    split_parts h ts fts D T hD hT he
  have hb : -25569 ≤ baseFor ts ∧ baseFor ts ≤ 0 := baseFor_range ts
  rw [checked_parts, i1, i2, i3, i4]
  clear i1 i2 i3 i4  -- else `omega` below takes up the four `toInt …` as atoms, which slows it down
  rw [tryUnits_small 86400 d ⟨by omega, by omega⟩ (by omega),
    tryUnits_small 3600 hh ⟨by omega, by omega⟩ (by omega), tryUnits_small 60 mm ⟨by omega, by omega⟩ (by omega),
    tryUnits_small 1 ss ⟨by omega, by omega⟩ (by omega)]
  simp only [bind, Option.bind_some]
  rw [checkedAdd_small (by omega)]
  simp only [Option.bind_some]
  rw [checkedAdd_small (by omega)]
  simp only [Option.bind_some]
  rw [checkedAdd_small (by omega)]
  simp only [Option.bind_some]
  rw [checkedAdd_small (by omega)]
  congr 1
  linarith

theorem serial_one_exact (h : StdModel F val fin) (hx : ExactRepr F val fin) :
    fin (serialOf F 1 0) ∧ val (serialOf F 1 0) = 1 := by
  obtain ⟨f0, v0⟩ := ofInt_ok h 0 (by norm_num) (by norm_num)
  obtain ⟨fK, vK⟩ := ofInt_ok h 86400 (by norm_num) (by norm_num)
  obtain ⟨f1, v1⟩ := ofInt_ok h 1 (by norm_num) (by norm_num)
  push_cast at v0 vK v1
  have hq : |val (ofInt 0 : F) / val (ofInt 86400 : F)| ≤ 1 := by rw [v0, vK]; norm_num
  obtain ⟨fq, _⟩ := div_abs h f0 fK (by rw [vK]; norm_num) hq (le_big (by norm_num))
  have eq : val (div (ofInt 0 : F) (ofInt 86400)) = val (ofInt 0 : F) :=
    hx.div_exact _ _ _ f0 fK f0 (by rw [vK]; norm_num) (by rw [v0, vK]; norm_num)
  have hs : |val (ofInt 1 : F) + val (div (ofInt 0 : F) (ofInt 86400))| ≤ 1 := by
    rw [eq, v0, v1]; norm_num
  obtain ⟨fs, _⟩ := add_abs h f1 fq hs (le_big (by norm_num))
  refine ⟨fs, ?_⟩
  unfold serialOf
  rw [hx.add_exact _ _ (ofInt 1) f1 fq f1 (by rw [eq, v0]; ring), v1]

theorem baseFor_near (h : StdModel F val fin) (ts : F) (fts : fin ts) (D T : ℤ)
    (hD60 : D ≠ 60) (hT : 0 ≤ T ∧ T < 86400)
    (he : |val ts - ((D : ℚ) + (T : ℚ) / 86400)| ≤ eps0) (h1 : 1 ≤ val ts) :
    baseFor ts = if D < 60 then base18991231 else base18991230 := by
  obtain ⟨f1, v1⟩ := ofInt_ok h 1 (by norm_num) (by norm_num)
  obtain ⟨f60, v60⟩ := ofInt_ok h 60 (by norm_num) (by norm_num)
  obtain ⟨n1, n2⟩ := near_day D T hT he
  push_cast at v1 v60
  unfold baseFor
  rw [if_neg (by rw [h.lt_exact _ _ fts f1, v1]; linarith)]
  by_cases hlt : D < 60
  · have : (D : ℚ) ≤ 59 := by exact_mod_cast (by omega : D ≤ 59)
    rw [if_pos (by rw [h.lt_exact _ _ fts f60, v60]; linarith), if_pos hlt]
  · have : (61 : ℚ) ≤ D := by exact_mod_cast (by omega : 61 ≤ D)
    rw [if_neg (by rw [h.lt_exact _ _ fts f60, v60]; linarith), if_neg hlt]

theorem time_near (h : StdModel F val fin) (ts : F) (fts : fin ts) (D T : ℤ)
    (hD : 1 ≤ D ∧ D ≤ 2958465) (hD60 : D ≠ 60) (hT : 0 ≤ T ∧ T < 86400)
    (he : |val ts - ((D : ℚ) + (T : ℚ) / 86400)| ≤ eps0) (h1 : 1 ≤ val ts) :
    excelToEpochSeconds ts = ((if D < 60 then base18991231 else base18991230) + D) * 86400 + T ∧
    excelToEpochSecondsChecked ts = some (((if D < 60 then base18991231 else base18991230) + D) * 86400 + T) := by
  have hb := baseFor_near h ts fts D T hD60 hT he h1
  constructor
  · unfold excelToEpochSeconds
    rw [split_err h ts fts D T ⟨by omega, hD.2⟩ hT he, hb]
  · rw [split_checked h ts fts D T ⟨by omega, hD.2⟩ hT he, hb]

/-- at `D = 1, T = 0` the bound `1 ≤` needs correct rounding -/
theorem serial_near (h : StdModel F val fin) (D T : ℤ) (hD : 1 ≤ D ∧ D ≤ 2958465)
    (hT : 0 ≤ T ∧ T < 86400) (hx : ExactRepr F val fin ∨ ¬ (D = 1 ∧ T = 0)) :
    fin (serialOf F D T) ∧ |val (serialOf F D T) - ((D : ℚ) + (T : ℚ) / 86400)| ≤ eps0 ∧
      1 ≤ val (serialOf F D T) := by
  obtain ⟨hs0, hs⟩ := eps0_small
  by_cases h10 : D = 1 ∧ T = 0
  · obtain ⟨rfl, rfl⟩ := h10
    rcases hx with hx | hx
    · obtain ⟨f, v⟩ := serial_one_exact h hx
      refine ⟨f, ?_, by rw [v]⟩
      rw [v]; norm_num; linarith
    · exact absurd ⟨rfl, rfl⟩ hx
  · obtain ⟨f, e⟩ := serial_err h D T ⟨by omega, hD.2⟩ hT
    refine ⟨f, e, ?_⟩
    obtain ⟨x1, x2⟩ := abs_le.1 e
    -- not the first second of the range: at least one second above `1`, and `eps0` is far less than a second
    have k : (86401 : ℚ) ≤ 86400 * D + T := by exact_mod_cast (by omega : 86401 ≤ 86400 * D + T)
    linarith

theorem serial_lt (h : StdModel F val fin) (D T D' T' : ℤ) (hD : 0 ≤ D ∧ D ≤ 2958465)
    (hT : 0 ≤ T ∧ T < 86400) (hD' : 0 ≤ D' ∧ D' ≤ 2958465) (hT' : 0 ≤ T' ∧ T' < 86400)
    (hlt : 86400 * D + T < 86400 * D' + T') :
    val (serialOf F D T) < val (serialOf F D' T') := by
  obtain ⟨_, e⟩ := serial_err h D T hD hT
  obtain ⟨_, e'⟩ := serial_err h D' T' hD' hT'
  obtain ⟨x1, x2⟩ := abs_le.1 e
  obtain ⟨y1, y2⟩ := abs_le.1 e'
  have hs := eps0_small.2
  have k : (86400 : ℚ) * D + T + 1 ≤ 86400 * D' + T' := by
    have : 86400 * D + T + 1 ≤ 86400 * D' + T' := by omega
    exact_mod_cast this
  linarith

end chain

end Umya.Lemmas.FloatStd
