/-! Facts about core `List` functions that several parts of the development use and core does not state. -/

namespace Umya

theorem takeWhile_all {α} (p : α → Bool) (l : List α) (h : ∀ x ∈ l, p x = true) : l.takeWhile p = l := by
  simpa using List.takeWhile_append_of_pos (l₂ := []) h

theorem dropWhile_all {α} (p : α → Bool) (l : List α) (h : ∀ x ∈ l, p x = true) : l.dropWhile p = [] := by
  simpa using List.dropWhile_append_of_pos (l₂ := []) h

theorem takeWhile_dropWhile_run {α} (p : α → Bool) (run rest : List α) (hrun : run.all p = true)
    (hrest : rest = [] ∨ ∃ c r, rest = c :: r ∧ p c = false) :
    (run ++ rest).takeWhile p = run ∧ (run ++ rest).dropWhile p = rest := by
  have hp : ∀ x ∈ run, p x = true := List.all_eq_true.1 hrun
  rw [List.takeWhile_append_of_pos hp, List.dropWhile_append_of_pos hp]
  rcases hrest with rfl | ⟨c, r, rfl, hc⟩ <;> simp [*]

theorem head?_dropWhile_false {α} (p : α → Bool) (l : List α) (x : α) (h : (l.dropWhile p).head? = some x) :
    p x = false := by
  have := List.head?_dropWhile_not p l
  rwa [h] at this

theorem takeWhile_dropWhile_spec {α} (p : α → Bool) (l : List α) :
    l.takeWhile p ++ l.dropWhile p = l ∧ (∀ x ∈ l.takeWhile p, p x = true) ∧
    (∀ x, (l.dropWhile p).head? = some x → p x = false) :=
  ⟨List.takeWhile_append_dropWhile, List.all_eq_true.1 List.all_takeWhile, head?_dropWhile_false p l⟩

theorem dropWhile_of_head?_false {α} (p : α → Bool) (l : List α) (h : ∀ x, l.head? = some x → p x = false) :
    l.dropWhile p = l := by
  cases l with
  | nil => rfl
  | cons a r => rw [List.dropWhile_cons_of_neg (by simp [h a rfl])]

/-- One step of a loop that hands out a list sorted by `key` row by row, along an ascending table `n :: ns` of row numbers. -/
theorem dropWhile_key_mem {α} (key : α → Nat) (n : Nat) (ns : List Nat) (hns : ∀ m ∈ ns, n < m) :
    ∀ l : List α, l.Pairwise (fun a b => key a ≤ key b) → (∀ a ∈ l, key a ∈ n :: ns) →
    ∀ a ∈ l.dropWhile (key · = n), key a ∈ ns
  | [], _, _, _, ha => nomatch ha
  | c :: cs, hl, hin, a, ha => by
    have hc := List.pairwise_cons.1 hl
    rw [List.dropWhile_cons] at ha
    split at ha
    · exact dropWhile_key_mem key n ns hns cs hc.2 (fun b hb => hin b (List.mem_cons_of_mem _ hb)) a ha
    · -- `c` stops the scan, so its key is in `ns`, above `n`; the keys after it are no smaller
      rename_i e
      have hcn := hns _ ((List.mem_cons.1 (hin c List.mem_cons_self)).resolve_left (by simpa using e))
      refine (List.mem_cons.1 (hin a ha)).resolve_left fun ea => ?_
      rcases List.mem_cons.1 ha with rfl | ha
      · omega
      · have := hc.1 a ha; omega

theorem eq_of_pairwise_of_mem_iff {α} {r : α → α → Prop} (asymm : ∀ a b, r a b → r b a → False) {l₁ l₂ : List α}
    (h₁ : l₁.Pairwise r) (h₂ : l₂.Pairwise r) (h : ∀ x, x ∈ l₁ ↔ x ∈ l₂) : l₁ = l₂ :=
  have nodup {l : List α} (hl : l.Pairwise r) : l.Nodup := hl.imp fun hab e => by subst e; exact asymm _ _ hab hab
  -- same members without repetition: a permutation
  ((List.perm_ext_iff_of_nodup (nodup h₁) (nodup h₂)).2 h).eq_of_pairwise
    (fun a b _ _ hab hba => (asymm a b hab hba).elim) h₁ h₂

theorem getLast_head {α} (l : List α) (h : l.length ≤ 1) : l.getLast? = l.head? := by
  match l, h with
  | [], _ => rfl
  | [a], _ => rfl
  | a :: b :: r, h => simp at h

theorem getLast?_filter_unique {α} {p : α → Bool} {l : List α} (h : (l.filter p).length ≤ 1) :
    (l.filter p).getLast? = l.find? p := by
  rw [getLast_head _ h, List.head?_filter]

theorem find?_reverse_unique {α} {p : α → Bool} {l : List α} (h : (l.filter p).length ≤ 1) :
    l.reverse.find? p = l.find? p := by
  rw [← List.head?_filter, List.filter_reverse, List.head?_reverse, getLast?_filter_unique h]

theorem flatMap_congr_mem {α β} {f g : α → List β} {l : List α} (h : ∀ x ∈ l, f x = g x) : l.flatMap f = l.flatMap g := by
  rw [List.flatMap_def, List.flatMap_def, List.map_congr_left h]

theorem flatMap_eq_self {α} {f : α → List α} {l : List α} (h : ∀ x ∈ l, f x = [x]) : l.flatMap f = l :=
  (flatMap_congr_mem h).trans (List.flatMap_singleton' l)

theorem nodup_map_inj {α β} (f : α → β) (hf : ∀ a b, f a = f b → a = b) (l : List α) (h : l.Nodup) : (l.map f).Nodup :=
  List.Pairwise.map f (fun a b hne e => hne (hf a b e)) h

theorem nodup_map_of_finer {α β γ} {k : α → β} {f : α → γ} {l : List α} (h : (l.map k).Nodup)
    (hf : ∀ a ∈ l, ∀ b ∈ l, f a = f b → k a = k b) : (l.map f).Nodup := by
  rw [List.Nodup, List.pairwise_map] at h ⊢
  exact h.imp_of_mem fun ha hb hne e => hne (hf _ ha _ hb e)

theorem inj_of_nodup_map {α β} {f : α → β} {l : List α} (h : (l.map f).Nodup) {a b : α} (ha : a ∈ l) (hb : b ∈ l)
    (e : f a = f b) : a = b :=
  List.Pairwise.forall_of_forall_of_flip (R := fun a b => f a = f b → a = b) (fun _ _ _ => rfl)
    ((List.pairwise_map.mp h).imp fun hne e => absurd e hne)
    ((List.pairwise_map.mp h).imp fun hne e => absurd e.symm hne) ha hb e

theorem getElem?_append_left' {α} {t ext : List α} {i : Nat} {x : α} (h : t[i]? = some x) : (t ++ ext)[i]? = some x := by
  rw [List.getElem?_append_left (List.getElem?_eq_some_iff.1 h).1]; exact h

theorem append_ext_trans {α} {a b c : List α} : (∃ l, b = a ++ l) → (∃ l, c = b ++ l) → ∃ l, c = a ++ l
  | ⟨l, e⟩, ⟨m, f⟩ => ⟨l ++ m, by rw [f, e, List.append_assoc]⟩

theorem find?_key_of_nodup {α κ} [DecidableEq κ] (key : α → κ) : ∀ (l : List α), (l.map key).Nodup → ∀ a ∈ l,
    l.find? (fun x => key x = key a) = some a
  | [], _, _, ha => nomatch ha
  | b :: l, h, a, ha => by
    rw [List.map_cons, List.nodup_cons] at h
    rcases List.mem_cons.1 ha with rfl | hm
    · simp
    · have hb : key b ≠ key a := fun e => h.1 (e ▸ List.mem_map_of_mem hm)
      rw [List.find?_cons_of_neg (by simpa using hb)]
      exact find?_key_of_nodup key l h.2 a hm

/-- The characters of a string literal, by expanding the literal instead of running the UTF-8 decoder: for the unifier and for the kernel a
    literal IS `String.ofList [chars]`, whereas the kernel evaluates `"lit".toList` by encoding and decoding again, at a cost quadratic in
    the length.  `simp only [toList_lit]` rewrites every literal under `String.toList` in one pass before an
    evaluation (`rw [String.toList_ofList]` does one); `no_index` because a literal is not indexed under `String.ofList`. -/
theorem toList_lit (l : List Char) : String.toList (no_index (String.ofList l)) = l := String.toList_ofList

theorem filterMap_congr_mem {α β} {f g : α → Option β} {l : List α} (h : ∀ x ∈ l, f x = g x) : l.filterMap f = l.filterMap g := by
  induction l with
  | nil => rfl
  | cons a l ih =>
    rw [List.filterMap_cons, List.filterMap_cons, h a List.mem_cons_self, ih fun x hx => h x (List.mem_cons_of_mem _ hx)]

theorem foldl_none {α β} (f : Option β → α → Option β) (hf : ∀ a, f none a = none) (l : List α) : l.foldl f none = none := by
  induction l with
  | nil => rfl
  | cons a r ih => rw [List.foldl_cons, hf, ih]

theorem foldl_max_spec {α} (f : α → Nat) (l : List α) (m : Nat) :
    m ≤ l.foldl (fun m e => max m (f e)) m ∧ (∀ e ∈ l, f e ≤ l.foldl (fun m e => max m (f e)) m) ∧
      (l.foldl (fun m e => max m (f e)) m = m ∨ ∃ e ∈ l, f e = l.foldl (fun m e => max m (f e)) m) := by
  induction l generalizing m with
  | nil => simp
  | cons a l ih =>
    obtain ⟨h1, h2, h3⟩ := ih (max m (f a))
    simp only [List.foldl_cons, List.mem_cons, forall_eq_or_imp, exists_eq_or_imp]
    refine ⟨Nat.le_trans (Nat.le_max_left ..) h1, ⟨Nat.le_trans (Nat.le_max_right ..) h1, h2⟩, ?_⟩
    rcases h3 with h | h
    · rw [h]
      rcases Nat.le_total (f a) m with hm | hm
      · exact .inl (Nat.max_eq_left hm)
      · exact .inr (.inl (Nat.max_eq_right hm).symm)
    · exact .inr (.inr h)

theorem map_eraseIdx {α β} (f : α → β) : ∀ (l : List α) (i : Nat), (l.eraseIdx i).map f = (l.map f).eraseIdx i
  | [], _ => rfl
  | _ :: _, 0 => rfl
  | _ :: r, i + 1 => by simp [List.eraseIdx_cons_succ, map_eraseIdx f r i]

end Umya
