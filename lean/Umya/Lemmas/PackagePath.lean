/-
  The OPC path rules of `Umya/Spec/Sml.lean` (`segsOf`, `resolveTargetL`, `relsNameOfL`, `relsSourceL`,
  `isRelsNameL`, `extOfL`) on the part names of `Umya/Model/PackageNode.lean`, for every sheet number.
-/
import Umya.Model.PackageNode
namespace Umya.PackageNode
open Umya.Dec Umya.SheetNode Umya.WorkbookNode
open Umya.Spec.Sml

theorem splitGo_append (c : Char) (a b : List Char) (h : c ∉ a) :
    splitGo c (a ++ b) = (a ++ (splitGo c b).1, (splitGo c b).2) := by
  induction a with
  | nil => rfl
  | cons x r ih =>
    have hx : x ≠ c := fun e => h (by simp [e])
    have hr : c ∉ r := fun e => h (by simp [e])
    simp only [List.cons_append, splitGo, ih hr, if_neg hx]

theorem splitGo_cons_ne (c x : Char) (r : List Char) (h : x ≠ c) : splitGo c (x :: r) = (x :: (splitGo c r).1, (splitGo c r).2) := by
  simp [splitGo, h]

theorem splitGo_cons_eq (c : Char) (r : List Char) : splitGo c (c :: r) = ([], (splitGo c r).1 :: (splitGo c r).2) := by
  simp [splitGo]

theorem slash_notin (k : Nat) : '/' ∉ decDigits k := not_mem_decDigits (by decide) k
theorem dot_notin (k : Nat) : '.' ∉ decDigits k := not_mem_decDigits (by decide) k

theorem splitGo_free (c : Char) (a : List Char) (h : c ∉ a) : splitGo c a = (a, []) := by
  simpa [splitGo] using splitGo_append c a [] h

theorem splitGo_slash_tail (k : Nat) (suffix : List Char) (hs : '/' ∉ suffix) :
    splitGo '/' (decDigits k ++ suffix) = (decDigits k ++ suffix, []) := by
  rw [splitGo_append _ _ _ (slash_notin k), splitGo_free _ _ hs]

theorem splitOnChar_append (c : Char) (b : List Char) : ∀ a : List Char, splitOnChar c (a ++ b) =
    (splitOnChar c a).dropLast ++ (((splitOnChar c a).getLast?.getD [] ++ (splitGo c b).1) :: (splitGo c b).2)
  | [] => by simp [splitOnChar, splitGo]
  | x :: r => by
    have ih := splitOnChar_append c b r
    unfold splitOnChar at ih ⊢
    by_cases hx : x = c
    · subst hx
      rw [List.cons_append, splitGo_cons_eq, splitGo_cons_eq, ih]
      simp
    · rw [List.cons_append, splitGo_cons_ne _ _ _ hx, splitGo_cons_ne _ _ _ hx]
      -- `x` joins the first piece of `r`, which is also its last exactly when `r` holds no `c`
      cases hr : (splitGo c r).2 with
      | nil => rw [hr] at ih; simp at ih; simp [ih]
      | cons y ys => rw [hr] at ih; simp at ih; simp [ih]

/-- the literal beginnings of `sheetPartL` and `sheetRelsL`, up to the number -/
def sheetPre : List Char := ['x', 'l', '/', 'w', 'o', 'r', 'k', 's', 'h', 'e', 'e', 't', 's', '/', 's', 'h', 'e', 'e', 't']
def sheetRelsPre : List Char := ['x', 'l', '/', 'w', 'o', 'r', 'k', 's', 'h', 'e', 'e', 't', 's', '/', '_', 'r', 'e', 'l', 's', '/', 's', 'h', 'e', 'e', 't']

/-- The segments of a numbered name are those of its beginning `pre`, the last one continued by the number and `suf`.
    For a literal `pre` the right-hand side evaluates to the segments (the `segsOf_*`; a relative target begins like
    its part, `xl` dropped or replaced by `..`). -/
theorem segsOf_numbered (pre : List Char) (k : Nat) (suf : List Char) (hs : '/' ∉ suf) : segsOf (pre ++ (decDigits k ++ suf)) =
    (splitOnChar '/' pre).dropLast.filter (· ≠ []) ++ [(splitOnChar '/' pre).getLast?.getD [] ++ (decDigits k ++ suf)] := by
  rw [segsOf, splitOnChar_append, splitGo_slash_tail k suf hs]
  simp [decDigits_ne_nil k]

theorem segsOf_sheetPart (k : Nat) :
    segsOf (sheetPartL k) = [['x', 'l'], ['w', 'o', 'r', 'k', 's', 'h', 'e', 'e', 't', 's'], 's' :: 'h' :: 'e' :: 'e' :: 't' :: (decDigits k ++ ['.', 'x', 'm', 'l'])] :=
  segsOf_numbered sheetPre k _ (by decide)

theorem segsOf_sheetRels (k : Nat) :
    segsOf (sheetRelsL k) = [['x', 'l'], ['w', 'o', 'r', 'k', 's', 'h', 'e', 'e', 't', 's'], ['_', 'r', 'e', 'l', 's'],
      's' :: 'h' :: 'e' :: 'e' :: 't' :: (decDigits k ++ ['.', 'x', 'm', 'l', '.', 'r', 'e', 'l', 's'])] :=
  segsOf_numbered sheetRelsPre k _ (by decide)

theorem segsOf_sheetTarget (k : Nat) :
    segsOf (sheetTarget k) = [['w', 'o', 'r', 'k', 's', 'h', 'e', 'e', 't', 's'], 's' :: 'h' :: 'e' :: 'e' :: 't' :: (decDigits k ++ ['.', 'x', 'm', 'l'])] :=
  segsOf_numbered (sheetPre.drop 3) k _ (by decide)

/-- the part names without a number: those of `fixedNames` and the shared-string part -/
def closedNames : List (List Char) := [nApp, nCore, nRootRels, nTheme, nSst, nStyles, nWorkbookPart, nWorkbookRels, nContentTypes]

/-- the eight parts every package has (the shared-string part is written only for a non-empty table) -/
def fixedNames : List (List Char) := [nApp, nCore, nRootRels, nTheme, nStyles, nWorkbookPart, nWorkbookRels, nContentTypes]

theorem fixed_sub_closed : ∀ nm ∈ fixedNames, nm ∈ closedNames := by decide

/-- a part name that is none of `closedNames`, no sheet part, no sheet relationships part, no relationships part at all -/
structure Foreign (nm : List Char) : Prop where
  closed : nm ∉ closedNames
  sheet : ∀ i, sheetPartL i ≠ nm
  rels : ∀ i, sheetRelsL i ≠ nm
  notRels : isRelsNameL nm = false

theorem resolve_sheetTarget (k : Nat) : resolveTargetL nWorkbookPart (sheetTarget k) = sheetPartL k := by
  have hb : segsOf nWorkbookPart = [['x', 'l'], ['w', 'o', 'r', 'k', 'b', 'o', 'o', 'k', '.', 'x', 'm', 'l']] := by decide
  have hh : (sheetTarget k).head? ≠ some '/' := by simp [sheetTarget]
  unfold resolveTargetL
  rw [if_neg hh, hb, segsOf_sheetTarget]
  simp [resolveSegs, joinSegs, List.intercalate, sheetPartL]

theorem resolve_from (src t r : List Char) (h : resolveTargetL src t = r) : resolveTarget (String.ofList src) (str t) = String.ofList r := by
  rw [resolveTarget, str, String.toList_ofList, String.toList_ofList, h]

theorem target_present {p : Package} {src t nm : List Char} (h : resolveTargetL src t = nm) (hx : (p.part? (String.ofList nm)).isSome = true) :
    (p.part? (resolveTarget (String.ofList src) (str t))).isSome = true := by
  rw [resolve_from src t nm h]; exact hx

theorem relsName_sheetPart (k : Nat) : relsNameOfL (sheetPartL k) = sheetRelsL k := by
  unfold relsNameOfL
  rw [segsOf_sheetPart]
  simp [joinSegs, List.intercalate, sheetRelsL]

theorem relsSource_sheetRels (k : Nat) : relsSourceL (sheetRelsL k) = sheetPartL k := by
  unfold relsSourceL
  rw [segsOf_sheetRels]
  simp [joinSegs, List.intercalate, sheetPartL]
  have h2 : decDigits k ++ ['.', 'x', 'm', 'l', '.', 'r', 'e', 'l', 's'] = (decDigits k ++ ['.', 'x', 'm', 'l']) ++ ['.', 'r', 'e', 'l', 's'] := by simp
  rw [h2, List.take_append_of_le_length (by simp)]
  exact List.take_of_length_le (by simp)

theorem isRels_sheetRels (k : Nat) : isRelsNameL (sheetRelsL k) = true := by
  have : sheetRelsL k = (sheetRelsPre ++ (decDigits k ++ ['.', 'x', 'm', 'l'])) ++ ['.', 'r', 'e', 'l', 's'] := by
    simp [sheetRelsL, sheetRelsPre]
  rw [isRelsNameL, this]
  exact List.isSuffixOf_iff_suffix.2 (List.suffix_append _ _)

theorem not_rels_of_last (pre : List Char) (c : Char) (hc : c ≠ 's') : isRelsNameL (pre ++ [c]) = false := by
  rw [isRelsNameL, Bool.eq_false_iff]
  intro h
  obtain ⟨t, ht⟩ := List.isSuffixOf_iff_suffix.1 h
  have h1 := congrArg List.reverse ht
  simp only [List.reverse_append, List.reverse_cons, List.reverse_nil, List.nil_append, List.cons_append, List.cons.injEq] at h1
  exact hc h1.1.symm

theorem not_rels_numbered (pre : List Char) (k : Nat) (mid : List Char) (c : Char) (hc : c ≠ 's') :
    isRelsNameL (pre ++ (decDigits k ++ (mid ++ [c]))) = false := by
  rw [← List.append_assoc, ← List.append_assoc]; exact not_rels_of_last _ c hc

theorem isRels_sheetPart (k : Nat) : isRelsNameL (sheetPartL k) = false :=
  not_rels_numbered sheetPre k ['.', 'x', 'm'] 'l' (by decide)

theorem extOfL_append (a e : List Char) (he : '.' ∉ e) : extOfL (a ++ '.' :: e) = e := by
  rw [extOfL, splitOnChar_append, splitGo_cons_eq, splitGo_free _ _ he]
  simp

theorem ext_numbered (pre : List Char) (k : Nat) (mid e : List Char) (he : '.' ∉ e) :
    extOfL (pre ++ (decDigits k ++ (mid ++ '.' :: e))) = e := by
  rw [← List.append_assoc, ← List.append_assoc]; exact extOfL_append _ e he

theorem ext_sheetRels (k : Nat) : extOfL (sheetRelsL k) = ['r', 'e', 'l', 's'] :=
  ext_numbered sheetRelsPre k ['.', 'x', 'm', 'l'] _ (by decide)

theorem ext_sheetPart (k : Nat) : extOfL (sheetPartL k) = ['x', 'm', 'l'] :=
  ext_numbered sheetPre k [] _ (by decide)

/-- two texts differ at a position both have -/
def differ (p q : List Char) : Bool := (p.zip q).any fun x => x.1 != x.2

theorem append_ne_append : ∀ {p q : List Char} (r s : List Char), differ p q = true → p ++ r ≠ q ++ s
  | [], _, _, _, h => by simp [differ] at h
  | _ :: _, [], _, _, h => by simp [differ] at h
  | a :: p, b :: q, r, s, h => by
    intro e
    simp only [List.cons_append, List.cons.injEq] at e
    simp only [differ, List.zip_cons_cons, List.any_cons, Bool.or_eq_true, bne_iff_ne, ne_eq] at h
    rcases h with h | h
    · exact h e.1
    · exact append_ne_append r s h e.2

theorem append_ne {p q : List Char} (r : List Char) (h : differ p q = true) : p ++ r ≠ q := by
  have := append_ne_append r [] h
  rwa [List.append_nil] at this

theorem numbered_not_closed (pre r : List Char) (h : ∀ nm ∈ closedNames, differ pre nm = true) : pre ++ r ∉ closedNames :=
  fun hm => append_ne r (h _ hm) rfl

theorem sheetPart_ne_closed (i : Nat) : ∀ nm ∈ closedNames, sheetPartL i ≠ nm :=
  fun _ h e => numbered_not_closed sheetPre _ (by decide) (e ▸ h)

theorem sheetRels_ne_closed (i : Nat) : ∀ nm ∈ closedNames, sheetRelsL i ≠ nm :=
  fun _ h e => numbered_not_closed sheetRelsPre _ (by decide) (e ▸ h)

theorem numbered_inj (pre suf : List Char) (j k : Nat) (h : pre ++ (decDigits j ++ suf) = pre ++ (decDigits k ++ suf)) : j = k :=
  decDigits_injective (List.append_cancel_right (List.append_cancel_left h))

theorem sheetPartL_inj (j k : Nat) (h : sheetPartL j = sheetPartL k) : j = k := numbered_inj sheetPre _ j k h

theorem sheetRelsL_inj (j k : Nat) (h : sheetRelsL j = sheetRelsL k) : j = k := numbered_inj sheetRelsPre _ j k h

theorem sheetPart_ne_sheetRels (j k : Nat) : sheetPartL j ≠ sheetRelsL k :=
  append_ne_append (p := sheetPre) (q := sheetRelsPre) _ _ (by decide)

end Umya.PackageNode
