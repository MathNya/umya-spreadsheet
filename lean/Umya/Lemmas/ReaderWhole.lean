/-
  The components of `Spec.Sml.decode`'s `BookV` taken out of `decode` (`decode_book`), and the views of a sheet that the
  whole-workbook theorem compares; last, the decoder's style facts of a `<c>` (`specFacts`, on `Model/ReaderStyleView`).
-/
import Umya.Lemmas.ReaderNames
import Umya.Lemmas.ReaderSheet
import Umya.Model.ReaderStyleView
namespace Umya.Reader.Lemmas
open Umya.Reader Umya.Spec.Xml Umya.Spec.Sml

/-! The decoder's shared-string table, style root, table sizes and sheet of a workbook part at `wbPath`, as `decode` writes
    them (`specNXf` / `specNDxf`: its defaults 1 and 0 where `styles.xml` or the table is missing). -/

def specSst (p : Package) (wbPath : String) : List Text :=
  match ((relsOf p wbPath).find? (fun r => r.type.endsWith "/sharedStrings")).map (fun r => resolveTarget wbPath r.target) with
  | some sp => sharedStrings p sp
  | none => []

def specStylesRoot (p : Package) (wbPath : String) : Option Node :=
  ((((relsOf p wbPath).find? (fun r => r.type.endsWith "/styles")).map (fun r => resolveTarget wbPath r.target)).bind p.part?).bind (·.xml)

def specNXf (sr : Option Node) : Nat := match sr with
  | some sr => ((sr.kid? "cellXfs").map (fun x => (x.kids "xf").length)).getD 1
  | none => 1
def specNDxf (sr : Option Node) : Nat := match sr with
  | some sr => ((sr.kid? "dxfs").map (fun x => (x.kids "dxf").length)).getD 0
  | none => 0

def specSheetOf (p : Package) (wbPath : String) (s : Node) : SheetV :=
  let name := (s.attr? "name".toList).getD []
  let state := str ((s.attr? "state".toList).getD "visible".toList)
  match (s.attr? "r:id".toList).bind (fun rid => (relsOf p wbPath).find? (fun (r : Rel) => r.id = str rid)) with
  | none => SheetV.mk name state [] [] [] [] [] [] false
  | some r =>
    let b := (decodeSheet p (resolveTarget wbPath r.target) (specSst p wbPath) (specNXf (specStylesRoot p wbPath)) (specNDxf (specStylesRoot p wbPath))).1
    SheetV.mk name state b.cells b.merges b.links b.cols b.rows b.tables b.noR

theorem decode_book (p : Package) (mr : Rel) (wb : Node)
    (h1 : (relsOf p "").find? (fun r => r.type.endsWith "/officeDocument") = some mr)
    (h2 : (p.part? (resolveTarget "" mr.target)).bind (·.xml) = some wb) :
    ∃ bv, (decode p).1 = some bv ∧
      bv.sheets = (((wb.kid? "sheets").map (·.kids "sheet")).getD []).map (specSheetOf p (resolveTarget "" mr.target)) ∧
      bv.names = (((wb.kid? "definedNames").map (·.kids "definedName")).getD []).map specName ∧
      bv.xfs = ((specStylesRoot p (resolveTarget "" mr.target)).map styleTable).getD [] := by
  unfold decode
  simp only [h1, h2]
  refine ⟨_, rfl, ?_, rfl, rfl⟩
  simp only [List.map_map]
  apply List.map_congr_left
  intro s _
  simp only [Function.comp, specSheetOf, specSst, specStylesRoot, specNXf, specNDxf]
  cases (s.attr? "r:id".toList).bind (fun rid => (relsOf p (resolveTarget "" mr.target)).find? (fun (r : Rel) => r.id = str rid)) <;> rfl

/-- what is compared of a sheet: name, state, the cells (`View`: column, row, kind, value, formula, style index) in document
    order, the resolved style facts of every `<c>` in document order, the merged ranges, the links -/
structure SheetView where
  name : Text
  state : String
  cells : List View
  facts : List StyleFacts
  merges : List Text
  links : List LinkView

/-- the view of a sheet as the reader model leaves it, resp. as the decoder gives it (with the style facts `facts`, which
    `SheetV` does not hold) -/
def viewR (sb : SheetB) : SheetView :=
  ⟨sb.sheet.name, str (sb.sheet.state.getD "visible".toList), sb.cells.map outView, sb.styles.map styleFacts,
    shownMerges sb.merges, sb.links.map linkViewR⟩

def viewS (sv : SheetV) (facts : List StyleFacts) : SheetView :=
  ⟨sv.name, sv.state, sv.cells.map specView, facts, sv.merges, sv.links.map linkViewS⟩

theorem sheets_cells_agree {ι : Type} {l : List ι} {sv : ι → SheetV} {facts : ι → List StyleFacts} {bs : List SheetB}
    {svs : List SheetV} (hs : svs = l.map sv) (hv : bs.map viewR = l.map fun se => viewS (sv se) (facts se)) :
    bs.length = svs.length ∧ ∀ (i : Nat) (h1 : i < bs.length) (h2 : i < svs.length),
      (bs[i]).cells.map outView = (svs[i]).cells.map specView := by
  subst hs
  have hc : bs.map (fun sb => sb.cells.map outView) = l.map (fun se => (sv se).cells.map specView) := by
    have := congrArg (List.map SheetView.cells) hv
    rwa [List.map_map, List.map_map] at this
  refine ⟨by simpa only [List.length_map] using congrArg List.length hc, fun i h1 h2 => ?_⟩
  have := List.getElem_of_eq hc (by rw [List.length_map]; exact h1)
  simpa only [List.getElem_map] using this

/-- the decoder's style facts of one `<c>`: through `cellXfs` by the cell's style index (18.3.1.4 `s`); a cell without `s`
    has no style of its own in the view (the library keeps `Style::default()`, the decoder's index is 0) -/
def specFacts (cf : Umya.StyleCodec.Tok → Umya.StyleCodec.Tok) (tab : List XfV) (sst : List Text) (c : Node) : StyleFacts :=
  match c.attr? "s".toList with
  | none => {}
  | some _ => ((tab[(decodeCell sst c).1.style]?).map (xfFacts cf)).getD {}

/-- every `<c>` of a worksheet root, in document order -/
def cellNodes (root : Node) : List Node := (((root.kid? "sheetData").map (·.kids "row")).getD []).flatMap (·.kids "c")

end Umya.Reader.Lemmas
