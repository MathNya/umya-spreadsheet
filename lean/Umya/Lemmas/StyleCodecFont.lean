/-
  Font: `Font::set_attributes (Font::write_to f) = norm f`, `norm` idempotent, and invisible through the getters for a colour in one form.
-/
import Umya.Lemmas.StyleCodec
namespace Umya.StyleCodec
open Umya.Spec.Xml (Node Attr)
open Umya.Dec

-- element and attribute names are compared as `String`s (`String.reduceEq`), not character by character
attribute [local simp] String.toList_inj
attribute [-simp] String.reduceToList

section FontSeg
variable (cf : Tok → Tok)

/-! `hacc` says the field is still unset in the accumulator: the reader overwrites it, so an absent element leaves `acc` equal to
  `{ acc with field := none }` only then. -/

theorem Font.seg_bold {b : Option Bool} {acc : Font} (hacc : acc.bold = none) :
    foldOpt (Font.step cf) (if b.getD false then [mkEl "b" [] []] else []) acc = some { acc with bold := normFlag b } := by
  cases h : b.getD false <;> simp [Font.step, mkEl, boolAttr, normFlag, h, ← hacc]

theorem Font.seg_italic {b : Option Bool} {acc : Font} (hacc : acc.italic = none) :
    foldOpt (Font.step cf) (if b.getD false then [mkEl "i" [] []] else []) acc = some { acc with italic := normFlag b } := by
  cases h : b.getD false <;> simp [Font.step, mkEl, boolAttr, normFlag, h, ← hacc]

theorem Font.seg_underline {u : Option Underline} {acc : Font} (hacc : acc.underline = none) :
    foldOpt (Font.step cf)
      (optEl u (fun u => mkEl "u" (if u.toStr = Underline.single.toStr then [] else [mkAttr "val" u.toStr.toList]) [])) acc =
      some { acc with underline := u } := by
  refine foldOpt_optEl (fun a o => { a with underline := o }) u acc (fun v _ => ?_) (by rw [← hacc])
  by_cases hv : v.toStr = Underline.single.toStr
  · simp [Font.step, mkEl, enumAttr, toStr_inj_of Underline.fromStr_toStr hv]
  · simp [Font.step, mkEl, enumAttr, hv, getAttr_mkAttr, Underline.fromStr_toStr]

theorem Font.seg_strike {b : Option Bool} {acc : Font} (hacc : acc.strike = none) :
    foldOpt (Font.step cf) (optEl b (fun b => mkEl "strike" (if b then [] else [mkAttr "val" (boolStr b)]) [])) acc =
      some { acc with strike := b } := by
  refine foldOpt_optEl (fun a o => { a with strike := o }) b acc (fun v _ => ?_) (by rw [← hacc])
  cases v <;> simp [Font.step, mkEl, boolAttr, getAttr_mkAttr]

theorem Font.seg_vert {u : Option VertRun} {acc : Font} (hacc : acc.vertAlign = none) :
    foldOpt (Font.step cf) (optEl u (fun v => mkEl "vertAlign" [mkAttr "val" v.toStr.toList] [])) acc =
      some { acc with vertAlign := u } :=
  foldOpt_optEl (fun a o => { a with vertAlign := o }) u acc
    (fun v _ => by simp [Font.step, mkEl, enumAttr, getAttr_mkAttr, VertRun.fromStr_toStr]) (by rw [← hacc])

theorem Font.seg_size {s : Option Tok} (hs : ∀ t, s = some t → cf t = t) {acc : Font} (hacc : acc.size = none) :
    foldOpt (Font.step cf) (optEl s (fun s => mkEl "sz" [mkAttr "val" s] [])) acc = some { acc with size := s } :=
  foldOpt_optEl (fun a o => { a with size := o }) s acc
    (fun v hv => by simp [Font.step, mkEl, getAttr_mkAttr, hs v hv]) (by rw [← hacc])

theorem Font.seg_name {s : Option Tok} {acc : Font} (hacc : acc.name = none) :
    foldOpt (Font.step cf) (optEl s (fun s => mkEl "name" [mkAttr "val" s] [])) acc = some { acc with name := s } :=
  foldOpt_optEl (fun a o => { a with name := o }) s acc
    (fun v _ => by simp [Font.step, mkEl, getAttr_mkAttr]) (by rw [← hacc])

theorem Font.seg_family {s : Option Int} (hs : ∀ z, s = some z → i32Range z) {acc : Font} (hacc : acc.family = none) :
    foldOpt (Font.step cf) (optEl s (fun z => mkEl "family" [mkAttr "val" (i32Str z)] [])) acc = some { acc with family := s } :=
  foldOpt_optEl (fun a o => { a with family := o }) s acc
    (fun v hv => by simp [Font.step, mkEl, getAttr_mkAttr, i32Of_i32Str v (hs v hv)]) (by rw [← hacc])

theorem Font.seg_charset {s : Option Int} (hs : ∀ z, s = some z → i32Range z) {acc : Font} (hacc : acc.charset = none) :
    foldOpt (Font.step cf) (optEl s (fun z => mkEl "charset" [mkAttr "val" (i32Str z)] [])) acc = some { acc with charset := s } :=
  foldOpt_optEl (fun a o => { a with charset := o }) s acc
    (fun v hv => by simp [Font.step, mkEl, getAttr_mkAttr, i32Of_i32Str v (hs v hv)]) (by rw [← hacc])

theorem Font.seg_scheme {u : Option FontScheme} {acc : Font} (hacc : acc.scheme = none) :
    foldOpt (Font.step cf) (optEl u (fun v => mkEl "scheme" [mkAttr "val" v.toStr.toList] [])) acc =
      some { acc with scheme := u } :=
  foldOpt_optEl (fun a o => { a with scheme := o }) u acc
    (fun v _ => by simp [Font.step, mkEl, enumAttr, getAttr_mkAttr, FontScheme.fromStr_toStr]) (by rw [← hacc])

theorem Font.seg_color {c : Color} (h : c.Range cf) {acc : Font} (hacc : acc.color = {}) :
    foldOpt (Font.step cf) (c.write "color") acc = some { acc with color := c.norm } := by
  apply Color.write_fold cf "color" c h (Font.step cf) acc (fun a c => { a with color := c })
  · intro as
    simp [Font.step, mkEl, hacc]
  · intro _; rw [← hacc]

theorem Font.read_write (f : Font) (h : f.Range cf) : Font.read cf f.write = some f.norm := by
  obtain ⟨hsz, hfam, hcs, hcol⟩ := h
  simp only [Font.read, Font.write, children_mkEl, Font.kids, List.append_assoc]
  rw [foldOpt_append, Font.seg_bold cf rfl, Option.bind_some, foldOpt_append, Font.seg_italic cf rfl, Option.bind_some,
    foldOpt_append, Font.seg_underline cf rfl, Option.bind_some, foldOpt_append, Font.seg_strike cf rfl, Option.bind_some,
    foldOpt_append, Font.seg_vert cf rfl, Option.bind_some, foldOpt_append, Font.seg_size cf hsz rfl, Option.bind_some,
    foldOpt_append, Font.seg_color cf hcol rfl, Option.bind_some, foldOpt_append, Font.seg_name cf rfl, Option.bind_some,
    foldOpt_append, Font.seg_family cf hfam rfl, Option.bind_some, foldOpt_append, Font.seg_charset cf hcs rfl,
    Option.bind_some, Font.seg_scheme cf rfl]
  rfl

end FontSeg

theorem Font.norm_idem (f : Font) : f.norm.norm = f.norm := by
  simp [Font.norm, normFlag_idem, Color.norm_idem]

theorem Font.norm_range (cf : Tok → Tok) (f : Font) (h : f.Range cf) : f.norm.Range cf := by
  obtain ⟨h1, h2, h3, h4⟩ := h
  exact ⟨h1, h2, h3, Color.norm_range cf _ h4⟩

theorem Font.norm_oneForm (f : Font) : f.norm.color.OneForm = true := Color.norm_oneForm f.color

theorem Font.eff_norm (f : Font) (h : f.color.OneForm = true) : f.norm.eff = f.eff := by
  simp [Font.norm, Font.eff, normFlag_getD, Color.norm_of_oneForm _ h]

end Umya.StyleCodec
