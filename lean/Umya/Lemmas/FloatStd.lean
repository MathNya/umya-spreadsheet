/-
  The standard model of IEEE-754 binary64 arithmetic (round to nearest), as HYPOTHESES on an instance
  of the model's float interface `Umya.Date.FloatOps F`, and the absolute-error form of each operation
  under those hypotheses (`add_abs` … `div_abs`, `ofInt_ok`, `toInt_int`).

  `StdModel F val fin`:  `val : F → ℚ` is the number a float stands for, `fin a` says that `a` is a
  finite float (not NaN, not ±∞).  For finite arguments, and as long as the exact result does not
  exceed `big = 2¹⁰²³` in magnitude (no overflow):
    * `add`, `sub` return a finite float whose value is the exact result times `1 + δ`, `|δ| ≤ u = 2⁻⁵³`;
    * `mul`, `div` return a finite float whose value is the exact result times `1 + δ` plus `η`,
      `|δ| ≤ u`, `|η| ≤ eta = 2⁻¹⁰⁷⁴` (`η` is the absolute error of a result in the subnormal range;
      the plain standard model `η = 0` is the special case "no underflow");
    * `floor`, `round` (half away from zero) are exact on the represented value and finite;
    * `ofInt n` is finite and exact for `|n| ≤ 2⁵³`;
    * `lt` is the order of the values; `toInt` (`as i64`) is truncation for `|value| ≤ 2⁵³`.
  Nothing here says that Lean's native `Float` (or Rust's `f64`) satisfies `StdModel`: `Float` is opaque
  to the kernel.  That link is an assumption (IEEE-754 conformance of the hardware/libm operations
  `+ - * / floor round`, conversion from `i32` and to `i64`), recorded in tools/props.d/C18.py.

  The hypotheses used are weaker than the textbook "every operation is exact times (1+δ)": an instance
  whose `add sub mul div` are exact times `(1 + δ)` for all arguments, the other operations exact, satisfies
  `StdModel` with `fin := fun _ => True` and `η := 0`.

  Mathlib is imported here (ℚ as an ordered field, `Int.floor`, `linarith`); no model / driver file
  imports this module.
-/
import Umya.Model.Date
import Mathlib.Data.Rat.Floor
import Mathlib.Tactic.Linarith
import Mathlib.Tactic.NormNum
namespace Umya.Lemmas.FloatStd
open Umya.Date Umya.Date.FloatOps

/-- unit roundoff of binary64, `2⁻⁵³` -/
def u : ℚ := 1 / 2 ^ 53
/-- bound on the absolute error of a product / quotient that falls into the subnormal range
    (the spacing of subnormals, `2⁻¹⁰⁷⁴`; half of it would do) -/
def eta : ℚ := 1 / 2 ^ 1074
/-- results up to this magnitude do not overflow (`2¹⁰²³` < largest finite binary64) -/
def big : ℚ := 2 ^ 1023

theorem u_pos : 0 < u := by unfold u; norm_num
theorem u_le : u ≤ 1 / 2 ^ 53 := le_of_eq rfl
theorem u_val : u = 1 / 9007199254740992 := by unfold u; norm_num
theorem eta_nonneg : 0 ≤ eta := by unfold eta; positivity
theorem eta_le_u : eta ≤ u := by
  unfold eta u
  apply one_div_le_one_div_of_le (by positivity)
  exact pow_le_pow_right₀ (by norm_num) (by norm_num)
theorem big_ge : (2 : ℚ) ^ 53 ≤ big := by
  unfold big
  exact pow_le_pow_right₀ (by norm_num) (by norm_num)

structure StdModel (F : Type) [FloatOps F] (val : F → ℚ) (fin : F → Prop) : Prop where
  ofInt_exact : ∀ n : Int, |(n : ℚ)| ≤ 2 ^ 53 → fin (ofInt n : F) ∧ val (ofInt n : F) = n
  add_err : ∀ a b : F, fin a → fin b → |val a + val b| ≤ big →
    fin (add a b) ∧ ∃ δ : ℚ, |δ| ≤ u ∧ val (add a b) = (val a + val b) * (1 + δ)
  sub_err : ∀ a b : F, fin a → fin b → |val a - val b| ≤ big →
    fin (sub a b) ∧ ∃ δ : ℚ, |δ| ≤ u ∧ val (sub a b) = (val a - val b) * (1 + δ)
  mul_err : ∀ a b : F, fin a → fin b → |val a * val b| ≤ big →
    fin (mul a b) ∧ ∃ δ η : ℚ, |δ| ≤ u ∧ |η| ≤ eta ∧ val (mul a b) = (val a * val b) * (1 + δ) + η
  div_err : ∀ a b : F, fin a → fin b → val b ≠ 0 → |val a / val b| ≤ big →
    fin (div a b) ∧ ∃ δ η : ℚ, |δ| ≤ u ∧ |η| ≤ eta ∧ val (div a b) = (val a / val b) * (1 + δ) + η
  floor_exact : ∀ a : F, fin a → fin (floor a) ∧ val (floor a) = (⌊val a⌋ : ℚ)
  round_exact : ∀ a : F, fin a → fin (round a) ∧ val (round a) = (ratRound (val a) : ℚ)
  lt_exact : ∀ a b : F, fin a → fin b → (lt a b = true ↔ val a < val b)
  toInt_exact : ∀ a : F, fin a → |val a| ≤ 2 ^ 53 → toInt a = ratTrunc (val a)

/-- Correct rounding, the part that the error bounds do not imply: an operation whose exact result is
    itself (the value of) a finite float returns that value.  Needed only at 1900-01-01T00:00:00
    (serial exactly `1`, the threshold of the base-date comparison `excel_timestamp < 1`). -/
structure ExactRepr (F : Type) [FloatOps F] (val : F → ℚ) (fin : F → Prop) : Prop where
  add_exact : ∀ a b c : F, fin a → fin b → fin c → val a + val b = val c → val (add a b) = val c
  div_exact : ∀ a b c : F, fin a → fin b → fin c → val b ≠ 0 → val a / val b = val c →
    val (div a b) = val c

theorem ratRound_eq (y : ℚ) (n : ℤ) (h : |y - n| < 1 / 2) : ratRound y = n := by
  obtain ⟨h1, h2⟩ := abs_lt.1 h
  unfold ratRound
  split
  · show ⌊y + 1 / 2⌋ = n
    rw [Int.floor_eq_iff]; constructor <;> linarith
  · have : ⌊-y + 1 / 2⌋ = -n := by
      rw [Int.floor_eq_iff]; push_cast; constructor <;> linarith
    show -⌊-y + 1 / 2⌋ = n
    rw [this]; simp

theorem ratTrunc_int (n : ℤ) : ratTrunc (n : ℚ) = n := by
  unfold ratTrunc
  split
  · show ⌊(n : ℚ)⌋ = n
    exact Int.floor_intCast n
  · show -⌊-(n : ℚ)⌋ = n
    have : -(n : ℚ) = ((-n : ℤ) : ℚ) := by push_cast; ring
    rw [this, Int.floor_intCast]; simp

theorem rel_to_abs {x v B : ℚ} (hx : |x| ≤ B) (h : ∃ δ : ℚ, |δ| ≤ u ∧ v = x * (1 + δ)) : |v - x| ≤ B * u := by
  obtain ⟨δ, hδ, rfl⟩ := h
  have e : x * (1 + δ) - x = x * δ := by ring
  rw [e, abs_mul]
  exact mul_le_mul hx hδ (abs_nonneg _) (le_trans (abs_nonneg _) hx)

theorem rel_abs_to_abs {x v B : ℚ} (hx : |x| ≤ B)
    (h : ∃ δ η : ℚ, |δ| ≤ u ∧ |η| ≤ eta ∧ v = x * (1 + δ) + η) : |v - x| ≤ B * u + eta := by
  obtain ⟨δ, η, hδ, hη, rfl⟩ := h
  have e : x * (1 + δ) + η - x = (x * (1 + δ) - x) + η := by ring
  rw [e]
  exact (abs_add_le _ _).trans (add_le_add (rel_to_abs hx ⟨δ, hδ, rfl⟩) hη)

section ops
variable {F : Type} [FloatOps F] {val : F → ℚ} {fin : F → Prop}

theorem add_abs (h : StdModel F val fin) {a b : F} (fa : fin a) (fb : fin b) {B : ℚ}
    (hB : |val a + val b| ≤ B) (hb : B ≤ big) :
    fin (add a b) ∧ |val (add a b) - (val a + val b)| ≤ B * u :=
  (h.add_err a b fa fb (le_trans hB hb)).imp_right (rel_to_abs hB)

theorem sub_abs (h : StdModel F val fin) {a b : F} (fa : fin a) (fb : fin b) {B : ℚ}
    (hB : |val a - val b| ≤ B) (hb : B ≤ big) :
    fin (sub a b) ∧ |val (sub a b) - (val a - val b)| ≤ B * u :=
  (h.sub_err a b fa fb (le_trans hB hb)).imp_right (rel_to_abs hB)

theorem mul_abs (h : StdModel F val fin) {a b : F} (fa : fin a) (fb : fin b) {B : ℚ}
    (hB : |val a * val b| ≤ B) (hb : B ≤ big) :
    fin (mul a b) ∧ |val (mul a b) - val a * val b| ≤ B * u + eta :=
  (h.mul_err a b fa fb (le_trans hB hb)).imp_right (rel_abs_to_abs hB)

theorem div_abs (h : StdModel F val fin) {a b : F} (fa : fin a) (fb : fin b) (hb0 : val b ≠ 0) {B : ℚ}
    (hB : |val a / val b| ≤ B) (hb : B ≤ big) :
    fin (div a b) ∧ |val (div a b) - val a / val b| ≤ B * u + eta :=
  (h.div_err a b fa fb hb0 (le_trans hB hb)).imp_right (rel_abs_to_abs hB)

/-- the bound `2⁵³` of `ofInt_exact` and `toInt_exact` from integer literals -/
theorem abs_cast_le (n : ℤ) (h0 : -9007199254740992 ≤ n) (h1 : n ≤ 9007199254740992) : |(n : ℚ)| ≤ 2 ^ 53 := by
  have a0 : (-9007199254740992 : ℚ) ≤ n := by exact_mod_cast h0
  have a1 : (n : ℚ) ≤ 9007199254740992 := by exact_mod_cast h1
  exact abs_le.2 ⟨by norm_num; linarith, by norm_num; linarith⟩

theorem ofInt_ok (h : StdModel F val fin) (n : ℤ) (h0 : -9007199254740992 ≤ n) (h1 : n ≤ 9007199254740992) :
    fin (ofInt n : F) ∧ val (ofInt n : F) = n :=
  h.ofInt_exact n (abs_cast_le n h0 h1)

theorem toInt_int (h : StdModel F val fin) {a : F} (fa : fin a) {n : ℤ} (v : val a = n)
    (h0 : -9007199254740992 ≤ n) (h1 : n ≤ 9007199254740992) : toInt a = n := by
  rw [h.toInt_exact a fa (by rw [v]; exact abs_cast_le n h0 h1), v]
  exact ratTrunc_int n

end ops

end Umya.Lemmas.FloatStd
