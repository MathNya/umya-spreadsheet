/-
  The relationships of a sheet of `Umya/Model/PackageNodeCmt.lean` as the decoder reads them (`relsOf`): its hyperlink
  relationships followed, when it has comments, by the vmlDrawing and comments relationships with the next two ids.
-/
import Umya.Lemmas.PackageNodeCmtParts
import Umya.Lemmas.PackageNodeRels
namespace Umya.PackageNode
open Umya.Xml Umya.CellXml Umya.CellNode Umya.SheetNode Umya.WorkbookNode Umya.Dec
open Umya.Spec.Xml (Node Attr localName)
open Umya.Spec.Sml

/-- the records of the relationships after the hyperlink ones, `k` = the counter after the hyperlink loop -/
def cmtRecs (k : Nat) : Option (Nat × Nat) → List Rel
  | none => []
  | some (v, c) => [relRec k tVml (vmlTarget v), relRec (k + 1) tComments (commentsTarget c)]

theorem restOf_recs (links : List LinkW) (num : Option (Nat × Nat)) :
    ((restOf links num).filter (isKid nRelationship)).map relOf = cmtRecs (hlNext 1 links) num := by
  cases num with
  | none => rfl
  | some vc =>
    obtain ⟨v, c⟩ := vc
    simp [restOf, cmtRelNodes, cmtRecs, isKid_relEl, relOf_relEl]

theorem cmtRecs_ids (k : Nat) : ∀ num, ∃ m, (cmtRecs k num).map (·.id) = (List.range' k m).map (fun i => str (rIdText i))
  | none => ⟨0, rfl⟩
  | some _ => ⟨2, rfl⟩

theorem find_after_links (ls : List LinkW) (rest : List Rel) (m : Nat)
    (hm : rest.map (·.id) = (List.range' (hlNext 1 ls) m).map (fun i => str (rIdText i))) (r : Rel) (hr : r ∈ rest) :
    (relRecs 1 ls ++ rest).find? (fun (x : Rel) => x.id = r.id) = some r := by
  have hnd := rids_nodup _ (List.nodup_range' (s := 1) (n := hlNext 1 ls - 1 + m) (step := 1))
  rw [← ids_after_links ls _ m hm] at hnd
  exact find?_key_of_nodup Rel.id _ hnd _ (List.mem_append_right _ hr)

section
variable {F : Umya.Num.NumFmt}
variable {b : BookC F.Num} {cmt : List Part} {tbl : Table} {sst : List Part} (hb : Built F b cmt tbl sst) (hs : Bool) (roots : List Node)
include hb

theorem relsOfC_sheet (k : Nat) (hk : 1 ≤ k) (s : SheetC F.Num) (num : Option (Nat × Nat)) (hsk : (annotate b.sheets)[k - 1]? = some (s, num)) :
    relsOf (piecesC F b hs roots cmt sst).pkg (String.ofList (sheetPartL k)) = relRecs 1 s.sheet.links ++ cmtRecs (hlNext 1 s.sheet.links) num := by
  rw [← restOf_recs]
  exact (Pieces.relsOf_sheet (piecesC_ok hb hs roots) k hk _ _ (by show (relsInput _)[k - 1]? = _; rw [relsInput, List.getElem?_map, hsk]; rfl)).2

end
end Umya.PackageNode
