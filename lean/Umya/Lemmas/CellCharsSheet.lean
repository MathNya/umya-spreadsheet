/-
  C01 at tree level, one worksheet and a workbook of n worksheets: the `<c>` elements C01's tree reader finds in
  the rendered `<worksheet>` (`Umya/Model/SheetNode.lean::renderSheet`: row loop, opaque frame) are the renderings
  of the facts `writeCells` produces for the sheet's cells, in order; the table threaded through the sheets of a
  workbook (`renderSheetsP`) is the one `writeSheets` builds.
-/
import Umya.Lemmas.CellCharsSst
import Umya.Lemmas.SheetNodeDecode
import Umya.Lemmas.SheetNodeCells
import Umya.Lemmas.BookRoundTrip
import Umya.Model.PackageNode
import Umya.Lemmas.XmlWriteParse
namespace Umya.CellTree
open Umya.Xml Umya.CellXml Umya.CellNode Umya.SheetNode Umya.Num Umya.Coord Umya.Dec Umya.InternC01
open Umya.Spec.Xml (Node Attr localName)

section
variable (F : NumFmt)

theorem writeCells_readCellsN (hF : F.Sound) (cs : List (Cell F.Num)) :
    ∀ (tbl : Table), (∀ c ∈ cs, cellOK F c = true ∧ charsOK F c = true) →
    ∃ tbl' xs, writeCells F tbl cs = some (tbl', xs) ∧
      (∃ ext, tbl' = tbl ++ ext ∧ ∀ it ∈ ext, ItemOK it) ∧
      ∀ xf : Text → Nat, ∃ nodes, renderCells xf xs = some nodes ∧
        ∀ sst : Table, sst.length < 18446744073709551616 → Extends sst tbl' →
          mapOpt (readCellN F sst) nodes = some ((cs.filter (keep F)).map (Cell.resolved F)) := by
  induction cs with
  | nil =>
    intro tbl _
    exact ⟨tbl, [], rfl, ⟨[], by simp, by simp⟩, fun _ => ⟨[], rfl, fun _ _ _ => rfl⟩⟩
  | cons c cs ih =>
    intro tbl h
    obtain ⟨t1, ox, hw, hg1, hblank, hkeep⟩ := writeTo_readCellN F hF tbl c (h c (by simp)).1 (h c (by simp)).2
    obtain ⟨t2, xs, hws, hg2, hrd⟩ := ih t1 (fun d hd => h d (by simp [hd]))
    refine ⟨t2, consOpt ox xs, by simp [writeCells, hw, hws], grows_trans hg1 hg2, fun xf => ?_⟩
    obtain ⟨nodes, hn, hr⟩ := hrd xf
    cases hb : blankUnstyled F c with
    | true =>
      rw [hblank hb]
      refine ⟨nodes, hn, fun sst hlen hx => ?_⟩
      simp only [List.filter_cons, keep, hb, Bool.not_true, Bool.false_eq_true, if_false]
      exact hr sst hlen hx
    | false =>
      obtain ⟨x, hox, hrx⟩ := hkeep hb
      obtain ⟨node, hnode, hread⟩ := hrx (xf x.ref)
      rw [hox]
      refine ⟨node :: nodes, by simp only [consOpt, renderCells, mapOpt, hnode]; rw [← renderCells, hn], fun sst hlen hx => ?_⟩
      simp only [mapOpt, hread sst hlen (hx.of_grows hg2), hr sst hlen hx, List.filter_cons, keep, hb, Bool.not_false, if_true,
        List.map_cons]

theorem rowNodes_cells {N} (xf : Text → Nat) (ws : List (RowX N)) (rowNodes : List Node)
    (h : mapOpt (rowNode xf) ws = some rowNodes) :
    rowNodes.filter (isKid nRow) = rowNodes ∧
    ∃ nodes, renderCells xf (ws.flatMap (·.xs)) = some nodes ∧
      rowNodes.flatMap (fun r => r.children.filter (isKid ['c'])) = nodes := by
  replace h := mapOpt_some.1 h
  induction h with
  | nil => exact ⟨rfl, [], rfl, rfl⟩
  | @cons _ w _ _ hw _ ih =>
    obtain ⟨h1, nodes, h2, h3⟩ := ih
    simp only [rowNode, Option.map_eq_some_iff] at hw
    obtain ⟨cn, hcn, rfl⟩ := hw
    have hk : isKid nRow (Node.elem nRow (rowAttrs w.row w.cells) cn) = true := by rw [isKid_elem]; decide
    refine ⟨by simp [hk, h1], cn ++ nodes, ?_, ?_⟩
    · rw [renderCells, mapOpt_eq_mapM] at hcn h2 ⊢
      rw [List.flatMap_cons, List.mapM_append, hcn, h2]; rfl
    · rw [List.flatMap_cons, h3]
      show List.filter (isKid ['c']) cn ++ nodes = cn ++ nodes
      rw [kids_c_all cn (renderCells_isC xf w.xs cn hcn)]

theorem lit_row : "row".toList = nRow := rfl
theorem lit_c : "c".toList = ['c'] := rfl

theorem renderSheet_sheetCells (xf : Text → Nat) (fr : Frame) (tbl : Table) (s : SheetW F.Num)
    (tbl' : Table) (root : Node) (h : renderSheet F xf fr tbl s = some (tbl', root)) (hfr : fr.ok = true) :
    ∃ ws, writeRows F tbl (rowGroups s.rows s.cells) = some (tbl', ws) ∧
      renderCells xf (ws.flatMap (·.xs)) = some (sheetCells root) := by
  obtain ⟨ws, sd, hw, hsd, hroot⟩ := renderSheet_inv F xf fr tbl s tbl' root h
  obtain ⟨rowNodes, hrn, rfl⟩ := Option.map_eq_some_iff.1 hsd
  obtain ⟨hrows, nodes, hnodes, hflat⟩ := rowNodes_cells xf ws rowNodes hrn
  refine ⟨ws, hw, ?_⟩
  have fsd : lastKid root "sheetData" = some (Node.elem nSheetData [] rowNodes) := by
    rw [hroot]
    show (kidsL (worksheetNode _ _ _ _) nSheetData).getLast? = _
    -- 5: the place of `<sheetData>` in the schema order of `<worksheet>`'s children (`idx_sheetData`)
    rw [kidsL_worksheet fr hfr _ _ _ _ 5 idx_sheetData]; rfl
  rw [hnodes]
  congr 1
  unfold sheetCells
  simp only [fsd, Option.map_some, Option.getD_some, kids_eq, lit_row, lit_c, Node.children, hrows]
  exact hflat.symm

theorem cellOK_of_wf (s : SheetW F.Num) (hwf : s.WF) (c : Cell F.Num) (hc : c ∈ s.cells)
    (hv : rawOK F c.raw = true) : cellOK F c = true := by
  obtain ⟨h1, h2⟩ := hwf.cellsIn c hc
  obtain ⟨r, hr, hrn⟩ := List.mem_map.1 (hwf.rowKnown c hc)
  obtain ⟨h3, h4⟩ := hwf.rowsIn r hr
  exact (cellOK_iff F).2 ⟨⟨h1, h2, by omega, by omega⟩, hv⟩

theorem renderSheet_readSheetN (hF : F.Sound) (xf : Text → Nat) (fr : Frame) (tbl : Table) (s : SheetW F.Num) (hwf : s.WF)
    (hval : ∀ c ∈ s.cells, rawOK F c.raw = true ∧ charsOK F c = true)
    (tbl' : Table) (root : Node) (h : renderSheet F xf fr tbl s = some (tbl', root)) (hfr : fr.ok = true) :
    (∃ xs, writeCells F tbl s.cells = some (tbl', xs)) ∧
    (∃ ext, tbl' = tbl ++ ext ∧ ∀ it ∈ ext, ItemOK it) ∧
    ∀ sst : Table, sst.length < 18446744073709551616 → Extends sst tbl' →
      readSheetN F sst root = some ((s.cells.filter (keep F)).map (Cell.resolved F)) := by
  obtain ⟨ws, hw, hcells⟩ := renderSheet_sheetCells F xf fr tbl s tbl' root h hfr
  obtain ⟨hwc, _⟩ := writeRows_eq_writeCells F _ tbl tbl' ws hw
  rw [rowGroups_cells F s hwf] at hwc
  obtain ⟨t2, xs, hws, hext, hrd⟩ := writeCells_readCellsN F hF s.cells tbl
    (fun c hc => ⟨cellOK_of_wf F s hwf c hc (hval c hc).1, (hval c hc).2⟩)
  rw [hwc] at hws
  cases hws
  refine ⟨⟨_, hwc⟩, hext, fun sst hlen hx => ?_⟩
  obtain ⟨nodes, hn, hr⟩ := hrd xf
  rw [hcells] at hn
  cases hn
  exact hr sst hlen hx

open Umya.PackageNode in
/-- the cells of the sheets of a workbook, as C01's writer takes them -/
def cellsOfP (ss : List (Umya.PackageNode.SheetP F.Num)) : List (List (Cell F.Num)) := ss.map (·.sheet.cells)

/-- the hypotheses per sheet: well-formed (C10's coherence + grid), frame children in schema order, values covered -/
def SheetsOK (ss : List (Umya.PackageNode.SheetP F.Num)) : Prop :=
  ∀ p ∈ ss, p.sheet.WF ∧ p.frame.ok = true ∧
    ∀ c ∈ p.sheet.cells, rawOK F c.raw = true ∧ charsOK F c = true

open Umya.PackageNode in
theorem renderSheetsP_readSheets (hF : F.Sound) : ∀ (ss : List (SheetP F.Num)) (tbl : Table), SheetsOK F ss →
    ∀ (T : Table) (roots : List Node), renderSheetsP F tbl ss = some (T, roots) →
      (∃ xss, writeSheets F tbl (cellsOfP F ss) = some (T, xss)) ∧
      (∃ ext, T = tbl ++ ext ∧ ∀ it ∈ ext, ItemOK it) ∧
      ∀ sst : Table, sst.length < 18446744073709551616 → Extends sst T →
        mapOpt (readSheetN F sst) roots = some (normalize F (cellsOfP F ss))
  | [], tbl, _, T, roots, h => by
    simp only [renderSheetsP] at h
    cases h
    exact ⟨⟨[], rfl⟩, ⟨[], by simp, by simp⟩, fun _ _ _ => rfl⟩
  | p :: ss, tbl, hok, T, roots, h => by
    simp only [renderSheetsP] at h
    cases h1 : renderSheet F p.xf p.frame tbl p.sheet with
    | none => simp [h1] at h
    | some q =>
      obtain ⟨t1, root⟩ := q
      cases h2 : renderSheetsP F t1 ss with
      | none => simp [h1, h2] at h
      | some q2 =>
        obtain ⟨t2, rs⟩ := q2
        simp only [h1, h2] at h
        cases h
        obtain ⟨hwf, hfr, hval⟩ := hok p (by simp)
        obtain ⟨⟨xs, hxs⟩, hg1, hr1⟩ := renderSheet_readSheetN F hF p.xf p.frame tbl p.sheet hwf hval t1 root h1 hfr
        obtain ⟨⟨xss, hxss⟩, hg2, hr2⟩ :=
          renderSheetsP_readSheets hF ss t1 (fun p' hp' => hok p' (by simp [hp'])) T rs h2
        refine ⟨⟨xs :: xss, by simp [cellsOfP, writeSheets, hxs] at hxss ⊢; simp [hxss]⟩, grows_trans hg1 hg2,
          fun sst hlen hx => ?_⟩
        simp only [mapOpt, hr1 sst hlen (hx.of_grows hg2), hr2 sst hlen hx, cellsOfP, List.map_cons, normalize_cons]

theorem readSheetN_facts (sst : Table) (root : Node) : mapOpt (readCell F sst) (sheetFacts root) = readSheetN F sst root := by
  unfold sheetFacts readSheetN
  rw [mapOpt_eq_mapM, List.mapM_map, ← mapOpt_eq_mapM]
  rfl

theorem readBook_facts (sst : Table) (roots : List Node) :
    mapOpt (mapOpt (readCell F sst)) (roots.map sheetFacts) = mapOpt (readSheetN F sst) roots := by
  rw [mapOpt_eq_mapM, List.mapM_map, ← mapOpt_eq_mapM]
  congr 1
  funext r
  exact readSheetN_facts F sst r

open Umya.PackageNode in
theorem renderSheetsP_readBookN (hF : F.Sound) (ss : List (SheetP F.Num)) (hok : SheetsOK F ss)
    (T : Table) (roots : List Node) (h : renderSheetsP F [] ss = some (T, roots))
    (hlen : T.length < 18446744073709551616) (sstRoot : Option Node)
    (hs : match sstRoot with
          | some r => ∃ as, r = Node.elem ['s', 's', 't'] as (T.map siElem)
          | none => T = []) :
    readBookN F sstRoot roots = some ((normalize F (cellsOfP F ss)).map (·.map (eraseFonts F))) := by
  obtain ⟨_, hg, hr⟩ := renderSheetsP_readSheets F hF ss [] hok T roots h
  have hall : ∀ it ∈ T, ItemOK it := all_of_grows (by simp) hg
  have hsst : mapOpt readSi (bookFacts sstRoot roots).sst = some (T.map eraseItem) := by
    cases sstRoot with
    | none => simp only at hs; subst hs; rfl
    | some r =>
      obtain ⟨as, rfl⟩ := hs
      exact readSstN_root as T hall
  unfold readBookN readBook
  rw [hsst]
  simp only [Option.bind_some, bookFacts, readBook_facts]
  have := mapOpt_map_result (readSheetN F T) (fun l => l.map (eraseFonts F)) (readSheetN F (T.map eraseItem))
    (fun r => readSheetN_erase F T r) roots
  rw [this, hr T hlen (fun _ _ hi => hi)]
  rfl

end

section
open Umya.XmlWrite
/-- the shared-strings part of a save whose final table is `T`: absent for an empty table; otherwise any tree of
    writer calls (element, `WF`: XML `Char`s …) that means `<sst …>` with the rendered items of `T` -/
def SstWritten (T : Table) : Option WNode → Prop
  | none => T = []
  | some wS => isElemW wS = true ∧ WF wS = true ∧ ∃ as, normNode (erase wS) = Node.elem ['s', 's', 't'] as (T.map siElem)

theorem sst_chars (T : Table) (hall : ∀ it ∈ T, ItemOK it) (sstW : Option WNode) (hs : SstWritten T sstW) :
    readSstChars (sstW.map renderDoc) = some (T.map eraseItem) := by
  cases sstW with
  | none => simp only [SstWritten] at hs; subst hs; rfl
  | some wS =>
    obtain ⟨h1, h2, as, h3⟩ := hs
    simp only [Option.map_some, readSstChars, parse_renderDoc wS h1 h2, h3, Option.bind_some]
    exact readSstN_root as T hall

/-- the parts of a save of n sheets: the i-th worksheet part is ANY tree of writer calls that means the i-th
    rendered `<worksheet>` (element, `WF`) -/
def SheetsWritten : List Node → List WNode → Prop
  | [], [] => True
  | root :: roots, w :: ws => isElemW w = true ∧ WF w = true ∧ normNode (erase w) = root ∧ SheetsWritten roots ws
  | _, _ => False

theorem parseAll_written : ∀ (roots : List Node) (ws : List WNode), SheetsWritten roots ws →
    parseAll (ws.map renderDoc) = some roots
  | [], [], _ => rfl
  | root :: roots, w :: ws, h => by
    obtain ⟨h1, h2, h3, h4⟩ := h
    simp only [List.map_cons, parseAll, parse_renderDoc w h1 h2, h3, parseAll_written roots ws h4, Option.map_some]
  | [], _ :: _, h => by simp [SheetsWritten] at h
  | _ :: _, [], h => by simp [SheetsWritten] at h

end

end Umya.CellTree
