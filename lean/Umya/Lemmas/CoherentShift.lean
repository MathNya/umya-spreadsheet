import Umya.Lemmas.Coherent
import Umya.Spec.Grid
namespace Umya.Sheet
open Umya.Coord (Res)
open Umya.Spec.Grid (insertSrc removeSrc)

theorem adjIns_zero (num root : Nat) : adjIns num root 0 = num := if_neg fun h => h.2 rfl

theorem adjInsV_eq {num root off : Nat} (h : off ≠ 0) : adjInsV num root off = adjIns num root off := by
  simp [adjInsV, adjIns, h]

theorem adjIns_eq_iff (y p n x : Nat) : adjIns y p n = x ↔ insertSrc p n x = some y := by
  unfold adjIns insertSrc
  constructor
  · rintro rfl
    split
    · rw [if_neg (by omega), if_neg (by omega), Nat.add_sub_cancel]
    · by_cases hy : y < p
      · rw [if_pos hy]
      · rw [if_neg hy, if_neg (by omega)]; exact congrArg some (by omega)
  · intro h
    split at h
    · cases h; rw [if_neg (by omega)]
    · split at h
      · cases h
      · cases h; split <;> omega

/-- total companion of `adjRem` -/
def adjRemT (num root off : Nat) : Nat := if num < root then num else num - off

theorem adjRemT_zero (x root : Nat) : adjRemT x root 0 = x := by
  unfold adjRemT; split <;> rfl

theorem adjRem_eq (x root off : Nat) :
    adjRem x root off = if root ≤ x ∧ x < off then .panic else .ok (adjRemT x root off) := by
  unfold adjRem adjRemT
  by_cases h : x ≥ root ∧ off ≠ 0
  · rw [if_pos h, if_neg (Nat.not_lt.2 h.1)]
    by_cases ho : off ≤ x
    · rw [if_pos ho, if_neg (by omega)]
    · rw [if_neg ho, if_pos (by omega)]
  · rw [if_neg h, if_neg (by omega)]
    exact congrArg _ (by split <;> omega)

theorem adjRemV_eq {x root off : Nat} (h : off ≠ 0) : adjRemV x root off = adjRem x root off := by
  simp [adjRemV, adjRem, h]

theorem isRem_eq (x root off : Nat) : isRem x root off = decide (root ≠ 0 ∧ root ≤ x ∧ x < root + off) := by
  unfold isRem
  by_cases h : root ≠ 0 ∧ off ≠ 0
  · rw [if_pos h]; exact decide_eq_decide.2 (by omega)
  · rw [if_neg h]; exact (decide_eq_false (by omega)).symm

theorem isRem_root_zero (x off : Nat) : isRem x 0 off = false := rfl

theorem isRem_removeSrc (root off z : Nat) : isRem (removeSrc root off z) root off = false := by
  rw [isRem_eq, decide_eq_false_iff_not]
  exact fun h => Umya.Spec.Grid.removeSrc_outside root off z h.2

theorem isRemV_eq {x root off : Nat} (h : off ≠ 0) :
    isRemV x root off = .ok (decide (root ≤ x ∧ x < root + off)) := by
  unfold isRemV
  by_cases hn : x ≥ root
  · rw [if_pos hn, if_pos (by omega)]; exact congrArg _ (decide_eq_decide.2 (by omega))
  · rw [if_neg hn]; exact congrArg _ (decide_eq_false (by omega)).symm

/-- in the form `relocate` asks for: `P x = true`, and the source an `Option` -/
theorem adjRemT_src {x root off : Nat} (h : (!decide (root ≤ x ∧ x < root + off)) = true) (z : Nat) :
    adjRemT x root off = z ↔ some (removeSrc root off z) = some x := by
  rw [Option.some.injEq]
  exact eq_comm.trans (Umya.Spec.Grid.removeSrc_eq_iff (of_decide_eq_false (Bool.not_eq_true' _ ▸ h)) z).symm

/-!
  The cells pass differs from the row table and the column list only at `root = 0`:
  `is_remove_coordinate` then keeps every cell, and the cells below `off` underflow. -/

theorem outside_of_kept {x root off : Nat} (hk : isRem x root off = false) (hu : ¬ (root ≤ x ∧ x < off)) :
    ¬ (root ≤ x ∧ x < root + off) := by
  rw [isRem_eq, decide_eq_false_iff_not] at hk; omega

theorem underflow_iff_of_kept {x root off : Nat} (hk : isRem x root off = false) :
    (root ≤ x ∧ x < off) ↔ (root = 0 ∧ x < off) := by
  rw [isRem_eq, decide_eq_false_iff_not] at hk; omega

/-- first pass of `Rows::` / `Columns::adjustment_remove_value` -/
theorem flagPass_eq {α} (num : α → Nat) (l : List α) (root off : Nat) (hoff : off ≠ 0) :
    mapRes (fun c => (isRemV (num c) root off).bind fun b => Res.ok (c, b)) l =
      .ok (l.map fun c => (c, decide (root ≤ num c ∧ num c < root + off))) :=
  mapRes_eq_ok fun c _ => by rw [isRemV_eq hoff]; rfl

/-- second pass: a line that was not flagged and is at or after `root` is at or after `root + off`,
    so `num - off` does not underflow -/
theorem renumberPass_eq {α} (num : α → Nat) (upd : α → Nat → α) (l : List α) (root off : Nat) (hoff : off ≠ 0) :
    mapRes (fun c => (adjRemV (num c) root off).bind fun n => Res.ok (upd c n))
        (((l.map fun c => (c, decide (root ≤ num c ∧ num c < root + off))).filter (fun p => !p.2)).map (·.1)) =
      .ok ((l.filter fun c => !decide (root ≤ num c ∧ num c < root + off)).map
        fun c => upd c (adjRemT (num c) root off)) := by
  simp only [List.filter_map, List.map_map, Function.comp_def, List.map_id']
  apply mapRes_eq_ok
  intro c hc
  have hk := of_decide_eq_false (Bool.not_eq_true' _ ▸ (List.mem_filter.1 hc).2)
  rw [adjRemV_eq hoff, adjRem_eq, if_neg (by omega)]; rfl

/-- what `rowsRemove` returns: it cannot panic (`rowsRemove_eq`); likewise `colsRemoveT` -/
def rowsRemoveT (rows : List (Nat × RowM)) (root off : Nat) : List (Nat × RowM) :=
  if off ≠ 0 then
    (rows.filter fun p => !decide (root ≤ p.2.num ∧ p.2.num < root + off)).map
      fun p => (adjRemT p.2.num root off, { p.2 with num := adjRemT p.2.num root off })
  else rows

def colsRemoveT (cols : List ColM) (root off : Nat) : List ColM :=
  if off ≠ 0 then
    (cols.filter fun c => !decide (root ≤ c.num ∧ c.num < root + off)).map
      fun c => { c with num := adjRemT c.num root off }
  else cols

theorem rowsRemove_eq (rows : List (Nat × RowM)) (root off : Nat) :
    rowsRemove rows root off = .ok (rowsRemoveT rows root off) := by
  unfold rowsRemove rowsRemoveT
  by_cases hoff : off ≠ 0
  · rw [if_pos hoff, if_pos hoff]
    rw [flagPass_eq (·.2.num) rows root off hoff]
    exact renumberPass_eq (·.2.num) (fun p n => (n, { p.2 with num := n })) rows root off hoff
  · rw [if_neg hoff, if_neg hoff]

theorem colsRemove_eq (cols : List ColM) (root off : Nat) :
    colsRemove cols root off = .ok (colsRemoveT cols root off) := by
  unfold colsRemove colsRemoveT
  by_cases hoff : off ≠ 0
  · rw [if_pos hoff, if_pos hoff]
    rw [flagPass_eq (·.num) cols root off hoff]
    exact renumberPass_eq (·.num) (fun c n => { c with num := n }) cols root off hoff
  · rw [if_neg hoff, if_neg hoff]

theorem cellRemove_eq (p : Key × CellM) (rc oc rr or_ : Nat) :
    ((adjRem p.2.col rc oc).bind fun c => (adjRem p.2.row rr or_).bind fun r =>
        Res.ok (p.1, ({ p.2 with col := c, row := r } : CellM))) =
      if (rc ≤ p.2.col ∧ p.2.col < oc) ∨ (rr ≤ p.2.row ∧ p.2.row < or_) then .panic
      else .ok (p.1, { p.2 with col := adjRemT p.2.col rc oc, row := adjRemT p.2.row rr or_ }) := by
  rw [adjRem_eq, adjRem_eq]
  by_cases h1 : rc ≤ p.2.col ∧ p.2.col < oc
  · rw [if_pos h1, if_pos (Or.inl h1)]; rfl
  · rw [if_neg h1]; show (if _ then _ else _ : Res _).bind _ = _
    by_cases h2 : rr ≤ p.2.row ∧ p.2.row < or_
    · rw [if_pos h2, if_pos (Or.inr h2)]; rfl
    · rw [if_neg h2, if_neg (fun h => h.elim h1 h2)]; rfl

theorem cellsRemove_ok {cells cells' : List (Key × CellM)} {rc oc rr or_ : Nat}
    (h : cellsRemove cells rc oc rr or_ = .ok cells') :
    cells' = (cells.filter fun p => !(isRem p.2.col rc oc || isRem p.2.row rr or_)).map
        (fun p => (p.1, { p.2 with col := adjRemT p.2.col rc oc, row := adjRemT p.2.row rr or_ })) ∧
      ∀ p ∈ cells.filter (fun p => !(isRem p.2.col rc oc || isRem p.2.row rr or_)),
        ¬ (rc ≤ p.2.col ∧ p.2.col < rc + oc) ∧ ¬ (rr ≤ p.2.row ∧ p.2.row < rr + or_) := by
  unfold cellsRemove at h
  have hu : ∀ p ∈ cells.filter (fun p => !(isRem p.2.col rc oc || isRem p.2.row rr or_)),
      ¬ ((rc ≤ p.2.col ∧ p.2.col < oc) ∨ (rr ≤ p.2.row ∧ p.2.row < or_)) := by
    intro p hp hu
    obtain ⟨y, hy⟩ := mapRes_ok_mem h hp
    rw [cellRemove_eq, if_pos hu] at hy; cases hy
  refine ⟨mapRes_ok_eq h fun p hp y hy => ?_, fun p hp => ?_⟩
  · rw [cellRemove_eq, if_neg (hu p hp)] at hy; cases hy; rfl
  · have hk := (List.mem_filter.1 hp).2
    simp only [Bool.not_eq_true', Bool.or_eq_false_iff] at hk
    exact ⟨outside_of_kept hk.1 fun h => hu p hp (Or.inl h), outside_of_kept hk.2 fun h => hu p hp (Or.inr h)⟩

theorem cellsRemove_panic_iff (cells : List (Key × CellM)) (rc oc rr or_ : Nat) :
    cellsRemove cells rc oc rr or_ = .panic ↔
      ∃ p ∈ cells, isRem p.2.col rc oc = false ∧ isRem p.2.row rr or_ = false ∧
        ((rc = 0 ∧ p.2.col < oc) ∨ (rr = 0 ∧ p.2.row < or_)) := by
  unfold cellsRemove
  rw [mapRes_panic_iff]
  constructor
  · rintro ⟨p, hp, hpanic⟩
    have hk := (List.mem_filter.1 hp).2
    simp only [Bool.not_eq_true', Bool.or_eq_false_iff] at hk
    rw [cellRemove_eq] at hpanic
    split at hpanic
    · rename_i hu
      rw [underflow_iff_of_kept hk.1, underflow_iff_of_kept hk.2] at hu
      exact ⟨p, (List.mem_filter.1 hp).1, hk.1, hk.2, hu⟩
    · cases hpanic
  · rintro ⟨p, hp, k1, k2, hu⟩
    refine ⟨p, List.mem_filter.2 ⟨hp, by rw [k1, k2]; rfl⟩, ?_⟩
    rw [← underflow_iff_of_kept k1, ← underflow_iff_of_kept k2] at hu
    rw [cellRemove_eq, if_pos hu]

/-- the sheet after `rebuild_map_and_indices` over `cells` -/
def rebuilt (cells : List (Key × CellM)) (rows : List (Nat × RowM)) (cols : List ColM) : Sheet :=
  { cells := (rebuild cells).1, rowIdx := (rebuild cells).2.1, colIdx := (rebuild cells).2.2, rows := rows, cols := cols }

theorem rebuilt_cells (cells : List (Key × CellM)) (rows : List (Nat × RowM)) (cols : List ColM) :
    (rebuilt cells rows cols).cells = cells.map fun p => ((p.2.row, p.2.col), p.2) := rfl

/-- `rebuild_map_and_indices` keys every cell by its own coordinate and builds both indexes from the
    keys: of the invariant only the distinctness of the keys and the row table are left to show. -/
theorem rebuild_coherent {cells' : List (Key × CellM)} {rows : List (Nat × RowM)} {cols : List ColM}
    (hn : (keysOf (rebuilt cells' rows cols)).Nodup)
    (hrows : ∀ k ∈ keysOf (rebuilt cells' rows cols), k.1 ∈ rows.map (·.1))
    (hkey : ∀ q ∈ rows, q.2.num = q.1) (hnd : (rows.map (·.1)).Nodup) :
    Coherent (rebuilt cells' rows cols) := by
  refine ⟨hn, ?_, sorted_setOfList _, ?_, sorted_setOfList _, ?_, hrows, hkey, hnd⟩
  · intro p hp
    obtain ⟨q, _, rfl⟩ := List.mem_map.1 hp
    exact ⟨rfl, rfl⟩
  · intro k; exact mem_setOfList _ k
  · intro k
    refine (mem_setOfList _ k).trans ?_
    simp only [rebuilt, rebuild, keysOf, List.map_map, List.mem_map, Function.comp_def]
    constructor
    · rintro ⟨a, ha, rfl⟩; exact ⟨a, ha, rfl⟩
    · rintro ⟨a, ha, e⟩; exact ⟨a, ha, by rw [← swap_swap k, ← e]⟩

theorem rowTable_map {rows : List (Nat × RowM)} (hkey : ∀ q ∈ rows, q.2.num = q.1) (hnd : (rows.map (·.1)).Nodup)
    (P : Nat → Bool) (φ : Nat → Nat) (hφ : ∀ a b, P a → P b → φ a = φ b → a = b) (R : List (Nat × RowM))
    (hR : R = (rows.filter fun p => P p.2.num).map fun p => (φ p.2.num, { p.2 with num := φ p.2.num })) :
    (∀ q ∈ R, q.2.num = q.1) ∧ (R.map (·.1)).Nodup ∧ ∀ n ∈ rows.map (·.1), P n → φ n ∈ R.map (·.1) := by
  subst hR
  refine ⟨?_, ?_, ?_⟩
  · intro q hq
    obtain ⟨p, _, rfl⟩ := List.mem_map.1 hq; rfl
  · rw [List.map_map]
    refine nodup_map_of_finer (k := fun p : Nat × RowM => p.1) (hnd.sublist (List.filter_sublist.map _)) ?_
    intro a ha b hb e
    obtain ⟨ha, pa⟩ := List.mem_filter.1 ha
    obtain ⟨hb, pb⟩ := List.mem_filter.1 hb
    rw [← hkey a ha, ← hkey b hb]
    exact hφ _ _ pa pb e
  · intro n hn hP
    obtain ⟨w, hw, rfl⟩ := List.mem_map.1 hn
    rw [← hkey w hw] at hP ⊢
    exact List.mem_map.2 ⟨_, List.mem_map.2 ⟨w, List.mem_filter.2 ⟨hw, hP⟩, rfl⟩, rfl⟩

/-!
  Relocation: the one theorem behind insert / remove of rows and columns on the cell store.
  A structural edit renumbers the kept lines of each axis by `φ`; `σ z` is the old line that
  becomes line `z`, if any (`Spec.Grid.insertSrc`, `removeSrc`).  The rebuilt store is coherent
  (C10) and holds at `k` what the old one held at the source of `k` (C07): both from `hr`, `hc`.
  The new row table `R` and the result `t` are variables with their equations, so that the model's
  own spelling of them (`adjInsV` for `adjIns`, the `if off ≠ 0`) is matched by `rfl` or one
  rewrite at the call.  The column list `C` is any list: `Coherent` says nothing of the columns. -/

theorem inj_of_src {P : Nat → Prop} {φ : Nat → Nat} {σ : Nat → Option Nat}
    (h : ∀ x, P x → ∀ z, φ x = z ↔ σ z = some x) {a b : Nat} (ha : P a) (hb : P b) (e : φ a = φ b) : a = b :=
  Option.some.inj (((h a ha _).1 e).symm.trans ((h b hb _).1 rfl))

/-- the source position of `k` from the sources of its row and its column -/
def srcKey (σr σc : Nat → Option Nat) (k : Key) : Option Key := (σr k.1).bind fun r => (σc k.2).map fun c => (r, c)

theorem srcKey_eq_some {σr σc : Nat → Option Nat} {k k0 : Key} :
    srcKey σr σc k = some k0 ↔ σr k.1 = some k0.1 ∧ σc k.2 = some k0.2 := by
  unfold srcKey
  cases σr k.1 <;> cases σc k.2 <;> simp [Prod.ext_iff]

theorem relocate (s : Sheet) (h : Coherent s) (Pr Pc : Nat → Bool) (φr φc : Nat → Nat) {σr σc : Nat → Option Nat}
    (hr : ∀ x, Pr x = true → ∀ z, φr x = z ↔ σr z = some x) (hc : ∀ x, Pc x = true → ∀ z, φc x = z ↔ σc z = some x)
    (K : Key → Bool) (hK : ∀ p ∈ s.cells.filter (fun p => K (p.2.row, p.2.col)), Pr p.2.row = true ∧ Pc p.2.col = true)
    {R : List (Nat × RowM)}
    (hR : R = (s.rows.filter fun q => Pr q.2.num).map fun q => (φr q.2.num, { q.2 with num := φr q.2.num }))
    {C : List ColM} (t : Sheet)
    (ht : t = rebuilt ((s.cells.filter fun p => K (p.2.row, p.2.col)).map
        fun p => (p.1, { p.2 with col := φc p.2.col, row := φr p.2.row })) R C) :
    Coherent t ∧ ∀ k, lookup k t.cells =
      ((srcKey σr σc k).bind fun k0 => if K k0 then lookup k0 s.cells else none).map
        fun x => { x with col := φc x.col, row := φr x.row } := by
  subst ht
  -- every function of a stored cell's own coordinate is that function of its key
  have hf : s.cells.filter (fun p => K (p.2.row, p.2.col)) = s.cells.filter (fun p => K p.1) :=
    List.filter_congr fun p hp => by rw [(h.coord p hp).1, (h.coord p hp).2]
  have hP : ∀ p ∈ s.cells.filter (fun p => K p.1), Pr p.1.1 = true ∧ Pc p.1.2 = true := fun p hp => by
    have hco := h.coord p (List.mem_filter.1 hp).1
    rw [← hco.1, ← hco.2]; exact hK p (hf ▸ hp)
  rw [hf] at *
  generalize hT : rebuilt _ R C = t
  have hcells : t.cells = (s.cells.filter fun p => K p.1).map
      fun p => ((φr p.1.1, φc p.1.2), ({ p.2 with col := φc p.2.col, row := φr p.2.row } : CellM)) := by
    rw [← hT, rebuilt_cells, List.map_map]
    refine List.map_congr_left fun p hp => ?_
    have hco := h.coord p (List.mem_filter.1 hp).1
    simp only [Function.comp, hco.1, hco.2]
  have hkeys : keysOf t = (s.cells.filter fun p => K p.1).map fun p => (φr p.1.1, φc p.1.2) := by
    rw [keysOf, hcells, List.map_map]; rfl
  obtain ⟨rk, rnd, rknown⟩ := rowTable_map h.rowKey h.rowNodup Pr φr (fun a b ha hb e => inj_of_src hr ha hb e) R hR
  refine ⟨?_, fun k => ?_⟩
  · subst hT
    refine rebuild_coherent ?_ ?_ rk rnd <;> rw [hkeys]
    · refine nodup_map_of_finer (k := fun p : Key × CellM => p.1) (h.nodup.sublist (List.filter_sublist.map _)) ?_
      intro a ha b hb e
      injection e with e1 e2
      exact Prod.ext (inj_of_src hr (hP a ha).1 (hP b hb).1 e1) (inj_of_src hc (hP a ha).2 (hP b hb).2 e2)
    · intro k hk
      obtain ⟨q, hq, rfl⟩ := List.mem_map.1 hk
      exact rknown _ (h.rowKnown q.1 (List.mem_map.2 ⟨q, (List.mem_filter.1 hq).1, rfl⟩)) (hP q hq).1
  · rw [hcells, lookup_map_keys (fun k => (φr k.1, φc k.2))
      (fun x => { x with col := φc x.col, row := φr x.row }) _ k (srcKey σr σc k) fun p hp => by
        rw [Prod.ext_iff, hr _ (hP p hp).1, hc _ (hP p hp).2]; exact srcKey_eq_some.symm]
    simp only [lookup_filter_key]

theorem rowTable_map_id {rows : List (Nat × RowM)} (hkey : ∀ q ∈ rows, q.2.num = q.1) (P : Nat → Bool) {φ : Nat → Nat}
    (hP : ∀ n, P n = true) (hφ : ∀ n, φ n = n) :
    rows = (rows.filter fun q => P q.2.num).map fun q => (φ q.2.num, { q.2 with num := φ q.2.num }) := by
  rw [List.filter_eq_self.2 fun q _ => hP _]
  refine ((List.map_congr_left fun q hq => ?_).trans (List.map_id _)).symm
  rw [hφ]; exact Prod.ext (hkey q hq) rfl

theorem insertAdj_eq {s : Sheet} {rc oc rr or_ : Nat} (hne : ¬ (oc = 0 ∧ or_ = 0)) :
    insertAdj s rc oc rr or_ =
      rebuilt (s.cells.map fun p => (p.1, { p.2 with col := adjIns p.2.col rc oc, row := adjIns p.2.row rr or_ }))
        (if or_ ≠ 0 then s.rows.map (fun p => (adjInsV p.2.num rr or_, { p.2 with num := adjInsV p.2.num rr or_ })) else s.rows)
        (if oc ≠ 0 then s.cols.map (fun c => { c with num := adjInsV c.num rc oc }) else s.cols) := by
  unfold insertAdj; simp only [hne, if_false]; rfl

theorem insertAdj_spec {s : Sheet} (h : Coherent s) (rc oc rr or_ : Nat) (hne : ¬ (oc = 0 ∧ or_ = 0)) :
    Coherent (insertAdj s rc oc rr or_) ∧ ∀ k, lookup k (insertAdj s rc oc rr or_).cells =
      ((srcKey (insertSrc rr or_) (insertSrc rc oc) k).bind (lookup · s.cells)).map
        fun x => { x with col := adjIns x.col rc oc, row := adjIns x.row rr or_ } := by
  refine relocate s h (fun _ => true) (fun _ => true) (adjIns · rr or_) (adjIns · rc oc)
    (fun x _ z => adjIns_eq_iff x rr or_ z) (fun x _ z => adjIns_eq_iff x rc oc z) (fun _ => true) (fun _ _ => ⟨rfl, rfl⟩)
    ?hR _ (by rw [insertAdj_eq hne, List.filter_eq_self.2 fun _ _ => rfl])
  by_cases hor : or_ = 0
  · subst hor; rw [if_neg (by simp)]
    exact rowTable_map_id h.rowKey _ (fun _ => rfl) fun n => adjIns_zero n rr
  · rw [if_pos hor, List.filter_eq_self.2 fun _ _ => rfl]; simp only [adjInsV_eq hor]

theorem insertAdj_coherent {s : Sheet} (h : Coherent s) (rc oc rr or_ : Nat) :
    Coherent (insertAdj s rc oc rr or_) := by
  by_cases h0 : oc = 0 ∧ or_ = 0
  · obtain ⟨rfl, rfl⟩ := h0
    exact coherent_of_eq h rfl rfl rfl rfl
  · exact (insertAdj_spec h rc oc rr or_ h0).1

/-- `removeAdj` in the form the lemmas below start from: the row and the column pass never panic
    (`rowsRemove_eq`, `colsRemove_eq`), only `cellsRemove` can -/
theorem removeAdj_eq (s : Sheet) (rc oc rr or_ : Nat) :
    removeAdj s rc oc rr or_ =
      if oc = 0 ∧ or_ = 0 then .ok s
      else (cellsRemove s.cells rc oc rr or_).bind fun cells =>
        .ok (rebuilt cells (rowsRemoveT s.rows rr or_) (colsRemoveT s.cols rc oc)) := by
  unfold removeAdj
  rw [colsRemove_eq, rowsRemove_eq]
  by_cases h0 : oc = 0 ∧ or_ = 0
  · obtain ⟨rfl, rfl⟩ := h0; rfl
  · simp only [h0, if_false]
    cases cellsRemove s.cells rc oc rr or_ <;> rfl

theorem removeAdj_panic_iff (s : Sheet) (rc oc rr or_ : Nat) :
    removeAdj s rc oc rr or_ = .panic ↔ ¬ (oc = 0 ∧ or_ = 0) ∧
      ∃ p ∈ s.cells, isRem p.2.col rc oc = false ∧ isRem p.2.row rr or_ = false ∧
        ((rc = 0 ∧ p.2.col < oc) ∨ (rr = 0 ∧ p.2.row < or_)) := by
  rw [removeAdj_eq, ← cellsRemove_panic_iff]
  by_cases h0 : oc = 0 ∧ or_ = 0
  · rw [if_pos h0]; exact ⟨nofun, fun h => absurd h0 h.1⟩
  · rw [if_neg h0]
    cases cellsRemove s.cells rc oc rr or_ with
    | panic => exact ⟨fun _ => ⟨h0, rfl⟩, fun _ => rfl⟩
    | ok cells => exact ⟨nofun, fun h => nomatch h.2⟩

theorem removeAdj_panic_iff_key {s : Sheet} (h : Coherent s) (rc oc rr or_ : Nat) :
    removeAdj s rc oc rr or_ = .panic ↔
      ∃ k ∈ keysOf s, isRem k.2 rc oc = false ∧ isRem k.1 rr or_ = false ∧ ((rc = 0 ∧ k.2 < oc) ∨ (rr = 0 ∧ k.1 < or_)) := by
  rw [removeAdj_panic_iff]
  constructor
  · rintro ⟨-, q, hq, hu⟩
    rw [(h.coord q hq).1, (h.coord q hq).2] at hu
    exact ⟨q.1, List.mem_map.2 ⟨q, hq, rfl⟩, hu⟩
  · rintro ⟨k, hk, hu⟩
    obtain ⟨q, hq, rfl⟩ := List.mem_map.1 hk
    refine ⟨by omega, q, hq, ?_⟩
    rw [(h.coord q hq).1, (h.coord q hq).2]
    exact hu

theorem removeAdj_no_panic (s : Sheet) (rc oc rr or_ : Nat) (hc : 1 ≤ rc ∨ oc = 0) (hr : 1 ≤ rr ∨ or_ = 0) :
    ∃ t, removeAdj s rc oc rr or_ = .ok t := by
  cases ht : removeAdj s rc oc rr or_ with
  | ok t => exact ⟨t, rfl⟩
  | panic =>
    obtain ⟨_, p, _, _, _, hu⟩ := (removeAdj_panic_iff s rc oc rr or_).1 ht
    omega

theorem removeAdj_spec {s t : Sheet} (h : Coherent s) {rc oc rr or_ : Nat} (hne : ¬ (oc = 0 ∧ or_ = 0))
    (hok : removeAdj s rc oc rr or_ = .ok t) :
    Coherent t ∧ ∀ k, lookup k t.cells =
      ((srcKey (some ∘ removeSrc rr or_) (some ∘ removeSrc rc oc) k).bind fun k0 =>
        if !(isRem k0.2 rc oc || isRem k0.1 rr or_) then lookup k0 s.cells else none).map
        fun x => { x with col := adjRemT x.col rc oc, row := adjRemT x.row rr or_ } := by
  rw [removeAdj_eq, if_neg hne] at hok
  cases hcr : cellsRemove s.cells rc oc rr or_ with
  | panic => rw [hcr] at hok; cases hok
  | ok cells =>
  rw [hcr] at hok
  obtain ⟨rfl, hout⟩ := cellsRemove_ok hcr
  injection hok with ht
  refine relocate s h (fun x => !decide (rr ≤ x ∧ x < rr + or_)) (fun x => !decide (rc ≤ x ∧ x < rc + oc))
    (adjRemT · rr or_) (adjRemT · rc oc) (fun x hx z => adjRemT_src hx z) (fun x hx z => adjRemT_src hx z)
    (fun k => !(isRem k.2 rc oc || isRem k.1 rr or_))
    (fun p hp => ⟨by rw [decide_eq_false (hout p hp).2]; rfl, by rw [decide_eq_false (hout p hp).1]; rfl⟩)
    ?_ t ht.symm
  unfold rowsRemoveT
  by_cases hor : or_ = 0
  · subst hor; rw [if_neg (by simp)]
    exact rowTable_map_id h.rowKey (fun x => !decide (rr ≤ x ∧ x < rr + 0))
      (fun n => by rw [decide_eq_false (by omega)]; rfl) fun n => adjRemT_zero n rr
  · rw [if_pos hor]

theorem removeAdj_coherent {s t : Sheet} (h : Coherent s) {rc oc rr or_ : Nat}
    (hok : removeAdj s rc oc rr or_ = .ok t) : Coherent t := by
  by_cases h0 : oc = 0 ∧ or_ = 0
  · rw [removeAdj_eq, if_pos h0] at hok; cases hok; exact h
  · exact (removeAdj_spec h h0 hok).1

end Umya.Sheet
