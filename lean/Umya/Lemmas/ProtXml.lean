/-
  The attribute list `render fs` of a field table is well formed for the XML writer (`wfAttrs`) when the attribute names
  are Names, pairwise distinct, and the texts consist of XML characters.
-/
import Umya.Lemmas.AnnotCodec
import Umya.Model.XmlWrite
namespace Umya.AnnotCodec
open Umya.XmlWrite (wfAttrs wfName allXml)
open Umya.Dec

theorem wfAttrs_render (fs : List (Text × Option Text)) (hn : ∀ p ∈ fs, wfName p.1 = true)
    (hd : (fs.map (·.1)).Nodup) (hv : ∀ p ∈ fs, ∀ v, p.2 = some v → allXml v = true) : wfAttrs (render fs) = true := by
  simp only [wfAttrs, Bool.and_eq_true, decide_eq_true_eq, List.all_eq_true]
  refine ⟨?_, (render_names_sublist fs).nodup hd⟩
  intro a ha
  have hp := mem_render.1 ha
  exact ⟨hn _ hp, hv _ hp _ rfl⟩

theorem allXml_decDigits (n : Nat) : allXml (decDigits n) = true := decDigits_all (by decide) n

theorem allXml_boolStr (b : Bool) : allXml (boolStr b) = true := by cases b <;> decide

end Umya.AnnotCodec
