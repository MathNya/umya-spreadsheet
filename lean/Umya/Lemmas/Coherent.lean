import Umya.Lemmas.Sheet
namespace Umya.Sheet

def keysOf (s : Sheet) : List Key := s.cells.map (·.1)

theorem swap_swap (k : Key) : swap (swap k) = k := rfl

/-- The store is coherent: map keys are distinct and equal to each cell's own coordinate; both
    ordered indexes are strictly sorted and hold exactly the keys; every cell's row is present in
    the row table; the row table's keys are distinct and equal to each row's own number. -/
structure Coherent (s : Sheet) : Prop where
  nodup : (keysOf s).Nodup
  coord : ∀ p ∈ s.cells, p.2.row = p.1.1 ∧ p.2.col = p.1.2
  rsorted : SSorted s.rowIdx
  rmem : ∀ k, k ∈ s.rowIdx ↔ k ∈ keysOf s
  csorted : SSorted s.colIdx
  cmem : ∀ k, k ∈ s.colIdx ↔ swap k ∈ keysOf s
  rowKnown : ∀ k ∈ keysOf s, k.1 ∈ s.rows.map (·.1)
  rowKey : ∀ q ∈ s.rows, q.2.num = q.1
  rowNodup : (s.rows.map (·.1)).Nodup

theorem coherent_empty : Coherent {} := by
  constructor <;> simp [keysOf, SSorted]

theorem coherent_of_rows {s t : Sheet} (h : Coherent s) (e1 : t.cells = s.cells) (e2 : t.rowIdx = s.rowIdx)
    (e3 : t.colIdx = s.colIdx) (hknown : ∀ k ∈ keysOf s, k.1 ∈ t.rows.map (·.1))
    (hkey : ∀ q ∈ t.rows, q.2.num = q.1) (hnd : (t.rows.map (·.1)).Nodup) : Coherent t := by
  have hk : keysOf t = keysOf s := by simp [keysOf, e1]
  exact ⟨by rw [hk]; exact h.nodup, by rw [e1]; exact h.coord, by rw [e2]; exact h.rsorted,
    by rw [e2, hk]; exact h.rmem, by rw [e3]; exact h.csorted, by rw [e3, hk]; exact h.cmem,
    by rw [hk]; exact hknown, hkey, hnd⟩

/-- `Coherent` says nothing of `cols` -/
theorem coherent_of_eq {s t : Sheet} (h : Coherent s) (e1 : t.cells = s.cells) (e2 : t.rowIdx = s.rowIdx)
    (e3 : t.colIdx = s.colIdx) (e4 : t.rows = s.rows) : Coherent t :=
  coherent_of_rows h e1 e2 e3 (by rw [e4]; exact h.rowKnown) (by rw [e4]; exact h.rowKey) (by rw [e4]; exact h.rowNodup)

theorem ensureRow_eq (s : Sheet) (r : Nat) : (ensureRow s r).cells = s.cells ∧
    (ensureRow s r).rowIdx = s.rowIdx ∧ (ensureRow s r).colIdx = s.colIdx ∧ (ensureRow s r).cols = s.cols := by
  unfold ensureRow; split <;> simp

theorem ensureRow_has (s : Sheet) (r : Nat) : r ∈ (ensureRow s r).rows.map (·.1) := by
  unfold ensureRow
  split
  · rename_i x h
    exact lookupRow_isSome_iff.1 (by rw [h]; rfl)
  · simp

theorem ensureRow_prefix (s : Sheet) (r : Nat) : s.rows <+: (ensureRow s r).rows := by
  unfold ensureRow
  split
  · exact List.prefix_refl _
  · exact List.prefix_append _ _

theorem ensureRow_coherent {s : Sheet} {r : Nat} (h : Coherent s) : Coherent (ensureRow s r) := by
  obtain ⟨e1, e2, e3, _⟩ := ensureRow_eq s r
  refine coherent_of_rows h e1 e2 e3 (fun k hk => ((ensureRow_prefix s r).map _).subset (h.rowKnown k hk)) ?_ ?_
  all_goals unfold ensureRow; split
  · exact h.rowKey
  · intro q hq
    rcases List.mem_append.1 hq with hq | hq
    · exact h.rowKey q hq
    · cases List.mem_singleton.1 hq; rfl
  · exact h.rowNodup
  · rename_i hnone
    have hnot : r ∉ s.rows.map (·.1) := fun hin => by
      have := lookupRow_isSome_iff.2 hin
      rw [hnone] at this; cases this
    rw [List.map_append, List.nodup_append]
    refine ⟨h.rowNodup, List.pairwise_singleton _ _, fun a ha b hb e => hnot ?_⟩
    cases List.mem_singleton.1 hb; subst e; exact ha

theorem ensureCol_eq (s : Sheet) (c : Nat) : (ensureCol s c).cells = s.cells ∧
    (ensureCol s c).rowIdx = s.rowIdx ∧ (ensureCol s c).colIdx = s.colIdx ∧ (ensureCol s c).rows = s.rows := by
  unfold ensureCol; split <;> simp

theorem ensureCol_coherent {s : Sheet} {c : Nat} (h : Coherent s) : Coherent (ensureCol s c) := by
  obtain ⟨e1, e2, e3, e4⟩ := ensureCol_eq s c
  exact coherent_of_eq h e1 e2 e3 e4

theorem getMut_coherent {s : Sheet} {col row : Nat} (h : Coherent s) : Coherent (getMut s col row) := by
  have h2 : Coherent (ensureCol (ensureRow s row) col) := ensureCol_coherent (ensureRow_coherent h)
  have hrow : row ∈ (ensureCol (ensureRow s row) col).rows.map (·.1) := by
    rw [(ensureCol_eq _ col).2.2.2]; exact ensureRow_has s row
  unfold getMut
  generalize ensureCol (ensureRow s row) col = t at h2 hrow
  simp only
  split
  · exact h2
  · rename_i hnone
    have hnot : (row, col) ∉ keysOf t := lookup_none_iff.1 hnone
    have hk : ∀ (c : CellM) (k : Key), k ∈ (t.cells ++ [((row, col), c)]).map (·.1) ↔ k = (row, col) ∨ k ∈ keysOf t := by
      intro c k; simp [keysOf, or_comm]
    refine ⟨?_, ?_, sorted_setInsert _ _ h2.rsorted, fun k => ?_, sorted_setInsert _ _ h2.csorted, fun k => ?_, ?_,
      h2.rowKey, h2.rowNodup⟩
    · simp only [keysOf, List.map_append, List.map_cons, List.map_nil]
      rw [List.nodup_append]
      refine ⟨h2.nodup, List.pairwise_singleton _ _, fun a ha b hb e => hnot ?_⟩
      cases List.mem_singleton.1 hb; subst e; exact ha
    · intro p hp
      rcases List.mem_append.1 hp with hp | hp
      · exact h2.coord p hp
      · cases List.mem_singleton.1 hp; exact ⟨rfl, rfl⟩
    · exact (mem_setInsert _ k _).trans ((or_congr Iff.rfl (h2.rmem k)).trans (hk _ k).symm)
    · refine (mem_setInsert _ k _).trans ((or_congr ?_ (h2.cmem k)).trans (hk _ (swap k)).symm)
      exact ⟨fun e => e ▸ rfl, fun e => congrArg swap e⟩
    · intro k hk'
      rcases (hk _ k).1 hk' with rfl | hk'
      · exact hrow
      · exact h2.rowKnown k hk'

theorem modify_coherent {s : Sheet} {col row : Nat} {f : CellM → CellM}
    (hf : ∀ c, (f c).row = c.row ∧ (f c).col = c.col) (h : Coherent s) : Coherent (modify s col row f) := by
  unfold modify
  split
  · rename_i c hc
    have hk : keysOf { s with cells := replaceKey (row, col) (f c) s.cells } = keysOf s := by
      simp [keysOf, map_fst_replaceKey]
    refine ⟨by rw [hk]; exact h.nodup, ?_, h.rsorted, by rw [hk]; exact h.rmem, h.csorted,
      by rw [hk]; exact h.cmem, by rw [hk]; exact h.rowKnown, h.rowKey, h.rowNodup⟩
    intro p hp
    rcases mem_replaceKey hp with hp | hp
    · exact h.coord p hp
    · subst hp
      have := h.coord _ (lookup_some_mem hc)
      simp only [(hf c).1, (hf c).2]; exact this
  · exact h

theorem keys_eraseKey (k : Key) (l : List (Key × CellM)) :
    (eraseKey k l).map (·.1) = (l.map (·.1)).filter (· ≠ k) := by
  rw [List.filter_map]; rfl

theorem removeCell_coherent {s : Sheet} {col row : Nat} (h : Coherent s) : Coherent (removeCell s col row) := by
  unfold removeCell
  split
  · have hk : keysOf { s with cells := eraseKey (row, col) s.cells, rowIdx := setErase (row, col) s.rowIdx, colIdx := setErase (col, row) s.colIdx } = (keysOf s).filter (· ≠ (row, col)) := by
      simp [keysOf, keys_eraseKey]
    refine ⟨?_, ?_, sorted_setErase _ _ h.rsorted, ?_, sorted_setErase _ _ h.csorted, ?_, ?_, h.rowKey, h.rowNodup⟩
    · rw [hk]; exact List.Pairwise.filter _ h.nodup
    · intro p hp
      exact h.coord p (List.mem_filter.1 hp).1
    · intro k; rw [hk, mem_setErase, h.rmem k, List.mem_filter]; simp; exact And.comm
    · intro k; rw [hk, mem_setErase, h.cmem k, List.mem_filter]
      have : k ≠ (col, row) ↔ swap k ≠ (row, col) := by
        obtain ⟨a, b⟩ := k; simp only [swap, ne_eq, Prod.mk.injEq]; omega
      simp [this]; exact And.comm
    · intro k hk'; rw [hk] at hk'; exact h.rowKnown k (List.mem_filter.1 hk').1
  · exact h

theorem setRowSty_coherent {s : Sheet} {row sty : Nat} (h : Coherent s) : Coherent (setRowSty s row sty) := by
  have h1 : Coherent (ensureRow s row) := ensureRow_coherent h
  unfold setRowSty
  generalize ensureRow s row = t at h1
  have hm : (t.rows.map (fun p => if p.1 = row then (p.1, { p.2 with sty := sty }) else p)).map (·.1) = t.rows.map (·.1) := by
    rw [List.map_map]; apply List.map_congr_left; intro p _; simp only [Function.comp]; split <;> rfl
  refine coherent_of_rows h1 rfl rfl rfl (hm ▸ h1.rowKnown) ?_ (hm ▸ h1.rowNodup)
  intro q hq
  obtain ⟨p, hp, rfl⟩ := List.mem_map.1 hq
  split <;> exact h1.rowKey p hp

theorem setColSty_coherent {s : Sheet} {col sty : Nat} (h : Coherent s) : Coherent (setColSty s col sty) := by
  have h1 : Coherent (ensureCol s col) := ensureCol_coherent h
  unfold setColSty
  exact coherent_of_eq h1 rfl rfl rfl rfl

end Umya.Sheet
