/-
  Tie to the source (T) for `src/helper/date.rs` and the end of `format_as_date` (`src/helper/number_format/date_formater.rs`):
  `convert_date_crate`, `excel_to_date_time_object_checked` / `excel_to_date_time_object` and `format_as_date_tail` as compiled
  from the source on this run are the hand model's `convertDateCrate` (+ `serialOf`), `excelToEpochSecondsChecked` and
  `formatAsDateChecked` (`Umya/Model/Date.lean`), for all arguments and every float interface.
-/
import Umya.Lemmas.FnsGen
import Umya.Model.Date
namespace Umya.Gen
open Umya.Date Umya.Spec.Calendar

/-- `i32?` is the hand model's range check (`Model/Date.lean`), `i32c` the compiled code's (`Model/GenPrelude.lean`): the same
    test written twice, and both become the same guard -/
theorem i32q_bind {β} (x : Int) (f : Int → Option β) :
    (i32? x).bind f = guardO (-2147483648 ≤ x ∧ x ≤ 2147483647) (f x) := by
  unfold i32? guardO; split <;> simp
theorem i32q_eq (x : Int) : i32? x = guardO (-2147483648 ≤ x ∧ x ≤ 2147483647) (some x) := rfl
theorem rt_i32_to_string_eq : rt_i32_to_string = i32ToString := rfl
theorem rt_slice_eq : rt_slice = slice := rfl
theorem rt_parse_i32_eq : rt_parse_i32 = parseI32 := by funext cs; rfl

/-- the model's float interface, seen as the compiled code's: a statement `convert_date_crate F …` under `[FloatOps F]` is
    elaborated through this instance -/
instance rfloatOfFloatOps (F : Type) [FloatOps F] : RFloat F :=
  ⟨FloatOps.ofInt, FloatOps.add, FloatOps.sub, FloatOps.mul, FloatOps.div, FloatOps.floor, FloatOps.round,
   FloatOps.lt, FloatOps.toInt⟩

theorem rf_ofInt (F : Type) [FloatOps F] (x : Int) : (RFloat.ofInt x : F) = FloatOps.ofInt x := rfl
theorem rf_add (F : Type) [FloatOps F] (x y : F) : RFloat.add x y = FloatOps.add x y := rfl
theorem rf_sub (F : Type) [FloatOps F] (x y : F) : RFloat.sub x y = FloatOps.sub x y := rfl
theorem rf_mul (F : Type) [FloatOps F] (x y : F) : RFloat.mul x y = FloatOps.mul x y := rfl
theorem rf_div (F : Type) [FloatOps F] (x y : F) : RFloat.div x y = FloatOps.div x y := rfl
theorem rf_floor (F : Type) [FloatOps F] (x : F) : RFloat.floor x = FloatOps.floor x := rfl
theorem rf_round (F : Type) [FloatOps F] (x : F) : RFloat.round x = FloatOps.round x := rfl
theorem rf_lt (F : Type) [FloatOps F] (x y : F) : RFloat.lt x y = FloatOps.lt x y := rfl
theorem rf_toInt (F : Type) [FloatOps F] (x : F) : RFloat.toInt x = FloatOps.toInt x := rfl

theorem slice_bind {β} (s : List Char) (a b : Nat) (f : List Char → Option β) :
    (slice s a b).bind f = guardO (a ≤ b ∧ b ≤ s.length) (f ((s.drop a).take (b - a))) := by
  unfold slice guardO; split <;> simp
theorem slice_eq (s : List Char) (a b : Nat) :
    slice s a b = guardO (a ≤ b ∧ b ≤ s.length) (some ((s.drop a).take (b - a))) := rfl

attribute [gen_nf] rt_i32_to_string_eq rt_slice_eq rt_parse_i32_eq i32q_bind i32q_eq slice_bind slice_eq
  rf_ofInt rf_add rf_sub rf_mul rf_div rf_floor rf_round rf_lt rf_toInt

/-- `convert_date_crate` as it is in the source = the model's integer part followed by `serialOf` -/
theorem gen_convert_date_crate (F : Type) [FloatOps F] (y m d h mi s : Int) (w : Bool) :
    convert_date_crate F y m d h mi s w = (convertDateCrate y m d h mi s w).map (fun p => serialOf F p.1 p.2) := by
  unfold convert_date_crate convertDateCrate adjustMonthYear centuryDecade excelDate excelSecs serialOf
  cases w <;> gen_eq

/-- chrono's calendar is represented by the reference calendar (trusted, as in the model) -/
def refChrono : Chrono := ⟨daysFromCivil⟩

theorem rt_f64_as_i64_eq (F : Type) [FloatOps F] (x : F) : rt_f64_as_i64 x = clampI64 (FloatOps.toInt x) := rfl
theorem rt_try_units_eq : rt_try_units = tryUnits := rfl
theorem rt_checked_add_signed_eq (t d : Int) : rt_checked_add_signed refChrono t d = checkedAddSigned t d := rfl
theorem midnight_ref (y m d : Int) : Chrono.midnight refChrono y m d = daysFromCivil y m d * 86400 := rfl

/-- the three base dates, in seconds (closed terms: evaluated once) -/
theorem base_seconds : daysFromCivil 1970 1 1 * 86400 = 0 ∧ daysFromCivil 1899 12 31 * 86400 = -2209075200 ∧
    daysFromCivil 1899 12 30 * 86400 = -2209161600 := by decide

/-- the second pair of bounds is `i64::MAX / 1000`, that of `trySeconds` (`Model/Date.lean`) -/
theorem tryUnits_bind {β} (u n : Int) (f : Int → Option β) :
    (tryUnits u n).bind f =
      guardO ((-9223372036854775808 ≤ n * u ∧ n * u ≤ 9223372036854775807) ∧
              (-9223372036854775 ≤ n * u ∧ n * u ≤ 9223372036854775)) (f (n * u)) := by
  unfold tryUnits i64? trySeconds guardO
  by_cases h1 : -9223372036854775808 ≤ n * u ∧ n * u ≤ 9223372036854775807 <;>
    by_cases h2 : -9223372036854775 ≤ n * u ∧ n * u ≤ 9223372036854775 <;> simp [h1, h2]

theorem tryUnits_eq (u n : Int) :
    tryUnits u n =
      guardO ((-9223372036854775808 ≤ n * u ∧ n * u ≤ 9223372036854775807) ∧
              (-9223372036854775 ≤ n * u ∧ n * u ≤ 9223372036854775)) (some (n * u)) := by
  have := tryUnits_bind u n some
  simpa using this

theorem checkedAddSigned_bind {β} (t d : Int) (f : Int → Option β) :
    (checkedAddSigned t d).bind f = guardO (chronoMinSec ≤ t + d ∧ t + d ≤ chronoMaxSec) (f (t + d)) := by
  unfold checkedAddSigned guardO; split <;> simp

theorem checkedAddSigned_eq (t d : Int) :
    checkedAddSigned t d = guardO (chronoMinSec ≤ t + d ∧ t + d ≤ chronoMaxSec) (some (t + d)) := rfl

attribute [gen_nf] rt_f64_as_i64_eq rt_try_units_eq rt_checked_add_signed_eq midnight_ref tryUnits_bind tryUnits_eq
  checkedAddSigned_bind checkedAddSigned_eq

/-- `excel_to_date_time_object_checked` as it is in the source — base date by the two thresholds, the floor /
    fraction chain, the saturating `as i64`, `Duration::try_*` and `checked_add_signed` with `?` — is the model's
    `excelToEpochSecondsChecked` (`none` = the function returns `None`); the unused time-zone argument is
    irrelevant.  Both sides are brought to guard normal form, so the order of the checks does not matter. -/
theorem gen_excel_to_date_time_object_checked (F : Type) [FloatOps F] (ts : F) (tz : Option (List Char)) :
    excel_to_date_time_object_checked F refChrono ts tz = excelToEpochSecondsChecked ts := by
  obtain ⟨b1, b2, b3⟩ := base_seconds
  unfold excel_to_date_time_object_checked excelToEpochSecondsChecked baseFor base1970 base18991231 base18991230
  -- the two thresholds: every combination of the two comparisons (an abstract float interface need not order them)
  rcases Bool.eq_false_or_eq_true (FloatOps.lt ts (FloatOps.ofInt 1 : F)) with h1 | h1 <;>
  rcases Bool.eq_false_or_eq_true (FloatOps.lt ts (FloatOps.ofInt 60 : F)) with h60 | h60 <;> gen_eq

/-- the public `excel_to_date_time_object` as it is in the source (`…_checked(..).expect(..)`): `none` = the Rust
    panics, exactly where the checked function returns `None` -/
theorem gen_excel_to_date_time_object (F : Type) [FloatOps F] (ts : F) (tz : Option (List Char)) :
    excel_to_date_time_object F refChrono ts tz = excelToEpochSecondsChecked ts := by
  unfold excel_to_date_time_object
  rw [gen_excel_to_date_time_object_checked]
  cases excelToEpochSecondsChecked ts <;> rfl

/-- the end of `format_as_date` as it is in the source — `match excel_to_date_time_object_checked(value, None)`,
    `None => return value.to_string()`, otherwise chrono's rendering of the date-time under the converted format —
    followed by the trimming `to_formatted_string` does, is the model's `formatAsDateChecked`: `g` stands for
    `f64::to_string(value)`, chrono's `format(..).to_string()` is represented by the model's `strftime`
    (`none` = outside the modelled specifiers; its last argument is fuel, one unit a step, so `s.length + 1` never runs out),
    `sf` is the strftime string of the format `f` -/
theorem gen_format_as_date_tail (F : Type) [FloatOps F] (f g sf : List Char) (ts : F) (h : strftimeOf f = some sf) :
    (format_as_date_tail F refChrono (fun t s => strftime (ofEpochSeconds t) s (s.length + 1)) (fun _ => g) ts sf).map trimBlanks
      = formatAsDateChecked f g ts := by
  unfold format_as_date_tail formatAsDateChecked
  rw [gen_excel_to_date_time_object_checked, h]
  cases excelToEpochSecondsChecked ts <;> simp

end Umya.Gen
