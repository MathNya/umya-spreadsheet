/-
  The string-quote reader (`Umya/Spec/CsvWrap.lean`) run over the text written by the multi-character wrap model
  (`Umya/Model/CsvWrap.lean`).  For an `Unbordered` `w`, an occurrence of `w` in `a ++ w ++ t` that starts inside `a` lies
  wholly inside `a` (`prefix_left_of_unbordered`); so the reader meets no quote that the writer did not write
  (`no_false_quote`) and reads a written field back (`runW_field`).  For a one-character quote the reader is a restriction
  of the RFC 4180 reader (`runW_refines`).  The last part (`ReadSoFar`, `runW_readSoFar`: the fields read so far begin the
  result) serves the converse, that a `w` with a border fails.
-/
import Umya.Model.CsvWrap
import Umya.Spec.CsvWrap
namespace Umya.Lemmas.CsvWrap
open Umya.Csv Umya.Rfc4180

/-- `w` has no proper self-overlap: no shift `0 < p < |w|` lets `w` continue itself
    (equivalently: no proper non-empty prefix of `w` is also a suffix of `w`). -/
def Unbordered (w : Text) : Prop := ∀ p, 0 < p → p < w.length → ¬ (w.drop p <+: w)

theorem escapeWAux_skip (w a t : Text) : escapeWAux w a.length (a ++ t) = a ++ escapeWAux w 0 t := by
  induction a with
  | nil => simp
  | cons c a ih => simp [escapeWAux, ih]

theorem escapeW_nil (w : Text) : escapeW w [] = [] := by simp [escapeW, escapeWAux]

theorem escapeW_match (w t : Text) (hne : w ≠ []) : escapeW w (w ++ t) = w ++ w ++ escapeW w t := by
  obtain ⟨c, w', rfl⟩ := List.exists_cons_of_ne_nil hne
  simp [escapeW, escapeWAux, escapeWAux_skip]

theorem escapeW_nomatch (w : Text) (c : Char) (cs : Text) (h : ¬ w <+: c :: cs) :
    escapeW w (c :: cs) = c :: escapeW w cs := by
  simp [escapeW, escapeWAux, h]

theorem escapeW_short (w v : Text) (h : v.length < w.length) : escapeW w v = v := by
  induction v with
  | nil => exact escapeW_nil w
  | cons c cs ih =>
    have hp : ¬ w <+: c :: cs := fun hp => by have := hp.length_le; omega
    rw [escapeW_nomatch w c cs hp, ih (by simp at h; omega)]

theorem runW_skip {w : Text} {m : ModeW} (a t : Text) {fld : Text} {rec : Record} {out : List Record} :
    runW w m a.length fld rec out (a ++ t) = runW w m 0 fld rec out t := by
  induction a with
  | nil => simp
  | cons c a ih => simp [runW, ih]

/-- An occurrence of `w` that starts before a written `w` lies inside the text `a` before it: if it did not fit inside `a`, then
    `a` would be a proper prefix of `w` and the rest of `w` a prefix of `w`, a border. -/
theorem prefix_left_of_unbordered (w a t : Text) (hub : Unbordered w) (ha : a ≠ []) (h : w <+: a ++ (w ++ t)) : w <+: a := by
  by_cases hl : w.length ≤ a.length
  · exact List.prefix_of_prefix_length_le h (List.prefix_append a (w ++ t)) hl
  · obtain ⟨s, rfl⟩ := List.prefix_of_prefix_length_le (List.prefix_append a _) h (by omega)
    have h2 : s <+: a ++ s ++ t := (List.prefix_append_right_inj a).mp h
    have h3 : s <+: a ++ s := List.prefix_of_prefix_length_le h2 (List.prefix_append _ t) (by simp)
    simp only [List.length_append] at hl
    exact absurd (by simpa using h3) (hub a.length (List.length_pos_iff.mpr ha) (by simp; omega))

/-- `a` is the part of `v` that is copied verbatim before the first `w` the writer writes (an escaped one, or the closing
    one when `v` has no `w`). -/
theorem escapeW_shape (w : Text) (hne : w ≠ []) (v : Text) : ∃ a t, escapeW w v ++ w = a ++ (w ++ t) ∧ a <+: v := by
  induction v with
  | nil => exact ⟨[], [], by simp [escapeW_nil], List.nil_prefix⟩
  | cons c cs ih =>
    by_cases hp : w <+: c :: cs
    · obtain ⟨t0, ht0⟩ := hp
      refine ⟨[], w ++ escapeW w t0 ++ w, ?_, List.nil_prefix⟩
      rw [← ht0, escapeW_match w t0 hne]; simp
    · obtain ⟨a, t, h1, h2⟩ := ih
      refine ⟨c :: a, t, ?_, ?_⟩
      · rw [escapeW_nomatch w c cs hp]; simp [h1]
      · exact List.cons_prefix_cons.mpr ⟨rfl, h2⟩

theorem no_false_quote (w : Text) (hne : w ≠ []) (hub : Unbordered w) (c : Char) (cs rest : Text)
    (h : ¬ w <+: c :: cs) : ¬ w <+: c :: (escapeW w cs ++ (w ++ rest)) := by
  intro hw
  obtain ⟨a, t, h1, h2⟩ := escapeW_shape w hne cs
  have e : c :: (escapeW w cs ++ (w ++ rest)) = (c :: a) ++ (w ++ (t ++ rest)) := by
    rw [← List.append_assoc, h1]; simp
  rw [e] at hw
  have := prefix_left_of_unbordered w (c :: a) (t ++ rest) hub (by simp) hw
  exact h (this.trans (List.cons_prefix_cons.mpr ⟨rfl, h2⟩))

theorem parseW_of_ne_nil {w : Text} (hne : w ≠ []) (s : Text) : parseW w s = runW w .start 0 [] [] [] s := by
  simp [parseW, hne]

theorem runW_start (w : Text) (hne : w ≠ []) {t fld : Text} {rec : Record} {out : List Record} :
    runW w .start 0 fld rec out (w ++ t) = runW w .quoted 0 [] rec out t := by
  obtain ⟨c, w', rfl⟩ := List.exists_cons_of_ne_nil hne
  simp [runW, runW_skip]

theorem runW_close (w : Text) (hne : w ≠ []) {t fld : Text} {rec : Record} {out : List Record}
    (h : ¬ w <+: t) : runW w .quoted 0 fld rec out (w ++ t) = runW w .after 0 fld rec out t := by
  obtain ⟨c, w', rfl⟩ := List.exists_cons_of_ne_nil hne
  -- `w ++ w <+: w ++ t` is `w <+: t`
  simp [runW, runW_skip, h]

theorem runW_esc (w : Text) (hne : w ≠ []) {t fld : Text} {rec : Record} {out : List Record} :
    runW w .quoted 0 fld rec out (w ++ (w ++ t)) = runW w .quoted 0 (fld ++ w) rec out t := by
  obtain ⟨c, w', rfl⟩ := List.exists_cons_of_ne_nil hne
  have hl : w'.length + 1 + (w'.length + 1) - 1 = (w' ++ c :: w').length := by simp; omega
  simp only [List.cons_append, runW, List.isPrefixOf_iff_prefix, List.length_cons, hl]
  simpa using runW_skip (w' ++ c :: w') t

theorem runW_char (w : Text) (c : Char) (cs : Text) {fld : Text} {rec : Record} {out : List Record}
    (h : ¬ w <+: c :: cs) : runW w .quoted 0 fld rec out (c :: cs) = runW w .quoted 0 (fld ++ [c]) rec out cs := by
  have h2 : ¬ w ++ w <+: c :: cs := fun h2 => h ((List.prefix_append w w).trans h2)
  simp [runW, h, h2]

theorem runW_escaped (w : Text) (hne : w ≠ []) (hub : Unbordered w) (v fld rest : Text) (rec : Record)
    (out : List Record) (hr : ¬ w <+: rest) :
    runW w .quoted 0 fld rec out (escapeW w v ++ (w ++ rest)) = runW w .after 0 (fld ++ v) rec out rest := by
  -- by induction on the length: after a match the scan goes on with `t0`, the text after `w`, not a subterm of `v`
  induction hv : v.length using Nat.strongRecOn generalizing v fld with
  | _ n ih =>
    cases v with
    | nil => rw [escapeW_nil, List.nil_append, List.append_nil]; exact runW_close w hne hr
    | cons c cs =>
      by_cases hp : w <+: c :: cs
      · obtain ⟨t0, ht0⟩ := hp
        have hlen : t0.length < n := by
          rw [← hv, ← ht0]
          have : 0 < w.length := List.length_pos_iff.mpr hne
          simp; omega
        rw [← ht0, escapeW_match w t0 hne]
        simp only [List.append_assoc]
        rw [runW_esc w hne, ih t0.length hlen t0 _ rfl]
        simp
      · rw [escapeW_nomatch w c cs hp, List.cons_append,
          runW_char w c _ (no_false_quote w hne hub c cs rest hp)]
        have hlen : cs.length < n := by rw [← hv]; simp
        rw [ih cs.length hlen cs _ rfl]
        simp

theorem runW_field (w : Text) (hne : w ≠ []) (hub : Unbordered w) {v fld rest : Text} (rec : Record)
    (out : List Record) (hr : ¬ w <+: rest) :
    runW w .start 0 fld rec out (quotedW w v ++ rest) = runW w .after 0 v rec out rest := by
  unfold quotedW
  simp only [List.append_assoc]
  rw [runW_start w hne, runW_escaped w hne hub v [] rest rec out hr]
  simp

theorem not_prefix_comma (w : Text) (hne : w ≠ []) (hub : Unbordered w) (hc : w ≠ [',']) (t : Text) :
    ¬ w <+: ',' :: (w ++ t) := by
  intro h
  have := prefix_left_of_unbordered w [','] t hub (by simp) h
  simp [List.prefix_cons_iff, hne, hc] at this

theorem not_prefix_crlf (w : Text) (hne : w ≠ []) (hub : Unbordered w) (h1 : w ≠ ['\r']) (h2 : w ≠ ['\r', '\n'])
    (rest : Text) (hr : rest = [] ∨ w <+: rest) : ¬ w <+: '\r' :: '\n' :: rest := by
  intro h
  have : w <+: ['\r', '\n'] := by
    rcases hr with rfl | ⟨t, rfl⟩
    · exact h
    · exact prefix_left_of_unbordered w ['\r', '\n'] t hub (by simp) h
  simp [List.prefix_cons_iff, hne] at this
  obtain ⟨t, rfl, rfl | rfl⟩ := this
  · exact h1 rfl
  · exact h2 rfl

/-- A doubled quote is one step of the string reader (`runW_esc`) and two of the RFC reader, hence the induction on the
    length.  In `.start` the string reader never looks at `fld` (the opening quote resets it), hence any `fld` on the left. -/
theorem runW_refines (q : Char) (hc : q ≠ ',') (hr : q ≠ '\r') (s fld : Text) (rec : Record) (out r : List Record) :
      (runW [q] .start 0 fld rec out s = some r → run ',' q .start [] rec out s = some r) ∧
      (runW [q] .quoted 0 fld rec out s = some r → run ',' q .quoted fld rec out s = some r) ∧
      (runW [q] .after 0 fld rec out s = some r → run ',' q .closing fld rec out s = some r) ∧
      (runW [q] .cr 0 fld rec out s = some r → run ',' q .cr fld rec out s = some r) := by
  induction hs : s.length using Nat.strongRecOn generalizing s fld rec out with
  | _ n ih =>
    cases s with
    | nil => refine ⟨?_, ?_, ?_, ?_⟩ <;> simp only [runW, run] <;> (try split) <;> simp
    | cons c cs =>
      have ih1 := fun fld rec out => ih cs.length (by simp [← hs]) cs fld rec out rfl
      refine ⟨?_, ?_, ?_, ?_⟩
      · by_cases h : c = q
        · subst h
          rw [show c :: cs = [c] ++ cs from rfl, runW_start [c] (by simp)]
          simp only [List.cons_append, List.nil_append, run, if_true]
          exact (ih1 [] rec out).2.1
        · simp [runW, Ne.symm h]
      · by_cases h : c = q
        · subst h
          simp only [run, if_true]
          by_cases hd : [c] <+: cs
          · obtain ⟨t, rfl⟩ := hd
            rw [show c :: ([c] ++ t) = [c] ++ ([c] ++ t) from rfl, runW_esc [c] (by simp)]
            simp only [List.cons_append, List.nil_append, run, if_true]
            exact (ih t.length (by simp [← hs]; omega) t _ rec out rfl).2.1
          · rw [show c :: cs = [c] ++ cs from rfl, runW_close [c] (by simp) hd]
            exact (ih1 fld rec out).2.2.1
        · rw [runW_char [q] c cs (by simp [List.cons_prefix_cons, Ne.symm h])]
          simp only [run, if_neg h]
          exact (ih1 _ rec out).2.1
      · simp only [runW, run]
        by_cases h1 : c = ','
        · subst h1; simp only [if_true, if_neg (fun e : ',' = q => hc e.symm)]; exact (ih1 [] (rec ++ [fld]) out).1
        · by_cases h2 : c = '\r'
          · subst h2; simp only [if_true, if_neg h1, if_neg (fun e : '\r' = q => hr e.symm)]; exact (ih1 fld rec out).2.2.2
          · simp [h1, h2]
      · simp only [runW, run]
        by_cases h : c = '\n'
        · subst h; simp only [if_true]; exact (ih1 [] [] (out ++ [rec ++ [fld]])).1
        · simp [h]

/-- What has been read begins the result: the completed fields, then (inside a field or after it) the current one, which
    grows while it is open. -/
def ReadSoFar : ModeW → Text → Record → List Record → List Record → Prop
  | .start, _, rec, out, r => out.flatten ++ rec <+: r.flatten
  | .quoted, fld, rec, out, r => ∃ x, out.flatten ++ rec ++ [fld ++ x] <+: r.flatten
  | _, fld, rec, out, r => out.flatten ++ rec ++ [fld] <+: r.flatten

theorem runW_readSoFar {w s : Text} {m : ModeW} {k : Nat} {fld : Text} {rec : Record} {out r : List Record}
    (h : runW w m k fld rec out s = some r) : ReadSoFar m fld rec out r := by
  induction s generalizing m k fld rec out r with
  | nil =>
    -- at the end of the input only `.start` (if `rec` is empty) and `.after`, with nothing to skip, return a result
    cases k <;> cases m <;> simp only [runW, reduceCtorEq] at h
    · split at h
      · cases h
        simp [ReadSoFar, List.isEmpty_iff.1 ‹_›]
      · cases h
    · cases h; simp [ReadSoFar]
  | cons c cs ih =>
    cases k with
    | succ k =>
      simp only [runW] at h
      exact ih h
    | zero =>
      cases m with
      | start =>
        simp only [runW] at h
        split at h
        · obtain ⟨x, hx⟩ := ih h
          exact (List.prefix_append _ _).trans hx
        · cases h
      | quoted =>
        simp only [runW] at h
        split at h
        · obtain ⟨x, hx⟩ := ih h
          exact ⟨w ++ x, by simpa using hx⟩
        · split at h
          · exact ⟨[], by simpa [ReadSoFar] using ih h⟩
          · obtain ⟨x, hx⟩ := ih h
            exact ⟨c :: x, by simpa using hx⟩
      | after =>
        simp only [runW] at h
        split at h
        · simpa [ReadSoFar] using ih h
        · split at h
          · exact ih (m := .cr) h
          · cases h
      | cr =>
        simp only [runW] at h
        split at h
        · simpa [ReadSoFar] using ih h
        · cases h
end Umya.Lemmas.CsvWrap
