/-
  Through the abstraction `content`, an insert / remove on the cell store is the reference insert /
  remove (`Spec.Grid`) on both axes.
-/
import Umya.Lemmas.CoherentShift
import Umya.Spec.Grid
namespace Umya.Sheet
open Umya.Spec.Grid

/-- the abstraction: what content (value token, style token) sits at (row, col) -/
def content (s : Sheet) : Umya.Spec.Grid.Grid (Nat × Nat) :=
  fun r c => (lookup (r, c) s.cells).map (fun x => (x.val, x.sty))

theorem cells_keyed_by_coord (s : Sheet) (h : Coherent s) (F : Key → CellM → Key × CellM) :
    s.cells.map (fun p => F (p.2.row, p.2.col) p.2) = s.cells.map (fun p => F p.1 p.2) := by
  apply List.map_congr_left
  intro p hp
  have := h.coord p hp
  rw [this.1, this.2]

theorem content_insertAdj {s : Sheet} (h : Coherent s) (rc oc rr or_ : Nat) :
    content (insertAdj s rc oc rr or_) = insertCols (insertRows (content s) rr or_) rc oc := by
  funext r c
  rw [insertCols_apply]
  simp only [insertRows_apply]
  by_cases h0 : oc = 0 ∧ or_ = 0
  · obtain ⟨rfl, rfl⟩ := h0
    rw [insertSrc_zero, insertSrc_zero]; rfl
  · simp only [content, (insertAdj_spec h rc oc rr or_ h0).2, srcKey]
    cases insertSrc rr or_ r <;> cases insertSrc rc oc c <;> try rfl
    simp only [Option.bind_some, Option.map_some, Option.map_map]; rfl

theorem content_removeAdj {s t : Sheet} (h : Coherent s) {rc oc rr or_ : Nat}
    (hok : removeAdj s rc oc rr or_ = .ok t) :
    content t = removeCols (removeRows (content s) rr or_) rc oc := by
  funext r c
  rw [removeCols_apply, removeRows_apply]
  by_cases h0 : oc = 0 ∧ or_ = 0
  · rw [removeAdj_eq, if_pos h0] at hok
    obtain ⟨rfl, rfl⟩ := h0
    cases hok
    rw [removeSrc_zero, removeSrc_zero]
  · simp only [content, (removeAdj_spec h h0 hok).2, srcKey, Function.comp, Option.bind_some, Option.map_some,
      isRem_removeSrc, Bool.or_self, Bool.not_false, if_true, Option.map_map]; rfl

theorem removeAdj_refines {s : Sheet} (h : Coherent s) (rc oc rr or_ : Nat) (hc : 1 ≤ rc ∨ oc = 0) (hr : 1 ≤ rr ∨ or_ = 0) :
    ∃ t, removeAdj s rc oc rr or_ = .ok t ∧ Coherent t ∧
      content t = removeCols (removeRows (content s) rr or_) rc oc := by
  obtain ⟨t, ht⟩ := removeAdj_no_panic s rc oc rr or_ hc hr
  exact ⟨t, ht, removeAdj_coherent h ht, content_removeAdj h ht⟩

theorem removeAdj_insertAdj {s : Sheet} (h : Coherent s) (rc oc rr or_ : Nat) (hc : 1 ≤ rc ∨ oc = 0) (hr : 1 ≤ rr ∨ or_ = 0) :
    ∃ t, removeAdj (insertAdj s rc oc rr or_) rc oc rr or_ = .ok t ∧ content t = content s := by
  obtain ⟨t, ht, _, hct⟩ := removeAdj_refines (insertAdj_coherent h rc oc rr or_) rc oc rr or_ hc hr
  exact ⟨t, ht, by rw [hct, content_insertAdj h, removeRows_insertCols, removeRows_insertRows, removeCols_insertCols]⟩

theorem content_ne_none_iff (s : Sheet) (r c : Nat) : content s r c ≠ none ↔ (r, c) ∈ keysOf s := by
  unfold content keysOf
  rw [← lookup_isSome_iff]
  cases lookup (r, c) s.cells <;> simp

end Umya.Sheet
