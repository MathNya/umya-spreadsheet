/-
  The exact set of sheet names `Address::get_address_ptn2` prints WITHOUT apostrophes
  (`needsQuote n = false ↔ plainByLibraryB n`): the unanchored pattern of `index_from_coordinate` finds a column in every
  name that starts with an upper-case letter and a row in every name that starts with a digit run fitting `u32`.
-/
import Umya.Lemmas.Coord
import Umya.Model.CoordCanon
namespace Umya.Annot
open Umya.Coord Umya.Dec

theorem alnum_not_ws (c : Char) (h : isAlnumAscii c = true) : isWhitespace c = false := by
  simp only [isAlnumAscii, isDigit, isUpperAZ, isLowerAZ, Bool.or_eq_true, Bool.and_eq_true, decide_eq_true_eq] at h
  simp only [isWhitespace, Bool.or_eq_false_iff, Bool.and_eq_false_iff, decide_eq_false_iff_not]
  omega

theorem alnum_classes (c : Char) (h : isAlnumAscii c = true) :
    (isDigit c = true ∧ isUpperAZ c = false ∧ isLowerAZ c = false) ∨
    (isDigit c = false ∧ isUpperAZ c = true ∧ isLowerAZ c = false) ∨
    (isDigit c = false ∧ isUpperAZ c = false ∧ isLowerAZ c = true) := by
  simp only [isAlnumAscii, isDigit, isUpperAZ, isLowerAZ, Bool.or_eq_true, Bool.and_eq_true, Bool.and_eq_false_iff,
    decide_eq_true_eq, decide_eq_false_iff_not] at h ⊢
  rcases h with (h | h) | h
  · left; omega
  · right; left; omega
  · right; right; omega

theorem coordNone_alnum (c : Char) (r : Text) (hc : isAlnumAscii c = true) :
    (indexFromCoordinate (c :: r) == (none, none, none, none)) =
      (isLowerAZ c || (isDigit c && decide (4294967296 ≤ parseDec ((c :: r).takeWhile isDigit)))) := by
  have hd : c ≠ '$' := by intro e; subst e; simp [isAlnumAscii, isDigit, isUpperAZ, isLowerAZ] at hc
  rcases alnum_classes c hc with ⟨h, hnu, hnl⟩ | ⟨hnd, h, hnl⟩ | ⟨hnd, hnu, h⟩
  · have hall := List.all_takeWhile (p := isDigit) (l := c :: r)
    have hne : ((c :: r).takeWhile isDigit).isEmpty = false := by simp [List.takeWhile, h]
    simp only [indexFromCoordinate, matchColGroup_not_upper c r hnu hd, matchRowGroup_digit c r h, hnl, h,
      Bool.false_or, Bool.true_and, Option.bind_some, Option.map_none, parseU32, hne, hall, Bool.false_eq_true,
      if_false, if_true]
    by_cases hv : parseDec ((c :: r).takeWhile isDigit) < 4294967296
    · simp [hv, Nat.not_le.mpr hv]
    · simp [hv, Nat.not_lt.mp hv]
  · obtain ⟨x, hx⟩ := matchColGroup_upper c r h
    simp [indexFromCoordinate, hx, hnl, hnd]
  · simp [indexFromCoordinate, matchColGroup_not_upper c r hnu hd, matchRowGroup_not_digit c r hnd hd, h]

theorem needsQuote_eq (n : Text) : needsQuote n = !plainByLibraryB n := by
  cases hE : n.any (fun c => !isAlnumAscii c)
  · have hal : ∀ c ∈ n, isAlnumAscii c = true := by
      intro c hc
      have := List.any_eq_false.1 hE c hc
      simpa using this
    have hA : n.any isWhitespace = false := by
      rw [List.any_eq_false]; intro c hc; simp [alnum_not_ws c (hal c hc)]
    have hmem : ∀ x : Char, isAlnumAscii x = false → n.contains x = false := by
      intro x hx
      rw [List.contains_eq_mem]
      simp only [decide_eq_false_iff_not]
      intro hm
      rw [hal x hm] at hx; cases hx
    have hall : n.all isAlnumAscii = true := List.all_eq_true.2 hal
    unfold needsQuote plainByLibraryB
    rw [hA, hE, hmem '!' (by decide), hmem '\'' (by decide), hmem '"' (by decide), hall]
    cases n with
    | nil => simp [indexFromCoordinate_nil]
    | cons c r =>
      have := coordNone_alnum c r (hal c (by simp))
      simp only [Bool.false_or, Bool.true_and, bne, this]
  · have hall : n.all isAlnumAscii = false := by
      rw [List.all_eq_false]
      obtain ⟨c, hc, hx⟩ := List.any_eq_true.1 hE
      exact ⟨c, hc, by simpa using hx⟩
    unfold needsQuote plainByLibraryB
    rw [hE, hall]; simp

end Umya.Annot
