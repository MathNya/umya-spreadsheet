/-
  `move_or_copy_range` on a coherent sheet: whenever it returns, it commutes with the reference
  `moveRect` / `copyRect` through the abstraction `content` (`moveOrCopy_content`); it panics exactly
  at its guard or on an inverted rectangle (`moveOrCopy_panic_iff`).
-/
import Umya.Lemmas.CoherentRun
import Umya.Lemmas.MoveRangeScan
namespace Umya.Sheet
open Umya.Spec.Grid

/-!
  The offsets are integers and the model translates with `Int.toNat`; everything the refinement
  needs of that arithmetic is these two facts about one axis. -/

theorem shift_eq_iff {x lo hi a : Nat} {d : Int} (h1 : lo ≤ x) (h2 : x ≤ hi) (hd : 1 ≤ (lo : Int) + d) :
    a = ((x : Int) + d).toNat ↔
      ((lo : Int) ≤ (a : Int) - d ∧ (a : Int) - d ≤ (hi : Int)) ∧ x = ((a : Int) - d).toNat := by
  omega

theorem preimage_spec {lo hi a : Nat} {d : Int} (h : (lo : Int) ≤ (a : Int) - d ∧ (a : Int) - d ≤ (hi : Int)) :
    lo ≤ ((a : Int) - d).toNat ∧ ((a : Int) - d).toNat ≤ hi ∧
      a = ((((a : Int) - d).toNat : Int) + d).toNat := by
  omega

theorem has_iff (ρ : Rect) (r c : Nat) :
    ρ.has r c ↔ ρ.rs ≤ r ∧ r ≤ ρ.re ∧ ρ.cs ≤ c ∧ c ≤ ρ.ce := by
  simp only [Rect.has]; omega

theorem target_eq_iff (ρ : Rect) (dr dc : Int) (hr : 1 ≤ (ρ.rs : Int) + dr) (hc : 1 ≤ (ρ.cs : Int) + dc) {x y : Nat}
    (hx : ρ.rs ≤ x ∧ x ≤ ρ.re) (hy : ρ.cs ≤ y ∧ y ≤ ρ.ce) (r c : Nat) :
    (r, c) = (((x : Int) + dr).toNat, ((y : Int) + dc).toNat) ↔
      ρ.hasImage dr dc r c ∧ (x, y) = (((r : Int) - dr).toNat, ((c : Int) - dc).toNat) := by
  rw [Prod.mk.injEq, Prod.mk.injEq, shift_eq_iff hx.1 hx.2 hr, shift_eq_iff hy.1 hy.2 hc]
  exact ⟨fun ⟨⟨⟨a, b⟩, e1⟩, ⟨c, d⟩, e2⟩ => ⟨⟨a, b, c, d⟩, e1, e2⟩, fun ⟨⟨a, b, c, d⟩, e1, e2⟩ => ⟨⟨⟨a, b⟩, e1⟩, ⟨c, d⟩, e2⟩⟩

theorem hasImage_preimage (ρ : Rect) (dr dc : Int) (r c : Nat) (hI : ρ.hasImage dr dc r c) :
    (((r : Int) - dr).toNat, ((c : Int) - dc).toNat) ∈ rectPositions ρ.rs ρ.re ρ.cs ρ.ce ∧
      (r, c) = (((((r : Int) - dr).toNat : Nat) : Int) + dr |>.toNat, ((((c : Int) - dc).toNat : Nat) : Int) + dc |>.toNat) := by
  obtain ⟨a1, a2, a3⟩ := preimage_spec (d := dr) ⟨hI.1, hI.2.1⟩
  obtain ⟨b1, b2, b3⟩ := preimage_spec (d := dc) ⟨hI.2.2.1, hI.2.2.2⟩
  exact ⟨mem_rectPositions.2 ⟨a1, a2, b1, b2⟩, Prod.ext a3 b3⟩

/-- for both refinements: the cells collected from `s` are pasted onto any sheet `s1` -/
theorem content_paste_copies (s s1 : Sheet) (h : Coherent s) (ρ : Rect) (dr dc : Int)
    (hr : 1 ≤ (ρ.rs : Int) + dr) (hc : 1 ≤ (ρ.cs : Int) + dc)
    (coords : List Key) (hok : coordsInRange s ρ.rs ρ.re ρ.cs ρ.ce = .ok coords) (r c : Nat) :
    content (paste s1 (copiesOf s coords) dr dc) r c =
      if ρ.hasImage dr dc r c then
        match content s ((r : Int) - dr).toNat ((c : Int) - dc).toNat with
        | some x => some x
        | none => content s1 r c
      else content s1 r c := by
  obtain ⟨hA, hB⟩ := copiesOf_spec s h ρ.rs ρ.re ρ.cs ρ.ce coords hok
  -- a copy lands on `(r, c)` iff `(r, c)` is in the image and the copy is the cell at the pre-image
  have hit : ∀ y ∈ copiesOf s coords, (r, c) = (((y.row : Int) + dr).toNat, ((y.col : Int) + dc).toNat) ↔
      ρ.hasImage dr dc r c ∧ (y.row, y.col) = (((r : Int) - dr).toNat, ((c : Int) - dc).toNat) := fun y hy =>
    have ⟨_, a1, a2, a3, a4⟩ := hA y hy
    target_eq_iff ρ dr dc hr hc ⟨a1, a2⟩ ⟨a3, a4⟩ r c
  rw [content_paste_eq s1 _ dr dc r c (content s ((r : Int) - dr).toNat ((c : Int) - dc).toNat) fun y hy e => by
    rw [content, ← ((hit y hy).1 e).2, (hA y hy).1]; rfl]
  by_cases hI : ρ.hasImage dr dc r c
  · rw [if_pos hI]
    cases hl : lookup (((r : Int) - dr).toNat, ((c : Int) - dc).toNat) s.cells with
    | none =>
      have hc : content s ((r : Int) - dr).toNat ((c : Int) - dc).toNat = none := congrArg (Option.map _) hl
      rw [if_neg, hc]
      rintro ⟨y, hy, e⟩
      rw [← ((hit y hy).1 e).2, (hA y hy).1] at hl; cases hl
    | some x =>
      have hco := h.coord _ (lookup_some_mem hl)
      obtain ⟨hp, _⟩ := hasImage_preimage ρ dr dc r c hI
      obtain ⟨a1, a2, a3, a4⟩ := mem_rectPositions.1 hp
      have hc : content s ((r : Int) - dr).toNat ((c : Int) - dc).toNat = some (x.val, x.sty) :=
        congrArg (Option.map _) hl
      rw [if_pos ⟨x, hB _ _ x hl a1 a2 a3 a4, (hit x (hB _ _ x hl a1 a2 a3 a4)).2 ⟨hI, Prod.ext hco.1 hco.2⟩⟩, hc]
  · rw [if_neg hI, if_neg fun ⟨y, hy, e⟩ => hI ((hit y hy).1 e).1]

theorem content_clearRect (s : Sheet) (ρ : Rect) (dr dc : Int) (hr : 1 ≤ (ρ.rs : Int) + dr) (hc : 1 ≤ (ρ.cs : Int) + dc)
    (r c : Nat) :
    content (clearRect s ρ.rs ρ.re ρ.cs ρ.ce dr dc) r c =
      if ρ.hasImage dr dc r c ∨ ρ.has r c then none else content s r c := by
  rw [content_clearRect_eq]
  refine ite_congr (propext ?_) (fun _ => rfl) fun _ => rfl
  constructor
  · rintro ⟨p, hp, e⟩
    obtain ⟨a1, a2, a3, a4⟩ := mem_rectPositions.1 hp
    rcases e with e | e
    · exact Or.inl ((target_eq_iff ρ dr dc hr hc ⟨a1, a2⟩ ⟨a3, a4⟩ r c).1 e).1
    · cases e; exact Or.inr ((has_iff ρ _ _).2 ⟨a1, a2, a3, a4⟩)
  · rintro (hI | hS)
    · obtain ⟨hp, e⟩ := hasImage_preimage ρ dr dc r c hI
      exact ⟨_, hp, Or.inl e⟩
    · exact ⟨(r, c), mem_rectPositions.2 ((has_iff ρ r c).1 hS), Or.inr rfl⟩

/-- on a coherent store the collection stage cannot fail: only the guard and `BTreeSet::range` panic -/
theorem moveOrCopy_panic_iff (s : Sheet) (h : Coherent s) (rs re cs ce : Nat) (dr dc : Int) (mv : Bool) :
    moveOrCopy s rs re cs ce dr dc mv = .panic ↔
      ((cs : Int) + dc < 1 ∨ (rs : Int) + dr < 1 ∨ (ce : Int) + dc > 16384 ∨ (re : Int) + dr > 1048576) ∨
      keyLt (re, ce) (rs, cs) = true := by
  rw [moveOrCopy_eq]
  split
  · rename_i hg; exact ⟨fun _ => Or.inl hg, fun _ => rfl⟩
  · rename_i hg
    unfold coordsInRange
    by_cases hinv : keyLt (re, ce) (rs, cs) = true
    · rw [if_pos hinv]; exact ⟨fun _ => Or.inr hinv, fun _ => rfl⟩
    · rw [if_neg hinv]
      simp only [collectCells_eq s h rs re cs ce _ (by unfold coordsInRange; rw [if_neg hinv])]
      exact ⟨nofun, fun hh => hh.elim (absurd · hg) (absurd · hinv)⟩

theorem moveOrCopy_content (s t : Sheet) (h : Coherent s) (ρ : Rect) (dr dc : Int) (mv : Bool)
    (hok : moveOrCopy s ρ.rs ρ.re ρ.cs ρ.ce dr dc mv = .ok t) :
    content t = if mv then moveRect (content s) ρ dr dc else copyRect (content s) ρ dr dc := by
  rw [moveOrCopy_eq] at hok
  split at hok
  · cases hok
  · rename_i hg
    have hr : 1 ≤ (ρ.rs : Int) + dr := by omega
    have hc : 1 ≤ (ρ.cs : Int) + dc := by omega
    cases hco : coordsInRange s ρ.rs ρ.re ρ.cs ρ.ce with
    | panic => rw [hco] at hok; cases hok
    | ok coords =>
      rw [hco] at hok
      simp only [collectCells_eq s h ρ.rs ρ.re ρ.cs ρ.ce coords hco] at hok
      cases hok
      funext r c
      rw [content_paste_copies s _ h ρ dr dc hr hc coords hco r c]
      cases mv
      · simp only [Bool.false_eq_true, if_false]
        unfold copyRect
        by_cases hI : ρ.hasImage dr dc r c
        · rw [if_pos hI, if_pos hI]
          cases content s ((r : Int) - dr).toNat ((c : Int) - dc).toNat <;> rfl
        · rw [if_neg hI, if_neg hI]
      · simp only [if_true]
        rw [content_clearRect s ρ dr dc hr hc r c]
        unfold moveRect
        by_cases hI : ρ.hasImage dr dc r c
        · rw [if_pos hI, if_pos hI, if_pos (Or.inl hI)]
          cases content s ((r : Int) - dr).toNat ((c : Int) - dc).toNat <;> rfl
        · simp only [hI, if_false, false_or]

theorem moveOrCopy_refines (s : Sheet) (h : Coherent s) (ρ : Rect) (dr dc : Int) (hin : InRange ρ dr dc) (mv : Bool) :
    ∃ t, moveOrCopy s ρ.rs ρ.re ρ.cs ρ.ce dr dc mv = .ok t ∧ Coherent t ∧
      content t = if mv then moveRect (content s) ρ dr dc else copyRect (content s) ρ dr dc := by
  cases hst : moveOrCopy s ρ.rs ρ.re ρ.cs ρ.ce dr dc mv with
  | ok t => exact ⟨t, rfl, moveOrCopy_coherent h hst, moveOrCopy_content s t h ρ dr dc mv hst⟩
  | panic =>
    have := (moveOrCopy_panic_iff s h _ _ _ _ dr dc mv).1 hst
    rw [keyLt_iff] at this
    simp only [InRange, maxRow, maxCol] at hin
    omega

/-- `t` keeps the row table and the column list of `s` as they are, possibly with new entries behind -/
def DimsKept (s t : Sheet) : Prop := s.rows <+: t.rows ∧ s.cols <+: t.cols

theorem dimsKept_refl (s : Sheet) : DimsKept s s := ⟨List.prefix_refl _, List.prefix_refl _⟩

theorem dimsKept_trans {a b c : Sheet} (h1 : DimsKept a b) (h2 : DimsKept b c) : DimsKept a c :=
  ⟨h1.1.trans h2.1, h1.2.trans h2.2⟩

theorem removeCell_dims (s : Sheet) (c r : Nat) : DimsKept s (removeCell s c r) := by
  unfold removeCell; split <;> exact dimsKept_refl _

theorem ensureRow_dims (s : Sheet) (r : Nat) : DimsKept s (ensureRow s r) :=
  ⟨ensureRow_prefix s r, (ensureRow_eq s r).2.2.2 ▸ List.prefix_refl _⟩

theorem ensureCol_dims (s : Sheet) (c : Nat) : DimsKept s (ensureCol s c) := by
  unfold ensureCol; split
  · exact dimsKept_refl _
  · exact ⟨List.prefix_refl _, List.prefix_append _ _⟩

theorem getMut_dims (s : Sheet) (c r : Nat) : DimsKept s (getMut s c r) := by
  have h := dimsKept_trans (ensureRow_dims s r) (ensureCol_dims (ensureRow s r) c)
  unfold getMut
  simp only
  split <;> exact h

theorem setCell_dims (s : Sheet) (c r v st : Nat) : DimsKept s (setCell s c r v st) := by
  have h := getMut_dims s c r
  unfold setCell modify
  split <;> exact h

theorem moveOrCopy_dims (s t : Sheet) {rs re cs ce : Nat} {dr dc : Int} (mv : Bool)
    (hok : moveOrCopy s rs re cs ce dr dc mv = .ok t) : DimsKept s t :=
  moveOrCopy_keeps (DimsKept s) (fun u c r hu => dimsKept_trans hu (removeCell_dims u c r))
    (fun u c r v st hu => dimsKept_trans hu (setCell_dims u c r v st)) (dimsKept_refl s) hok

end Umya.Sheet
