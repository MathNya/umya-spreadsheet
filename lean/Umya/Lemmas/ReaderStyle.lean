/-
  Style components: the reader model's component readers (`Umya.StyleCodec.*.read`, folds over
  the child events) against the independent decoder's look-ups (`Umya.Spec.Sml.fontV`, `fillV`, `borderV`, …).
  The one idea behind every component lemma: the reader's loop overwrites a field at every child of the field's name
  (the LAST one wins), the decoder looks at the FIRST such child; with at most one such child the two are the same child
  (`foldOpt_field`).  So each component has `X.step_spec` (what one child does to each field), `X.step_total` (a per-child
  check makes the step succeed), the explicit decidable `validX` on the element tree (that check for every child, and `uniq`
  for every compared name), and `X_agrees`, one `foldOpt_field` / `foldOpt_const` per field.
-/
import Umya.Model.ReaderStyleView
import Umya.Lemmas.Reader
namespace Umya.Reader.Lemmas
open Umya.Reader Umya.Spec.Xml Umya.Spec.Sml
open Umya.StyleCodec

theorem foldOpt_proj {α β γ : Type} (step : α → β → Option α) (proj : α → γ) (upd : γ → β → γ)
    (h : ∀ a b a', step a b = some a' → proj a' = upd (proj a) b) :
    ∀ (l : List β) (a a' : α), foldOpt step l a = some a' → proj a' = l.foldl upd (proj a) := by
  intro l
  induction l with
  | nil => intro a a' h1; cases h1; rfl
  | cons b r ih =>
    intro a a' h1
    obtain ⟨a1, hs, h2⟩ := Option.bind_eq_some_iff.mp h1
    rw [List.foldl_cons, ← h a b a1 hs]
    exact ih a1 a' h2

theorem foldOpt_field {α β γ : Type} (step : α → β → Option α) (proj : α → γ) (p : β → Bool) (g : γ → β → γ)
    (h : ∀ a b a', step a b = some a' → proj a' = if p b then g (proj a) b else proj a)
    {l : List β} {a a' : α} (h1 : foldOpt step l a = some a') (h2 : (l.filter p).length ≤ 1) :
    proj a' = ((l.find? p).map (g (proj a))).getD (proj a) := by
  -- the loop only moves at the children satisfying `p`: a `foldl` of `g` over `l.filter p`, of which `find?` is the head
  rw [foldOpt_proj step proj (fun x b => if p b then g x b else x) h l a a' h1, ← List.foldl_filter, ← List.head?_filter]
  match l.filter p, h2 with
  | [], _ => rfl
  | [_], _ => rfl
  | _ :: _ :: _, h => simp at h

theorem foldOpt_total {α β : Type} {step : α → β → Option α} {ok : β → Bool}
    (h : ∀ a b, ok b = true → ∃ a', step a b = some a') :
    ∀ (l : List β) (a : α), l.all ok = true → ∃ a', foldOpt step l a = some a' := by
  intro l
  induction l with
  | nil => intro a _; exact ⟨a, rfl⟩
  | cons b r ih =>
    intro a hl
    simp only [List.all_cons, Bool.and_eq_true] at hl
    obtain ⟨a1, h1⟩ := h a b hl.1
    obtain ⟨a2, h2⟩ := ih a1 hl.2
    exact ⟨a2, by simp only [foldOpt, h1, Option.bind_some, h2]⟩

theorem foldOpt_const {α β γ : Type} (step : α → β → Option α) (proj : α → γ)
    (h : ∀ a b a', step a b = some a' → proj a' = proj a) {l : List β} {a a' : α} (h1 : foldOpt step l a = some a') :
    proj a' = proj a := by
  rw [foldOpt_proj step proj (fun x _ => x) h l a a' h1]
  clear h1
  induction l with
  | nil => rfl
  | cons _ _ ih => exact ih

/-- for a second name the loop reacts to and no child carries (`rFont`, `gradientFill`) -/
theorem or_absent {α : Type} (p q : α → Bool) (l : List α) (h : l.any q = false) :
    l.filter (fun c => p c || q c) = l.filter p ∧ l.find? (fun c => p c || q c) = l.find? p := by
  have hfil : l.filter (fun c => p c || q c) = l.filter p :=
    List.filter_congr fun c hc => by rw [Bool.eq_false_iff.mpr (List.any_eq_false.mp h c hc), Bool.or_false]
  exact ⟨hfil, by rw [← List.head?_filter, hfil, List.head?_filter]⟩

/-- the element's name has no prefix: the decoder matches local names, the reader's loops the raw names -/
def plain (c : Node) : Bool := decide (localName c.name = c.name)

/-- at most one child named `k` -/
def uniq (cs : List Node) (k : String) : Bool := decide ((cs.filter (named k)).length ≤ 1)

theorem named_plain (k : String) (c : Node) (h : plain c = true) :
    named k c = (c.isElem && decide (localName c.name = k.toList)) := by
  simp only [plain, decide_eq_true_eq] at h
  simp only [named, h]

theorem named_elem_eq (k : String) (nm : Text) (as : List Attr) (cs : List Node) :
    named k (.elem nm as cs) = decide (nm = k.toList) := Bool.true_and _

theorem kids_eq_filter (n : Node) (k : String) (h : n.children.all plain = true) :
    n.kids k = n.children.filter (named k) := by
  unfold Node.kids
  apply List.filter_congr
  intro c hc
  rw [named_plain k c (List.all_eq_true.mp h c hc)]

theorem kid?_eq_find (n : Node) (k : String) (h : n.children.all plain = true) :
    n.kid? k = n.children.find? (named k) := by
  unfold Node.kid?
  rw [kids_eq_filter n k h, List.head?_filter]

theorem attr?_eq_getAttr (n : Node) (k : String) : n.attr? k.toList = getAttr n.attrs k := by
  simp [Node.attr?, getAttr]

-- `u32Of`, `boolOf`, `u32Attr`, `boolAttr`, `enumAttr` are the scalar readers of the C05 codec (`Model/StyleCodec.lean`),
-- `natOf`, `xsdTrue`, `uintOk` the decoder's (`Spec/Sml.lean`)
theorem u32Of_of_natOf (v : Text) (n : Nat) (h : natOf v = some n) (hb : n < 4294967296) : u32Of v = some n := by
  obtain ⟨h1, h2, h3⟩ := natOf_some v n h
  rw [Umya.Dec.charIsDigit_eq] at h2
  have h3 : Umya.Dec.parseDec v = n := h3
  unfold u32Of
  split
  · exact absurd rfl (Umya.Dec.ne_cons_of_all_isDigit (c := '+') (by decide) h2 _)
  · simp [Umya.Dec.parseU32, h1, h2, h3, hb]

theorem u32Of_uintOk (v : Text) (h : uintOk u32Bound v = true) : u32Of v = natOf v := by
  unfold uintOk at h
  split at h
  · rename_i n hn
    rw [hn]; exact u32Of_of_natOf v n hn (by simpa [u32Bound] using of_decide_eq_true h)
  · cases h

theorem boolOf_xsdTrue (v : Text) : boolOf v = xsdTrue v := by
  simp only [boolOf, xsdTrue]
  by_cases h1 : v = "true".toList <;> by_cases h2 : v = "1".toList <;> simp_all

theorem boolAttr_xsd (as : List Attr) (k : String) :
    StyleCodec.boolAttr as k none = (getAttr as k).map xsdTrue := by
  unfold StyleCodec.boolAttr
  cases getAttr as k with
  | none => rfl
  | some v => simp [boolOf_xsdTrue]

def uintAttrOk (as : List Attr) (k : String) : Bool :=
  match getAttr as k with
  | some v => uintOk u32Bound v
  | none => true

theorem u32Attr_natOf {as : List Attr} {k : String} (h : uintAttrOk as k = true) :
    u32Attr as k none = some ((getAttr as k).bind natOf) := by
  unfold uintAttrOk at h
  unfold u32Attr
  cases hv : getAttr as k with
  | none => rfl
  | some v =>
    rw [hv] at h
    obtain ⟨n, hn, _⟩ := uintOk_parse h
    simp only [u32Of_uintOk v h, hn, Option.map_some, Option.bind_some]

def uniqA (as : List Attr) (k : String) : Bool := decide ((as.filter (fun a => decide (a.name = k.toList))).length ≤ 1)

/-- none of `indexed theme rgb tint` twice (XML 1.0 well-formedness gives it for every attribute), `indexed` / `theme`
    unsigned decimals that fit `u32` -/
def colorOk (as : List Attr) : Bool :=
  uniqA as "indexed" && uniqA as "theme" && uniqA as "rgb" && uniqA as "tint" &&
  as.all (fun a => if a.name = "indexed".toList ∨ a.name = "theme".toList then uintOk u32Bound a.value else true)

theorem Color.attrStep_spec (cf : Tok → Tok) (c c' : Color) (a : Attr) (h : Color.attrStep cf c a = some c') :
    c'.indexed = (if decide (a.name = "indexed".toList) then u32Of a.value else c.indexed) ∧
    c'.theme = (if decide (a.name = "theme".toList) then u32Of a.value else c.theme) ∧
    c'.argb = (if decide (a.name = "rgb".toList) then some a.value else c.argb) ∧
    c'.tint = (if decide (a.name = "tint".toList) then some (cf a.value) else c.tint) := by
  unfold Color.attrStep at h
  by_cases c1 : a.name = "indexed".toList
  · rw [if_pos c1] at h
    obtain ⟨n, hn, rfl⟩ := Option.map_eq_some_iff.mp h
    simp [c1, hn]
  rw [if_neg c1] at h
  by_cases c2 : a.name = "theme".toList
  · rw [if_pos c2] at h
    obtain ⟨n, hn, rfl⟩ := Option.map_eq_some_iff.mp h
    simp [c2, hn]
  rw [if_neg c2] at h
  by_cases c3 : a.name = "rgb".toList
  · rw [if_pos c3] at h; simp only [Option.some.injEq] at h; subst h; simp [c3]
  rw [if_neg c3] at h
  by_cases c4 : a.name = "tint".toList
  · rw [if_pos c4] at h; simp only [Option.some.injEq] at h; subst h; simp [c4]
  rw [if_neg c4] at h
  simp only [Option.some.injEq] at h; subst h
  simp_all

theorem Color.attrStep_total (cf : Tok → Tok) (c : Color) (a : Attr)
    (h : (if a.name = "indexed".toList ∨ a.name = "theme".toList then uintOk u32Bound a.value else true) = true) :
    ∃ c', Color.attrStep cf c a = some c' := by
  unfold Color.attrStep
  by_cases c1 : a.name = "indexed".toList
  · rw [if_pos (Or.inl c1)] at h
    rw [if_pos c1, u32Of_uintOk _ h]
    obtain ⟨n, hn, _⟩ := uintOk_parse h
    exact ⟨_, by rw [hn]; rfl⟩
  rw [if_neg c1]
  by_cases c2 : a.name = "theme".toList
  · rw [if_pos (Or.inr c2)] at h
    rw [if_pos c2, u32Of_uintOk _ h]
    obtain ⟨n, hn, _⟩ := uintOk_parse h
    exact ⟨_, by rw [hn]; rfl⟩
  rw [if_neg c2]
  by_cases c3 : a.name = "rgb".toList
  · rw [if_pos c3]; exact ⟨_, rfl⟩
  rw [if_neg c3]
  by_cases c4 : a.name = "tint".toList
  · rw [if_pos c4]; exact ⟨_, rfl⟩
  rw [if_neg c4]; exact ⟨_, rfl⟩

theorem Color.readInto_total (cf : Tok → Tok) (c : Color) (as : List Attr) (h : colorOk as = true) :
    ∃ c', Color.readInto cf c as = some c' := by
  simp only [colorOk, Bool.and_eq_true] at h
  exact foldOpt_total (Color.attrStep_total cf) as c h.2

theorem color_agrees (cf : Tok → Tok) (n : Node) (h : colorOk n.attrs = true) :
    ∃ c, Color.readInto cf {} n.attrs = some c ∧ colorFacts c = cfColor cf (colorV n) := by
  obtain ⟨c, hc⟩ := Color.readInto_total cf {} n.attrs h
  refine ⟨c, hc, ?_⟩
  simp only [colorOk, Bool.and_eq_true, uniqA, decide_eq_true_eq] at h
  obtain ⟨⟨⟨⟨u1, u2⟩, u3⟩, u4⟩, hall⟩ := h
  have e1 := foldOpt_field (Color.attrStep cf) (·.indexed) (fun a => decide (a.name = "indexed".toList))
    (fun _ a => u32Of a.value) (fun x a x' hx => (Color.attrStep_spec cf x x' a hx).1) hc u1
  have e2 := foldOpt_field (Color.attrStep cf) (·.theme) (fun a => decide (a.name = "theme".toList))
    (fun _ a => u32Of a.value) (fun x a x' hx => (Color.attrStep_spec cf x x' a hx).2.1) hc u2
  have e3 := foldOpt_field (Color.attrStep cf) (·.argb) (fun a => decide (a.name = "rgb".toList))
    (fun _ a => some a.value) (fun x a x' hx => (Color.attrStep_spec cf x x' a hx).2.2.1) hc u3
  have e4 := foldOpt_field (Color.attrStep cf) (·.tint) (fun a => decide (a.name = "tint".toList))
    (fun _ a => some (cf a.value)) (fun x a x' hx => (Color.attrStep_spec cf x x' a hx).2.2.2) hc u4
  simp only [colorFacts, cfColor, colorV, Node.attr?, e1, e2, e3, e4]
  -- a number attribute found: its text passed `uintOk`, where `u32Of` and the decoder's `natOf` agree
  have num : ∀ q : Attr → Bool, (∀ a, q a = true → a.name = "indexed".toList ∨ a.name = "theme".toList) →
      ((n.attrs.find? q).map (fun a => u32Of a.value)).getD none = ((n.attrs.find? q).map (·.value)).bind natOf := by
    intro q hq
    cases hf : n.attrs.find? q with
    | none => rfl
    | some a =>
      have := List.all_eq_true.mp hall a (List.mem_of_find?_eq_some hf)
      rw [if_pos (hq a (List.find?_some hf))] at this
      exact u32Of_uintOk _ this
  rw [num _ fun a h => Or.inl (of_decide_eq_true h), num _ fun a h => Or.inr (of_decide_eq_true h)]
  congr 1
  · cases n.attrs.find? (fun a => decide (a.name = "rgb".toList)) <;> rfl
  · cases n.attrs.find? (fun a => decide (a.name = "tint".toList)) <;> rfl

/-- the attributes of `n` read into `c`; `c` stays where the read fails (`colorOk` rules that out): the total `g` that
    `foldOpt_field` asks for -/
def colorG (cf : Tok → Tok) (c : Color) (n : Node) : Color := (Color.readInto cf c n.attrs).getD c

theorem elem_of_named (k : String) (c : Node) (h : named k c = true) : ∃ as cs, c = .elem k.toList as cs := by
  cases c with
  | text t => simp [named, Node.isElem] at h
  | elem nm as cs =>
    have : nm = k.toList := by
      simp only [named, Node.isElem, Node.name, Bool.true_and] at h
      exact of_decide_eq_true h
    subst this
    exact ⟨as, cs, rfl⟩

theorem toStr_of_fromStrIn {ε : Type} (table : List (String × ε)) (toStr : ε → String)
    (ht : ∀ p ∈ table, toStr p.2 = p.1) (v : Tok) (e : ε) (h : fromStrIn table v = some e) : (toStr e).toList = v := by
  unfold fromStrIn at h
  obtain ⟨p, hp, rfl⟩ := Option.map_eq_some_iff.mp h
  have h1 := List.find?_some hp
  have h2 := List.mem_of_find?_eq_some hp
  simp only [decide_eq_true_eq] at h1
  rw [ht p h2]; exact h1

theorem Underline.toStr_of_fromStr (v : Tok) (e : Underline) (h : Underline.fromStr v = some e) : e.toStr.toList = v :=
  toStr_of_fromStrIn Underline.fromTable Underline.toStr (by decide +kernel) v e h
theorem Pattern.toStr_of_fromStr (v : Tok) (e : Pattern) (h : Pattern.fromStr v = some e) : e.toStr.toList = v :=
  toStr_of_fromStrIn Pattern.fromTable Pattern.toStr (by decide +kernel) v e h
theorem BorderStyle.toStr_of_fromStr (v : Tok) (e : BorderStyle) (h : BorderStyle.fromStr v = some e) : e.toStr.toList = v :=
  toStr_of_fromStrIn BorderStyle.fromTable BorderStyle.toStr (by decide +kernel) v e h
theorem HAlign.toStr_of_fromStr (v : Tok) (e : HAlign) (h : HAlign.fromStr v = some e) : e.toStr.toList = v :=
  toStr_of_fromStrIn HAlign.fromTable HAlign.toStr (by decide +kernel) v e h
theorem VAlign.toStr_of_fromStr (v : Tok) (e : VAlign) (h : VAlign.fromStr v = some e) : e.toStr.toList = v :=
  toStr_of_fromStrIn VAlign.fromTable VAlign.toStr (by decide +kernel) v e h

/-- the `val` attribute, when present, is a word of the enumeration -/
def valIn {ε : Type} (fromStr : Tok → Option ε) (k : String) (as : List Attr) : Bool :=
  match getAttr as k with
  | some v => (fromStr v).isSome
  | none => true

theorem found_of_all {ok : Node → Bool} {cs : List Node} {k : String} {b : Node} (hall : cs.all ok = true)
    (hf : cs.find? (named k) = some b) : ok b = true ∧ ∃ as ks, b = .elem k.toList as ks :=
  ⟨List.all_eq_true.mp hall b (List.mem_of_find?_eq_some hf), elem_of_named k b (List.find?_some hf)⟩

theorem found_of_all_if {ok : Node → Bool} {cs : List Node} {k : String} {b : Node}
    (hall : cs.all (fun c => if named k c then ok c else true) = true) (hf : cs.find? (named k) = some b) : ok b = true := by
  have := List.all_eq_true.mp hall b (List.mem_of_find?_eq_some hf)
  rwa [if_pos (List.find?_some hf)] at this

theorem optKid_agrees {ρ ν : Type} {R : Node → Option ρ} {facts : ρ → ν} {V : Node → ν} {o : Option Node}
    (h : ∀ b, o = some b → ∃ r, R b = some r ∧ facts r = V b) : ((o.map R).getD none).map facts = o.map V := by
  cases o with
  | none => rfl
  | some b =>
    obtain ⟨r, hr, hv⟩ := h b rfl
    simp only [Option.map_some, Option.getD_some, hr, hv]

theorem colorKid_agrees (cf : Tok → Tok) (cs : List Node) (k : String)
    (hok : ∀ b, cs.find? (named k) = some b → colorOk b.attrs = true) :
    colorFacts (((cs.find? (named k)).map (colorG cf {})).getD {}) =
      cfColor cf (((cs.find? (named k)).map colorV).getD {}) := by
  cases hf : cs.find? (named k) with
  | none => rfl
  | some b =>
    obtain ⟨c, hc, hcv⟩ := color_agrees cf b (hok b hf)
    simp only [Option.map_some, Option.getD_some, colorG, hc, hcv]

/-- at most one colour child `k` (`fgColor` / `bgColor`), and its attributes pass `colorOk` -/
def colorKidOk (cs : List Node) (k : String) : Bool :=
  uniq cs k && cs.all (fun c => if named k c then colorOk c.attrs else true)

theorem enum_attr_opt {ε : Type} (fromStr : Tok → Option ε) (toStr : ε → String) (k : String) (as : List Attr) (old : Option ε)
    (hinv : ∀ v e, fromStr v = some e → (toStr e).toList = v) (h : valIn fromStr k as = true) :
    (enumAttr fromStr as k old).map (fun e => (toStr e).toList) = (getAttr as k).or (old.map fun e => (toStr e).toList) := by
  unfold valIn at h
  unfold enumAttr
  cases hv : getAttr as k with
  | none => rfl
  | some v =>
    rw [hv] at h
    obtain ⟨e, he⟩ := Option.isSome_iff_exists.mp h
    simp only [he, Option.map_some, hinv v e he, Option.some_or]

theorem enum_attr_text {ε : Type} (fromStr : Tok → Option ε) (toStr : ε → String) (dflt : ε) (k : String) (as : List Attr)
    (old : Option ε) (hinv : ∀ v e, fromStr v = some e → (toStr e).toList = v) (h : valIn fromStr k as = true) :
    (toStr ((enumAttr fromStr as k old).getD dflt)).toList = (getAttr as k).getD (toStr (old.getD dflt)).toList := by
  rw [← Option.getD_map (fun e => (toStr e).toList), enum_attr_opt fromStr toStr k as old hinv h, Option.getD_or,
    Option.getD_map]

end Umya.Reader.Lemmas
