/-
  Tie to the source (T) — `src/helper/crypt.rs`, the functions.  Shared layer: the buffer helpers (`buffer_slice`, `buffer_alloc`,
  `buffer_concat`, `buffer_copy`, `create_uint32_le_buffer` with `buffer_write_u_int32_le`) as compiled from the source on this run equal
  fixed list specifications, for all arguments; `hash` over the abstract SHA-512 of the hand models' `Prims` (`gen_hash`; the other
  externs — `crypt`, `hmac`, base64, the random draws — are interpreted in `FnsGenCryptPkg.lean`); and the normal form the proofs of
  the larger functions reduce to.

  A compiled definition is unfolded by the tactic the translator emits next to it (`gen_unfold_<name>`: the function and
  whatever was lifted out of it, so a proof does not know how many loop bodies / closures there are), then normalised by
  `simp only [gen_nf]`, to which this file adds its own lemmas (binds of `some`, list algebra, the loops as `flatMap` /
  `foldl` by the fold lemmas of `FnsGen.lean`); the proofs do not follow the shape of the term.
-/
import Umya.Lemmas.FnsGen
import Umya.Model.Prims
namespace Umya.Gen
open Umya.Crypto
set_option linter.unusedSimpArgs false

theorem rt_foldlM_none {σ α} (s : σ) (l : List α) (h : l ≠ []) :
    rt_foldlM (fun (_ : σ) (_ : α) => (none : Option σ)) s l = none := by
  cases l with
  | nil => exact absurd rfl h
  | cons a l => simp [rt_foldlM]

theorem rt_index_zero {α} (a : α) (l : List α) : rt_index (a :: l) 0 = some a := rfl
theorem rt_index_succ {α} (a : α) (l : List α) (n : Nat) : rt_index (a :: l) (n + 1) = rt_index l n := by
  simp [rt_index]
theorem rt_index_one {α} (a b : α) (l : List α) : rt_index (a :: b :: l) 1 = some b := rfl

theorem rt_umod_pos {a : Nat} (b : Nat) (h : b ≠ 0) : rt_umod a b = some (a % b) := by simp [rt_umod, h]

/-- the UTF-16LE bytes of a text as the translator produces them = `utf16le` of the hand models -/
theorem utf16le_gen (s : List Char) :
    (rt_encode_utf16 s).flatMap (fun u => [UInt8.ofNat (u % 256), UInt8.ofNat (u / 256 % 256)]) = utf16le s := by
  unfold rt_encode_utf16 utf16le utf16Units
  induction s with
  | nil => rfl
  | cons c s ih =>
    simp only [List.flatMap_cons, List.flatMap_append, ih]

theorem le32_gen (n : Nat) : rt_u32_le_bytes n = le32 n := rfl

theorem le32_mod (n : Nat) : le32 (n % 4294967296) = le32 n := by
  unfold le32
  have h1 : n % 4294967296 % 256 = n % 256 := by omega
  have h2 : n % 4294967296 / 256 % 256 = n / 256 % 256 := by omega
  have h3 : n % 4294967296 / 65536 % 256 = n / 65536 % 256 := by omega
  have h4 : n % 4294967296 / 16777216 % 256 = n / 16777216 % 256 := by omega
  rw [h1, h2, h3, h4]

/-- the spin loop of the hand models (`spinLoop`, written with an accumulator) as the left fold the translator produces -/
theorem spinLoop_eq_foldl (f : Nat → Bytes → Bytes) (n : Nat) (h : Bytes) :
    spinLoop f n h = List.foldl (fun acc i => f i acc) h (List.range n) := by
  rw [spinLoop_eq_spinUp, spinUp_eq_foldl]

/-- the two spellings `hash` accepts -/
def algOk (alg : List Char) : Prop := alg = ['S', 'H', 'A', '5', '1', '2'] ∨ alg = ['S', 'H', 'A', '-', '5', '1', '2']
instance (alg : List Char) : Decidable (algOk alg) := by unfold algOk; infer_instance

/-- `hash(algorithm, buffers)`: SHA-512 of the concatenation for `"SHA512"` / `"SHA-512"`, `Err` otherwise -/
def sha512Of (P : Prims) (alg : List Char) (bufs : List Bytes) : Option Bytes :=
  if algOk alg then some (P.sha512 bufs.flatten) else none

theorem sha512Of_ok (P : Prims) (alg : List Char) {bufs : List Bytes} (h : algOk alg) :
    sha512Of P alg bufs = some (P.sha512 bufs.flatten) := by simp [sha512Of, h]
theorem sha512Of_bad (P : Prims) (alg : List Char) {bufs : List Bytes} (h : ¬ algOk alg) : sha512Of P alg bufs = none := by
  simp [sha512Of, h]
theorem algOk_sha512 : algOk ['S', 'H', 'A', '5', '1', '2'] := Or.inl rfl
theorem algOk_sha_512 : algOk ['S', 'H', 'A', '-', '5', '1', '2'] := Or.inr rfl

/-- the streaming interface of the `sha2` crate as the hand models see it: the state of a hasher is the bytes fed so far
    (`Sha512::new()` = none yet, `update` appends), `finalize` is SHA-512 of them -/
abbrev shaUpd : Bytes → Bytes → Bytes := fun a b => a ++ b

theorem gen_buffer_slice (b : Bytes) (s e : Nat) : crypt_buffer_slice b s e = rt_bslice b s e := by
  gen_unfold_crypt_buffer_slice
  cases rt_bslice b s e <;> rfl

theorem gen_buffer_alloc (c : UInt8) (n : Nat) : crypt_buffer_alloc c n = List.replicate n c := by
  gen_unfold_crypt_buffer_alloc

theorem gen_buffer_concat (bs : List Bytes) : crypt_buffer_concat bs = bs.flatten := by
  gen_unfold_crypt_buffer_concat
  simp [foldl_append_flatten]

theorem take_succ_set {α} (b1 : List α) (i : Nat) (x : α) (hi : i < b1.length) :
    List.take (i + 1) (List.set b1 i x) = List.take i b1 ++ [x] := by
  apply List.ext_getElem?
  intro k
  simp only [List.getElem?_take, List.getElem?_set, List.getElem?_append, List.length_take]
  grind

theorem drop_succ_set {α} (b1 : List α) (i n : Nat) (x : α) :
    List.drop (i + 1 + n) (List.set b1 i x) = List.drop (i + (n + 1)) b1 := by
  rw [List.drop_set_of_lt (by omega)]
  congr 1; omega

/-- the fold of `buffer_copy`: `b1[i] = b2[i]` for every index of `b2`, from index `i` on -/
theorem copy_fold (b2 : Bytes) : ∀ (i : Nat) (b1 : Bytes),
    rt_foldlM (fun (st : Bytes) (x : Nat × UInt8) => rt_list_set st x.1 x.2) b1 (rt_enumerate_from i b2) =
      if i + b2.length ≤ b1.length ∨ b2.length = 0 then some (b1.take i ++ b2 ++ b1.drop (i + b2.length)) else none := by
  induction b2 with
  | nil => intro i b1; simp [rt_enumerate_from, rt_foldlM]
  | cons x b2 ih =>
    intro i b1
    have hs : rt_list_set b1 i x = if i < b1.length then some (b1.set i x) else none := rfl
    simp only [rt_enumerate_from, rt_foldlM, hs, List.length_cons]
    by_cases hi : i < b1.length
    · simp only [hi, if_true, Option.bind_some]
      rw [ih (i + 1) (b1.set i x)]
      simp only [List.length_set]
      by_cases h2 : i + (b2.length + 1) ≤ b1.length
      · have h3 : i + 1 + b2.length ≤ b1.length := by omega
        simp only [h2, h3, true_or, if_true]
        congr 1
        rw [take_succ_set b1 i x hi, drop_succ_set]
        simp
      · have h3 : ¬ (i + 1 + b2.length ≤ b1.length) := by omega
        by_cases h4 : b2.length = 0
        · exfalso; omega
        · simp [h2, h3, h4]
    · have h2 : ¬ (i + (b2.length + 1) ≤ b1.length) := by omega
      simp [hi, h2]

/-- `buffer_copy(&mut b1, &b2)`: `b2` over the front of `b1`; a longer `b2` = panic (index out of bounds) -/
theorem gen_buffer_copy (b1 b2 : Bytes) :
    crypt_buffer_copy b1 b2 = if b2.length ≤ b1.length then some (b2 ++ b1.drop b2.length) else none := by
  gen_unfold_crypt_buffer_copy
  simp only [Option.bind_eq_bind, Option.bind_some, Option.bind_fun_some, rt_enumerate]
  have e : (fun (st : Bytes) (x : Nat × UInt8) => (rt_list_set st x.1 x.2).bind fun b => some b) =
      (fun (st : Bytes) (x : Nat × UInt8) => rt_list_set st x.1 x.2) := by
    funext st x; cases rt_list_set st x.1 x.2 <;> rfl
  first
    | rw [copy_fold b2 0 b1]
    | (rw [e, copy_fold b2 0 b1])
    | (simp only [e]; rw [copy_fold b2 0 b1])
  by_cases h : b2.length ≤ b1.length
  · simp [h]
  · by_cases h0 : b2.length = 0
    · exfalso; omega
    · simp [h, h0]

/-- the third parameter is `_cnt` in the source: unused there too -/
theorem gen_write_u32 (b : Bytes) (v c : Nat) : crypt_buffer_write_u_int32_le b v c = rt_write_u32_le b v := by
  gen_unfold_crypt_buffer_write_u_int32_le
  cases rt_write_u32_le b v <;> rfl

/-- `create_uint32_le_buffer(v, size)`: `le32 v` followed by zeros up to `size` (default 4); a size below 4 = panic -/
theorem gen_create_uint32_le_buffer (v : Nat) (sz : Option Nat) :
    crypt_create_uint32_le_buffer v sz =
      if 4 ≤ sz.getD 4 then some (le32 v ++ List.replicate (sz.getD 4 - 4) 0) else none := by
  gen_unfold_crypt_create_uint32_le_buffer
  simp only [gen_buffer_alloc, gen_write_u32, rt_write_u32_le, List.length_replicate, le32_gen, List.drop_replicate]
  split <;> simp

/-- the two forms in which crypt.rs calls `create_uint32_le_buffer` (`None`, `Some(&PACKAGE_OFFSET)`), for `simp only [gen_nf]`, which
    does not evaluate the test `4 ≤ size` of the general equation -/
theorem gen_le32_none (v : Nat) : crypt_create_uint32_le_buffer v none = some (le32 v) := by
  rw [gen_create_uint32_le_buffer]; simp

theorem gen_le32_some8 (v : Nat) : crypt_create_uint32_le_buffer v (some 8) = some (le32 v ++ [0, 0, 0, 0]) := by
  rw [gen_create_uint32_le_buffer]; simp [List.replicate]

/-- `hash(algorithm, buffers)` as compiled from the source — the `match` on the algorithm name, `Sha512::new()`, one `update` with
    `buffer_concat(buffers)`, `finalize` — is `sha512Of` -/
theorem gen_hash (P : Prims) (alg : List Char) (bufs : List Bytes) :
    crypt_hash P.sha512 [] shaUpd alg bufs = sha512Of P alg bufs := by
  gen_unfold_crypt_hash
  by_cases h1 : alg = ['S', 'H', 'A', '5', '1', '2']
  · subst h1; simp [sha512Of, algOk, gen_buffer_concat, shaUpd]
  · by_cases h2 : alg = ['S', 'H', 'A', '-', '5', '1', '2']
    · subst h2; simp [sha512Of, algOk, gen_buffer_concat, shaUpd]
    · have hn : ¬ algOk alg := by simp [algOk, h1, h2]
      rw [sha512Of_bad P alg hn]
      -- however the two names are tested (a `match` with `|` in either order, separate arms, an `if` on `==`): neither holds
      first
        | (simp [h1, h2]; done)
        | (split <;> simp_all <;> done)
        | (split <;> first | rfl | (exfalso; simp_all))

/-! normal form of the byte-buffer programs, added to `gen_nf` for the files that import this one: folds as `flatMap` / `foldl`, list
  algebra, the helpers of crypt.rs as list functions -/
attribute [gen_nf] Option.bind_fun_some rt_u16_le_bytes rt_index_zero rt_index_one rt_index_succ List.append_assoc List.cons_append
  List.nil_append List.append_nil rt_foldlM_some foldl_append_flatMap foldl_append_flatten List.flatMap_id' utf16le_gen
  gen_le32_none gen_le32_some8 le32_mod gen_buffer_alloc gen_buffer_concat gen_buffer_copy gen_buffer_slice List.flatten_cons List.flatten_nil

end Umya.Gen
