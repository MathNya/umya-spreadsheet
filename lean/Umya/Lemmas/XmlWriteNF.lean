/-
  The reader's normal form (`Umya.XmlWrite.normNode`) is the identity on trees without empty or adjacent
  text nodes (`isNF`), and the default writer-call tree of an element tree (`ofNode`) erases to that tree.
-/
import Umya.Lemmas.XmlWriteParse
namespace Umya.XmlWrite
open Umya.Spec.Xml

theorem pushText_fresh (acc : List Node) (s : List Char) (h : startsText acc = false) : pushText acc s = .text s :: acc := by
  cases acc with
  | nil => rfl
  | cons x xs => cases x <;> simp_all [pushText, startsText]

/-- the children of an element are built from texts and elements (`Node`'s recursor, as `kids_induction` is `WNode`'s) -/
theorem nodes_induction {P : List Node → Prop} (nil : P []) (text : ∀ s r, P r → P (.text s :: r))
    (elem : ∀ n as ks r, P ks → P r → P (.elem n as ks :: r)) : ∀ ks, P ks :=
  Node.rec_1 (motive_1 := fun k => ∀ r, P r → P (k :: r)) (motive_2 := P)
    (fun n as ks ihk r ihr => elem n as ks r ihk ihr) (fun s r ihr => text s r ihr) nil (fun _ r ihk ihr => ihk r ihr)

theorem normKidsAcc_nf (ks : List Node) : ∀ acc, isNFKids ks = true → (startsText ks = true → startsText acc = false) →
    normKidsAcc acc ks = ks.reverse ++ acc := by
  induction ks using nodes_induction with
  | nil => intro acc _ _; simp [normKidsAcc]
  | text s r ih =>
    intro acc h ha
    simp only [isNFKids, Bool.and_eq_true, Bool.not_eq_true', List.isEmpty_eq_false_iff] at h
    obtain ⟨⟨h1, h2⟩, h3⟩ := h
    simp only [normKidsAcc, pushP, h1, if_false]
    rw [pushText_fresh acc s (ha (by simp [startsText])), ih _ h3 (by simp [h2])]
    simp
  | elem n as ks r ihk ihr =>
    intro acc h _
    simp only [isNFKids, Bool.and_eq_true] at h
    simp only [normKidsAcc]
    rw [ihk [] h.1 (by simp [startsText]), ihr _ h.2 (by simp [startsText])]
    simp

theorem normKids_nf (ks : List Node) (h : isNFKids ks = true) : normKids ks = ks := by
  simp [normKids, normKidsAcc_nf ks [] h (by simp [startsText])]

theorem normNode_nf (t : Node) (h : isNF t = true) : normNode t = t := by
  cases t with
  | elem n as ks => simp only [isNF] at h; simp [normNode, normKids_nf ks h]
  | text s => rfl

theorem WF_mkElem (sc : Bool) (n : List Char) (as : List Attr) (ws : List WNode) :
    WF (mkElem sc n as ws) = (wfName n && wfAttrs as && wfKids ws) := by
  cases ws <;> cases sc <;> simp [mkElem, WF, wfKids]

theorem erase_mkElem (sc : Bool) (n : List Char) (as : List Attr) (ws : List WNode) :
    erase (mkElem sc n as ws) = .elem n as (eraseKids ws) := by
  cases ws <;> cases sc <;> simp [mkElem, erase, eraseKids]

theorem isElemW_mkElem (sc : Bool) (n : List Char) (as : List Attr) (ws : List WNode) : isElemW (mkElem sc n as ws) = true := by
  cases ws <;> cases sc <;> simp [mkElem, isElemW]

theorem ofKids_written (sc : Bool) (ks : List Node) : eraseKids (ofKids sc ks) = ks ∧ wfKids (ofKids sc ks) = wfNodes ks := by
  induction ks using nodes_induction with
  | nil => simp [ofKids, eraseKids, wfKids, wfNodes]
  | text s r ih => simp [ofKids, eraseKids, wfKids, wfNodes, ih]
  | elem n as ks r ihk ihr => simp only [ofKids, eraseKids_cons, wfKids_cons, erase_mkElem, WF_mkElem, wfNodes, ihk, ihr, and_self]

theorem ofNode_written (sc : Bool) (t : Node) (he : t.isElem = true) (hwf : wfNodes [t] = true) :
    isElemW (ofNode sc t) = true ∧ WF (ofNode sc t) = true ∧ erase (ofNode sc t) = t := by
  cases t with
  | text s => cases he
  | elem n as ks =>
    refine ⟨isElemW_mkElem sc n as _, ?_, by simp [ofNode, erase_mkElem, ofKids_written]⟩
    rw [ofNode, WF_mkElem, (ofKids_written sc ks).2]
    simpa [wfNodes] using hwf

theorem parse_render_tree (sc : Bool) (t : Node) (he : t.isElem = true) (hwf : wfNodes [t] = true) :
    parse (renderDoc (ofNode sc t)) = some (normNode t) := by
  obtain ⟨h1, h2, h3⟩ := ofNode_written sc t he hwf
  rw [parse_renderDoc _ h1 h2, h3]

theorem parse_render_nf (sc : Bool) (t : Node) (he : t.isElem = true) (hwf : wfNodes [t] = true) (hnf : isNF t = true) :
    parse (renderDoc (ofNode sc t)) = some t := by
  rw [parse_render_tree sc t he hwf, normNode_nf _ hnf]

end Umya.XmlWrite
