/-
  C11: the first loop of the writer on a package-consistent workbook, read off its write log, and what the second
  loop leaves of it.  `writes1_cases` is the one place where `FromPkg`/`Hyg` meet the writer: every request of the
  first loop is (a) position `p+j` with that sheet's content, (b) the relationships part next to position `p+j` of a
  raw sheet with what `x` has next to the part it was read from, or (c) a closure name with what `x` has under that
  name — a function of `x` and the name alone, so "first writer wins" is harmless between raw sheets.  The second loop
  gives no relationships part to a part of the first other than the position of a deserialized sheet (`loop2_rels_eq`).
-/
import Umya.Lemmas.LazyClosed
import Umya.Lemmas.LazySaveCons
namespace Umya.Lazy

variable {C : Type}

theorem targetOk_spec {n : PName} (h : targetOk n = true) : isSheetName n = false ∧ isRelsName n = false ∧ reserved n = false := by
  unfold targetOk at h
  simp only [Bool.and_eq_true, Bool.not_eq_true'] at h
  exact ⟨h.1.1, h.1.2, h.2⟩

theorem targetOk_not_sheet {k : Nat} : targetOk (.sheet k) = false := rfl
theorem targetOk_not_rels {m : PName} : targetOk (.rels m) = false := by simp [targetOk, isSheetName, isRelsName]

theorem relOk_spec {r : RawRel} (h : relOk r = true) : (r.ext = true → r.empty = true) ∧ (r.ext = false → targetOk r.file = true) := by
  unfold relOk at h
  cases hx : r.ext <;> simp_all

theorem relsNameOk_spec {root : PName} {cl : List RawRels} {n : PName} (h : relsNameOk root cl n = true) :
    ∃ m, n = .rels m ∧ (m = root ∨ ∃ q ∈ cl, ∃ r ∈ q.rels, r.ext = false ∧ r.file = m) := by
  cases n with
  | rels m =>
    refine ⟨m, rfl, ?_⟩
    simp only [relsNameOk, Bool.or_eq_true, decide_eq_true_eq, List.any_eq_true, Bool.and_eq_true, Bool.not_eq_true'] at h
    rcases h with h | ⟨q, hq, r, hr, h1, h2⟩
    · exact Or.inl h
    · exact Or.inr ⟨q, hq, r, hr, h1, h2⟩
  | sheet _ | fam _ _ | other _ => simp [relsNameOk] at h

/-- `hygienic r` (`Model/LazyPkg.lean`) read as propositions: `hygienic_spec` -/
structure Hyg (r : RawSheet) : Prop where
  fileNotRels : isRelsName r.file = false
  fileNotReserved : reserved r.file = false
  extEmpty : ∀ q ∈ r.closure, ∀ r' ∈ q.rels, r'.ext = true → r'.empty = true
  int : ∀ q ∈ r.closure, ∀ r' ∈ q.rels, r'.ext = false → targetOk r'.file = true
  notSelf : ∀ q ∈ r.closure, ∀ r' ∈ q.rels, r'.ext = false → r'.file ≠ r.file
  relsName : ∀ q ∈ r.closure, ∃ m, q.name = .rels m ∧ (m = r.file ∨ (targetOk m = true ∧ m ∈ closureTargets r))

theorem hygienic_spec {r : RawSheet} (h : hygienic r = true) : Hyg r := by
  unfold hygienic at h
  simp only [Bool.and_eq_true, Bool.not_eq_true', List.all_eq_true] at h
  obtain ⟨⟨h1, h2⟩, h3⟩ := h
  have hrel := fun q hq r' hr' => relOk_spec ((h3 q hq).2 r' hr').1
  have hself : ∀ q ∈ r.closure, ∀ r' ∈ q.rels, r'.ext = false → r'.file ≠ r.file := by
    intro q hq r' hr' hx
    have := ((h3 q hq).2 r' hr').2
    simpa [hx] using this
  refine ⟨h1, h2, fun q hq r' hr' => (hrel q hq r' hr').1, fun q hq r' hr' => (hrel q hq r' hr').2, hself, fun q hq => ?_⟩
  obtain ⟨m, hm, hcase⟩ := relsNameOk_spec (h3 q hq).1
  exact ⟨m, hm, hcase.imp_right fun ⟨q', hq', r', hr', hx, hf⟩ =>
    ⟨hf ▸ (hrel q' hq' r' hr').2 hx, mem_closureTargets.mpr ⟨q', hq', r', hr', hx, hf⟩⟩⟩

theorem Hyg.nonempty {r : RawSheet} (h : Hyg r) {q : RawRels} (hq : q ∈ r.closure) {r' : RawRel} (hr : r' ∈ q.rels)
    (he : r'.empty = false) : r'.ext = false ∧ targetOk r'.file = true := by
  cases hx : r'.ext with
  | false => exact ⟨rfl, h.int q hq r' hr hx⟩
  | true => rw [h.extEmpty q hq r' hr hx] at he; cases he

theorem FromPkg.closure_sound {x : Pkg} {r : RawSheet} (h : FromPkg x r) :
    ∀ q ∈ r.closure, readRelsPart x q.name = some (some q) :=
  fun q hq => (readClosure_spec x (openRaw_spec h.read).2.2 q hq).1

theorem FromPkg.bytes {x : Pkg} {r : RawSheet} (h : FromPkg x r) : ∃ p, x.get? r.file = some p ∧ p.cid = r.cid :=
  (openRaw_spec h.read).2.1

theorem FromPkg.rel_bytes {x : Pkg} {r : RawSheet} (h : FromPkg x r) {q : RawRels} (hq : q ∈ r.closure) {r' : RawRel}
    (hr : r' ∈ q.rels) (hx : r'.ext = false) : ∃ p, x.get? r'.file = some p ∧ p.cid = r'.cid ∧ p.empty = r'.empty := by
  rcases readRelsPart_rel (h.closure_sound q hq) r' hr with e | ⟨_, hp⟩
  · rw [e] at hx; cases hx
  · exact hp

theorem ownExpected_of_rels {x : Pkg} {m : PName} {q : RawRels} (h : readRelsPart x (.rels m) = some (some q))
    (hne : q.rels.isEmpty = false) : ownExpected (C := C) x m = some (.relsOf q.targets) := by
  simp [ownExpected, h, hne]

theorem rels_of_ownExpected {x : Pkg} {m : PName} {c : Content C} (h : ownExpected x m = some c) :
    ∃ q, readRelsPart x (.rels m) = some (some q) ∧ q.rels.isEmpty = false ∧ c = .relsOf q.targets := by
  unfold ownExpected at h
  split at h
  · rename_i q hr
    split at h
    · cases h
    · rename_i hne
      exact ⟨q, hr, by simpa using hne, (Option.some.inj h).symm⟩
  · cases h

/-- completeness of the closure as the writer meets it: relationships that `x` has next to the sheet part or next to a
    target of the closure are a member of the closure -/
theorem closure_rels_of {x : Pkg} {r : RawSheet} (hf : FromPkg x r) {m : PName} (hm : m = r.file ∨ m ∈ closureTargets r)
    {c : Content C} (hc : ownExpected x m = some c) :
    ∃ q ∈ r.closure, q.name = .rels m ∧ q.rels.isEmpty = false ∧ c = .relsOf q.targets := by
  obtain ⟨q1, hq1, hne, hc1⟩ := rels_of_ownExpected hc
  have hcl := (openRaw_spec hf.read).2.2
  have : ∃ q ∈ r.closure, q.name = .rels m := by
    rcases hm with rfl | hm
    · rcases readClosure_top x hcl with ⟨h1, _⟩ | ⟨q0, kids, h1, h2⟩
      · rw [hq1] at h1; cases h1
      · exact ⟨q0, by rw [h2]; simp, readRelsPart_name h1⟩
    · obtain ⟨q, hq, r', hr', hx, rfl⟩ := mem_closureTargets.mp hm
      exact ((readClosure_spec x hcl q hq).2 r' hr' hx).resolve_left fun h => by rw [h] at hq1; cases hq1
  obtain ⟨q, hq, hn⟩ := this
  have := hf.closure_sound q hq
  rw [hn, hq1] at this
  obtain rfl : q1 = q := Option.some.inj (Option.some.inj this)
  exact ⟨q1, hq, hn, hne, hc1⟩

def RawsFrom (x : Pkg) (ss : List (Sheet C)) : Prop := ∀ s ∈ ss, ∀ r, s.body = .raw r → FromPkg x r

theorem RawsFrom.at {x : Pkg} {ss : List (Sheet C)} (h : RawsFrom x ss) {j : Nat} {s : Sheet C} (hj : ss[j]? = some s)
    {r : RawSheet} (hb : s.body = .raw r) : FromPkg x r :=
  h s (List.mem_of_getElem? hj) r hb

theorem xLookup_plain (x : Pkg) (n : PName) (h : isRelsName n = false) :
    xLookup (C := C) x n = (x.get? n).map (fun p => .bytes p.cid) := by
  cases n <;> simp_all [xLookup, isRelsName]

/-- what `x` has next to a sheet, for a raw sheet; nothing yet for a deserialized one -/
def ownOf (x : Pkg) (s : Sheet C) : Option (Content C) :=
  match s.body with
  | .raw r => ownExpected x r.file
  | .loaded _ => none

theorem writes1_cases {x : Pkg} {ss : List (Sheet C)} (hc : RawsFrom x ss) {p : Nat} {n : PName} {c : Content C}
    (h : (n, c) ∈ writes1 p ss) :
    (∃ j s, ss[j]? = some s ∧ n = .sheet (p + j) ∧ c = expectedSheet s) ∨
    (∃ j s, ss[j]? = some s ∧ n = .rels (.sheet (p + j)) ∧ ownOf x s = some c) ∨
    (isSheetName n = false ∧ (∀ k, n ≠ .rels (.sheet k)) ∧ xLookup x n = some c ∧
      ∃ (j : Nat) (s : Sheet C) (r : RawSheet), ss[j]? = some s ∧ s.body = .raw r ∧
        ((isRelsName n = false ∧ n ∈ closureTargets r) ∨ ∃ m ∈ closureTargets r, n = .rels m)) := by
  obtain ⟨j, s, hj, h⟩ := mem_writes1.mp h
  rcases mem_stepWrites.mp h with h | ⟨r, hb, h⟩
  · exact Or.inl ⟨j, s, hj, (Prod.mk.inj h).1, (Prod.mk.inj h).2⟩
  · have hf := hc.at hj hb
    have hy := hygienic_spec hf.hyg
    rcases mem_closureWrites.mp h with ⟨q, hq, hne, e, hcc⟩ | ⟨q, hq, r', hr', he, e, hcc⟩
    · right
      obtain ⟨m, hm, hcase⟩ := hy.relsName q hq
      by_cases hown : q.name = .rels r.file
      · simp only [relsTarget, hown, if_true] at e
        exact Or.inl ⟨j, s, hj, e, by simp only [ownOf, hb]; rw [hcc]; exact ownExpected_of_rels (hown ▸ hf.closure_sound q hq) hne⟩
      · simp only [relsTarget, hown, if_false] at e
        obtain ⟨hmok, hmt⟩ := hcase.resolve_left fun e2 => hown (e2 ▸ hm)
        refine Or.inr ⟨by rw [e, hm]; rfl, fun k ek => ?_, ?_, j, s, r, hj, hb, Or.inr ⟨m, hmt, e.trans hm⟩⟩
        · rw [e, hm] at ek; injection ek with ek; rw [ek] at hmok; cases hmok
        · rw [e, hm, hcc]; exact ownExpected_of_rels (hm ▸ hf.closure_sound q hq) hne
    · right; right
      obtain ⟨hx, hok⟩ := hy.nonempty hq hr' he
      obtain ⟨hns, hnr, _⟩ := targetOk_spec hok
      obtain ⟨p1, hp1, hcid, _⟩ := hf.rel_bytes hq hr' hx
      rw [e, hcc]
      refine ⟨hns, (fun k ek => by rw [ek] at hnr; cases hnr), ?_, j, s, r, hj, hb,
        Or.inl ⟨hnr, mem_closureTargets.mpr ⟨q, hq, r', hr', hx, rfl⟩⟩⟩
      rw [xLookup_plain x _ hnr, hp1, ← hcid]; rfl

theorem lookup_own {x : Pkg} {ss : List (Sheet C)} (hc : RawsFrom x ss) (p j : Nat) :
    lookupPart (writes1 p ss) (.rels (.sheet (p + j))) = (ss[j]?).bind (ownOf x) := by
  cases hl : lookupPart (writes1 p ss) (.rels (.sheet (p + j))) with
  | some c =>
    rcases writes1_cases hc (lookupPart_mem hl) with ⟨_, _, _, e, _⟩ | ⟨j', s', hj', e, hc'⟩ | ⟨_, e, _⟩
    · cases e
    · obtain rfl : j' = j := by injection e with e; injection e with e; omega
      rw [hj', Option.bind_some, hc']
    · exact absurd rfl (e _)
  | none =>
    cases hj : ss[j]? with
    | none => rfl
    | some s =>
      rw [Option.bind_some]
      cases hb : s.body with
      | loaded l => simp [ownOf, hb]
      | raw r =>
        simp only [ownOf, hb]
        cases ho : ownExpected (C := C) x r.file with
        | none => rfl
        | some c =>
          obtain ⟨q, hq, h1, h2, hcq⟩ := closure_rels_of (hc.at hj hb) (Or.inl rfl) ho
          have := hasPart_of_mem (raw_mem_writes1 (p := p) hj hb (mem_closureWrites.mpr (Or.inl ⟨q, hq, h2, rfl, rfl⟩)))
          simp only [relsTarget, h1, if_true] at this
          rw [hasPart_eq_isSome, hl] at this; cases this

theorem lookup_other {x : Pkg} {ss : List (Sheet C)} (hc : RawsFrom x ss) (p : Nat) {n : PName} (hn : isSheetName n = false)
    (hn' : ∀ k, n ≠ .rels (.sheet k)) (hh : hasPart (writes1 p ss) n = true) : lookupPart (writes1 p ss) n = xLookup x n := by
  rw [hasPart_eq_isSome, Option.isSome_iff_exists] at hh
  obtain ⟨c, hl⟩ := hh
  rcases writes1_cases hc (lookupPart_mem hl) with ⟨_, _, _, e, _⟩ | ⟨_, _, _, e, _⟩ | ⟨_, _, e, _⟩
  · rw [e] at hn; cases hn
  · exact absurd e (hn' _)
  · rw [hl, e]

/-- No orphan relationships part: whenever the package holds `…/_rels/x.rels` it holds the part `x` it belongs to
    (`relsHaveSource` on the saved list; an OPC reader rejects a package without it). -/
def RHS (w : WM C) : Prop := ∀ n, w.has (.rels n) = true → w.has n = true

theorem loop1_rhs (x : Pkg) (ss : List (Sheet C)) (p : Nat) (hc : RawsFrom x ss)
    (hw : ∀ s ∈ ss, SheetWritable s) : RHS (loop1 false ({} : WM C) p ss) := by
  intro n hh
  rw [loop1_has] at hh ⊢
  obtain ⟨c, hm⟩ := (hasPart_iff _ _).mp hh
  rcases writes1_cases hc hm with ⟨_, _, _, e, _⟩ | ⟨j, s, hj, e, _⟩ | ⟨_, _, _, j, s, r, hj, hb, ⟨e, _⟩ | ⟨m, hm, e⟩⟩
  · cases e
  · cases e; exact hasPart_of_mem (sheet_mem_writes1 hj)
  · cases e
  · cases e; exact target_mem_writes1 hj hb (by simpa [SheetWritable, hb] using hw s (List.mem_of_getElem? hj)) hm

theorem rhs_add {w : WM C} {n : PName} {c : Content C} (h : RHS w) (hn : ∀ m, n = .rels m → w.has m = true) : RHS (w.add n c) := by
  intro k hh
  rcases add_has_iff.mp hh with h1 | h1
  · exact add_has_mono (h k h1)
  · exact add_has_mono (hn k h1.symm)

theorem keeps_rhs (base : WM C) : Keeps base (FixedIn fun n => isRelsName n = false) (fun m => base.has m = true) RHS := by
  rintro w _ _ hext h (f | ⟨n, hl⟩ | ⟨f, i, ts, hm, _, _⟩ | ⟨m, ts, hm, _⟩)
  · exact rhs_add h nofun
  · exact rhs_add h fun m e => by have := hl _ rfl; rw [e] at this; cases this
  · exact rhs_add h fun _ e => by cases e; exact hm
  · exact rhs_add h fun _ e => by cases e; exact hext.has_mono m hm

/-- the sheet's relationships part sits next to its sheet part, which the first loop wrote and the second keeps -/
theorem loop2_rhs (ss : List (Sheet C)) (p : Nat) (w : WM C) (h : RHS w) (hs : ∀ j s, ss[j]? = some s → w.has (.sheet (p + j)) = true)
    (hl : ∀ s ∈ ss, ∀ l, s.body = .loaded l → ∀ n ∈ profNames l.prof, isRelsName n = false) : RHS (loop2 w p ss) :=
  loop2_req_names (keeps_rhs w) ss p (fun j s _ hj _ => hs j s hj) hl h

/-- the second loop never asks for the name (`loop2_extP`; a family part gets its relationships part when it is allocated, at
    a free index).  So a part copied from the closure of a raw sheet keeps exactly the relationships it had in the file that
    was read. -/
theorem loop2_rels_eq (ss : List (Sheet C)) (p : Nat) (w : WM C)
    (hl : ∀ s ∈ ss, ∀ l, s.body = .loaded l → ∀ n ∈ profNames l.prof, isRelsName n = false) {m : PName} (hm : w.has m = true)
    (hpos : ∀ j s l, ss[j]? = some s → s.body = .loaded l → m ≠ .sheet (p + j)) :
    (loop2 w p ss).lookup (.rels m) = w.lookup (.rels m) :=
  (loop2_extP (· ≠ .rels m) w (fun _ _ => nofun) (fun f i h e => by cases e; rw [hm] at h; cases h) ss p
    (fun j s l hj hb e => hpos j s l hj hb (PName.rels.inj e).symm)
    (fun s hs l hb n hn e => by rw [e] at hn; cases hl s hs l hb _ hn)).lookup_eq _ fun h => h rfl

/-- a closure name is `.rels m` (`Hyg.relsName`) or the file of a relationship: `targetOk` for an internal one (`Hyg.int`),
    the `.other []` of `extRel` for an external one (`readRelsPart_rel`); none of the three is `.sheet k` -/
theorem rawsOk_of_consistent (x : Pkg) (b : Book C) (h : Consistent x b) : RawsOk b.sheets := by
  rw [consistent_iff] at h
  intro s hs r hb n hn k e
  have hf := h.2 s hs r hb
  have hy := hygienic_spec hf.hyg
  unfold RawSheet.names at hn
  obtain ⟨q, hq, hn⟩ := List.mem_flatMap.mp hn
  rcases List.mem_cons.mp hn with e1 | e1
  · obtain ⟨m, hm, _⟩ := hy.relsName q hq
    rw [e1, hm] at e; cases e
  · obtain ⟨r', hr', e2⟩ := List.mem_map.mp e1
    rcases readRelsPart_rel (hf.closure_sound q hq) r' hr' with e3 | ⟨e3, _⟩
    · rw [← e2, e3] at e; cases e
    · have hok := hy.int q hq r' hr' e3
      rw [← e2] at e; rw [e] at hok; cases hok

/-- What a save leaves of a raw sheet: under the two names of its position and under every target of its closure, each with the
    relationships part next to it, the saved package holds what `x` holds under the names the sheet was read from. -/
theorem save_raw_footprint {E : Type} (cd : Codec C E) (x : Pkg) (b : Book C) (hcons : Consistent x b)
    (hprof : ∀ s ∈ b.sheets, ∀ l, s.body = .loaded l → ∀ n ∈ profNames l.prof, isRelsName n = false)
    (hw : ∀ s ∈ b.sheets, SheetWritable s)
    (j : Nat) (s : Sheet C) (r : RawSheet) (hj : b.sheets[j]? = some s) (hb : s.body = .raw r) :
    let S := (save cd b).parts
    lookupPart S (.sheet (j + 1)) = xLookup x r.file ∧
    lookupPart S (.rels (.sheet (j + 1))) = xLookup x (.rels r.file) ∧
    ∀ m ∈ closureTargets r, lookupPart S m = xLookup x m ∧ lookupPart S (.rels m) = xLookup x (.rels m) := by
  intro S
  have hfrom : RawsFrom x b.sheets := ((consistent_iff x b).mp hcons).2
  have hf : FromPkg x r := hfrom.at hj hb
  have hy := hygienic_spec hf.hyg
  have hwr : RawWritable r := by simpa [SheetWritable, hb] using hw s (List.mem_of_getElem? hj)
  have hsheet : hasPart (writes1 1 b.sheets) (.sheet (j + 1)) = true := by
    rw [Nat.add_comm]; exact hasPart_of_mem (sheet_mem_writes1 hj)
  have stable : ∀ n, hasPart (writes1 1 b.sheets) n = true → lookupPart S n = lookupPart (writes1 1 b.sheets) n :=
    fun n h => ((loop2_ext b.sheets 1 _).lookup_stable n (by rwa [loop1_has])).trans (loop1_lookup _ _ _)
  have key := fun m (hm : hasPart (writes1 1 b.sheets) m = true) =>
    loop2_rels_eq b.sheets 1 _ hprof (m := m) (by rwa [loop1_has])
  refine ⟨?_, ?_, fun m hm => ?_⟩
  · rw [stable _ hsheet, Nat.add_comm,
      (writes1_sheets b.sheets 1 (rawsOk_of_consistent x b hcons)).1 j s hj, xLookup_plain x r.file hy.fileNotRels]
    obtain ⟨p, hp, hcid⟩ := hf.bytes
    simp [hp, expectedSheet, hb, hcid]
  · refine (key _ hsheet fun j2 s2 l2 hj2 hb2 e => ?_).trans ?_
    · obtain rfl : j2 = j := by injection e with e; omega
      rw [hj] at hj2; cases hj2
      rw [hb] at hb2; cases hb2
    · rw [loop1_lookup, Nat.add_comm, lookup_own hfrom, hj]; simp [ownOf, hb, xLookup]
  · have hbase := target_mem_writes1 (p := 1) hj hb hwr hm
    obtain ⟨q, hq, r', hr', hx', rfl⟩ := mem_closureTargets.mp hm
    obtain ⟨hns, hnr, _⟩ := targetOk_spec (hy.int q hq r' hr' hx')
    have hk : ∀ k, PName.rels r'.file ≠ .rels (.sheet k) := fun k e => by injection e with e; rw [e] at hns; cases hns
    refine ⟨?_, ?_⟩
    · rw [stable _ hbase]
      exact lookup_other hfrom 1 hns (fun k e => by rw [e] at hnr; cases hnr) hbase
    · refine (key _ hbase fun _ _ _ _ _ e => by rw [e] at hns; cases hns).trans ?_
      rw [loop1_lookup]
      cases h1 : hasPart (writes1 1 b.sheets) (.rels r'.file) with
      | true => exact lookup_other hfrom 1 rfl hk h1
      | false =>
        rw [lookupPart_none_of_not_has h1]
        cases hoe : xLookup (C := C) x (.rels r'.file) with
        | none => rfl
        | some c =>
          -- `x` has relationships next to the target: the closure holds them (`closure_rels_of`), so they were asked for
          -- under their own name: they are not the sheet's (`Hyg.notSelf`)
          obtain ⟨q', hq', hn', hnonempty, _⟩ := closure_rels_of hf (Or.inr hm) hoe
          have hne' : q'.name ≠ .rels r.file := fun e => hy.notSelf q hq r' hr' hx' (PName.rels.inj (hn'.symm.trans e))
          have := hasPart_of_mem (raw_mem_writes1 (C := C) (p := 1) hj hb
            (mem_closureWrites.mpr (Or.inl ⟨q', hq', hnonempty, rfl, rfl⟩)))
          rw [relsTarget, if_neg hne', hn', h1] at this; cases this

end Umya.Lazy
