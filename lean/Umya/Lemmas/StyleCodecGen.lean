/-
  (T) The enum string tables of the style codec model equal the tables `tools/extract_tables.py` regenerated from
  the current source (`EnumTrait::get_value_string`, `FromStr::from_str`, `Default`) on this run.
-/
import Umya.Lemmas.StyleCodec
import Umya.Model.Gen.Tables
namespace Umya.StyleCodec

/-- what the source says about one enum, computed from the hand model: (variant ↦ text) in declaration order,
    (text ↦ variant) in the order of the `from_str` arms, the default variant -/
def enumSpec {ε : Type} (all : List ε) (ctor : ε → String) (toStr : ε → String) (fromTable : List (String × ε)) (dflt : ε) :
    List (String × String) × List (String × String) × String :=
  (all.map (fun v => (ctor v, toStr v)), fromTable.map (fun p => (p.1, ctor p.2)), ctor dflt)

theorem gen_style_enums :
    Umya.Gen.enum_underline_values = enumSpec Underline.all Underline.ctor Underline.toStr Underline.fromTable .single ∧
    Umya.Gen.enum_font_scheme_values = enumSpec FontScheme.all FontScheme.ctor FontScheme.toStr FontScheme.fromTable .none ∧
    Umya.Gen.enum_vertical_alignment_run_values = enumSpec VertRun.all VertRun.ctor VertRun.toStr VertRun.fromTable .baseline ∧
    Umya.Gen.enum_pattern_values = enumSpec Pattern.all Pattern.ctor Pattern.toStr Pattern.fromTable .none ∧
    Umya.Gen.enum_border_style_values = enumSpec BorderStyle.all BorderStyle.ctor BorderStyle.toStr BorderStyle.fromTable .none ∧
    Umya.Gen.enum_horizontal_alignment_values = enumSpec HAlign.all HAlign.ctor HAlign.toStr HAlign.fromTable .general ∧
    Umya.Gen.enum_vertical_alignment_values = enumSpec VAlign.all VAlign.ctor VAlign.toStr VAlign.fromTable .bottom :=
  ⟨by decide +kernel, by decide +kernel, by decide +kernel, by decide +kernel, by decide +kernel, by decide +kernel,
   by decide +kernel⟩

/-- `all` lists every constructor (so the tables above are complete) -/
theorem enums_all_complete :
    (∀ v : Underline, v ∈ Underline.all) ∧ (∀ v : FontScheme, v ∈ FontScheme.all) ∧ (∀ v : VertRun, v ∈ VertRun.all) ∧
    (∀ v : Pattern, v ∈ Pattern.all) ∧ (∀ v : BorderStyle, v ∈ BorderStyle.all) ∧ (∀ v : HAlign, v ∈ HAlign.all) ∧
    (∀ v : VAlign, v ∈ VAlign.all) :=
  ⟨Underline.mem_all, FontScheme.mem_all, VertRun.mem_all, Pattern.mem_all, BorderStyle.mem_all, HAlign.mem_all, VAlign.mem_all⟩

end Umya.StyleCodec
