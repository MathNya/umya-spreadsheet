/-
  From the characters of a rendered writer-call tree (`Umya/Model/XmlWrite.lean`) to the element tree the
  independent XML 1.0 reader (`Umya/Spec/XmlLex.lean`) returns.  The tree is flattened to a sequence of events (`WEv`, `evsKids`);
  the character data read but not yet delivered (`p`) is threaded through the lexer (`lex_events`) and the tree builder (`build_kids`),
  so that adjacent pieces of character data merge into one text on both sides.  A piece of character data enters as
  `CharsOK r v`: XML characters, no `<`, and `Reads r v` (the raw `r` is read as `v` whatever follows); this is what
  other modules prove of the texts they write.
-/
import Umya.Lemmas.XmlWriteLex
namespace Umya.XmlWrite
open Umya.XmlEsc Umya.XmlChannel
open Umya.Spec.Xml

theorem textValue_nil : textValue [] = some [] := by decide

/-- the raw characters `r` are read as `v` whatever follows them -/
def Reads (r v : List Char) : Prop := ∀ rest, textValue (r ++ rest) = (textValue rest).map (v ++ ·)

theorem reads_nil : Reads [] [] := fun rest => by simp

theorem Reads.value {r v : List Char} (h : Reads r v) : textValue r = some v := by
  simpa [textValue_nil] using h []

theorem Reads.nil_iff {r v : List Char} (h : Reads r v) : r = [] ↔ v = [] :=
  ⟨fun e => by have := h.value; rw [e, textValue_nil] at this; exact (Option.some.inj this).symm,
   fun e => Decidable.byContradiction fun hne => textValue_ne_nil r v hne h.value e⟩

theorem Reads.append {a p r v : List Char} (h1 : Reads a p) (h2 : Reads r v) : Reads (a ++ r) (p ++ v) := fun rest => by
  rw [List.append_assoc, h1, h2]
  cases textValue rest <;> simp

/-- a piece that ended in CR would merge with an LF at the head of `rest` under line-end normalisation: hence no CR -/
theorem reads_of_noCR {r v : List Char} (hcr : '\r' ∉ r) (hv : textValue r = some v) : Reads r v := fun rest => by
  unfold textValue at hv ⊢
  rw [Reader.Lemmas.normalizeEol_noCR r hcr] at hv
  rw [normalizeEol_append_noCR r rest hcr]
  exact (expands_iff.1 hv).run _

/-- what the lexing theorem needs to know about one piece of character data `r` standing for `v` -/
structure CharsOK (r v : List Char) : Prop where
  xml : ∀ c ∈ r, isXmlChar c = true
  noLt : '<' ∉ r
  reads : Reads r v

theorem charsOK_of_raw {r v : List Char} (hx : ∀ c ∈ r, isXmlChar c = true) (hlt : '<' ∉ r) (hcr : '\r' ∉ r)
    (hv : textValue r = some v) : CharsOK r v := ⟨hx, hlt, reads_of_noCR hcr hv⟩

theorem charsOK_text (s : List Char) (h : allXml s = true) : CharsOK (escape s) s :=
  charsOK_of_raw (escaped_xml escChar_cases s h) (escape_noLt s) (escape_noCR s) (textValue_escape s)

theorem charsOK_conv (s : List Char) (h : allXml s = true) : CharsOK (partialEscape s) s :=
  charsOK_of_raw (escaped_xml pescChar_cases s h) (partialEscape_noLt s) (fun hm => (partialEscape_safe s _ hm).2 rfl)
    (textValue_partialEscape s)

theorem charsOK_wfRaw {r v : List Char} (h : wfRaw r v = true) : CharsOK r v := by
  simp only [wfRaw, Bool.and_eq_true, Bool.not_eq_true', decide_eq_true_eq] at h
  obtain ⟨⟨⟨h1, h2⟩, h3⟩, h4⟩ := h
  refine charsOK_of_raw ((allXml_iff r).1 h1) ?_ ?_ h4
  · intro hm; simp [hm] at h2
  · intro hm; simp [hm] at h3

theorem charsOK_nl : CharsOK newLineLit ['\n'] := by
  refine ⟨by decide, by decide, ?_⟩
  intro rest
  simp only [newLineLit, List.cons_append, List.nil_append, textValue, normalizeEol, expandGo]
  simp

/-- one call of the writer; `.chars r v` carries both the raw characters written and the character data they stand for -/
inductive WEv where
  | tagO (n : List Char) (as : List Attr) (e : Bool)
  | tagC (n : List Char)
  | chars (r v : List Char)

def renderEv : WEv → List Char
  | .tagO n as e => writeStartTag n as e
  | .tagC n => writeEndTag n
  | .chars r _ => r

def renderEvs (es : List WEv) : List Char := es.flatMap renderEv

def wfEv : WEv → Prop
  | .tagO n as _ => wfName n = true ∧ wfAttrs as = true
  | .tagC n => wfName n = true
  | .chars r v => CharsOK r v

/-- the lexer's `flushText` once the pending raw characters are read as `p` (`flush_pending`); the builder answers it by the model's
    `pushP` (`build_flushP`) -/
def flushP (p : List Char) (ts : List Token) : List Token := if p = [] then ts else Token.text p :: ts

/-- the tokens of an event sequence; `p` = character data read but not yet delivered -/
def toks : List Char → List WEv → List Token
  | p, [] => flushP p []
  | p, .chars _ v :: r => toks (p ++ v) r
  | p, .tagO n as e :: r => flushP p (Token.open n as e :: toks [] r)
  | p, .tagC n :: r => flushP p (Token.close n :: toks [] r)

theorem flush_pending (acc p : List Char) (h : Reads acc.reverse p) (ts : List Token) :
    flushText acc (some ts) = some (flushP p ts) := by
  have hnil : acc = [] ↔ p = [] := by simpa using h.nil_iff
  unfold flushText flushP
  by_cases ha : acc = []
  · simp [ha, hnil.1 ha]
  · have he : acc.isEmpty = false := by cases acc <;> simp_all
    simp [he, h.value, mt hnil.2 ha]

theorem lex_events (es : List WEv) (h : ∀ e ∈ es, wfEv e) :
    ∀ (acc p : List Char), Reads acc.reverse p → lexGo (.text acc) (renderEvs es) = some (toks p es) := by
  induction es with
  | nil =>
    intro acc p hp
    simp only [renderEvs, List.flatMap_nil, toks]
    rw [lexGo]
    exact flush_pending acc p hp []
  | cons e es ih =>
    intro acc p hp
    have he := h e (by simp)
    have ih' := ih (fun x hx => h x (by simp [hx]))
    simp only [renderEvs, List.flatMap_cons]
    -- after a tag the lexer starts on fresh character data
    have hfresh := ih' [] [] reads_nil
    simp only [renderEvs] at hfresh
    cases e with
    | tagO n as e =>
      simp only [renderEv, toks]
      rw [lex_startTag n as e he.1 he.2, hfresh]
      exact flush_pending acc p hp _
    | tagC n =>
      simp only [renderEv, toks]
      rw [lex_endTag n he, hfresh]
      exact flush_pending acc p hp _
    | chars r v =>
      have hc : CharsOK r v := he
      simp only [renderEv, toks]
      rw [lex_text_run r hc.xml hc.noLt]
      exact ih' _ _ (by simpa using hp.append hc.reads)

mutual
/-- the events of one call; mutual with `evsKids` because a recursion through the sequences alone is slow to check -/
def evsNode : WNode → List WEv
  | .elem n as ks => .tagO n as false :: (evsKids ks ++ [.tagC n])
  | .empty n as => [.tagO n as true]
  | .text s => [.chars (escape s) s]
  | .conv s => [.chars (partialEscape s) s]
  | .raw x v => [.chars x v]
  | .nl => [.chars newLineLit ['\n']]
def evsKids : List WNode → List WEv
  | [] => []
  | w :: r => evsNode w ++ evsKids r
end

theorem renderEvs_cons (e : WEv) (b : List WEv) : renderEvs (e :: b) = renderEv e ++ renderEvs b := by
  simp [renderEvs]

theorem eraseKids_cons (w : WNode) (r : List WNode) : eraseKids (w :: r) = erase w :: eraseKids r := by
  cases w <;> simp [eraseKids, erase]

theorem wfKids_cons (w : WNode) (r : List WNode) : wfKids (w :: r) = (WF w && wfKids r) := by
  cases w <;> simp [WF, wfKids]

theorem eraseKids_append (a b : List WNode) : eraseKids (a ++ b) = eraseKids a ++ eraseKids b := by
  induction a with
  | nil => simp [eraseKids]
  | cons w r ih => simp [eraseKids_cons, ih]

theorem wfKids_append (a b : List WNode) : wfKids (a ++ b) = (wfKids a && wfKids b) := by
  induction a with
  | nil => simp [wfKids]
  | cons w r ih => simp [wfKids_cons, ih, Bool.and_assoc]

/-- the four text writers: the characters written and the character data they stand for -/
def charsOf : WNode → Option (List Char × List Char)
  | .text s => some (escape s, s)
  | .conv s => some (partialEscape s, s)
  | .raw x v => some (x, v)
  | .nl => some (newLineLit, ['\n'])
  | _ => none

/-- all that the theorems below use of a call of a text writer -/
theorem kid_chars {w : WNode} {x v : List Char} (h : charsOf w = some (x, v)) (r : List WNode) :
    renderKids (w :: r) = x ++ renderKids r ∧ eraseKids (w :: r) = .text v :: eraseKids r ∧
      evsKids (w :: r) = .chars x v :: evsKids r ∧ (wfKids (w :: r) = true → CharsOK x v ∧ wfKids r = true) := by
  cases w <;> simp only [charsOf, Option.some.injEq, Prod.mk.injEq, reduceCtorEq] at h <;> obtain ⟨rfl, rfl⟩ := h
  · exact ⟨by rw [renderKids]; rfl, by rw [eraseKids], by rw [evsKids, evsNode]; rfl, fun hw => by
      simp only [wfKids, Bool.and_eq_true] at hw; exact ⟨charsOK_text _ hw.1, hw.2⟩⟩
  · exact ⟨by rw [renderKids]; rfl, by rw [eraseKids], by rw [evsKids, evsNode]; rfl, fun hw => by
      simp only [wfKids, Bool.and_eq_true] at hw; exact ⟨charsOK_conv _ hw.1, hw.2⟩⟩
  · exact ⟨by rw [renderKids]; rfl, by rw [eraseKids], by rw [evsKids, evsNode]; rfl, fun hw => by
      simp only [wfKids, Bool.and_eq_true] at hw; exact ⟨charsOK_wfRaw hw.1, hw.2⟩⟩
  · exact ⟨by rw [renderKids]; rfl, by rw [eraseKids], by rw [evsKids, evsNode]; rfl, fun hw => by simp only [wfKids] at hw; exact ⟨charsOK_nl, hw⟩⟩

/-- `WNode`'s recursor, showing of one call `w` that it may stand in front of any sequence -/
theorem kids_induction {P : List WNode → Prop} (nil : P [])
    (elem : ∀ n as ks r, P ks → P r → P (.elem n as ks :: r)) (empty : ∀ n as r, P r → P (.empty n as :: r))
    (chars : ∀ w x v r, charsOf w = some (x, v) → P r → P (w :: r)) : ∀ ws, P ws :=
  WNode.rec_1 (motive_1 := fun w => ∀ r, P r → P (w :: r)) (motive_2 := P)
    (fun n as ks ihk r ihr => elem n as ks r ihk ihr) (fun n as r ihr => empty n as r ihr)
    (fun _ r => chars _ _ _ r rfl) (fun _ r => chars _ _ _ r rfl) (fun _ _ r => chars _ _ _ r rfl) (fun r => chars _ _ _ r rfl)
    nil (fun _ r ihw ihr => ihw r ihr)

theorem renderKids_evs (ws : List WNode) : renderKids ws = renderEvs (evsKids ws) := by
  induction ws using kids_induction with
  | nil => simp [renderKids, evsKids, renderEvs]
  | elem n as ks r ihk ihr => rw [renderKids, ihk, ihr]; simp [evsKids, evsNode, renderEvs, renderEv]
  | empty n as r ih => rw [renderKids, ih]; simp [evsKids, evsNode, renderEvs, renderEv]
  | chars w x v r h ih =>
    obtain ⟨hren, _, hevs, _⟩ := kid_chars h r
    rw [hren, hevs, renderEvs_cons, ih]; rfl

theorem wfEv_kids (ws : List WNode) : wfKids ws = true → ∀ e ∈ evsKids ws, wfEv e := by
  induction ws using kids_induction with
  | nil => simp [evsKids]
  | elem n as ks r ihk ihr =>
    intro h
    simp only [wfKids, Bool.and_eq_true] at h
    obtain ⟨⟨⟨h1, h2⟩, h3⟩, h4⟩ := h
    simp only [evsKids, evsNode, List.forall_mem_cons, List.forall_mem_append]
    exact ⟨⟨⟨h1, h2⟩, ihk h3, h1, nofun⟩, ihr h4⟩
  | empty n as r ih =>
    intro h
    simp only [wfKids, Bool.and_eq_true] at h
    simp only [evsKids, evsNode, List.forall_mem_append, List.forall_mem_singleton]
    exact ⟨⟨h.1.1, h.1.2⟩, ih h.2⟩
  | chars w x v r h ih =>
    intro hw
    obtain ⟨_, _, hevs, hwf⟩ := kid_chars h r
    rw [hevs, List.forall_mem_cons]
    exact ⟨(hwf hw).1, ih (hwf hw).2⟩

theorem build_text (f : Frame) (fs : List Frame) (root : Option Node) (s : List Char) (rest : List Token) :
    buildGo (f :: fs) root (.text s :: rest) = buildGo ({ f with kids := pushText f.kids s } :: fs) root rest := by
  rw [buildGo]

theorem build_openE (f : Frame) (fs : List Frame) (root : Option Node) (n : List Char) (as : List Attr) (rest : List Token) :
    buildGo (f :: fs) root (.open n as true :: rest) = buildGo ({ f with kids := .elem n as [] :: f.kids } :: fs) root rest := by
  rw [buildGo]

theorem build_open (f : Frame) (fs : List Frame) (root : Option Node) (n : List Char) (as : List Attr) (rest : List Token) :
    buildGo (f :: fs) root (.open n as false :: rest) = buildGo (⟨n, as, []⟩ :: f :: fs) root rest := by
  rw [buildGo]; simp

theorem build_close (n : List Char) (as : List Attr) (ks : List Node) (g : Frame) (gs : List Frame) (root : Option Node)
    (rest : List Token) :
    buildGo (⟨n, as, ks⟩ :: g :: gs) root (.close n :: rest) =
      buildGo ({ g with kids := .elem n as ks.reverse :: g.kids } :: gs) root rest := by
  rw [buildGo]; simp

theorem build_flushP (f : Frame) (fs : List Frame) (root : Option Node) (p : List Char) (rest : List Token) :
    buildGo (f :: fs) root (flushP p rest) = buildGo ({ f with kids := pushP f.kids p } :: fs) root rest := by
  by_cases hp : p = []
  · subst hp; simp [flushP, pushP]
  · simp [flushP, pushP, hp, build_text]

theorem pushText_pushText (k : List Node) (a b : List Char) : pushText (pushText k a) b = pushText k (a ++ b) := by
  cases k with
  | nil => simp [pushText]
  | cons x xs => cases x <;> simp [pushText]

theorem pushP_pushP (k : List Node) (a b : List Char) : pushP (pushP k a) b = pushP k (a ++ b) := by
  unfold pushP
  by_cases ha : a = []
  · subst ha; simp
  · by_cases hb : b = []
    · subst hb; simp [ha]
    · simp [ha, hb, pushText_pushText]

theorem pushP_nil (k : List Node) : pushP k [] = k := by simp [pushP]

theorem toks_chars_append (p r v : List Char) (es : List WEv) : toks p (.chars r v :: es) = toks (p ++ v) es := by
  simp [toks]

/-- the tokens of the children `ws`, followed by the end tag of the enclosing element, leave the enclosing frame with the
    normal form of the children appended -/
theorem build_kids (ws : List WNode) : ∀ (p : List Char) (f : Frame) (fs : List Frame) (root : Option Node)
    (m : List Char) (E : List WEv),
    buildGo (f :: fs) root (toks p (evsKids ws ++ (.tagC m :: E))) =
      buildGo ({ f with kids := normKidsAcc (pushP f.kids p) (eraseKids ws) } :: fs) root (Token.close m :: toks [] E) := by
  induction ws using kids_induction with
  | nil =>
    intro p f fs root m E
    simp only [evsKids, List.nil_append, toks, eraseKids, normKidsAcc]
    exact build_flushP f fs root p _
  | elem n as ks r ihk ihr =>
    intro p f fs root m E
    simp only [evsKids, evsNode, List.cons_append, List.append_assoc, List.nil_append, toks, eraseKids, normKidsAcc]
    rw [build_flushP, build_open, ihk [] ⟨n, as, []⟩ _ root n _]
    simp only [pushP_nil]
    rw [build_close, ihr [] _ fs root m E]
    simp only [pushP_nil]
  | empty n as r ih =>
    intro p f fs root m E
    simp only [evsKids, evsNode, List.cons_append, List.nil_append, toks, eraseKids, normKidsAcc]
    rw [build_flushP, build_openE, ih [] _ fs root m E]
    simp only [pushP_nil, List.reverse_nil]
  | chars w x v r h ih =>
    intro p f fs root m E
    obtain ⟨_, hers, hevs, _⟩ := kid_chars h r
    rw [hevs, hers, List.cons_append, toks, normKidsAcc, ih (p ++ v) f fs root m E, pushP_pushP]

theorem isBlank_nl : isBlank ['\n'] = true := by decide

theorem build_top_text {root : Option Node} {s : List Char} {rest : List Token} (hb : isBlank s = true) :
    buildGo [] root (.text s :: rest) = buildGo [] root rest := by
  rw [buildGo]; simp [hb]

theorem build_top_open (n : List Char) (as : List Attr) (rest : List Token) :
    buildGo [] none (.open n as false :: rest) = buildGo [⟨n, as, []⟩] none rest := by
  rw [buildGo]

theorem build_top_openE (n : List Char) (as : List Attr) (rest : List Token) :
    buildGo [] none (.open n as true :: rest) = buildGo [] (some (.elem n as [])) rest := by
  rw [buildGo]

theorem build_top_close (n : List Char) (as : List Attr) (ks : List Node) (root : Option Node) (rest : List Token) :
    buildGo [⟨n, as, ks⟩] root (.close n :: rest) = buildGo [] (some (.elem n as ks.reverse)) rest := by
  rw [buildGo]; simp

theorem build_top_end (root : Option Node) : buildGo [] root [] = root := by
  rw [buildGo]

/-- the root element on an empty stack, after the new line that follows the declaration -/
theorem build_root (w : WNode) (hw : isElemW w = true) :
    buildGo [] none (toks ['\n'] (evsKids [w])) = some (normNode (erase w)) := by
  cases w with
  | elem n as ks =>
    have h := build_kids ks [] ⟨n, as, []⟩ [] none n []
    simp only [evsKids, evsNode, List.append_nil, toks, flushP] at h ⊢
    simp only [show (['\n'] = ([] : List Char)) = False by simp, if_false]
    rw [build_top_text isBlank_nl, build_top_open, h, pushP_nil, build_top_close]
    simp only [if_true]
    rw [build_top_end]
    simp [normNode, erase, normKids]
  | empty n as =>
    simp only [evsKids, evsNode, List.append_nil, toks, flushP]
    simp only [show (['\n'] = ([] : List Char)) = False by simp, if_false, if_true]
    rw [build_top_text isBlank_nl, build_top_openE, build_top_end]
    simp [normNode, erase, normKids, normKidsAcc]
  | _ => simp [isElemW] at hw

/-- The independent XML 1.0 reader, given the characters of a rendered part, returns the
    element tree that was written, in the reader's normal form. -/
theorem parse_renderDoc (w : WNode) (hw : isElemW w = true) (hwf : WF w = true) :
    parse (renderDoc w) = some (normNode (erase w)) := by
  unfold parse lex renderDoc
  rw [lex_decl]
  have hev : ∀ e ∈ evsKids (.nl :: [w]), wfEv e := wfEv_kids (.nl :: [w]) (by simpa [wfKids, WF] using hwf)
  have hr : writeNewLine ++ renderNode w = renderEvs (evsKids (.nl :: [w])) := by
    rw [← renderKids_evs]; simp [renderKids, renderNode]
  rw [hr, lex_events _ hev [] [] reads_nil]
  simp only [Option.bind_some]
  rw [evsKids, evsNode, List.singleton_append, toks_chars_append]
  exact build_root w hw

end Umya.XmlWrite
