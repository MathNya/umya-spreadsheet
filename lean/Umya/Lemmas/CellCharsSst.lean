/-
  C01 at tree level, the shared-string part: the fact view of the element tree rendered for a written `<si>` is
  the written fact with the run-property tokens erased; C01's reader turns the rendered `<sst>` back into the
  table up to those tokens; and reading a cell against a table with erased tokens is reading it against the table
  and erasing afterwards.
-/
import Umya.Lemmas.CellChars
namespace Umya.CellTree
open Umya.Xml Umya.CellXml Umya.CellNode Umya.Num Umya.Coord Umya.Dec Umya.InternC01
open Umya.Spec.Xml (Node Attr localName)

theorem txOf_tElem (s : Text) : txOf (tElem s) = writeText s := by
  unfold txOf writeText tElem
  rw [ownText_txt]
  by_cases h : needsPreserve s = true <;> simp [preserveAttrs, h, Node.attr?, Node.attrs]

theorem isKid_rPr_t (s : Text) : isKid ['r', 'P', 'r'] (tElem s) = false := by simp [tElem, isKid_elem, localName_plain]

theorem runFact_rElem (r : Run) : runFact (rElem r) = { font := r.font.map (fun _ => 0), t := writeText r.text } := by
  obtain ⟨t, f⟩ := r
  unfold runFact
  rw [lastKid_eq, kids_eq, toList_lit, toList_lit]
  cases f <;>
    simp [rElem, Node.children, isKid_t_tElem, isKid_rPr_t, isKid_elem, localName_plain, txOf_tElem]

theorem runFacts_rElems (rs : List Run) :
    (rs.map rElem).map runFact = (rs.map eraseRun).map (fun r => ({ font := r.font, t := writeText r.text } : RunX)) := by
  rw [List.map_map, List.map_map]
  exact List.map_congr_left fun r _ => runFact_rElem r

theorem getLast?_single_append_filter_nil {α} (a : α) : [a].getLast? = some a := rfl

theorem siFact_siElem (it : Item) : siFact (siElem it) = siOf (eraseItem it) := by
  obtain ⟨t, r⟩ := it
  unfold siFact
  rw [lastKid_eq, kids_eq, toList_lit, toList_lit]
  cases t <;> cases r <;>
    simp only [siElem, Node.children, List.filter_append, List.filter_cons, List.filter_nil, isKid_t_tElem, isKid_r_tElem,
      isKid_t_ph, isKid_r_ph, kids_t_runs, kids_r_runs, List.nil_append, List.append_nil, if_true, Bool.false_eq_true,
      if_false, List.getLast?_nil, List.getLast?_singleton, Option.map_none, Option.map_some, txOf_tElem, runFacts_rElems,
      siOf, eraseItem, List.map_nil]

theorem sstFacts_root (as : List Attr) (tbl : Table) :
    sstFacts (Node.elem ['s', 's', 't'] as (tbl.map siElem)) = (tbl.map eraseItem).map siOf := by
  unfold sstFacts
  rw [kids_eq, toList_lit]
  simp only [Node.children, kids_si, List.map_map]
  apply List.map_congr_left
  intro it _
  exact siFact_siElem it

theorem itemOK_erase (it : Item) (h : ItemOK it) : ItemOK (eraseItem it) := by
  obtain ⟨t, r⟩ := it
  cases r with
  | none => simp [ItemOK, eraseItem]
  | some rs =>
    simp only [ItemOK, eraseItem, Option.map_some, ne_eq, Option.some.injEq, List.map_eq_nil_iff] at h ⊢
    exact h

theorem readSstN_root (as : List Attr) (tbl : Table) (h : ∀ it ∈ tbl, ItemOK it) :
    readSstN (Node.elem ['s', 's', 't'] as (tbl.map siElem)) = some (tbl.map eraseItem) := by
  unfold readSstN
  rw [sstFacts_root]
  apply readSst_writeSst
  intro it hit
  obtain ⟨it0, h0, rfl⟩ := List.mem_map.1 hit
  exact itemOK_erase it0 (h it0 h0)

section
variable (F : NumFmt)

/-- `eraseRaw` on the pair (value, formula) that `readV` returns -/
def eraseP (p : RawValue F.Num × Option Text) : RawValue F.Num × Option Text := (eraseRaw F p.1, p.2)

theorem eraseRaw_guess (s : Text) : eraseRaw F (guess F s) = guess F s := by
  rcases guess_cases F s with h | ⟨_, h⟩ | ⟨_, h⟩ | ⟨_, h⟩ | h <;> rw [h] <;> rfl

theorem setSharedStringItem_erase (it : Item) (raw : RawValue F.Num) (fo : Option Text) :
    setSharedStringItem F (eraseItem it) (eraseRaw F raw) fo = eraseP F (setSharedStringItem F it raw fo) := by
  obtain ⟨t, r⟩ := it
  cases t <;> cases r <;> simp [setSharedStringItem, eraseItem, eraseP, eraseRaw]

theorem applyV_erase (sst : Table) (t sv : Text) (raw : RawValue F.Num) (fo : Option Text) :
    applyV F (sst.map eraseItem) t sv (eraseRaw F raw) fo = (applyV F sst t sv raw fo).map (eraseP F) := by
  unfold applyV
  by_cases h1 : t = tSTR
  · rw [if_pos h1, if_pos h1]; rfl
  rw [if_neg h1, if_neg h1]
  by_cases h2 : t = tS
  · rw [if_pos h2, if_pos h2]
    cases parseUsize sv with
    | none => rfl
    | some i =>
      rw [Option.bind_some, Option.bind_some, List.getElem?_map]
      cases sst[i]? with
      | none => rfl
      | some it => exact congrArg some (setSharedStringItem_erase F it raw fo)
  rw [if_neg h2, if_neg h2]
  by_cases h3 : t = tB
  · rw [if_pos h3, if_pos h3]; rfl
  rw [if_neg h3, if_neg h3]
  by_cases h4 : t = tE ∨ t = [] ∨ t = tN
  · rw [if_pos h4, if_pos h4, Option.map_some, eraseP, eraseRaw_guess]
  · rw [if_neg h4, if_neg h4]; rfl

theorem readV_erase (sst : Table) (t : Text) (v : VNode) (fo : Option Text) :
    readV F (sst.map eraseItem) t v fo = (readV F sst t v fo).map (eraseP F) := by
  cases v with
  | absent => simp [readV, eraseP, eraseRaw]
  | emptyTag => simp [readV, eraseP, eraseRaw]
  | text raw =>
    simp only [readV]
    cases readText (decide (t ≠ tSTR)) raw with
    | none => rfl
    | some sv =>
      have := applyV_erase F sst t sv .empty fo
      simpa [eraseRaw] using this

theorem readIs_erase (t : Text) (is : Option TX) (prev : Text) (raw : RawValue F.Num) :
    readIs F t is prev (eraseRaw F raw) = (readIs F t is prev raw).map (eraseRaw F) := by
  cases is with
  | none => rfl
  | some tx =>
    simp only [readIs]
    cases readText (!tx.preserve) tx.raw with
    | none => rfl
    | some sv =>
      by_cases h : t = tINLINE <;> simp [h, eraseRaw]

theorem readCell_erase (sst : Table) (x : CellX) :
    readCell F (sst.map eraseItem) x = (readCell F sst x).map (eraseFonts F) := by
  unfold readCell
  split
  · cases readF x.f with
    | none => rfl
    | some formula =>
      simp only [Option.bind_some, readV_erase]
      cases readV F sst x.t x.v formula with
      | none => rfl
      | some p =>
        simp only [Option.map_some, Option.bind_some, eraseP, readIs_erase]
        cases readIs F x.t x.is (svAfterV x.t x.v) p.1 with
        | none => rfl
        | some raw => rfl
  · rfl

theorem readSheetN_erase (sst : Table) (root : Node) :
    readSheetN F (sst.map eraseItem) root = (readSheetN F sst root).map (·.map (eraseFonts F)) :=
  mapOpt_map_result (readCellN F sst) (eraseFonts F) (readCellN F (sst.map eraseItem))
    (fun c => readCell_erase F sst (cellFact c)) _

end

end Umya.CellTree
