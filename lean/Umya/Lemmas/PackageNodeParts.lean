/-
  Looking a part up by name (`Package.part?`) in the lists the packages of `Umya/Model/PackageNode*.lean` are made of:
  the sheet parts and the sheet relationship parts, for every sheet number; rendering all sheets.
-/
import Umya.Model.PackageNodeTbl
import Umya.Lemmas.PackagePath
import Umya.Lemmas.SheetNodeCells
import Umya.Lemmas.SheetNodeRows
namespace Umya.PackageNode
open Umya.Xml Umya.CellXml Umya.CellNode Umya.SheetNode Umya.WorkbookNode Umya.Dec
open Umya.Spec.Xml (Node Attr)
open Umya.Spec.Sml

theorem name_eq (a b : List Char) : (String.ofList a = String.ofList b) = (a = b) :=
  propext ⟨fun h => String.ofList_injective h, fun h => congrArg _ h⟩

theorem find_cons_eq (a : List Char) (r : Node) (l : List Part) :
    (xmlPart a r :: l).find? (fun x => x.name = String.ofList a) = some (xmlPart a r) := by
  simp [xmlPart]

theorem find_cons_ne (a b : List Char) (r : Node) (l : List Part) (h : a ≠ b) :
    (xmlPart a r :: l).find? (fun x => x.name = String.ofList b) = l.find? (fun x => x.name = String.ofList b) := by
  simp [xmlPart, name_eq, h]

theorem sheetParts_eq (roots : List Node) : ∀ k, sheetParts k roots = (roots.zipIdx k).map fun p => xmlPart (sheetPartL p.2) p.1 := by
  induction roots with
  | nil => intro _; rfl
  | cons r rs ih => intro k; rw [sheetParts, ih, List.zipIdx_cons, List.map_cons]

theorem sheetParts_names (roots : List Node) (k : Nat) (part : Part) (h : part ∈ sheetParts k roots) :
    ∃ j r, k ≤ j ∧ j < k + roots.length ∧ part = xmlPart (sheetPartL j) r := by
  rw [sheetParts_eq] at h
  obtain ⟨⟨r, j⟩, hm, rfl⟩ := List.mem_map.1 h
  exact ⟨j, r, (List.mem_zipIdx hm).1, (List.mem_zipIdx hm).2.1, rfl⟩

theorem sheetParts_find_other (nm : List Char) (h : ∀ i, sheetPartL i ≠ nm) (roots : List Node) (k : Nat) :
    (sheetParts k roots).find? (fun x => x.name = String.ofList nm) = none :=
  List.find?_eq_none.2 fun x hx => by
    obtain ⟨j, _, _, _, rfl⟩ := sheetParts_names roots k x hx
    simpa [xmlPart, name_eq] using h j

theorem sheetParts_find : ∀ (roots : List Node) (k j : Nat), k ≤ j →
    (sheetParts k roots).find? (fun x => x.name = String.ofList (sheetPartL j)) = (roots[j - k]?).map (xmlPart (sheetPartL j)) := by
  intro roots
  induction roots with
  | nil => intro _ _ _; rfl
  | cons r rs ih =>
    intro k j hkj
    rw [sheetParts]
    by_cases hj : j = k
    · subst hj; rw [find_cons_eq]; simp
    · rw [find_cons_ne _ _ _ _ (fun e => hj (sheetPartL_inj _ _ e).symm), ih (k + 1) j (by omega)]
      have : j - k = (j - (k + 1)) + 1 := by omega
      rw [this, List.getElem?_cons_succ]

theorem relsPartsG_eq (L : List (List LinkW × List Node)) : ∀ k, relsPartsG k L =
    (L.zipIdx k).flatMap fun p => ((relsRoot p.1.1 p.1.2).map (xmlPart (sheetRelsL p.2))).toList := by
  induction L with
  | nil => intro _; rfl
  | cons p L ih =>
    intro k
    rw [relsPartsG, ih, List.zipIdx_cons, List.flatMap_cons]
    cases relsRoot p.1 p.2 <;> rfl

theorem relsPartsG_names (L : List (List LinkW × List Node)) (k : Nat) (part : Part) (h : part ∈ relsPartsG k L) :
    ∃ j p rr, k ≤ j ∧ L[j - k]? = some p ∧ relsRoot p.1 p.2 = some rr ∧ part = xmlPart (sheetRelsL j) rr := by
  rw [relsPartsG_eq] at h
  obtain ⟨⟨p, j⟩, hm, hp⟩ := List.mem_flatMap.1 h
  obtain ⟨rr, hrr, rfl⟩ := Option.map_eq_some_iff.1 (Option.mem_toList.1 hp)
  have hj := List.mk_mem_zipIdx_iff_le_and_getElem?_sub.1 hm
  exact ⟨j, p, rr, hj.1, hj.2, hrr, rfl⟩

theorem relsPartsG_find_none (nm : List Char) (L : List (List LinkW × List Node)) (k : Nat) (h : ∀ i, k ≤ i → sheetRelsL i ≠ nm) :
    (relsPartsG k L).find? (fun x => x.name = String.ofList nm) = none :=
  List.find?_eq_none.2 fun x hx => by
    obtain ⟨j, _, _, hj, _, _, rfl⟩ := relsPartsG_names L k x hx
    simpa [xmlPart, name_eq] using h j hj

theorem relsPartsG_find_other (nm : List Char) (h : ∀ i, sheetRelsL i ≠ nm) (L : List (List LinkW × List Node)) (k : Nat) :
    (relsPartsG k L).find? (fun x => x.name = String.ofList nm) = none :=
  relsPartsG_find_none nm L k fun i _ => h i

theorem relsPartsG_find : ∀ (L : List (List LinkW × List Node)) (k j : Nat), k ≤ j →
    (relsPartsG k L).find? (fun x => x.name = String.ofList (sheetRelsL j)) =
      (L[j - k]?).bind (fun p => (relsRoot p.1 p.2).map (xmlPart (sheetRelsL j))) := by
  intro L
  induction L with
  | nil => intro _ _ _; rfl
  | cons p L ih =>
    intro k j hkj
    obtain ⟨ls, rest⟩ := p
    rw [relsPartsG, List.find?_append]
    by_cases hj : j = k
    · subst hj
      simp only [Nat.sub_self, List.getElem?_cons_zero, Option.bind_some]
      cases hrr : relsRoot ls rest with
      | some rr => simp only [find_cons_eq]; rfl
      | none =>
        simp only [List.find?_nil, Option.none_or, Option.map_none]
        exact relsPartsG_find_none _ L (j + 1) fun i hi e => by have := sheetRelsL_inj _ _ e; omega
    · have e : j - k = (j - (k + 1)) + 1 := by omega
      rw [ih (k + 1) j (by omega), e, List.getElem?_cons_succ]
      cases relsRoot ls rest with
      | none => rfl
      | some rr => rw [find_cons_ne _ _ _ _ (fun e => hj (sheetRelsL_inj _ _ e).symm)]; rfl

section
variable (F : Umya.Num.NumFmt)

theorem sheetRelsParts_eq : ∀ (ss : List (SheetP F.Num)) (k : Nat),
    sheetRelsParts F k ss = relsPartsG k (ss.map fun s => (s.sheet.links, [])) := by
  intro ss
  induction ss with
  | nil => intro _; rfl
  | cons s ss ih => intro k; rw [sheetRelsParts, ih, List.map_cons, relsPartsG]; rfl

theorem renderSheet_grows {xf : List Char → Nat} {fr : Frame} {tbl : Table} {s : SheetW F.Num} {t : Table} {root : Node}
    (h : renderSheet F xf fr tbl s = some (t, root)) : ∃ ext, t = tbl ++ ext := by
  obtain ⟨ws, _, hw, _, _⟩ := renderSheet_inv F xf fr tbl s t root h
  exact (writeRows_decodes F xf _ tbl t ws hw).1

/-- the table `t0` a sheet is rendered from is left free: the users need only that the final table extends `t1` -/
theorem renderSheetsP_nth : ∀ (ss : List (SheetP F.Num)) (tbl t : Table) (roots : List Node),
    renderSheetsP F tbl ss = some (t, roots) →
    roots.length = ss.length ∧ (∃ ext, t = tbl ++ ext) ∧
    ∀ (i : Nat) (s : SheetP F.Num), ss[i]? = some s →
      ∃ t0 t1 root, roots[i]? = some root ∧ renderSheet F s.xf s.frame t0 s.sheet = some (t1, root) ∧ ∃ ext, t = t1 ++ ext := by
  intro ss
  induction ss with
  | nil =>
    intro tbl t roots h
    simp only [renderSheetsP] at h
    cases h
    exact ⟨rfl, ⟨[], by simp⟩, fun i s hs => by simp at hs⟩
  | cons s ss ih =>
    intro tbl t roots h
    simp only [renderSheetsP] at h
    split at h
    · cases h
    next t1 root h1 =>
      split at h
      · cases h
      next t2 rs h2 =>
        cases h
        obtain ⟨il, ⟨ext2, ie⟩, inth⟩ := ih t1 t rs h2
        obtain ⟨ext1, he1⟩ := renderSheet_grows F h1
        refine ⟨by simp [il], ⟨ext1 ++ ext2, by rw [ie, he1, List.append_assoc]⟩, ?_⟩
        intro i s' hs'
        cases i with
        | zero =>
          cases hs'
          exact ⟨tbl, t1, root, rfl, h1, ext2, ie⟩
        | succ i => exact inth i s' hs'

end
end Umya.PackageNode
