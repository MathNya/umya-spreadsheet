/-
  (T) translator: two simplification procedures used by the equality proofs of the generated definitions to bring integer
  expressions to a canonical spelling WITHOUT associativity / commutativity rewriting (which does not terminate cheaply on
  the large guard conditions): the numeral of a product goes to the left (`a * 3 ↦ 3 * a`), the numeral of a sum to the
  right (`2 + a ↦ a + 2`).  `omega` does not care about either spelling at the top of a linear term, but under a truncating
  division (`Int.tdiv`, an atom for `omega`) the two spellings would be two atoms.  Each step is justified by
  `Int.mul_comm` / `Int.add_comm` / `Nat.mul_comm` / `Nat.add_comm`; nothing is trusted.
  The file also registers the simp attribute `gen_nf`, which must be done in a module below the first that tags with it.
  Meta-level code only (no theorem lives here); not linked into the driver.
-/
import Lean
namespace Umya.Gen
open Lean Meta Simp

/-- `a * k ↦ k * a` for a numeral `k` and a non-numeral `a` (`Int` and `Nat`) -/
simproc_decl mulLitLeft (_ * _) := fun e => do
  let_expr HMul.hMul α _ _ _ a b ← e | return .continue
  let isInt := α.isConstOf ``Int
  unless isInt || α.isConstOf ``Nat do return .continue
  let lit (x : Expr) : MetaM Bool := do
    if isInt then return (← getIntValue? x).isSome else return (← getNatValue? x).isSome
  unless (← lit b) && !(← lit a) do return .continue
  let e' ← mkMul b a
  return .visit { expr := e', proof? := mkApp2 (mkConst (if isInt then ``Int.mul_comm else ``Nat.mul_comm)) a b }

/-- `k + a ↦ a + k` for a numeral `k` and a non-numeral `a` (`Int` and `Nat`) -/
simproc_decl addLitRight (_ + _) := fun e => do
  let_expr HAdd.hAdd α _ _ _ a b ← e | return .continue
  let isInt := α.isConstOf ``Int
  unless isInt || α.isConstOf ``Nat do return .continue
  let lit (x : Expr) : MetaM Bool := do
    if isInt then return (← getIntValue? x).isSome else return (← getNatValue? x).isSome
  unless (← lit a) && !(← lit b) do return .continue
  let e' ← mkAdd b a
  return .visit { expr := e', proof? := mkApp2 (mkConst (if isInt then ``Int.add_comm else ``Nat.add_comm)) a b }

end Umya.Gen

/-- normal form of a program compiled from the Rust source: the lemmas are tagged in `Lemmas/FnsGen.lean` (the method is told there)
    and, for the run-time library of one area, in that area's file -/
register_simp_attr gen_nf
