/-
  (T) translator: `translate_part`, `insert_part` and the grid limits of helper/formula.rs, regenerated
  from the source on every run (`Umya/Model/Gen/Kernels.lean`), are the hand model's `translatePart`,
  `insertPart`, `maxCol`, `maxRow`.

  Method: `Lemmas/FnsGen.lean`.  The leaves are linear arithmetic with `Int.toNat`.
-/
import Umya.Lemmas.FnsGen
import Umya.Model.Formula
namespace Umya.Gen
open Umya.Formula

theorem gen_translate_part (p : Part) (d : Int) (max : Nat) :
    (translate_part ((p.1 : Int), p.2) d max).map (fun q => (q.1.toNat, q.2)) = translatePart p d max := by
  obtain ⟨n, l⟩ := p
  unfold translate_part translatePart
  gen_eq

theorem gen_insert_part (p : Part) (root off max : Nat) (isEnd : Bool) :
    (insert_part ((p.1 : Int), p.2) root off max isEnd).map (fun q => (q.1.toNat, q.2))
      = insertPart p root off max isEnd := by
  obtain ⟨n, l⟩ := p
  unfold insert_part insertPart
  gen_eq

theorem gen_grid_limits : max_column_num = maxCol ∧ max_row_num = maxRow := ⟨rfl, rfl⟩

end Umya.Gen
