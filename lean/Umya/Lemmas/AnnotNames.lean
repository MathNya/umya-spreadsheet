/-
  What `is_address`, `split_str` and `add_address` (un-doubling, `split_address`, `Range::set_range`) make of a printed
  range behind ANY canonical qualifier (`canonQualB`: a bare legal name, or `'…'` around a legal name with its
  apostrophes doubled).  The qualifier `get_address_ptn2` prints (`quoteName`) is one of them, so the facts about
  written areas (`isAddress_area`, `neutral_area`, `parse_printed_area`) are instances; `setAddress_map` reads a
  comma-joined list of such pieces.
-/
import Umya.Lemmas.Annot
import Umya.Model.CoordCanon
import Umya.Lemmas.CoordRange
namespace Umya.Annot
open Umya.Coord Umya.Dec Umya.Thm.C17

/-- the shapes `is_address` accepts, the first two of `Range.IsShape`: a cell, or cell:cell -/
def CellShape (ρ : Range) : Prop :=
  (ρ.startCol.isSome ∧ ρ.startRow.isSome ∧ ρ.endCol.isNone ∧ ρ.endRow.isNone) ∨
  (ρ.startCol.isSome ∧ ρ.startRow.isSome ∧ ρ.endCol.isSome ∧ ρ.endRow.isSome)

/-- `LegalSheetName` (the predicate of the C17 statements: non-empty, not starting with an apostrophe) and none of
    `: \ ? [ ] / *`, which `is_address` refuses in front of the `!` -/
def LegalSheet (n : Text) : Prop := LegalSheetName n ∧ ∀ c ∈ n, forbidden c = false

theorem matchRowRest_rowText (x : Ref) (rest : Text)
    (hr : rest = [] ∨ ∃ c r, rest = c :: r ∧ isDigit c = false) :
    matchRowRest (rowRefText x ++ rest) = some rest := by
  obtain ⟨d, ds, hd, hdig⟩ := decDigits_head x.num
  have hall := decDigits_all_digit x.num
  obtain ⟨htw, hdw⟩ := takeWhile_dropWhile_run isDigit (decDigits x.num) rest hall hr
  cases hl : x.lock
  · have hnd := isDigit_ne_dollar hdig
    have e : rowRefText x ++ rest = d :: (ds ++ rest) := by simp [rowRefText, hl, hd]
    have e2 : d :: (ds ++ rest) = decDigits x.num ++ rest := by simp [hd]
    unfold matchRowRest
    rw [e]
    split
    · rename_i r heq; injection heq with h1 _; exact absurd h1 hnd
    · simp [e2, htw, hdw, decDigits_isEmpty]
  · have e : rowRefText x ++ rest = '$' :: (decDigits x.num ++ rest) := by simp [rowRefText, hl]
    unfold matchRowRest
    rw [e]
    simp [htw, hdw, decDigits_isEmpty]

theorem matchCell_coord (c r : Ref) (rest : Text) (hc : c.num ≤ 18278)
    (hr : rest = [] ∨ ∃ ch rs, rest = ch :: rs ∧ isDigit ch = false) :
    matchCell (colRefText c ++ (rowRefText r ++ rest)) = some rest := by
  unfold matchCell
  rw [matchColGroup_colText c (rowRefText r ++ rest) hc (Or.inr (rowRefText_head r rest))]
  exact matchRowRest_rowText r rest hr

theorem isShape_of_cell (ρ : Range) (h : CellShape ρ) : Range.IsShape ρ := by
  rcases h with h | h
  · exact Or.inl h
  · exact Or.inr (Or.inl h)

theorem CellShape.cases {ρ : Range} (h : CellShape ρ) :
    (∃ a b, ρ = ⟨some a, some b, none, none⟩) ∨ ∃ a b x y, ρ = ⟨some a, some b, some x, some y⟩ := by
  rcases (isShape_of_cell ρ h).cases with e | e | ⟨x, y, rfl⟩ | ⟨x, y, rfl⟩
  · exact .inl e
  · exact .inr e
  · simp [CellShape] at h
  · simp [CellShape] at h

theorem matchCellRange_print (ρ : Range) (hs : CellShape ρ) (hb : Range.InBounds ρ) :
    matchCellRange ρ.print = true := by
  obtain ⟨b1, b2, b3, b4⟩ := hb
  rcases hs.cases with ⟨a, b, rfl⟩ | ⟨a, b, x, y, rfl⟩
  · have hp : Range.print ⟨some a, some b, none, none⟩ = colRefText a ++ (rowRefText b ++ []) := by
      simp [Range.print, optText]
    rw [hp]
    unfold matchCellRange
    rw [matchCell_coord a b [] (b1 a rfl).2 (Or.inl rfl)]
  · have hp : Range.print ⟨some a, some b, some x, some y⟩
        = colRefText a ++ (rowRefText b ++ ':' :: (colRefText x ++ (rowRefText y ++ []))) := by
      simp [Range.print, optText]
    rw [hp]
    unfold matchCellRange
    rw [matchCell_coord a b _ (b1 a rfl).2 (Or.inr ⟨':', _, rfl, by decide⟩)]
    simp only [Bool.and_eq_true, decide_eq_true_eq, true_and]
    rw [matchCell_coord x y [] (b2 x rfl).2 (Or.inl rfl)]

theorem bang_free_print (ρ : Range) : '!' ∉ ρ.print := Range.not_mem_print (by decide) (by decide) (by decide) ρ

theorem apos_free_print (ρ : Range) : '\'' ∉ ρ.print := Range.not_mem_print (by decide) (by decide) (by decide) ρ

theorem isAddress_pre {pre : Text} (ρ : Range) (hne : pre ≠ []) (hf : ∀ c ∈ pre, forbidden c = false)
    (hs : CellShape ρ) (hb : Range.InBounds ρ) : isAddress (pre ++ '!' :: ρ.print) = true := by
  unfold isAddress
  rw [rsplitBang_join pre ρ.print (bang_free_print ρ)]
  simp only [matchCellRange_print ρ hs hb, Bool.and_true, Bool.and_eq_true, Bool.not_eq_true', List.all_eq_true]
  refine ⟨?_, ?_⟩
  · cases pre with
    | nil => exact absurd rfl hne
    | cons _ _ => rfl
  · intro c hc; simp [hf c hc]

theorem replaceApos_mem {s : Text} {c : Char} (h : c ∈ replaceApos s) : c ∈ s := by
  obtain ⟨a, ha, hc⟩ := List.mem_flatMap.1 h
  split at hc
  · rename_i e; simp at hc; rw [hc, ← e]; exact ha
  · exact List.mem_singleton.1 hc ▸ ha

theorem replaceApos_head (s : Text) (hne : s ≠ []) (hh : s.head? ≠ some '\'') (rest : Text) :
    (replaceApos s ++ rest).head? ≠ some '\'' := by
  cases s with
  | nil => exact absurd rfl hne
  | cons c r =>
    have hc : c ≠ '\'' := by simpa using hh
    rw [replaceApos_cons]; simp [hc]

/-- what the C06 statements ask of an area: `is_address` accepts its printed text (`isAddress_area`, all three fields)
    and `add_address` reads it back (`parse_printed_area`: `sheet.1` and `bounds`) -/
structure AreaOK (a : Address) : Prop where
  sheet : LegalSheet a.sheet
  shape : CellShape a.range
  bounds : Range.InBounds a.range

theorem needsQuote_of_apos (n : Text) (h : n.contains '\'' = true) : needsQuote n = true := by
  unfold needsQuote; rw [h]; simp

theorem alnum_of_bare (n : Text) (h : needsQuote n = false) : n.all isAlnumAscii = true := by
  simp only [needsQuote, Bool.or_eq_false_iff] at h
  rw [List.all_eq_true]
  intro c hc
  simpa using List.any_eq_false.1 h.1.2 c hc

theorem addressText_quoteName {n r : Text} (hne : n ≠ []) : addressText n r true = quoteName n ++ '!' :: r := by
  have he : n.isEmpty = false := by cases n <;> simp_all
  unfold addressText quoteName
  simp only [he, Bool.false_eq_true, if_false, if_true]
  cases hap : n.contains '\''
  · have hq : needsQuote n = (n.any isWhitespace || n.contains '!' || n.contains '"' ||
        (n.any fun c => !isAlnumAscii c) || indexFromCoordinate n != (none, none, none, none)) := by
      unfold needsQuote; rw [hap]; simp
    simp only [Bool.false_eq_true, if_false, hq, replaceApos_noApos n hap]
    generalize (n.any isWhitespace || n.contains '!' || n.contains '"' ||
      (n.any fun c => !isAlnumAscii c) || indexFromCoordinate n != (none, none, none, none)) = q
    cases q <;> simp
  · simp [needsQuote_of_apos n hap]

theorem plainB_iff (c : Char) : plainB c = true ↔ Plain c := by
  simp only [plainB, Plain, Bool.not_eq_true', Bool.or_eq_false_iff, decide_eq_false_iff_not]
  constructor
  · rintro ⟨⟨⟨⟨h1, h2⟩, h3⟩, h4⟩, h5⟩; exact ⟨h1, h2, h3, h4, h5⟩
  · rintro ⟨h1, h2, h3, h4, h5⟩; exact ⟨⟨⟨⟨h1, h2⟩, h3⟩, h4⟩, h5⟩

theorem legalSheetB_iff (n : Text) : legalSheetB n = true ↔ LegalSheet n := by
  simp only [legalSheetB, Bool.and_eq_true, Bool.not_eq_true', decide_eq_true_eq, List.all_eq_true, LegalSheet,
    LegalSheetName]
  constructor
  · rintro ⟨⟨h1, h2⟩, h3⟩
    exact ⟨⟨by intro e; subst e; simp at h1, h2⟩, h3⟩
  · rintro ⟨⟨h1, h2⟩, h3⟩
    refine ⟨⟨?_, h2⟩, h3⟩
    cases n with
    | nil => exact absurd rfl h1
    | cons _ _ => rfl

theorem nameOfQual_bare (n : Text) (hl : LegalSheetName n) (hf : '\'' ∉ n) : nameOfQual n = n := by
  rw [nameOfQual, undouble_id n hf, stripSheetQuote_legal n hl]

theorem nameOfQual_quoted (n : Text) (hl : LegalSheetName n) : nameOfQual ('\'' :: (replaceApos n ++ ['\''])) = n := by
  rw [nameOfQual, undouble_apos_single (replaceApos_head n hl.1 hl.2 _), undouble_double]
  exact stripSheetQuote_quoted n

theorem nameOfQual_quoteName (n : Text) (hl : LegalSheetName n) : nameOfQual (quoteName n) = n := by
  unfold quoteName
  cases hq : needsQuote n
  · exact nameOfQual_bare n hl fun e => (alnum_plain _ (List.all_eq_true.1 (alnum_of_bare n hq) _ e)).1 rfl
  · exact nameOfQual_quoted n hl

theorem canonQual_cases (q : Text) (h : canonQualB q = true) :
    LegalSheet (nameOfQual q) ∧
      ((q = nameOfQual q ∧ ∀ c ∈ q, Plain c) ∨ q = '\'' :: (replaceApos (nameOfQual q) ++ ['\''])) := by
  unfold canonQualB at h
  split at h
  · rename_i r
    split at h
    · rename_i m hm
      simp only [Bool.and_eq_true, decide_eq_true_eq] at h
      obtain ⟨hrep, hleg⟩ := h
      have hleg' := (legalSheetB_iff _).1 hleg
      have hr : r = m.reverse ++ ['\''] := by
        have := congrArg List.reverse hm
        simpa using this
      -- the qualifier is the quoted spelling of `undouble m.reverse`, so `nameOfQual_quoted` reads that name out of it
      have hq : '\'' :: r = '\'' :: (replaceApos (undouble m.reverse) ++ ['\'']) := by rw [hrep, hr]
      rw [show nameOfQual ('\'' :: r) = undouble m.reverse from hq ▸ nameOfQual_quoted _ hleg'.1]
      exact ⟨hleg', Or.inr hq⟩
    · cases h
  · rename_i hnq
    simp only [Bool.and_eq_true, List.all_eq_true] at h
    obtain ⟨hleg, hpl⟩ := h
    have hleg' := (legalSheetB_iff _).1 hleg
    have hplain : ∀ c ∈ q, Plain c := fun c hc => (plainB_iff c).1 (hpl c hc)
    have hfree : '\'' ∉ q := fun hm => (hplain _ hm).1 rfl
    rw [nameOfQual_bare q hleg'.1 hfree]
    exact ⟨hleg', Or.inl ⟨rfl, hplain⟩⟩

theorem canonQual_quoteName (n : Text) (h : LegalSheet n) : canonQualB (quoteName n) = true := by
  unfold quoteName canonQualB
  cases hq : needsQuote n
  · simp only [Bool.false_eq_true, if_false]
    have hpl : ∀ c ∈ n, Plain c := fun c hc => alnum_plain c (List.all_eq_true.1 (alnum_of_bare n hq) c hc)
    split
    · exact absurd rfl (hpl _ List.mem_cons_self).1
    · simp only [Bool.and_eq_true, List.all_eq_true]
      exact ⟨(legalSheetB_iff n).2 h, fun c hc => (plainB_iff c).2 (hpl c hc)⟩
  · have hu : undouble (replaceApos n) = n := by
      have := undouble_double n []
      simpa [undouble] using this
    simp only [if_true, List.reverse_append, List.reverse_cons, List.reverse_nil, List.nil_append, List.singleton_append,
      List.reverse_reverse, hu, decide_true, Bool.true_and]
    exact (legalSheetB_iff n).2 h

theorem splitAddress_undouble (q r : Text) (hb : '!' ∉ r) (ha : '\'' ∉ r) :
    splitAddress (undouble (q ++ '!' :: r)) = (nameOfQual q, r) := by
  rw [undouble_append_cons '!' (by decide), undouble_id r ha, splitAddress_qual _ _ hb, nameOfQual]

theorem area_parse (q : Text) (ρ : Range) (hb : Range.InBounds ρ) :
    Address.parse (undouble (q ++ '!' :: ρ.print)) = .ok ⟨nameOfQual q, ρ⟩ := by
  simp only [Address.parse, splitAddress_undouble q _ (bang_free_print ρ) (apos_free_print ρ), Range.parse_print ρ hb]

theorem parse_printed_area (a : Address) (hl : LegalSheetName a.sheet) (hb : Range.InBounds a.range) :
    Address.parse (undouble a.text) = .ok a := by
  have := area_parse (quoteName a.sheet) a.range hb
  rwa [nameOfQual_quoteName _ hl, ← addressText_quoteName hl.1] at this

theorem area_neutral (q : Text) (ρ : Range) (hq : canonQualB q = true) : Neutral (q ++ '!' :: ρ.print) := by
  have hr : Neutral ('!' :: ρ.print) := neutral_plain fun c hc => by
    rcases List.mem_cons.1 hc with e | e
    · subst e; refine ⟨?_, ?_, ?_, ?_, ?_⟩ <;> decide
    · exact plain_print _ c e
  rcases (canonQual_cases q hq).2 with ⟨_, hpl⟩ | hqe
  · exact neutral_append (neutral_plain hpl) hr
  · rw [hqe]; exact neutral_append (neutral_quoted _) hr

theorem area_isAddress (q : Text) (ρ : Range) (hq : canonQualB q = true) (hs : CellShape ρ) (hb : Range.InBounds ρ) :
    isAddress (q ++ '!' :: ρ.print) = true := by
  obtain ⟨⟨hleg, hforb⟩, hq⟩ := canonQual_cases q hq
  rcases hq with ⟨hqe, _⟩ | hqe
  · rw [hqe]; exact isAddress_pre ρ hleg.1 hforb hs hb
  · rw [hqe]
    refine isAddress_pre ρ (by simp) ?_ hs hb
    intro c hc
    simp only [List.mem_cons, List.mem_append, List.not_mem_nil, or_false] at hc
    rcases hc with e | e | e
    · subst e; decide
    · exact hforb c (replaceApos_mem e)
    · subst e; decide

theorem Address.text_eq (a : Address) (hl : LegalSheet a.sheet) :
    a.text = quoteName a.sheet ++ '!' :: a.range.print ∧ canonQualB (quoteName a.sheet) = true :=
  ⟨addressText_quoteName hl.1.1, canonQual_quoteName a.sheet hl⟩

theorem isAddress_area (a : Address) (h : AreaOK a) : isAddress a.text = true := by
  obtain ⟨e, hq⟩ := a.text_eq h.sheet
  rw [e]; exact area_isAddress _ _ hq h.shape h.bounds

theorem neutral_area (a : Address) (h : LegalSheet a.sheet) : Neutral a.text ∧ a.text ≠ [] := by
  obtain ⟨e, hq⟩ := a.text_eq h
  rw [e]; exact ⟨area_neutral _ _ hq, by simp⟩

theorem unqual_text (ρ : Range) : (⟨[], ρ⟩ : Address).text = ρ.print := by
  simp [Address.text, addressText]

theorem unqual_parse (ρ : Range) (hb : Range.InBounds ρ) :
    Address.parse ρ.print = .ok ⟨[], ρ⟩ ∧ Address.parse (undouble ρ.print) = .ok ⟨[], ρ⟩ := by
  have h1 : Address.parse ρ.print = .ok ⟨[], ρ⟩ := by
    simp only [Address.parse, splitAddress, rsplitBang_none _ (bang_free_print ρ), Range.parse_print ρ hb]
  exact ⟨h1, by rw [undouble_id _ (apos_free_print ρ)]; exact h1⟩

theorem addAll_map {α} (f : α → Text) (g : α → Address) (l : List α) (acc : List Address)
    (h : ∀ x ∈ l, Address.parse (undouble (f x)) = .ok (g x)) :
    addAll acc (l.map f) = .ok (acc ++ l.map g) := by
  induction l generalizing acc with
  | nil => simp [addAll]
  | cons a r ih =>
    simp only [List.map_cons, addAll, h a (by simp)]
    rw [ih (acc ++ [g a]) (fun x hx => h x (List.mem_cons_of_mem _ hx))]; simp

theorem setAddress_map {α} (f : α → Text) (g : α → Address) (l : List α) (hne : l ≠ [])
    (h : ∀ x ∈ l, (Neutral (f x) ∧ f x ≠ []) ∧ isAddress (f x) = true ∧ Address.parse (undouble (f x)) = .ok (g x)) :
    splitStr (joinComma (l.map f)) = l.map f ∧ (l.map f).all isAddress = true ∧
      DefName.setAddress {} (joinComma (l.map f)) = .ok { areas := l.map g } := by
  have hsplit : splitStr (joinComma (l.map f)) = l.map f :=
    splitStr_join _ (by simpa using hne) (by
      intro t ht; obtain ⟨x, hx, rfl⟩ := List.mem_map.1 ht; exact (h x hx).1)
  have hall : (l.map f).all isAddress = true := by
    rw [List.all_eq_true]; intro t ht; obtain ⟨x, hx, rfl⟩ := List.mem_map.1 ht; exact (h x hx).2.1
  refine ⟨hsplit, hall, ?_⟩
  simp only [DefName.setAddress, hsplit, hall, if_true, addAll_map f g l [] (fun x hx => (h x hx).2.2), List.nil_append]

theorem setAddress_areas (as : List Address) (hne : as ≠ []) (h : ∀ a ∈ as, AreaOK a) :
    splitStr (joinComma (as.map Address.text)) = as.map Address.text ∧ (as.map Address.text).all isAddress = true ∧
      DefName.setAddress {} (joinComma (as.map Address.text)) = .ok { areas := as } := by
  have := setAddress_map Address.text id as hne
    (fun x hx => ⟨neutral_area x (h x hx).sheet, isAddress_area x (h x hx), parse_printed_area x (h x hx).sheet.1 (h x hx).bounds⟩)
  rwa [List.map_id] at this

theorem setAddress_text (as : List Address) (h : ∀ a ∈ as, AreaOK a) :
    DefName.setAddress {} (DefName.text { areas := as }) = .ok { areas := as } := by
  cases as with
  | nil => decide
  | cons a r => exact (setAddress_areas (a :: r) (by simp) h).2.2

theorem setAddress_kept (v : Text) (h : (splitStr v).all isAddress = false) :
    DefName.setAddress {} v = .ok { areas := [], str := some v } ∧
    DefName.text { areas := [], str := some v } = v := by
  simp [DefName.setAddress, DefName.text, h]

end Umya.Annot
