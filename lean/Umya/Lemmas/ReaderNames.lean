/-
  Workbook level (`Umya/Model/ReaderBook.lean`): merged ranges through
  `Range::set_range` / `get_range` (from `Range.parse_print`), a defined name given what `set_address` makes of its text
  (`readDefinedNameB_of_setAddress`; which texts it accepts, and as what: `setAddress_any` of `ReaderNamesAny`), the re-homing loop.
  The texts are those of the Props `MergeRefOk`, `NameTextOk`; the model's decidable checks are sufficient for them
  (`mergeRefOkB_sound`, `nameTextOkB_sound`).
-/
import Umya.Model.ReaderBook
import Umya.Lemmas.ReaderBook
import Umya.Lemmas.AnnotNames
namespace Umya.Reader.Lemmas
open Umya.Reader Umya.Spec.Xml Umya.Spec.Sml Umya.Coord
open Umya.Annot (DefName Address splitStr isAddress AreaOK)

/-- the `ref` texts of `C03_merges`: the A1 text of a range of one of the four printable shapes (a cell, cell:cell, whole
    rows, whole columns; `$` locks allowed) inside the bounds of the codec (columns ≤ ZZZ, rows < 2^32).  `IsShape`, `InBounds`
    are those of `Lemmas/CoordRange`; reading the text back (`mergeRange_ok`) needs the bounds only, the shape makes `MergeRefOk`
    the grammar that `canonRangeB` decides (`C03_merge_ref_grammar`) -/
def MergeRefOk (v : Text) : Prop :=
  ∃ ρ : Range, Umya.Thm.C17.Range.IsShape ρ ∧ Umya.Thm.C17.Range.InBounds ρ ∧ v = ρ.print

-- 18278 = ZZZ, the last column three letters reach; 4294967295 = `u32::MAX` (the bounds of `Range.InBounds`)
theorem refB_col {o : Option Ref} (h : refB 1 18278 o = true) : ∀ x, o = some x → 1 ≤ x.num ∧ x.num ≤ 18278 := by
  intro x hx
  subst hx
  simpa [refB] using h

theorem refB_row {o : Option Ref} (h : refB 0 4294967295 o = true) : ∀ x, o = some x → x.num < 4294967296 := by
  intro x hx
  subst hx
  simp [refB] at h
  omega

theorem mergeRefOkB_sound (v : Text) (h : mergeRefOkB v = true) : MergeRefOk v := by
  unfold mergeRefOkB at h
  split at h
  · rename_i ρ _
    simp only [Bool.and_eq_true, decide_eq_true_eq] at h
    obtain ⟨⟨⟨⟨⟨hs, h1⟩, h2⟩, h3⟩, h4⟩, hp⟩ := h
    refine ⟨ρ, ?_, ⟨refB_col h1, refB_col h2, refB_row h3, refB_row h4⟩, hp.symm⟩
    simp only [shapeB, Bool.or_eq_true, Bool.and_eq_true] at hs
    unfold Umya.Thm.C17.Range.IsShape
    rcases hs with ((hs | hs) | hs) | hs
    · exact Or.inl ⟨hs.1.1.1, hs.1.1.2, by simpa using hs.1.2, by simpa using hs.2⟩
    · exact Or.inr (Or.inl ⟨hs.1.1.1, hs.1.1.2, hs.1.2, hs.2⟩)
    · exact Or.inr (Or.inr (Or.inl ⟨by simpa using hs.1.1.1, hs.1.1.2, by simpa using hs.1.2, hs.2⟩))
    · exact Or.inr (Or.inr (Or.inr ⟨hs.1.1.1, by simpa using hs.1.1.2, hs.1.2, by simpa using hs.2⟩))
  · cases h

theorem mergeRange_ok (v : Text) (h : MergeRefOk v) : ∃ ρ, Range.parse v = .ok ρ ∧ ρ.print = v := by
  obtain ⟨ρ, hs, hb, rfl⟩ := h
  exact ⟨ρ, Umya.Thm.C17.Range.parse_print ρ hb, rfl⟩

/-- the name texts of `C03_defined_names`: a text that is NOT a plain list of cell areas (a formula, a constant, whole rows or
    columns, a list with such a part: `set_address` keeps it as it stands), or the text of a list of areas in the spelling
    `get_address_ptn2` prints (the sheet name in apostrophes — with `''` for an apostrophe — unless it is `[0-9a-zA-Z]*`
    starting with a lower-case letter or with a digit run ≥ 2^32, `C17_quote_rule` of `Thm/C17Parse`; `AreaOK`: legal sheet name, a cell or
    cell:cell, inside the bounds) -/
def NameTextOk (v : Text) : Prop :=
  (splitStr v).all isAddress = false ∨ ∃ as : List Address, (∀ a ∈ as, AreaOK a) ∧ v = DefName.text { areas := as }

theorem areaOkB_sound (a : Address) (h : areaOkB a = true) : AreaOK a := by
  simp only [areaOkB, Bool.and_eq_true, Bool.or_eq_true, Bool.not_eq_true', decide_eq_true_eq, List.all_eq_true] at h
  obtain ⟨⟨⟨⟨⟨⟨⟨hne, hh⟩, hf⟩, hs⟩, h1⟩, h2⟩, h3⟩, h4⟩ := h
  refine ⟨⟨⟨?_, hh⟩, ?_⟩, ?_, ⟨refB_col h1, refB_col h2, refB_row h3, refB_row h4⟩⟩
  · intro e; rw [e] at hne; cases hne
  · intro c hc; exact hf c hc
  · rcases hs with hs | hs
    · exact Or.inl ⟨hs.1.1.1, hs.1.1.2, by simpa using hs.1.2, by simpa using hs.2⟩
    · exact Or.inr ⟨hs.1.1.1, hs.1.1.2, hs.1.2, hs.2⟩

theorem nameTextOkB_sound (v : Text) (h : nameTextOkB v = true) : NameTextOk v := by
  unfold nameTextOkB at h
  by_cases h0 : (splitStr v).all isAddress = false
  · exact Or.inl h0
  · rw [if_neg h0] at h
    cases hd : DefName.setAddress {} v with
    | panic => rw [hd] at h; cases h
    | ok d =>
      rw [hd] at h
      have h' : (d.str.isNone && d.areas.all areaOkB && decide (d.text = v)) = true := h
      simp only [Bool.and_eq_true, decide_eq_true_eq, List.all_eq_true, Option.isNone_iff_eq_none] at h'
      obtain ⟨⟨hstr, hall⟩, ht⟩ := h'
      refine Or.inr ⟨d.areas, fun a ha => areaOkB_sound a (hall a ha), ?_⟩
      rw [← ht]
      simp only [DefName.text, hstr]

theorem readDefinedNameB_of_setAddress (d : Node) (h : validDefinedName d = true) (b : DefName)
    (hb : DefName.setAddress {} d.ownText = .ok b) :
    readDefinedNameB d = some ⟨(specName d).name, (specName d).scope, b⟩ := by
  unfold readDefinedNameB
  rw [definedName_agrees d h]
  have : (specName d).text = d.ownText := rfl
  simp only [this, hb]

theorem mapM_some' {α β} (f : α → Option β) : ∀ (l : List α), (∀ x ∈ l, (f x).isSome) →
    ∃ r, l.mapM f = some r ∧ r.length = l.length ∧ ∀ i (hi : i < l.length) (hr : i < r.length), f l[i] = some r[i] := by
  intro l
  induction l with
  | nil => intro _; exact ⟨[], rfl, rfl, fun i hi => absurd hi (Nat.not_lt_zero _)⟩
  | cons a t ih =>
    intro h
    obtain ⟨b, hb⟩ := Option.isSome_iff_exists.mp (h a List.mem_cons_self)
    obtain ⟨r, hr, hl, hi⟩ := ih (fun x hx => h x (List.mem_cons_of_mem _ hx))
    refine ⟨b :: r, ?_, by simp [hl], ?_⟩
    · simp only [List.mapM_cons, hb, hr]; rfl
    · intro i h1 h2
      cases i with
      | zero => exact hb
      | succ j => exact hi j (by simpa using h1) (by simpa using h2)

theorem homeOf_some (sheets : List SheetR) (n : NameB) (h : ∀ i, n.localSheetId = some i → i < sheets.length) :
    ∃ hm, homeOf sheets n = some hm := by
  unfold homeOf
  cases hl : n.localSheetId with
  | some i => simp only [h i hl, if_true]; exact ⟨_, rfl⟩
  | none =>
    simp only []
    cases n.body.areas.head? with
    | none => exact ⟨_, rfl⟩
    | some a =>
      simp only []
      cases sheets.findIdx? (fun s => decide (s.name = a.sheet)) <;> exact ⟨_, rfl⟩

theorem rehome_spec (sheets : List SheetR) (names : List NameB)
    (h : ∀ n ∈ names, ∀ i, n.localSheetId = some i → i < sheets.length) :
    ∃ l, rehome sheets names = some l ∧ l.map (·.1) = names ∧ ∀ p ∈ l, homeOf sheets p.1 = some p.2 := by
  obtain ⟨l, hl, hv⟩ := mapM_view (fun n => (homeOf sheets n).map fun hm => (n, hm)) (·.1) id names fun n hn => by
    obtain ⟨hm, hh⟩ := homeOf_some sheets n (h n hn)
    exact ⟨(n, hm), by rw [hh]; rfl, rfl⟩
  refine ⟨l, hl, by rw [hv, List.map_id], fun p hp => ?_⟩
  obtain ⟨n, _, hn⟩ := (mapM_eq_some.1 hl).mem_left hp
  cases hh : homeOf sheets n with
  | none => rw [hh] at hn; cases hn
  | some hm => rw [hh] at hn; cases hn; exact hh

end Umya.Reader.Lemmas
