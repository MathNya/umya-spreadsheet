import Umya.Lemmas.ReaderStyleResolve
import Umya.Lemmas.ListRel
namespace Umya.Reader.Lemmas
open Umya.Reader Umya.Spec.Xml Umya.Spec.Sml
open Umya.StyleCodec

def applyNames : List String :=
  ["applyNumberFormat", "applyFont", "applyFill", "applyBorder", "applyAlignment", "applyProtection"]

/-- the first `<xf>` of `cellStyleXfs` (the library's `def_cell_format` for EVERY cell xf, `xfId` is not read) carries
    no `apply*` attribute (it may have an alignment / protection child: the cell xfs do not take those over) -/
def defNeutral : Option Node → Bool
  | none => true
  | some d => applyNames.all (fun k => (d.attr? k.toList).isNone)

def stylesShape (root : Node) : Bool :=
  root.children.all plain && root.children.all (fun c => c.children.all plain) &&
  uniq root.children "numFmts" && uniq root.children "fonts" && uniq root.children "fills" &&
  uniq root.children "borders" && uniq root.children "cellStyleXfs" && uniq root.children "cellXfs"

def stylesItems (root : Node) : Bool :=
  (tableNodes root "numFmts" "numFmt").all validNumFmt && decide (((numFmtTable root).map (·.1)).Nodup) &&
  (tableNodes root "fonts" "font").all validFont && (tableNodes root "fills" "fill").all validFill &&
  (tableNodes root "borders" "border").all validBorder

def stylesXfs (root : Node) : Bool :=
  (tableNodes root "cellStyleXfs" "xf").all validXf && defNeutral (tableNodes root "cellStyleXfs" "xf").head? &&
  (tableNodes root "cellXfs" "xf").all (fun x => validXf x &&
    xfInRange (numFmtTable root) (tableNodes root "fonts" "font").length (tableNodes root "fills" "fill").length
      (tableNodes root "borders" "border").length x)

/-- the `styles.xml` roots of the style theorems, in three parts: element names without prefix down to the items and each of
    the six tables at most once (`stylesShape`: then the reader's walk over raw names and the decoder's `kid?` see the same
    tables, `tableOf_eq`); every `numFmt` / `font` / `fill` / `border` item valid and no `numFmtId` twice (`stylesItems`);
    every `<xf>` valid, the first `cellStyleXfs` record neutral, the ids of the cell xfs inside their tables (`stylesXfs`) -/
def validStyles (root : Node) : Bool := stylesShape root && stylesItems root && stylesXfs root

theorem numFmtTable_eq (root : Node) : numFmtTable root = (tableNodes root "numFmts" "numFmt").filterMap numFmtV := rfl

theorem styleTable_eq (root : Node) :
    styleTable root = (tableNodes root "cellXfs" "xf").map
      (xfV (numFmtTable root) (tableNodes root "fonts" "font") (tableNodes root "fills" "fill") (tableNodes root "borders" "border")) := rfl

theorem neutral_of {d : XfR} {dn : Node} (hx : XfAgrees d dn) (hn : defNeutral (some dn) = true) : Neutral d := by
  simp only [defNeutral, applyNames, List.all_cons, List.all_nil, Bool.and_true, Bool.and_eq_true,
    Option.isNone_iff_eq_none] at hn
  obtain ⟨a1, a2, a3, a4, a5, a6⟩ := hn
  have hf := hx.flags
  simp only [a1, a2, a3, a4, a5, a6, Option.map_none, Prod.mk.injEq] at hf
  obtain ⟨f1, f2, f3, f4, f5, f6⟩ := hf
  exact ⟨f1, f2, f3, f4, f5, f6⟩

theorem styles_agree (cf : Tok → Tok) (root : Node) (h : validStyles root = true) :
    ∃ made, readStyleSheet cf root = some made ∧ made.map styleFacts = (styleTable root).map (xfFacts cf) := by
  simp only [validStyles, stylesShape, stylesItems, stylesXfs, Bool.and_eq_true, decide_eq_true_eq] at h
  obtain ⟨⟨⟨⟨⟨⟨⟨⟨⟨hpl, hin⟩, u1⟩, u2⟩, u3⟩, u4⟩, u5⟩, u6⟩, ⟨⟨⟨⟨vnf, hnd⟩, vfo⟩, vfi⟩, vbo⟩⟩, ⟨vsx, hdn⟩, vxs⟩ := h
  obtain ⟨nf, hnf, hnfv⟩ := mapM_view NumFmt.read (fun v => some (v.id, v.code)) numFmtV (tableNodes root "numFmts" "numFmt")
    (fun n hn => numFmt_agrees n (List.all_eq_true.mp vnf n hn))
  obtain ⟨fo, hfo, hfov⟩ := mapM_view (Font.read cf) fontFacts (fun n => cfFont cf (fontV n)) (tableNodes root "fonts" "font")
    (fun n hn => font_agrees cf n (List.all_eq_true.mp vfo n hn))
  obtain ⟨fi, hfi, hfiv⟩ := mapM_view (Fill.read cf) fillFacts (fun n => cfFill cf (fillV n)) (tableNodes root "fills" "fill")
    (fun n hn => fill_agrees cf n (List.all_eq_true.mp vfi n hn))
  obtain ⟨bo, hbo, hbov⟩ := mapM_view (Borders.read cf) borderFacts (fun n => cfBorder cf (borderV n))
    (tableNodes root "borders" "border") (fun n hn => border_agrees cf n (List.all_eq_true.mp vbo n hn))
  obtain ⟨sx, hsx, hsxv⟩ := mapM_rel readXf XfAgrees (tableNodes root "cellStyleXfs" "xf")
    (fun n hn => xf_agrees n (List.all_eq_true.mp vsx n hn))
  have vxs := fun n hn => Bool.and_eq_true_iff.mp (List.all_eq_true.mp vxs n hn)
  obtain ⟨xs, hxs, hxsv⟩ := mapM_rel readXf XfAgrees (tableNodes root "cellXfs" "xf") (fun n hn => xf_agrees n (vxs n hn).1)
  have hnum : nf.map (fun v => (v.id, v.code)) = numFmtTable root := by
    rw [numFmtTable_eq]
    apply Eq.symm
    apply filterMap_of_map_some
    rw [← hnfv, List.map_map]
    rfl
  let t : StyleTables := { numFmts := nf, fonts := fo, fills := fi, borders := bo, styleXfs := sx, xfs := xs }
  have ht : TablesAgree cf t (numFmtTable root) (tableNodes root "fonts" "font") (tableNodes root "fills" "fill")
      (tableNodes root "borders" "border") := ⟨hfov, hfiv, hbov, hnum, hnd⟩
  have hread : readStyles cf root = some t := by
    unfold readStyles
    rw [tableOf_eq root hpl u1 hin, tableOf_eq root hpl u2 hin, tableOf_eq root hpl u3 hin,
      tableOf_eq root hpl u4 hin, tableOf_eq root hpl u5 hin, tableOf_eq root hpl u6 hin,
      hnf, hfo, hfi, hbo, hsx, hxs]
  have hd : Neutral ((t.styleXfs[0]?).getD {}) := by
    show Neutral ((sx[0]?).getD {})
    generalize tableNodes root "cellStyleXfs" "xf" = l at hsxv hdn
    cases hsxv with
    | nil => exact ⟨rfl, rfl, rfl, rfl, rfl, rfl⟩
    | cons hda _ => exact neutral_of hda hdn
  obtain ⟨made, hmade, hmv⟩ := mapM_forall₂ (resolveXf t ((t.styleXfs[0]?).getD {})) XfAgrees
    (fun s n => styleFacts s = xfFacts cf (xfV (numFmtTable root) (tableNodes root "fonts" "font")
      (tableNodes root "fills" "fill") (tableNodes root "borders" "border") n)) hxsv
    (fun x n _ hn hx => resolve_agrees cf t ht x n hd hx (vxs n hn).2)
  refine ⟨made, ?_, ?_⟩
  · unfold readStyleSheet
    rw [hread]
    exact hmade
  · rw [hmv.map_eq, styleTable_eq, List.map_map]
    rfl

end Umya.Reader.Lemmas
