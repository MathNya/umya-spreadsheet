/-
  A SYNTACTIC class of date-format codes that `format_as_date` reads the way the tokens mean (C18 display).

  `format_as_date` turns a code into a strftime string by 21 + 2 successive `str::replace` passes over the
  WHOLE text.  None of the `from` patterns contains `-`, `,` or blank, so no match of any pass can straddle
  one of these characters: every pass, hence the whole pipeline, acts on the pieces between them
  independently (`replaceAll_split` on the scanner's equation `replaceAll_cons` of `Lemmas/DateFmt`, `apply_split`).  The
  pieces ("words") are taken from a vocabulary described by a generator (`vocab`): a field alone; the marker `AM/PM` alone
  (12-hour mode); hour `:`
  minutes [`:` seconds]; minutes `:` seconds; two or three of year / month / day, each at most once, joined by `/` or
  by `.`.  The words of the vocabulary (≈ 180 per clock mode) are validated once, by kernel evaluation of the
  tables on each word (`vocab_ok`); arbitrary many words joined by `-` `,` blank follow by induction (`facts_cons`).

  `simpleSyntax toks` itself evaluates no replacement table: it splits the list at the tokens `-` `,` blank,
  looks every piece up in `vocab`, and wants one field token at least.  The clock mode is global, as in the
  code: with an `AM/PM` token the hour tokens must be `h12` / `hh12`, without one `h` / `hh`.
-/
import Umya.Lemmas.DateDisplay
import Umya.Lemmas.DateFmt
namespace Umya.Lemmas.DateSyntax
open Umya.Date Umya.Lemmas.DateDisplay Umya.Lemmas.DateFmt

theorem startsWith_split (c : Char) (b : List Char) : ∀ (a p : List Char), p.contains c = false →
    startsWith (a ++ c :: b) p = startsWith a p
  | [], [], _ => by simp [startsWith]
  | [], q :: p, h => by
    simp only [List.contains_cons, Bool.or_eq_false_iff] at h
    simp [startsWith, h.1]
  | x :: a, [], _ => by simp [startsWith]
  | x :: a, q :: p, h => by
    simp only [List.contains_cons, Bool.or_eq_false_iff] at h
    simp only [List.cons_append, startsWith]
    rw [startsWith_split c b a p h.2]

theorem replaceAll_split (f t : List Char) (c : Char) (a b : List Char) (hc : f.contains c = false) :
    replaceAll (a ++ c :: b) f t = replaceAll a f t ++ c :: replaceAll b f t := by
  have hs := startsWith_split c b a f hc
  cases a with
  | nil =>
    rw [List.nil_append] at hs ⊢
    rw [replaceAll_cons, hs]
    cases f <;> rfl
  | cons x a' =>
    rw [List.cons_append] at hs ⊢
    rw [replaceAll_cons, replaceAll_cons f t x a', hs]
    split
    · -- a match inside `x :: a'`: the scan goes on behind it, in a shorter text
      rename_i hm
      simp only [Bool.and_eq_true, Bool.not_eq_true', List.isEmpty_eq_false_iff] at hm
      have hlen := startsWith_length _ _ hm.2
      have hpos := List.length_pos_iff.2 hm.1
      have : (List.drop f.length (x :: a')).length < (x :: a').length := by
        rw [List.length_drop]; omega
      rw [← List.cons_append, List.drop_append_of_le_length hlen,
        replaceAll_split f t c (List.drop f.length (x :: a')) b hc, List.append_assoc]
    · rw [replaceAll_split f t c a' b hc]; rfl
termination_by a.length

def tblAvoids (tbl : List (String × String)) (c : Char) : Bool := tbl.all fun p => !p.1.toList.contains c

theorem applyReplacements_cons (p : String × String) (rest : List (String × String)) (s : List Char) :
    applyReplacements (p :: rest) s = applyReplacements rest (replaceAll s p.1.toList p.2.toList) := rfl

theorem apply_split (c : Char) : ∀ (tbl : List (String × String)), tblAvoids tbl c = true → ∀ a b : List Char,
    applyReplacements tbl (a ++ c :: b) = applyReplacements tbl a ++ c :: applyReplacements tbl b := by
  intro tbl
  induction tbl with
  | nil => intro _ a b; rfl
  | cons p rest ih =>
    intro hc a b
    simp only [tblAvoids, List.all_cons, Bool.and_eq_true, Bool.not_eq_true'] at hc
    rw [applyReplacements_cons, applyReplacements_cons, applyReplacements_cons, replaceAll_split _ _ c a b hc.1]
    exact ih (by simpa [tblAvoids] using hc.2) _ _

theorem contains_split (p : List Char) (c : Char) (b : List Char) (hc : p.contains c = false) (hp : p ≠ []) :
    ∀ a : List Char, Umya.Date.contains (a ++ c :: b) p = (Umya.Date.contains a p || Umya.Date.contains b p)
  | [] => by
    obtain ⟨q, p', rfl⟩ := List.exists_cons_of_ne_nil hp
    simp only [List.contains_cons, Bool.or_eq_false_iff] at hc
    simp [Umya.Date.contains, startsWith, hc.1]
  | x :: a => by
    have hs := startsWith_split c b (x :: a) p hc
    simp only [List.cons_append] at hs
    simp only [List.cons_append, Umya.Date.contains, hs, contains_split p c b hc hp a, Bool.or_assoc]

/-- the separators at which a code falls into independent words -/
def isMajor (c : Char) : Bool := c == '-' || c == ',' || c == ' '

def yearToks : List Tok := [.yyyy, .yy]
def monthToks : List Tok := [.mmmm, .mmm, .mm, .m]
def dayToks : List Tok := [.dd, .d]
/-- hour tokens of the clock mode (`pm` = the code has an `AM/PM` marker) -/
def hourToks (pm : Bool) : List Tok := if pm then [.h12, .hh12] else [.h, .hh]

def join2 (c : Char) (a b : List Tok) : List (List Tok) := a.flatMap fun x => b.map fun y => [x, .lit c, y]
def join3 (c : Char) (a b d : List Tok) : List (List Tok) :=
  a.flatMap fun x => b.flatMap fun y => d.map fun z => [x, .lit c, y, .lit c, z]

def vocab (pm : Bool) : List (List Tok) :=
  [[]] ++ (yearToks ++ monthToks ++ dayToks ++ ([.dddd, .ddd, .ss] : List Tok) ++ hourToks pm).map (fun t => [t])
  ++ (if pm then [[.ampm]] else [])
  ++ (hourToks pm).flatMap (fun hr => [[hr, .lit ':', .mi], [hr, .lit ':', .mi, .lit ':', .ss]])
  ++ [[.mi, .lit ':', .ss]]
  ++ ['/', '.'].flatMap (fun c =>
       join2 c yearToks monthToks ++ join2 c monthToks yearToks ++ join2 c monthToks dayToks
       ++ join2 c dayToks monthToks ++ join3 c yearToks monthToks dayToks ++ join3 c dayToks monthToks yearToks
       ++ join3 c monthToks dayToks yearToks)

/-- words of the vocabulary joined by `-` `,` blank (fuel = number of tokens + 1) -/
def synB (pm : Bool) : Nat → List Tok → Bool
  | 0, _ => false
  | fuel + 1, toks => (vocab pm).any fun w => toks == w || (w.isPrefixOf toks &&
      match toks.drop w.length with
      | .lit c :: rest => isMajor c && synB pm fuel rest
      | _ => false)

/-- year, month, day, weekday, hour, minute, second tokens -/
def isField : Tok → Bool
  | .lit _ => false
  | .ampm => false
  | _ => true

def simpleSyntax (toks : List Tok) : Bool :=
  toks.any isField && synB (toks.contains .ampm) (toks.length + 1) toks

def tblFor (pm : Bool) : List (String × String) := if pm then dateReplacements12 else dateReplacements24
/-- the lower-cased code text, on which `strftimeOf` starts -/
def low (toks : List Tok) : List Char := (codeText toks).map lowerAscii
/-- the text after the passes of `DATE_FORMAT_REPLACEMENTS` -/
def phase1 (toks : List Tok) : List Char := applyReplacements dateReplacements (low toks)

/-- what the induction over the separators carries for a list of words: the tokens are well formed, the passes of the
    clock mode's table after `phase1` give the token-by-token specifiers, and `%P` occurs after `phase1` exactly when the
    list has the `AM/PM` token.  By the last clause `strftimeOf`, which chooses the table on `%P`, chooses that of the mode
    `simpleSyntax` checked the words in (`pm := toks.contains .ampm`). -/
def Facts (pm : Bool) (toks : List Tok) : Prop :=
  toks.all Tok.ok = true ∧ applyReplacements (tblFor pm) (phase1 toks) = codeSf toks ∧
    Umya.Date.contains (phase1 toks) "%P".toList = toks.contains .ampm

instance (pm : Bool) (toks : List Tok) : Decidable (Facts pm toks) := by unfold Facts; infer_instance

theorem vocab_ok : ∀ pm : Bool, ∀ w ∈ vocab pm, Facts pm w := by decide +kernel

theorem low_split (w rest : List Tok) (c : Char) (hc : lowerAscii c = c) :
    low (w ++ .lit c :: rest) = low w ++ c :: low rest := by
  simp [low, codeText, tokText, hc]

theorem codeSf_split (w rest : List Tok) (c : Char) :
    codeSf (w ++ .lit c :: rest) = codeSf w ++ c :: codeSf rest := by
  simp [codeSf, tokSf]

theorem facts_cons (pm : Bool) (w rest : List Tok) (c : Char) (hc : isMajor c = true) (fw : Facts pm w)
    (fr : Facts pm rest) : Facts pm (w ++ .lit c :: rest) := by
  obtain ⟨hlow, hav, havpm, hP, hsep⟩ : lowerAscii c = c ∧ tblAvoids dateReplacements c = true ∧
      tblAvoids (tblFor pm) c = true ∧ "%P".toList.contains c = false ∧ (Tok.lit c).ok = true := by
    have hc : c = '-' ∨ c = ',' ∨ c = ' ' := by simpa only [isMajor, Bool.or_eq_true, beq_iff_eq, or_assoc] using hc
    rcases hc with e | e | e <;> subst e <;> cases pm <;> decide
  have e1 : phase1 (w ++ .lit c :: rest) = phase1 w ++ c :: phase1 rest := by
    unfold phase1
    rw [low_split w rest c hlow, apply_split c _ hav]
  refine ⟨?_, ?_, ?_⟩
  · simp only [List.all_append, List.all_cons, Bool.and_eq_true]
    exact ⟨fw.1, hsep, fr.1⟩
  · rw [e1, apply_split c _ havpm, fw.2.1, fr.2.1, codeSf_split]
  · rw [e1, contains_split _ c _ hP (by decide), fw.2.2, fr.2.2]
    simp

theorem synB_facts (pm : Bool) : ∀ (fuel : Nat) (toks : List Tok), synB pm fuel toks = true → Facts pm toks := by
  intro fuel
  induction fuel with
  | zero => intro toks h; simp [synB] at h
  | succ n ih =>
    intro toks h
    simp only [synB, List.any_eq_true] at h
    obtain ⟨w, hw, h⟩ := h
    simp only [Bool.or_eq_true, Bool.and_eq_true, beq_iff_eq] at h
    rcases h with h | ⟨hp, h⟩
    · subst h; exact vocab_ok pm _ hw
    · have e := List.prefix_iff_eq_append.1 (List.isPrefixOf_iff_prefix.1 hp)
      generalize List.drop w.length toks = d at h e
      cases d with
      | nil => simp at h
      | cons t rest =>
        cases t with
        | lit c =>
          simp only [Bool.and_eq_true] at h
          rw [← e]; exact facts_cons pm w rest c h.1 (vocab_ok pm w hw) (ih rest h.2)
        | _ => simp at h

theorem tok_chars (t : Tok) (h : t.ok = true) : (tokText t).all (fun c => fmtCharOk c && c != 'G') = true := by
  cases t with
  | lit c =>
    simp only [Tok.ok, isSep, Bool.or_eq_true, beq_iff_eq] at h
    rcases h with ((((e | e) | e) | e) | e) | e <;> subst e <;> decide
  | _ => decide

theorem field_chars (t : Tok) (h : isField t = true) :
    (tokText t).any (fun c => c == 'h' || c == 'm' || c == 's' || c == 'd' || c == 'y') = true := by
  cases t with
  | lit c => simp [isField] at h
  | ampm => simp [isField] at h
  | _ => decide

/-- after `phase1` come the passes of the table of the clock mode that a `%P` in its result selects -/
theorem strftimeOf_code (toks : List Tok) (hok : toks.all Tok.ok = true) (hf : toks.any isField = true) :
    strftimeOf (codeText toks) =
      some (applyReplacements (tblFor (Umya.Date.contains (phase1 toks) "%P".toList)) (phase1 toks)) := by
  have g : ∀ c ∈ codeText toks, fmtCharOk c = true ∧ c ≠ 'G' := by
    intro c hc
    obtain ⟨t, ht, hct⟩ := List.mem_flatMap.1 hc
    simpa using List.all_eq_true.1 (tok_chars t (List.all_eq_true.1 hok t ht)) c hct
  have g1 : (codeText toks).all fmtCharOk = true := List.all_eq_true.2 fun c hc => (g c hc).1
  have g2 : isDateFormat (codeText toks) = true := by
    unfold isDateFormat codeText; rw [List.any_flatMap, List.any_eq_true]
    obtain ⟨t, ht, hft⟩ := List.any_eq_true.1 hf
    exact ⟨t, ht, field_chars t hft⟩
  have g4 : (codeText toks != "General".toList) = true := by
    rw [bne_iff_ne]; intro e; exact (g 'G' (e ▸ by decide)).2 rfl
  unfold strftimeOf
  rw [g1, g2, g4]
  simp only [Bool.and_self, if_true, phase1, low]
  generalize applyReplacements dateReplacements _ = b
  cases Umya.Date.contains b "%P".toList <;> rfl

/-- soundness of the syntactic criterion: the replacement pipeline of `format_as_date` turns the text
    of the list into the token-by-token specifiers -/
theorem simpleSyntax_sound (toks : List Tok) (h : simpleSyntax toks = true) : simpleCode toks = true := by
  unfold simpleSyntax at h
  simp only [Bool.and_eq_true] at h
  obtain ⟨ok, sf, pc⟩ := synB_facts _ _ toks h.2
  rw [simpleCode_iff, strftimeOf_code toks ok h.1, pc, sf]
  exact ⟨ok, rfl⟩

end Umya.Lemmas.DateSyntax
