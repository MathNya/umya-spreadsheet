/-
  The number-format table of the style sheet model: what an id resolves to after save + reload (`nfAt`), the table invariant
  (`NfInv`), and what appending an entry under the fresh id `maxId t + 1` does to both (the one way `nfSetStyle` grows the table).
-/
import Umya.Model.Style
import Umya.Lemmas.ListFacts
namespace Umya.Style
open Umya.Interning

/-- what `numbering_formats.get(id)` yields after save + reload: a custom entry written to the file
    (code normalised by the codec), else the built-in of that id -/
def nfAt (cs : Codecs) (t : List (Nat × NumFmt)) (id : Nat) : Option NumFmt :=
  match (customs t).find? (fun p => p.1 == id) with
  | some p => some { id := p.1, code := cs.code.norm p.2.code, builtIn := false }
  | none => (builtin id).map (fun c => { id := id, code := c, builtIn := true })

theorem assoc_map {β γ : Type} (t : List (Nat × β)) (g : Nat × β → γ) (id : Nat) :
    assoc (t.map fun p => (p.1, g p)) id = (t.find? (fun p => p.1 == id)).map g := by
  rw [assoc, List.find?_map, Option.map_map]
  rfl

theorem assoc_builtinEntries (id : Nat) :
    assoc builtinEntries id = (builtin id).map (fun c => ({ id := id, code := c, builtIn := true } : NumFmt)) := by
  rw [builtinEntries, assoc_map, builtin, assoc]
  cases h : builtinCodes.find? (fun p => p.1 == id) with
  | none => rfl
  | some p => simp [show p.1 = id by simpa using List.find?_some h]

theorem assoc_reload (cs : Codecs) (t : List (Nat × NumFmt)) (id : Nat) :
    assoc (reloadNumFmtsN cs t) id = nfAt cs t id := by
  have h1 := assoc_map (customs t) (fun p => ({ id := p.1, code := cs.code.norm p.2.code, builtIn := false } : NumFmt)) id
  have h2 := assoc_builtinEntries id
  unfold assoc at h1 h2 ⊢
  unfold nfAt reloadNumFmtsN
  rw [List.find?_append, Option.map_or, h1, h2]
  cases (customs t).find? (fun p => p.1 == id) <;> rfl

/-- ids are distinct; an entry flagged built-in carries the built-in code of its id, a custom entry sits on an id that has none -/
structure NfInv (t : List (Nat × NumFmt)) : Prop where
  nodup : (t.map (·.1)).Nodup
  bi : ∀ p ∈ t, p.2.builtIn = true → builtin p.1 = some p.2.code
  cu : ∀ p ∈ t, p.2.builtIn = false → builtin p.1 = none

theorem mem_customs {t : List (Nat × NumFmt)} {p : Nat × NumFmt} :
    p ∈ customs t ↔ p ∈ t ∧ p.2.builtIn = false := by
  unfold customs; simp

theorem nfAt_builtin (cs : Codecs) {t : List (Nat × NumFmt)} (h : NfInv t) {id : Nat} {c : Tok}
    (hb : builtin id = some c) : nfAt cs t id = some { id := id, code := c, builtIn := true } := by
  unfold nfAt
  have hnone : (customs t).find? (fun p => p.1 == id) = none := by
    rw [List.find?_eq_none]
    intro p hp hk
    have hk' : p.1 = id := by simpa using hk
    have := h.cu p (mem_customs.mp hp).1 (mem_customs.mp hp).2
    rw [hk', hb] at this
    cases this
  simp [hnone, hb]

theorem nfAt_custom (cs : Codecs) {t : List (Nat × NumFmt)} (h : NfInv t) {p : Nat × NumFmt}
    (hp : p ∈ t) (hc : p.2.builtIn = false) :
    nfAt cs t p.1 = some { id := p.1, code := cs.code.norm p.2.code, builtIn := false } := by
  unfold nfAt
  cases hf : (customs t).find? (fun q => q.1 == p.1) with
  | none =>
    rw [List.find?_eq_none] at hf
    have := hf p (mem_customs.mpr ⟨hp, hc⟩)
    simp at this
  | some q =>
    have hq := List.mem_of_find?_eq_some hf
    have hk : q.1 = p.1 := by simpa using List.find?_some hf
    have hqp := find?_key_of_nodup Prod.fst t h.nodup q (mem_customs.mp hq).1
    rw [hk, find?_key_of_nodup Prod.fst t h.nodup p hp] at hqp
    cases hqp
    rfl

/-- 175 is where `NumberingFormats::set_style` starts looking for the highest id in use, so the first custom id is 176 and
    every built-in id lies below (`builtinCodes_lt`, by evaluating the table) -/
theorem maxId_ge (t : List (Nat × NumFmt)) : 175 ≤ maxId t ∧ ∀ p ∈ t, p.1 ≤ maxId t := by
  have h : maxId t = t.foldl (fun m p => max m p.1) 175 := by
    unfold maxId; congr; funext m p; split <;> omega
  rw [h]
  exact ⟨(foldl_max_spec Prod.fst t 175).1, (foldl_max_spec Prod.fst t 175).2.1⟩

theorem builtinCodes_lt : ∀ p ∈ builtinCodes, p.1 < 176 := by
  have h : builtinCodes.all (fun p => decide (p.1 < 176)) = true := by decide
  intro p hp
  have := List.all_eq_true.mp h p hp
  simpa using this

theorem builtin_lt {id : Nat} {c : Tok} (h : builtin id = some c) : id < 176 := by
  unfold builtin assoc at h
  cases hf : builtinCodes.find? (fun p => p.1 == id) with
  | none => simp [hf] at h
  | some p =>
    have hm := List.mem_of_find?_eq_some hf
    have hk : p.1 = id := by simpa using List.find?_some hf
    rw [← hk]; exact builtinCodes_lt p hm

theorem builtin_none_of_ge {id : Nat} (h : 176 ≤ id) : builtin id = none := by
  cases hb : builtin id with
  | none => rfl
  | some c => have := builtin_lt hb; omega

theorem customs_append {t : List (Nat × NumFmt)} {x : Nat × NumFmt} (hx : x.2.builtIn = false) :
    customs (t ++ [x]) = customs t ++ [x] := by
  unfold customs; simp [List.filter_append, hx]

theorem customs_find_fresh (t : List (Nat × NumFmt)) : (customs t).find? (fun p => p.1 == maxId t + 1) = none := by
  rw [List.find?_eq_none]
  intro p hp hk
  have h1 : p.1 = maxId t + 1 := by simpa using hk
  have := (maxId_ge t).2 p (mem_customs.mp hp).1
  omega

theorem nfAt_fresh (cs : Codecs) (t : List (Nat × NumFmt)) : nfAt cs t (maxId t + 1) = none := by
  have hb : builtin (maxId t + 1) = none := builtin_none_of_ge (by have := (maxId_ge t).1; omega)
  simp [nfAt, customs_find_fresh, hb]

theorem nfAt_append (cs : Codecs) (t : List (Nat × NumFmt)) (v : NumFmt) (hv : v.builtIn = false) (k : Nat) :
    nfAt cs (t ++ [(maxId t + 1, { v with id := maxId t + 1 })]) k =
      if k = maxId t + 1 then some { id := maxId t + 1, code := cs.code.norm v.code, builtIn := false }
      else nfAt cs t k := by
  unfold nfAt
  rw [customs_append (by simpa using hv), List.find?_append]
  by_cases hk : k = maxId t + 1
  · subst hk
    simp [customs_find_fresh]
  · cases hf : (customs t).find? (fun p => p.1 == k) with
    | some p => simp [hk]
    | none =>
      have : ¬ (maxId t + 1 = k) := fun h => hk h.symm
      simp [hk, this]

theorem NfInv_append {t : List (Nat × NumFmt)} (h : NfInv t) (v : NumFmt) (hv : v.builtIn = false) :
    NfInv (t ++ [(maxId t + 1, { v with id := maxId t + 1 })]) := by
  have hge := maxId_ge t
  refine ⟨?_, ?_, ?_⟩
  · rw [List.map_append, List.nodup_append]
    refine ⟨h.nodup, by simp, ?_⟩
    intro a ha b hb
    simp at hb
    subst hb
    obtain ⟨p, hp, rfl⟩ := List.mem_map.mp ha
    have := hge.2 p hp
    omega
  · intro p hp hb
    rcases List.mem_append.mp hp with hp | hp
    · exact h.bi p hp hb
    · simp at hp; subst hp; simp [hv] at hb
  · intro p hp hb
    rcases List.mem_append.mp hp with hp | hp
    · exact h.cu p hp hb
    · simp at hp; subst hp
      exact builtin_none_of_ge (by simp; omega)

theorem NfInv_nil : NfInv [] := ⟨by simp, by simp, by simp⟩

end Umya.Style
