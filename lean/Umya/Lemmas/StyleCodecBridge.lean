/-
  Bridge between the typed records of Umya/Model/StyleCodec.lean and the token records of Umya/Model/Style.lean
  (every scalar an `Option Tok` = the text `get_value_string()` gives), so that the concrete codecs instantiate the
  `Codec` parameters of the interning theorems (Umya/Thm/C05.lean).

  `ofTok` decodes a token record into a typed value when every token is the text of a value of its Rust type
  (`"1"`/`"0"`, an enum word, a `u32` / `i32` in range, a float text); the codec obtained from a typed round trip is
  that round trip on decodable records and the identity elsewhere: on records that are the text of no typed value (no Rust
  struct holds them), on fills with a gradient, and on borders that are the text of a value outside `Borders.WF`.  Those the
  struct CAN hold: `Color::set_attributes` sets `theme` / `indexed` / `rgb` independently, so `<color theme="1" rgb="FF000000"/>`
  loads as a colour that is not `OneForm`, on which the modelled `Borders.read ∘ write` is not the identity.
-/
import Umya.Model.Style
import Umya.Lemmas.StyleCodecFont
import Umya.Lemmas.StyleCodecFill
import Umya.Lemmas.StyleCodecBorder
import Umya.Lemmas.StyleCodecMisc
namespace Umya.StyleCodec
open Umya.Dec

/-- typed values `T` and their token records `A`: `ofTok` decodes the records that are the text of a typed value satisfying
    `ok`.  `Bridge.codec` below is the typed round trip on those and the IDENTITY on every other record. -/
structure Bridge (T A : Type) where
  toTok : T → A
  ofTok : A → Option T
  ok : T → Prop
  of_to : ∀ x, ok x → ofTok (toTok x) = some x
  of_ok : ∀ a x, ofTok a = some x → ok x

def Bridge.codec {T A : Type} (B : Bridge T A) (rw : T → Option T) (norm : T → T)
    (h_rw : ∀ x, B.ok x → rw x = some (norm x)) (h_ok : ∀ x, B.ok x → B.ok (norm x))
    (h_idem : ∀ x, B.ok x → norm (norm x) = norm x) : Umya.Style.Codec A where
  rt a := match B.ofTok a with
    | some x => (rw x).map B.toTok
    | none => some a
  norm a := match B.ofTok a with
    | some x => B.toTok (norm x)
    | none => a
  rt_eq a := by
    cases h : B.ofTok a with
    | none => rfl
    | some x => simp [h_rw x (B.of_ok a x h)]
  idem a := by
    cases h : B.ofTok a with
    | none => simp [h]
    | some x =>
      have hx := B.of_ok a x h
      simp only []
      rw [B.of_to _ (h_ok x hx)]
      simp [h_idem x hx]

/-- `hc` is `rfl` at every use: it lets the codec be given by its name (the three proofs inside `Bridge.codec` cannot be found
    by unification) -/
theorem Bridge.codec_of {T A : Type} (B : Bridge T A) (c : Umya.Style.Codec A) {rw : T → Option T} {norm : T → T} {h1 h2 h3}
    (hc : c = B.codec rw norm h1 h2 h3) (x : T) (hx : B.ok x) :
    c.rt (B.toTok x) = (rw x).map B.toTok ∧ c.norm (B.toTok x) = B.toTok (norm x) := by
  subst hc
  simp [Bridge.codec, B.of_to x hx]

/-- the effective attributes of a token record: those of the typed value it denotes, after the codec's normalisation -/
def Bridge.effTok {T A E : Type} (B : Bridge T A) (norm : T → T) (eff : T → E) (a : A) : Option E :=
  (B.ofTok a).map (fun x => eff (norm x))

theorem Bridge.ofTok_codec_norm {T A : Type} (B : Bridge T A) {rw : T → Option T} {norm : T → T} {h1 h2 h3} (a : A) :
    B.ofTok ((B.codec rw norm h1 h2 h3).norm a) = (B.ofTok a).map norm := by
  simp only [Bridge.codec]
  cases h : B.ofTok a with
  | none => simp [h]
  | some x => simp [B.of_to _ (h2 x (B.of_ok a x h))]

/-- `hc` is `rfl`, as in `Bridge.codec_of` -/
theorem Bridge.effTok_eq {T A E : Type} (B : Bridge T A) (c : Umya.Style.Codec A) {rw : T → Option T} {norm : T → T} {h1 h2 h3}
    (hc : c = B.codec rw norm h1 h2 h3) (eff : T → E) (a : A) :
    B.effTok norm eff a = (B.ofTok (c.norm a)).map eff := by
  subst hc
  rw [B.ofTok_codec_norm, Option.map_map]; rfl

def decBool (t : Tok) : Option Bool := if t = "1".toList then some true else if t = "0".toList then some false else none
theorem decBool_boolStr (b : Bool) : decBool (boolStr b) = some b := by cases b <;> decide

def decOpt {α : Type} (d : Tok → Option α) : Option Tok → Option (Option α)
  | none => some none
  | some t => (d t).map some

theorem decOpt_map {α : Type} (d : Tok → Option α) (e : α → Tok) (o : Option α) (h : ∀ v, o = some v → d (e v) = some v) :
    decOpt d (o.map e) = some o := by
  cases o with
  | none => rfl
  | some v => simp [decOpt, h v rfl]

/-- the form of `decOpt_map` that `simp` can use (it discharges `h`) -/
theorem decOpt_map_all {α : Type} (d : Tok → Option α) (e : α → Tok) (o : Option α) (h : ∀ v, d (e v) = some v) :
    decOpt d (o.map e) = some o :=
  decOpt_map d e o (fun v _ => h v)

theorem decOpt_post {α : Type} {d : Tok → Option α} {o : Option Tok} {r : Option α} (h : decOpt d o = some r) {P : α → Prop}
    (hd : ∀ t z, d t = some z → P z) : ∀ z, r = some z → P z := by
  intro z hz
  cases o with
  | none => simp [decOpt] at h; subst h; cases hz
  | some t =>
    simp only [decOpt, Option.map_eq_some_iff] at h
    obtain ⟨v, hv, rfl⟩ := h
    cases hz; exact hd t _ hv

-- `cf`, here and below, is the model's "parse a float text, then display it" (Umya/Model/StyleCodec.lean): `cf t = t` says `t` is a float text
def decFloat (cf : Tok → Tok) (t : Tok) : Option Tok := if cf t = t then some t else none
theorem decFloat_post {cf : Tok → Tok} {t z : Tok} (h : decFloat cf t = some z) : cf z = z := by
  unfold decFloat at h
  split at h
  · cases h; assumption
  · cases h

theorem natBelow_lt {b : Nat} {s : Tok} {n : Nat} (h : natBelow b s = some n) : n < b := by
  simp [natBelow] at h
  omega

theorem parseU32_range {s : Tok} {n : Nat} (h : parseU32 s = some n) : u32Range n :=
  natBelow_lt (b := 4294967296) h

theorem u32Of_range {s : Tok} {n : Nat} (h : u32Of s = some n) : u32Range n := by
  unfold u32Of at h
  split at h <;> exact parseU32_range h

theorem i32Of_range {s : Tok} {z : Int} (h : i32Of s = some z) : i32Range z := by
  unfold i32Of at h
  unfold i32Range
  split at h <;>
  · simp only [Option.map_eq_some_iff] at h
    obtain ⟨n, hn, rfl⟩ := h
    have := natBelow_lt hn
    simp only [Int.ofNat_eq_natCast]; omega

theorem decOpt_float (cf : Tok → Tok) (o : Option Tok) (h : ∀ t, o = some t → cf t = t) : decOpt (decFloat cf) o = some o := by
  cases o with
  | none => rfl
  | some t => simp [decOpt, decFloat, h t rfl]

def colorToTok (c : Color) : Umya.Style.Color :=
  { indexed := c.indexed.map decDigits, theme := c.theme.map decDigits, argb := c.argb, tint := c.tint }

def colorOfTok (cf : Tok → Tok) (a : Umya.Style.Color) : Option Color := do
  let indexed ← decOpt u32Of a.indexed
  let theme ← decOpt u32Of a.theme
  let tint ← decOpt (decFloat cf) a.tint
  pure { indexed := indexed, theme := theme, argb := a.argb, tint := tint }

theorem colorOfTok_toTok (cf : Tok → Tok) (c : Color) (h : c.Range cf) : colorOfTok cf (colorToTok c) = some c := by
  obtain ⟨h1, h2, h3⟩ := h
  have e1 := decOpt_map u32Of decDigits c.indexed (fun v hv => u32Of_decDigits v (h1 v hv))
  have e2 := decOpt_map u32Of decDigits c.theme (fun v hv => u32Of_decDigits v (h2 v hv))
  have e3 := decOpt_float cf c.tint h3
  simp [colorOfTok, colorToTok, e1, e2, e3]

theorem colorOfTok_range (cf : Tok → Tok) {a : Umya.Style.Color} {c : Color} (h : colorOfTok cf a = some c) : c.Range cf := by
  simp only [colorOfTok, Option.bind_eq_bind, Option.bind_eq_some_iff, Option.pure_def, Option.some.injEq] at h
  obtain ⟨i, hi, t, ht, f, hf, rfl⟩ := h
  exact ⟨decOpt_post hi fun _ _ => u32Of_range, decOpt_post ht fun _ _ => u32Of_range,
    decOpt_post hf fun _ _ => decFloat_post⟩

def fontToTok (f : Font) : Umya.Style.Font :=
  { name := f.name, size := f.size, family := f.family.map i32Str, bold := f.bold.map boolStr, italic := f.italic.map boolStr,
    underline := f.underline.map (fun u => u.toStr.toList), strike := f.strike.map boolStr, color := colorToTok f.color,
    charset := f.charset.map i32Str, scheme := f.scheme.map (fun u => u.toStr.toList),
    vertAlign := f.vertAlign.map (fun u => u.toStr.toList) }

def fontOfTok (cf : Tok → Tok) (a : Umya.Style.Font) : Option Font := do
  let size ← decOpt (decFloat cf) a.size
  let family ← decOpt i32Of a.family
  let bold ← decOpt decBool a.bold
  let italic ← decOpt decBool a.italic
  let underline ← decOpt Underline.fromStr a.underline
  let strike ← decOpt decBool a.strike
  let color ← colorOfTok cf a.color
  let charset ← decOpt i32Of a.charset
  let scheme ← decOpt FontScheme.fromStr a.scheme
  let vertAlign ← decOpt VertRun.fromStr a.vertAlign
  pure { name := a.name, size := size, family := family, bold := bold, italic := italic, underline := underline,
         strike := strike, color := color, charset := charset, scheme := scheme, vertAlign := vertAlign }

theorem fontOfTok_toTok (cf : Tok → Tok) (f : Font) (h : f.Range cf) : fontOfTok cf (fontToTok f) = some f := by
  obtain ⟨h1, h2, h3, h4⟩ := h
  have e1 := decOpt_float cf f.size h1
  have e2 := decOpt_map i32Of i32Str f.family (fun v hv => i32Of_i32Str v (h2 v hv))
  have e3 := decOpt_map i32Of i32Str f.charset (fun v hv => i32Of_i32Str v (h3 v hv))
  simp [fontOfTok, fontToTok, e1, e2, e3, colorOfTok_toTok cf f.color h4, decOpt_map_all, decBool_boolStr,
    Underline.fromStr_toStr, FontScheme.fromStr_toStr, VertRun.fromStr_toStr]

theorem fontOfTok_range (cf : Tok → Tok) (a : Umya.Style.Font) (f : Font) (h : fontOfTok cf a = some f) : f.Range cf := by
  simp only [fontOfTok, Option.bind_eq_bind, Option.bind_eq_some_iff, Option.pure_def, Option.some.injEq] at h
  -- a value and its equation for each `←` of `fontOfTok`, in its order
  obtain ⟨_, hsize, _, hfamily, _, _, _, _, _, _, _, _, _, hcolor, _, hcharset, _, _, _, _, rfl⟩ := h
  exact ⟨decOpt_post hsize fun _ _ => decFloat_post, decOpt_post hfamily fun _ _ => i32Of_range,
    decOpt_post hcharset fun _ _ => i32Of_range, colorOfTok_range cf hcolor⟩

def fontBridge (cf : Tok → Tok) : Bridge Font Umya.Style.Font where
  toTok := fontToTok
  ofTok := fontOfTok cf
  ok := Font.Range cf
  of_to := fontOfTok_toTok cf
  of_ok := fontOfTok_range cf

def fontCodec (cf : Tok → Tok) : Umya.Style.Codec Umya.Style.Font :=
  (fontBridge cf).codec (fun f => Font.read cf f.write) Font.norm (Font.read_write cf) (Font.norm_range cf)
    (fun f _ => Font.norm_idem f)

/-! Fill: pattern fills and the empty fill.  A gradient is ONE opaque token in Umya/Model/Style.lean; such fills
    are left to the identity here (the typed gradient codec is `GradientFill.read_write`). -/

def optColorToTok (o : Option Color) : Option Umya.Style.Color := o.map colorToTok
def optColorOfTok (cf : Tok → Tok) : Option Umya.Style.Color → Option (Option Color)
  | none => some none
  | some a => (colorOfTok cf a).map some

theorem optColorOfTok_toTok (cf : Tok → Tok) (o : Option Color) (h : optColorRange cf o) :
    optColorOfTok cf (optColorToTok o) = some o := by
  cases o with
  | none => rfl
  | some c => simp [optColorOfTok, optColorToTok, colorOfTok_toTok cf c (h c rfl)]

theorem optColorOfTok_range (cf : Tok → Tok) {a : Option Umya.Style.Color} {o : Option Color} (h : optColorOfTok cf a = some o) :
    optColorRange cf o := by
  intro c hc
  cases a with
  | none => simp [optColorOfTok] at h; subst h; cases hc
  | some t =>
    simp only [optColorOfTok, Option.map_eq_some_iff] at h
    obtain ⟨v, hv, rfl⟩ := h
    cases hc; exact colorOfTok_range cf hv

def patternToTok (p : PatternFill) : Umya.Style.PatternFill :=
  { patternType := p.patternType.map (fun t => t.toStr.toList), fg := optColorToTok p.fg, bg := optColorToTok p.bg }

def patternOfTok (cf : Tok → Tok) (a : Umya.Style.PatternFill) : Option PatternFill := do
  let ty ← decOpt Pattern.fromStr a.patternType
  let fg ← optColorOfTok cf a.fg
  let bg ← optColorOfTok cf a.bg
  pure { patternType := ty, fg := fg, bg := bg }

def fillToTok (f : Fill) : Umya.Style.Fill := { pattern := f.pattern.map patternToTok, gradient := none }

def fillOfTok (cf : Tok → Tok) (a : Umya.Style.Fill) : Option Fill :=
  match a.gradient, a.pattern with
  | some _, _ => none
  | none, none => some {}
  | none, some p => (patternOfTok cf p).map (fun p => { pattern := some p })

def Fill.Ok (cf : Tok → Tok) (f : Fill) : Prop := f.Range cf ∧ f.gradient = none

theorem fillOfTok_toTok (cf : Tok → Tok) (f : Fill) (h : Fill.Ok cf f) : fillOfTok cf (fillToTok f) = some f := by
  obtain ⟨⟨hp, _⟩, hg⟩ := h
  obtain ⟨pat, grad⟩ := f
  simp only at hg; subst hg
  cases pat with
  | none => rfl
  | some p =>
    obtain ⟨h1, h2⟩ := hp p rfl
    simp [fillOfTok, fillToTok, patternOfTok, patternToTok, decOpt_map_all, Pattern.fromStr_toStr,
      optColorOfTok_toTok cf p.fg h1, optColorOfTok_toTok cf p.bg h2]

theorem fillOfTok_ok (cf : Tok → Tok) (a : Umya.Style.Fill) (f : Fill) (h : fillOfTok cf a = some f) : Fill.Ok cf f := by
  unfold fillOfTok at h
  split at h
  · cases h
  · cases h; exact ⟨⟨fun p hp => (by cases hp), fun g hg => (by cases hg)⟩, rfl⟩
  · rename_i p _ _
    simp only [Option.map_eq_some_iff] at h
    obtain ⟨q, hq, rfl⟩ := h
    simp only [patternOfTok, Option.bind_eq_bind, Option.bind_eq_some_iff, Option.pure_def, Option.some.injEq] at hq
    obtain ⟨_, _, fg, hf, bg, hb, rfl⟩ := hq
    refine ⟨⟨?_, fun g hg => (by cases hg)⟩, rfl⟩
    intro p' hp'
    cases hp'
    exact ⟨optColorOfTok_range cf hf, optColorOfTok_range cf hb⟩

theorem Fill.norm_ok (cf : Tok → Tok) (f : Fill) (h : Fill.Ok cf f) : Fill.Ok cf f.norm :=
  ⟨⟨Fill.norm_pattern_range cf f h.1.1, by simp [Fill.norm, h.2]⟩, by simp [Fill.norm, h.2]⟩

def fillBridge (cf : Tok → Tok) : Bridge Fill Umya.Style.Fill where
  toTok := fillToTok
  ofTok := fillOfTok cf
  ok := Fill.Ok cf
  of_to := fillOfTok_toTok cf
  of_ok := fillOfTok_ok cf

def fillCodec (cf : Tok → Tok) (hz : cf zeroTok = zeroTok) : Umya.Style.Codec Umya.Style.Fill :=
  (fillBridge cf).codec (fun f => Fill.read cf f.write) Fill.norm (fun f h => Fill.read_write cf hz f h.1) (Fill.norm_ok cf)
    (fun f _ => Fill.norm_idem f)

def borderToTok (b : Border) : Umya.Style.Border :=
  { style := b.style.map (fun t => t.toStr.toList), color := colorToTok b.color }

def borderOfTok (cf : Tok → Tok) (a : Umya.Style.Border) : Option Border := do
  let st ← decOpt BorderStyle.fromStr a.style
  let c ← colorOfTok cf a.color
  pure { style := st, color := c }

theorem borderOfTok_toTok (cf : Tok → Tok) (b : Border) (h : b.color.Range cf) : borderOfTok cf (borderToTok b) = some b := by
  simp [borderOfTok, borderToTok, decOpt_map_all, BorderStyle.fromStr_toStr, colorOfTok_toTok cf b.color h]

theorem borderOfTok_range (cf : Tok → Tok) {a : Umya.Style.Border} {b : Border} (h : borderOfTok cf a = some b) : b.color.Range cf := by
  simp only [borderOfTok, Option.bind_eq_bind, Option.bind_eq_some_iff, Option.pure_def, Option.some.injEq] at h
  obtain ⟨_, _, c, hc, rfl⟩ := h
  exact colorOfTok_range cf hc

def bordersToTok (b : Borders) : Umya.Style.Borders :=
  { left := borderToTok b.left, right := borderToTok b.right, top := borderToTok b.top, bottom := borderToTok b.bottom,
    diagonal := borderToTok b.diagonal, vertical := borderToTok b.vertical, horizontal := borderToTok b.horizontal,
    diagDown := b.diagonalDown.map boolStr, diagUp := b.diagonalUp.map boolStr }

def bordersOfTok (cf : Tok → Tok) (a : Umya.Style.Borders) : Option Borders := do
  let l ← borderOfTok cf a.left
  let r ← borderOfTok cf a.right
  let t ← borderOfTok cf a.top
  let b ← borderOfTok cf a.bottom
  let d ← borderOfTok cf a.diagonal
  let v ← borderOfTok cf a.vertical
  let h ← borderOfTok cf a.horizontal
  let dd ← decOpt decBool a.diagDown
  let du ← decOpt decBool a.diagUp
  let x : Borders := { left := l, right := r, top := t, bottom := b, diagonal := d, vertical := v, horizontal := h,
                       diagonalDown := dd, diagonalUp := du }
  if x.WF then some x else none

/-- with `WF`, unlike the font's `ok`: `Borders.norm_idem` needs it (`Font.norm_idem` is unconditional) -/
def Borders.Ok (cf : Tok → Tok) (b : Borders) : Prop := b.Range cf ∧ b.WF = true

theorem bordersOfTok_toTok (cf : Tok → Tok) (b : Borders) (h : Borders.Ok cf b) : bordersOfTok cf (bordersToTok b) = some b := by
  obtain ⟨⟨h1, h2, h3, h4, h5, h6, h7⟩, hw⟩ := h
  simp [bordersOfTok, bordersToTok, borderOfTok_toTok, h1, h2, h3, h4, h5, h6, h7, decOpt_map_all, decBool_boolStr, hw]

theorem bordersOfTok_ok (cf : Tok → Tok) (a : Umya.Style.Borders) (b : Borders) (h : bordersOfTok cf a = some b) : Borders.Ok cf b := by
  simp only [bordersOfTok, Option.bind_eq_bind, Option.bind_eq_some_iff] at h
  obtain ⟨l, hl, r, hr, t, ht, bo, hb, d, hd, v, hv, hh, hhh, dd, _, du, _, hx⟩ := h
  split at hx
  · rename_i hw
    cases hx
    exact ⟨⟨borderOfTok_range cf hl, borderOfTok_range cf hr, borderOfTok_range cf ht, borderOfTok_range cf hb,
      borderOfTok_range cf hd, borderOfTok_range cf hv, borderOfTok_range cf hhh⟩, hw⟩
  · cases hx

def bordersBridge (cf : Tok → Tok) : Bridge Borders Umya.Style.Borders where
  toTok := bordersToTok
  ofTok := bordersOfTok cf
  ok := Borders.Ok cf
  of_to := bordersOfTok_toTok cf
  of_ok := bordersOfTok_ok cf

def bordersCodec (cf : Tok → Tok) : Umya.Style.Codec Umya.Style.Borders :=
  (bordersBridge cf).codec (fun b => Borders.read cf b.write) Borders.norm (fun b h => Borders.read_write cf b h.1)
    (fun b h => ⟨Borders.norm_range cf b h.1, Borders.norm_WF b h.2⟩) (fun b h => Borders.norm_idem b h.2)

def alignmentToTok (a : Alignment) : Umya.Style.Alignment :=
  { horizontal := a.horizontal.map (fun t => t.toStr.toList), vertical := a.vertical.map (fun t => t.toStr.toList),
    wrap := a.wrapText.map boolStr, rotation := a.textRotation.map decDigits }

def alignmentOfTok (a : Umya.Style.Alignment) : Option Alignment := do
  let h ← decOpt HAlign.fromStr a.horizontal
  let v ← decOpt VAlign.fromStr a.vertical
  let w ← decOpt decBool a.wrap
  let r ← decOpt u32Of a.rotation
  pure { horizontal := h, vertical := v, wrapText := w, textRotation := r }

def alignmentBridge : Bridge Alignment Umya.Style.Alignment where
  toTok := alignmentToTok
  ofTok := alignmentOfTok
  ok := Alignment.Range
  of_to a h := by
    have e := decOpt_map u32Of decDigits a.textRotation (fun v hv => u32Of_decDigits v (h v hv))
    simp [alignmentOfTok, alignmentToTok, e, decOpt_map_all, decBool_boolStr, HAlign.fromStr_toStr, VAlign.fromStr_toStr]
  of_ok a x h := by
    simp only [alignmentOfTok, Option.bind_eq_bind, Option.bind_eq_some_iff, Option.pure_def, Option.some.injEq] at h
    obtain ⟨_, _, _, _, _, _, r, hr, rfl⟩ := h
    exact decOpt_post hr fun _ _ => u32Of_range

def alignmentCodec : Umya.Style.Codec Umya.Style.Alignment :=
  alignmentBridge.codec (fun a => Alignment.read a.write) id Alignment.read_write (fun _ h => h) (fun _ _ => rfl)

def protectionToTok (p : Protection) : Umya.Style.Protection := { locked := p.locked.map boolStr, hidden := p.hidden.map boolStr }

def protectionOfTok (a : Umya.Style.Protection) : Option Protection := do
  let l ← decOpt decBool a.locked
  let h ← decOpt decBool a.hidden
  pure { locked := l, hidden := h }

def protectionBridge : Bridge Protection Umya.Style.Protection where
  toTok := protectionToTok
  ofTok := protectionOfTok
  ok := fun _ => True
  of_to p _ := by
    simp [protectionOfTok, protectionToTok, decOpt_map_all, decBool_boolStr]
  of_ok _ _ _ := trivial

def protectionCodec : Umya.Style.Codec Umya.Style.Protection :=
  protectionBridge.codec (fun p => Protection.read p.write) id (fun p _ => Protection.read_write p) (fun _ h => h) (fun _ _ => rfl)

/-- the format code of a custom number format, through `<numFmt numFmtId formatCode>`.  The id plays no role in what comes back
    for the code; 176 is the first id `NumberingFormats::set_style` gives a custom format (`maxId` starts at 175). -/
def codeCodec : Umya.Style.Codec Tok where
  rt c := (NumFmt.read (NumFmt.write { id := 176, code := c })).map (·.code)
  norm := id
  rt_eq c := by
    have := NumFmt.read_write { id := 176, code := c } (show u32Range 176 by decide)
    simp [this]
  idem _ := rfl

/-- the concrete codecs, as one value of the parameter type of the interning theorems -/
def concreteCodecs (cf : Tok → Tok) (hz : cf zeroTok = zeroTok) : Umya.Style.Codecs :=
  { font := fontCodec cf, fill := fillCodec cf hz, borders := bordersCodec cf, alignment := alignmentCodec,
    protection := protectionCodec, code := codeCodec }

end Umya.StyleCodec
