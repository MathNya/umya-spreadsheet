/-
  Defined names follow the sheet they refer to: the model of the fan-out over the names as fix 1629c1f left it
  (`Umya/Model/NameShift.lean`) against the reference shifter of `Umya/Spec/Refs.lean`.
-/
import Umya.Model.NameShift
import Umya.Spec.Refs
import Umya.Lemmas.Formula
namespace Umya.NameShift
open Umya.Coord Umya.Annot Umya.Formula

theorem rejectRes_pointwise {α} (p : α → Res Bool) (q : α → Bool) (l : List α)
    (h : ∀ a ∈ l, p a = .ok (q a)) : rejectRes p l = .ok (l.filter (fun a => !q a)) := by
  induction l with
  | nil => rfl
  | cons a rest ih =>
    simp only [rejectRes, h a (List.mem_cons_self ..), ih (fun x hx => h x (List.mem_cons_of_mem _ hx))]
    cases hq : q a <;> simp [List.filter, hq]

theorem insRef_spec (r : Ref) (root off : Nat) (h : r.num + off ≤ u32Max) :
    insRef r root off = .ok ⟨Spec.insNum r.num root off, r.lock⟩ := by
  unfold insRef insertCoordinate Spec.insNum
  by_cases h1 : r.num ≥ root <;> by_cases h2 : off = 0
  · subst h2; simp [h1]
  · have : ¬ r.num + off > u32Max := by omega
    simp [h1, h2, this]
  · subst h2; simp [h1]
  · simp [h1, h2]

theorem insRef_zero (r : Ref) : insRef r 0 0 = .ok r := by
  simp [insRef, insertCoordinate]

theorem isRemove_zero (num : Nat) : isRemoveCoordinate num 0 0 = .ok false := by
  simp [isRemoveCoordinate]

theorem remRef_spec (isStart : Bool) (r : Ref) (at_ n : Nat) (h1 : 1 ≤ at_) (hn : n ≠ 0)
    (ho : at_ + n ≤ u32Max) : remRef isStart r at_ n = .ok (remPart isStart r at_ n) := by
  unfold remRef remPart
  rw [isRemove_spec r.num at_ n h1 hn ho]
  cases hb : Spec.inBand r.num at_ n with
  | true => simp
  | false => simp [removeCoord_spec _ _ _ hn hb]

theorem remRef_zero (isStart : Bool) (r : Ref) : remRef isStart r 0 0 = .ok r := by
  simp [remRef, isRemoveCoordinate, removeCoordinate]

theorem optR_pointwise {f : Ref → Res Ref} {g : Ref → Ref} (p : Option Ref) (h : ∀ r, p = some r → f r = .ok (g r)) :
    optR f p = .ok (p.map g) := by
  cases p with
  | none => rfl
  | some r => simp [optR, h r rfl]

/-- no part is pushed beyond `u32` (the literal is `u32Max`) by an insert of `n` lines (every grid coordinate qualifies) -/
def RangeFits (ρ : Range) (n : Nat) : Prop :=
  ∀ r, (ρ.startCol = some r ∨ ρ.startRow = some r ∨ ρ.endCol = some r ∨ ρ.endRow = some r) →
    r.num + n ≤ 4294967295

theorem rangeInsert_spec (ρ : Range) (ax : Spec.Axis) (at_ n : Nat) (hf : RangeFits ρ n) {rc oc rr orr : Nat}
    (hA : axisArgs ax at_ n = (rc, oc, rr, orr)) : rangeInsert ρ rc oc rr orr = .ok (Spec.shiftRangeInsert ρ ax at_ n) := by
  obtain ⟨sc, sr, ec, er⟩ := ρ
  have id0 : ∀ p : Option Ref, optR (fun r => insRef r 0 0) p = .ok p := by
    intro p; cases p <;> simp [optR, insRef_zero]
  have hp : ∀ p : Option Ref, (∀ r, p = some r → r.num + n ≤ u32Max) →
      optR (fun r => insRef r at_ n) p = .ok (Spec.insOpt p at_ n) :=
    fun p h => optR_pointwise p (fun r hr => insRef_spec r at_ n (h r hr))
  cases ax with
  | col =>
    cases hA
    simp [rangeInsert, hp sc (fun r hr => hf r (.inl hr)), hp ec (fun r hr => hf r (.inr (.inr (.inl hr)))),
      id0, Res.bind, Spec.shiftRangeInsert]
  | row =>
    cases hA
    simp [rangeInsert, hp sr (fun r hr => hf r (.inr (.inl hr))), hp er (fun r hr => hf r (.inr (.inr (.inr hr)))),
      id0, Res.bind, Spec.shiftRangeInsert]

/-- a range has an end part on an axis only when it has a start part there (`A1`, `A1:B2`) -/
def StartFirst (ρ : Range) : Prop := (ρ.endCol.isSome → ρ.startCol.isSome) ∧ (ρ.endRow.isSome → ρ.startRow.isSome)

theorem axisInside_zero (s e : Option Ref) : axisInside s e 0 0 = .ok false := by
  cases s <;> cases e <;> simp [axisInside, isRemove_zero, Res.bind]

theorem axisInside_spec (s e : Option Ref) (at_ n : Nat) (h1 : 1 ≤ at_) (hn : n ≠ 0)
    (ho : at_ + n ≤ u32Max) (hsf : e.isSome → s.isSome) :
    axisInside s e at_ n = .ok (Spec.remAxis s e at_ n).isNone := by
  cases s with
  | none =>
    cases e with
    | none => simp [axisInside, Spec.remAxis]
    | some y => simp at hsf
  | some x =>
    cases e with
    | none =>
      simp only [axisInside, Spec.remAxis, isRemove_spec x.num at_ n h1 hn ho]
      cases Spec.inBand x.num at_ n <;> simp
    | some y =>
      simp only [axisInside, Spec.remAxis, isRemove_spec x.num at_ n h1 hn ho,
        isRemove_spec y.num at_ n h1 hn ho, Res.bind]
      cases Spec.inBand x.num at_ n <;> cases Spec.inBand y.num at_ n <;> simp

theorem rangeIsRemove_spec (ρ : Range) (ax : Spec.Axis) (at_ n : Nat) (h1 : 1 ≤ at_) (hn : n ≠ 0)
    (ho : at_ + n ≤ u32Max) (hsf : StartFirst ρ) {rc oc rr orr : Nat} (hA : axisArgs ax at_ n = (rc, oc, rr, orr)) :
    rangeIsRemove ρ rc oc rr orr = .ok (Spec.shiftRangeRemove ρ ax at_ n).isNone := by
  cases ax with
  | col =>
    cases hA
    simp only [rangeIsRemove, axisInside_spec _ _ at_ n h1 hn ho hsf.1, axisInside_zero, Res.bind,
      Spec.shiftRangeRemove]
    cases Spec.remAxis ρ.startCol ρ.endCol at_ n <;> simp
  | row =>
    cases hA
    simp only [rangeIsRemove, axisInside_spec _ _ at_ n h1 hn ho hsf.2, axisInside_zero, Res.bind,
      Spec.shiftRangeRemove]
    cases Spec.remAxis ρ.startRow ρ.endRow at_ n <;> simp

theorem rangeRemove_spec (ρ ρ' : Range) (ax : Spec.Axis) (at_ n : Nat) (h1 : 1 ≤ at_) (hn : n ≠ 0)
    (ho : at_ + n ≤ u32Max) (h : Spec.shiftRangeRemove ρ ax at_ n = some ρ') {rc oc rr orr : Nat}
    (hA : axisArgs ax at_ n = (rc, oc, rr, orr)) : rangeRemove ρ rc oc rr orr = .ok ρ' := by
  obtain ⟨sc, sr, ec, er⟩ := ρ
  have id0 : ∀ (b : Bool) (p : Option Ref), optR (fun r => remRef b r 0 0) p = .ok p := by
    intro b p; cases p <;> simp [optR, remRef_zero]
  have hp : ∀ (b : Bool) (p : Option Ref), optR (fun r => remRef b r at_ n) p = .ok (p.map (fun r => remPart b r at_ n)) :=
    fun b p => optR_pointwise p (fun r _ => remRef_spec b r at_ n h1 hn ho)
  cases ax with
  | col =>
    cases hA
    obtain ⟨c, hc, rfl⟩ := Option.map_eq_some_iff.1 h
    obtain ⟨rfl, _⟩ := remAxis_some hc
    simp [rangeRemove, hp, id0, Res.bind]
  | row =>
    cases hA
    obtain ⟨c, hc, rfl⟩ := Option.map_eq_some_iff.1 h
    obtain ⟨rfl, _⟩ := remAxis_some hc
    simp [rangeRemove, hp, id0, Res.bind]

/-- the fan-out shared by `bookInsert` and `bookRemove` -/
theorem fanout_ok (b : Book) {f : DefName → Res DefName} {g : DefName → DefName}
    {F : Text × List DefName → Res (List DefName)} {G : Text × List DefName → List DefName}
    (hf : ∀ d ∈ b.wbNames, f d = .ok (g d)) (hF : ∀ s ∈ b.sheets, F s = .ok (G s)) :
    ((mapRes f b.wbNames).bind fun w =>
      (mapRes (fun s => (F s).bind fun ns => .ok (s.1, ns)) b.sheets).bind fun ss =>
      .ok (⟨w, ss⟩ : Book)) = .ok ⟨b.wbNames.map g, b.sheets.map fun s => (s.1, G s)⟩ := by
  rw [mapRes_pointwise f g _ hf, mapRes_pointwise _ (fun s => (s.1, G s)) b.sheets fun s hs => by rw [hF s hs]; rfl]
  rfl

/-- an edit of `n ≠ 0` lines on one axis is not the `(_, 0, _, 0)` call that the per-sheet fan-out skips -/
theorem axisArgs_offsets {ax : Spec.Axis} {at_ n rc oc rr orr : Nat} (hA : axisArgs ax at_ n = (rc, oc, rr, orr)) (hn : n ≠ 0) :
    (oc = 0 && orr = 0) = false := by
  cases ax <;> cases hA <;> simp [hn]

end Umya.NameShift
