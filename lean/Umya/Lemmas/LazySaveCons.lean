/-
  C11: the package-consistency invariant (`Model/LazyPkg.lean`): what the reader's closure holds, that
  `lazyOpen` establishes `consistent`, and that no operation of a history creates or changes a raw sheet.
-/
import Umya.Model.LazyPkg
import Umya.Lemmas.Lazy
import Umya.Lemmas.ListRel
namespace Umya.Lazy

theorem mapOpt_eq_mapM {α β} (f : α → Option β) (l : List α) : mapOpt f l = l.mapM f := by
  induction l with
  | nil => rfl
  | cons a l ih => rw [mapOpt, ih, List.mapM_cons]; cases f a <;> cases l.mapM f <;> rfl

theorem mapOpt_some {α β : Type} {f : α → Option β} {l : List α} {bs : List β} :
    mapOpt f l = some bs ↔ Forall₂ (fun b a => f a = some b) bs l := by
  rw [mapOpt_eq_mapM]; exact mapM_eq_some

theorem mapOpt_congr_mem {α β} {f g : α → Option β} : ∀ {l : List α}, (∀ a ∈ l, f a = g a) → mapOpt f l = mapOpt g l
  | [], _ => rfl
  | a :: as, h => by
    simp only [mapOpt, h a (List.mem_cons_self ..), mapOpt_congr_mem (fun b hb => h b (List.mem_cons_of_mem _ hb))]

theorem mapOpt_some_of_all {α β : Type} {f : α → Option β} {l : List α} (h : ∀ a ∈ l, ∃ b, f a = some b) : ∃ bs, mapOpt f l = some bs := by
  obtain ⟨bs, hbs, _⟩ := mapM_rel f (fun _ _ => True) l fun a ha => (h a ha).imp fun _ hb => ⟨hb, trivial⟩
  exact ⟨bs, (mapOpt_eq_mapM f l).trans hbs⟩

theorem readRel_some {x : Pkg} {e : PRel} {r : RawRel} (h : readRel x e = some r) :
    (e.ext = true ∧ r = extRel) ∨
    (e.ext = false ∧ r.ext = false ∧ r.file = e.file ∧ ∃ p, x.get? e.file = some p ∧ p.cid = r.cid ∧ p.empty = r.empty) := by
  unfold readRel at h
  cases hx : e.ext with
  | true => simp only [hx, if_true, Option.some.injEq] at h; exact Or.inl ⟨rfl, h.symm⟩
  | false =>
    simp only [hx, Bool.false_eq_true, if_false] at h
    cases hg : x.get? e.file with
    | none => simp [hg] at h
    | some p =>
      simp only [hg, Option.some.injEq] at h
      subst h
      exact Or.inr ⟨rfl, rfl, rfl, p, rfl, rfl, rfl⟩

theorem readRelsPart_some {x : Pkg} {n : PName} {q : RawRels} (h : readRelsPart x n = some (some q)) :
    q.name = n ∧ ∃ p, x.get? n = some p ∧ mapOpt (readRel x) p.rels = some q.rels := by
  unfold readRelsPart at h
  cases hp : x.get? n with
  | none => simp [hp] at h
  | some p =>
    simp only [hp] at h
    cases hm : mapOpt (readRel x) p.rels with
    | none => simp [hm] at h
    | some rs =>
      simp only [hm, Option.some.injEq] at h
      subst h
      exact ⟨rfl, p, rfl, hm⟩

theorem readRelsPart_name {x : Pkg} {n : PName} {q : RawRels} (h : readRelsPart x n = some (some q)) : q.name = n :=
  (readRelsPart_some h).1

theorem readRelsPart_rel {x : Pkg} {n : PName} {q : RawRels} (h : readRelsPart x n = some (some q)) :
    ∀ r ∈ q.rels, r = extRel ∨ (r.ext = false ∧ ∃ p, x.get? r.file = some p ∧ p.cid = r.cid ∧ p.empty = r.empty) := by
  obtain ⟨_, p, _, hm⟩ := readRelsPart_some h
  intro r hr
  obtain ⟨e, _, he⟩ := (mapOpt_some.1 hm).mem_left hr
  rcases readRel_some he with ⟨_, h1⟩ | ⟨_, h1, h2, h3⟩
  · exact Or.inl h1
  · exact Or.inr ⟨h1, h2 ▸ h3⟩

theorem readClosure_some {x : Pkg} {f : Nat} {n : PName} {cl : List RawRels} (h : readClosure x (f + 1) n = some cl) :
    (readRelsPart x n = some none ∧ cl = []) ∨
      ∃ q kids, readRelsPart x n = some (some q) ∧
        mapOpt (fun r => if r.ext then some [] else readClosure x f (.rels r.file)) q.rels = some kids ∧ cl = kids.flatten ++ [q] := by
  simp only [readClosure] at h
  cases hr : readRelsPart x n with
  | none => simp [hr] at h
  | some o =>
    cases o with
    | none => exact Or.inl ⟨rfl, by simpa [hr] using h.symm⟩
    | some q =>
      simp only [hr] at h
      cases hm : mapOpt (fun r => if r.ext then some [] else readClosure x f (.rels r.file)) q.rels with
      | none => simp [hm] at h
      | some kids => exact Or.inr ⟨q, kids, rfl, hm, by simpa [hm] using h.symm⟩

theorem readClosure_of_kids {x : Pkg} {f : Nat} {n : PName} {q : RawRels} (hq : readRelsPart x n = some (some q))
    (h : ∀ r ∈ q.rels, r.ext = false → ∃ k, readClosure x f (.rels r.file) = some k) :
    ∃ cl, readClosure x (f + 1) n = some cl := by
  obtain ⟨kids, hk⟩ := mapOpt_some_of_all
    (f := fun r : RawRel => if r.ext then some [] else readClosure x f (.rels r.file)) (l := q.rels) fun r hr => by
      cases hx : r.ext with
      | true => exact ⟨_, rfl⟩
      | false => exact h r hr hx
  exact ⟨kids.flatten ++ [q], by simp only [readClosure, hq, hk]⟩

theorem readClosure_mem {x : Pkg} {f : Nat} {q0 : RawRels} {kids : List (List RawRels)}
    (hm : mapOpt (fun r => if r.ext then some [] else readClosure x f (.rels r.file)) q0.rels = some kids)
    {q : RawRels} (hq : q ∈ kids.flatten ++ [q0]) :
    q = q0 ∨ ∃ r ∈ q0.rels, ∃ k ∈ kids, r.ext = false ∧ readClosure x f (.rels r.file) = some k ∧ q ∈ k := by
  rcases List.mem_append.mp hq with h1 | h1
  · obtain ⟨k, hk, hqk⟩ := List.mem_flatten.mp h1
    obtain ⟨r, hr, hf⟩ := (mapOpt_some.1 hm).mem_left hk
    cases hx : r.ext with
    | true => simp only [hx, if_true, Option.some.injEq] at hf; subst hf; simp at hqk
    | false => exact Or.inr ⟨r, hr, k, hk, hx, by simpa [hx] using hf, hqk⟩
  · exact Or.inl (List.mem_singleton.mp h1)

theorem readClosure_top (x : Pkg) {fuel : Nat} {n : PName} {cl : List RawRels} (h : readClosure x fuel n = some cl) :
    (readRelsPart x n = some none ∧ cl = []) ∨ (∃ q0 kids, readRelsPart x n = some (some q0) ∧ cl = kids ++ [q0]) := by
  cases fuel with
  | zero => simp [readClosure] at h
  | succ f =>
    obtain h1 | ⟨q0, kids, hr, _, hc⟩ := readClosure_some h
    · exact Or.inl h1
    · exact Or.inr ⟨q0, kids.flatten, hr, hc⟩

/-- sound: each member of the closure is what `readRelsPart` reads under its name; complete: the relationships part next to
    each non-external target of a member is absent from `x` or a member -/
theorem readClosure_spec (x : Pkg) : ∀ {fuel : Nat} {n : PName} {cl : List RawRels}, readClosure x fuel n = some cl →
    ∀ q ∈ cl, readRelsPart x q.name = some (some q) ∧ ∀ r' ∈ q.rels, r'.ext = false →
      readRelsPart x (.rels r'.file) = some none ∨ ∃ q' ∈ cl, q'.name = .rels r'.file
  | f + 1, n, cl, h, q, hq => by
    obtain ⟨_, rfl⟩ | ⟨q0, kids, hr, hm, rfl⟩ := readClosure_some h
    · simp at hq
    -- `q` is the start's own part: the closure read from a target ends with the target's relationships part
    -- (`readClosure_top`); `q` is in the closure of a target: induction
    · rcases readClosure_mem hm hq with rfl | ⟨r, _, k, hk, _, hf, hqk⟩
      · refine ⟨by rw [readRelsPart_name hr]; exact hr, fun r' hr' hx => ?_⟩
        obtain ⟨k, hk, hf⟩ := (mapOpt_some.1 hm).mem_right hr'
        simp only [hx, Bool.false_eq_true, if_false] at hf
        rcases readClosure_top x hf with ⟨a, _⟩ | ⟨q1, kids', a, b⟩
        · exact Or.inl a
        · exact Or.inr ⟨q1, List.mem_append_left _ (List.mem_flatten.mpr ⟨k, hk, by rw [b]; simp⟩), readRelsPart_name a⟩
      · obtain ⟨a, b⟩ := readClosure_spec x hf q hqk
        exact ⟨a, fun r' hr' hx => (b r' hr' hx).imp_right fun ⟨q', hq', hn'⟩ =>
          ⟨q', List.mem_append_left _ (List.mem_flatten.mpr ⟨k, hk, hq'⟩), hn'⟩⟩

theorem openRaw_spec {x : Pkg} {part : PName} {r : RawSheet} (h : openRaw x part = some r) :
    r.file = part ∧ (∃ p, x.get? part = some p ∧ p.cid = r.cid) ∧ readClosure x x.fuel (.rels part) = some r.closure := by
  unfold openRaw at h
  cases hp : x.get? part with
  | none => simp [hp] at h
  | some p =>
    simp only [hp] at h
    cases hc : readClosure x x.fuel (.rels part) with
    | none => simp [hc] at h
    | some cl =>
      simp only [hc, Option.map_some, Option.some.injEq] at h
      subst h
      exact ⟨rfl, ⟨p, rfl, rfl⟩, rfl⟩

theorem mem_rawBodies {C : Type} {r : RawSheet} : ∀ {ss : List (Sheet C)}, r ∈ rawBodies ss ↔ ∃ s ∈ ss, s.body = .raw r
  | [] => by simp [rawBodies]
  | s :: ss => by
    -- `Body.raw.inj` turned round, the way `simp` meets it after `List.mem_cons`
    have e : ∀ r0, Body.raw (C := C) r0 = .raw r ↔ r = r0 := fun r0 => ⟨fun h => (Body.raw.inj h).symm, fun h => h ▸ rfl⟩
    cases hb : s.body <;> simp [rawBodies, hb, mem_rawBodies (ss := ss), e]

/-- `Consistent x b`: the workbook's tables are those of `x`, and every sheet that is still raw holds exactly what
    the reader records for a sheet part of `x`, with a hygienic closure -/
def Consistent {C : Type} (x : Pkg) (b : Book C) : Prop := consistent x b = true

instance {C : Type} (x : Pkg) (b : Book C) : Decidable (Consistent x b) := by unfold Consistent; infer_instance

/-- `fromPkg x r = true` by fields: `r.file` is a sheet part of `x`, `r` is what the reader records for it, and its
    closure names are hygienic -/
structure FromPkg (x : Pkg) (r : RawSheet) : Prop where
  sheetPart : r.file ∈ x.sheets.map (·.2)
  read : openRaw x r.file = some r
  hyg : hygienic r = true

theorem fromPkg_iff (x : Pkg) (r : RawSheet) : fromPkg x r = true ↔ FromPkg x r := by
  unfold fromPkg
  simp only [Bool.and_eq_true, List.contains_iff_mem, decide_eq_true_eq]
  constructor
  · rintro ⟨⟨a, b⟩, c⟩; exact ⟨a, b, c⟩
  · rintro ⟨a, b, c⟩; exact ⟨⟨a, b⟩, c⟩

theorem consistent_iff {C : Type} (x : Pkg) (b : Book C) :
    Consistent x b ↔ b.tables = x.tables ∧ ∀ s ∈ b.sheets, ∀ r, s.body = .raw r → FromPkg x r := by
  unfold Consistent consistent
  simp only [Bool.and_eq_true, decide_eq_true_eq, List.all_eq_true, fromPkg_iff]
  constructor
  · rintro ⟨ht, h⟩
    exact ⟨ht, fun s hs r hb => h r (mem_rawBodies.mpr ⟨s, hs, hb⟩)⟩
  · rintro ⟨ht, h⟩
    refine ⟨ht, fun r hr => ?_⟩
    obtain ⟨s, hs, hb⟩ := mem_rawBodies.mp hr
    exact h s hs r hb

theorem lazyOpen_spec {C : Type} {x : Pkg} {b : Book C} (h : lazyOpen x = some b) :
    b.tables = x.tables ∧ ∀ s ∈ b.sheets, ∃ e ∈ x.sheets, ∃ r, openRaw x e.2 = some r ∧ s = { name := e.1, body := .raw r } := by
  unfold lazyOpen at h
  cases hm : mapOpt (fun (e : Name × PName) => (openRaw x e.2).map (fun r => ({ name := e.1, body := .raw r } : Sheet C))) x.sheets with
  | none => simp [hm] at h
  | some ss =>
    simp only [hm, Option.map_some, Option.some.injEq] at h
    subst h
    refine ⟨rfl, ?_⟩
    intro s hs
    obtain ⟨e, he, hf⟩ := (mapOpt_some.1 hm).mem_left hs
    cases ho : openRaw x e.2 with
    | none => simp [ho] at hf
    | some r =>
      simp only [ho, Option.map_some, Option.some.injEq] at hf
      exact ⟨e, he, r, ho, hf.symm⟩

theorem lazyOpen_consistent {C : Type} {x : Pkg} {b : Book C} (hx : pkgOk x = true) (h : lazyOpen x = some b) :
    Consistent x b := by
  obtain ⟨ht, hs⟩ := lazyOpen_spec h
  rw [consistent_iff]
  refine ⟨ht, ?_⟩
  intro s hs' r hb
  obtain ⟨e, he, r', hr', rfl⟩ := hs s hs'
  injection hb with hb
  subst hb
  have hf : r'.file = e.2 := (openRaw_spec hr').1
  refine ⟨?_, ?_, ?_⟩
  · rw [hf]; exact List.mem_map.mpr ⟨e, he, rfl⟩
  · rw [hf]; exact hr'
  · unfold pkgOk at hx
    have := List.all_eq_true.mp hx e he
    simpa [hr'] using this

/-- every raw body of `l'` is a raw body of `l` -/
def RawSub {C : Type} (l' l : List (Sheet C)) : Prop := ∀ s' ∈ l', ∀ r, s'.body = .raw r → ∃ s ∈ l, s.body = .raw r

theorem rawSub_of_subset {C : Type} {l' l : List (Sheet C)} (h : ∀ s ∈ l', s ∈ l) : RawSub l' l :=
  fun s' hs _ hb => ⟨s', h s' hs, hb⟩

theorem rawSub_map {C : Type} (f : Sheet C → Sheet C) (hf : ∀ s r, (f s).body = .raw r → s.body = .raw r) (l : List (Sheet C)) :
    RawSub (l.map f) l := by
  intro s' hs r hb
  obtain ⟨z, hz, rfl⟩ := List.mem_map.mp hs
  exact ⟨z, hz, hf z r hb⟩

theorem rawSub_modifyAt {C : Type} (f : Sheet C → Sheet C) (hf : ∀ s r, (f s).body = .raw r → s.body = .raw r)
    (l : List (Sheet C)) (i : Nat) : RawSub (modifyAt f l i) l := by
  intro s' hs r hb
  obtain ⟨j, hj⟩ := List.getElem?_of_mem hs
  rw [modifyAt_getElem?] at hj
  split at hj
  · obtain ⟨s, hs0, rfl⟩ := Option.map_eq_some_iff.mp hj
    exact ⟨s, List.mem_of_getElem? hs0, hf s r hb⟩
  · exact ⟨s', List.mem_of_getElem? hj, hb⟩

section steps
variable {C E : Type} (cd : Codec C E)

theorem body_ne_raw {s : Sheet C} (h : s.isRaw = false) (r : RawSheet) : s.body ≠ .raw r := by
  intro e; simp [Sheet.isRaw, e] at h

/-- an operation keeps a sheet, deserializes it (`materialise`, `editSheet`), renames it, drops it, or appends a deserialized one -/
theorem step_raw_subset (b : Book C) (op : Op E) : RawSub (step cd b op).1.sheets b.sheets := by
  have same : RawSub b.sheets b.sheets := rawSub_of_subset fun _ h => h
  have hm : ∀ s r, (materialise cd b.tables s).body = .raw r → s.body = .raw r :=
    fun s r h => absurd h (body_ne_raw (materialise_notRaw cd _ s) r)
  have he : ∀ e s r, (editSheet cd b.tables e s).body = .raw r → s.body = .raw r :=
    fun e s r h => absurd h (body_ne_raw (editSheet_notRaw cd _ e s) r)
  cases op with
  | readSheet i | getMut i | byName n =>
    simp only [step]; split
    · exact rawSub_modifyAt _ hm _ _
    · exact same
  | readAll => exact rawSub_map _ hm _
  | edit i e =>
    simp only [step]; split
    · exact rawSub_modifyAt _ (he e) _ _
    · exact same
  | newSheet n =>
    simp only [step]; split
    · exact same
    · intro s' hs r hb
      rcases List.mem_append.mp hs with h | h
      · exact ⟨s', h, hb⟩
      · cases List.mem_singleton.mp h; cases hb
  | removeSheet i =>
    simp only [step]; split
    · exact rawSub_of_subset fun _ h => List.mem_of_mem_eraseIdx h
    · exact same
  | removeByName n =>
    simp only [step]; split
    · exact rawSub_of_subset fun _ h => (List.mem_filter.mp h).1
    · exact same
  | setName i n =>
    simp only [step]; split
    · exact same
    · split
      · exact rawSub_modifyAt (fun s => { s with name := n }) (fun _ _ h => h) _ _
      · exact same
  | wbEdit n e1 e2 =>
    refine rawSub_map _ (fun s r h => ?_) _
    split at h <;> exact absurd h (body_ne_raw (editSheet_notRaw cd _ _ _) r)

theorem step_consistent (x : Pkg) (b : Book C) (op : Op E) (h : Consistent x b) : Consistent x (step cd b op).1 := by
  rw [consistent_iff] at h ⊢
  refine ⟨by rw [step_tables]; exact h.1, ?_⟩
  intro s' hs' r hb
  obtain ⟨s, hs, hb'⟩ := step_raw_subset cd b op s' hs' r hb
  exact h.2 s hs r hb'

theorem run_consistent (x : Pkg) (b : Book C) (ops : List (Op E)) (h : Consistent x b) : Consistent x (run cd b ops) :=
  List.foldlRecOn ops _ h fun b' h' o _ => step_consistent cd x b' o h'

end steps

end Umya.Lazy
