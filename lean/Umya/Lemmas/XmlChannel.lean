/-
  The escaping channel between the library's writer and an XML 1.0 reader (C02):
  what `write_text_node` / `write_text_node_conversion` / `write_start_tag` emit
  (`Umya.XmlEsc.escape`, `partialEscape`, `attrEscape`; `Umya.Xml.escape`, `partialEscape` are the same
  functions as modelled for C01) is read back exactly by the independent reader of `Umya.Spec.Xml`
  (`textValue`, `attrValue`), for every text.  The texts that reader accepts are given as a derivation (`Expands`:
  literal characters and references that resolve), equivalent to its state machine `expandGo` (`expands_iff`); every
  fact about accepted character data is an induction on the derivation.  Also here, for the modules on the lexer:
  the defining clauses of `normalizeEol` under names, and `run_pushed`, by which `expandGo`, `unescGo` and `lexGo`
  each consume a run of characters they only collect.
-/
import Umya.Lemmas.XmlEsc
import Umya.Spec.XmlLex
namespace Umya.XmlChannel
open Umya.XmlEsc

section
open Umya.Spec.Xml

/-- what stands between the `&` and the `;` of a reference: no `;`, and no `&` or `<`, at which the XML 1.0 reader gives up -/
abbrev RefClean (pat : List Char) : Prop := ∀ c ∈ pat, c ≠ ';' ∧ c ≠ '&' ∧ c ≠ '<'

/-- a scanner that only pushes the characters it accepts (`ok`) on its accumulator consumes a whole run of them at once -/
theorem run_pushed {β} (g : List Char → List Char → β) (ok : Char → Prop)
    (step : ∀ acc c r, ok c → g acc (c :: r) = g (c :: acc) r) (cs : List Char) (h : ∀ c ∈ cs, ok c) :
    ∀ (acc rest : List Char), g acc (cs ++ rest) = g (cs.reverse ++ acc) rest := by
  induction cs with
  | nil => intro acc rest; rfl
  | cons c r ih =>
    intro acc rest
    rw [List.cons_append, step acc c _ (h c (by simp)), ih (fun d hd => h d (by simp [hd])) (c :: acc) rest]
    simp

theorem expandGo_ref (lit : Char → List Char) (pat rest : List Char) {v : List Char}
    (hp : resolveRef pat = some v) (hclean : RefClean pat) :
    expandGo lit none (('&' :: pat) ++ ';' :: rest) = (expandGo lit none rest).map (v ++ ·) := by
  have := run_pushed (fun acc => expandGo lit (some acc)) _
    (fun acc c r (h : c ≠ ';' ∧ c ≠ '&' ∧ c ≠ '<') => by simp [expandGo, h.1, h.2.1, h.2.2]) pat hclean [] (';' :: rest)
  simp [expandGo, this, hp]

theorem refs_resolve : ∀ p ∈ refs, resolveRef p.2 = some [p.1] ∧ RefClean p.2 := by decide +kernel

theorem resolveRef_cases {p v : List Char} (h : resolveRef p = some v) :
    (∃ radix ds n, (p = '#' :: 'x' :: ds ∧ radix = 16 ∨ p = '#' :: ds ∧ radix = 10) ∧ parseNum radix ds = some n ∧
      (n.isValidChar ∧ isXmlChar (Char.ofNat n) = true) ∧ [Char.ofNat n] = v) ∨
    ∃ c, v = [c] ∧ (c, p) ∈ refs := by
  unfold resolveRef at h
  split at h
  · obtain ⟨n, hn, h⟩ := Option.bind_eq_some_iff.1 h
    obtain ⟨hc, hv⟩ := Option.ite_none_right_eq_some.1 h
    exact .inl ⟨16, _, n, .inl ⟨rfl, rfl⟩, hn, hc, Option.some.inj hv⟩
  · obtain ⟨n, hn, h⟩ := Option.bind_eq_some_iff.1 h
    obtain ⟨hc, hv⟩ := Option.ite_none_right_eq_some.1 h
    exact .inl ⟨10, _, n, .inr ⟨rfl, rfl⟩, hn, hc, Option.some.inj hv⟩
  · -- one test of the chain of names at a time (`split at h` on the whole chain is several times dearer)
    have test : ∀ {c : Prop} [Decidable c] {a : List Char} {e : Option (List Char)}, (if c then some a else e) = some v →
        c ∧ a = v ∨ e = some v := fun {c} _ _ _ h => by
      by_cases hc : c
      · exact .inl ⟨hc, Option.some.inj (by rwa [if_pos hc] at h)⟩
      · exact .inr (by rwa [if_neg hc] at h)
    iterate 5
      rcases test h with ⟨hp, rfl⟩ | h
      · exact .inr ⟨_, rfl, hp ▸ by decide +kernel⟩
    cases h

theorem resolveRef_ne_nil {p v : List Char} (h : resolveRef p = some v) : v ≠ [] := by
  rcases resolveRef_cases h with ⟨_, _, _, _, _, _, rfl⟩ | ⟨_, rfl, _⟩ <;> exact List.cons_ne_nil _ _

/-- character data the reader accepts, and what it stands for: literal characters other than `&`, and references
    `&pat;` that resolve -/
inductive Expands (lit : Char → List Char) : List Char → List Char → Prop
  | nil : Expands lit [] []
  | lit (c : Char) {r v : List Char} : c ≠ '&' → Expands lit r v → Expands lit (c :: r) (lit c ++ v)
  | ref (pat : List Char) {w r v : List Char} : resolveRef pat = some w → RefClean pat → Expands lit r v →
      Expands lit ('&' :: pat ++ ';' :: r) (w ++ v)

theorem Expands.run {lit} {s v : List Char} (h : Expands lit s v) (rest : List Char) :
    expandGo lit none (s ++ rest) = (expandGo lit none rest).map (v ++ ·) := by
  induction h with
  | nil => simp
  | lit c hc _ ih => simp [expandGo, hc, ih, Option.map_map, Function.comp_def]
  | @ref pat w r v hp hclean _ ih =>
    have := expandGo_ref lit pat (r ++ rest) hp hclean
    simp only [List.cons_append, List.append_assoc] at this ⊢
    simp [this, ih, Option.map_map, Function.comp_def]

theorem Expands.value {lit} {s v : List Char} (h : Expands lit s v) : expandGo lit none s = some v := by
  simpa [expandGo] using h.run []

/-- Inside a reference (`some p`, the pattern so far reversed) what is left is the rest of the pattern, `;`, and accepted data. -/
theorem expands_of_go {lit} : ∀ (s : List Char) (st : Option (List Char)) (v : List Char), expandGo lit st s = some v →
    match st with
    | none => Expands lit s v
    | some p => ∃ q w r v', s = q ++ ';' :: r ∧ resolveRef (p.reverse ++ q) = some w ∧ RefClean q ∧
        Expands lit r v' ∧ v = w ++ v'
  | [], none, v, h => by simp [expandGo] at h; subst h; exact .nil
  | [], some p, v, h => by simp [expandGo] at h
  | c :: r, none, v, h => by
    simp only [expandGo] at h
    split at h
    · rename_i hc; subst hc
      obtain ⟨q, w, r', v', rfl, hw, hq, hr, rfl⟩ := expands_of_go r (some []) v h
      exact .ref q (by simpa using hw) hq hr
    · rename_i hc
      obtain ⟨v', hv', rfl⟩ := Option.map_eq_some_iff.1 h
      exact .lit c hc (expands_of_go r none v' hv')
  | c :: r, some p, v, h => by
    simp only [expandGo] at h
    split at h
    · rename_i hc; subst hc
      obtain ⟨w, hw, h⟩ := Option.bind_eq_some_iff.1 h
      obtain ⟨v', hv', rfl⟩ := Option.map_eq_some_iff.1 h
      exact ⟨[], w, r, v', rfl, by simpa using hw, (fun _ hc => nomatch hc), expands_of_go r none v' hv', rfl⟩
    · rename_i hc
      split at h
      · cases h
      · rename_i hc2
        obtain ⟨q, w, r', v', rfl, hw, hq, hr, rfl⟩ := expands_of_go r (some (c :: p)) v h
        refine ⟨c :: q, w, r', v', rfl, by simpa using hw, ?_, hr, rfl⟩
        intro d hd
        rcases List.mem_cons.1 hd with rfl | hd
        · exact ⟨hc, fun e => hc2 (Or.inl e), fun e => hc2 (Or.inr e)⟩
        · exact hq d hd

theorem expands_iff {lit} {s v : List Char} : expandGo lit none s = some v ↔ Expands lit s v :=
  ⟨expands_of_go s none v, Expands.value⟩

theorem expands_ne_nil {lit} (hlit : ∀ c, lit c ≠ []) {s v : List Char} (h : Expands lit s v) (hs : s ≠ []) : v ≠ [] := by
  cases h with
  | nil => exact absurd rfl hs
  | lit c _ _ => exact fun e => hlit c (List.append_eq_nil_iff.1 e).1
  | ref pat hp _ _ => exact fun e => resolveRef_ne_nil hp (List.append_eq_nil_iff.1 e).1

theorem expands_flatMap {lit : Char → List Char} {f : Char → List Char} {sp : List Char} (h : Escapes f sp) (hamp : '&' ∈ sp)
    (hlit : ∀ c, c ∉ sp → lit c = [c]) : ∀ s : List Char, Expands lit (s.flatMap f) s
  | [] => .nil
  | c :: r => by
    rw [List.flatMap_cons]
    rcases h c with he | ⟨he, hn⟩
    · obtain ⟨q, hq, e⟩ := List.mem_map.1 he
      obtain ⟨rfl, e2⟩ := Prod.mk.inj e
      rw [← e2]
      simpa using Expands.ref q.2 (refs_resolve q hq).1 (refs_resolve q hq).2 (expands_flatMap h hamp hlit r)
    · rw [he]
      simpa [hlit c hn] using Expands.lit (lit := lit) c (fun e => hn (e ▸ hamp)) (expands_flatMap h hamp hlit r)

theorem normalizeEol_ne_nil : ∀ l : List Char, l ≠ [] → normalizeEol l ≠ []
  | [], h => absurd rfl h
  | c :: r, _ => by
    unfold normalizeEol
    split <;> simp_all

theorem textValue_ne_nil (raw v : List Char) (hne : raw ≠ []) (h : textValue raw = some v) : v ≠ [] :=
  expands_ne_nil (fun c => by simp) (expands_iff.1 h) (normalizeEol_ne_nil raw hne)

theorem normalizeEol_crlf (r : List Char) : normalizeEol ('\r' :: '\n' :: r) = '\n' :: normalizeEol r :=
  normalizeEol.eq_1 r

theorem normalizeEol_cr (r : List Char) (h : ∀ r', r ≠ '\n' :: r') : normalizeEol ('\r' :: r) = '\n' :: normalizeEol r :=
  normalizeEol.eq_2 r h

theorem normalizeEol_cons_ne (c : Char) (r : List Char) (hc : c ≠ '\r') : normalizeEol (c :: r) = c :: normalizeEol r :=
  normalizeEol.eq_3 c r (fun _ e _ => hc e) hc

theorem normalizeEol_append_noCR (s rest : List Char) (h : '\r' ∉ s) : normalizeEol (s ++ rest) = s ++ normalizeEol rest := by
  induction s with
  | nil => rfl
  | cons c r ih =>
    have hc : c ≠ '\r' := fun e => h (e ▸ List.mem_cons_self ..)
    have hr : '\r' ∉ r := fun m => h (List.mem_cons_of_mem _ m)
    rw [List.cons_append, normalizeEol_cons_ne c _ hc, ih hr]; rfl

theorem _root_.Umya.Reader.Lemmas.normalizeEol_noCR (s : List Char) (h : '\r' ∉ s) : normalizeEol s = s := by
  have := normalizeEol_append_noCR s [] h
  rwa [List.append_nil, show normalizeEol [] = [] from rfl, List.append_nil] at this

/-- an escape that treats the carriage return as special leaves the line-end normalisation nothing to act on -/
theorem expandGo_flatMap {f : Char → List Char} {sp : List Char} (h : Escapes f sp) (hamp : '&' ∈ sp)
    (hcr : '\r' ∈ sp) (lit : Char → List Char) (hlit : ∀ c, c ∉ sp → lit c = [c]) (s : List Char) :
    expandGo lit none (normalizeEol (s.flatMap f)) = some s := by
  have hno : ∀ c ∈ s.flatMap f, c ≠ '\r' :=
    h.all _ (fun p hp x hx => ((entities_chars p hp).2 x hx).2.2.2.2.1) s (fun _ _ hn e => hn (e ▸ hcr))
  rw [Reader.Lemmas.normalizeEol_noCR _ (fun m => hno _ m rfl)]
  exact (expands_flatMap h hamp hlit s).value

end

theorem textValue_escape (s : List Char) : Umya.Spec.Xml.textValue (escape s) = some s :=
  expandGo_flatMap escChar_cases (by decide) (by decide) _ (fun _ _ => rfl) s

theorem textValue_partialEscape (s : List Char) : Umya.Spec.Xml.textValue (partialEscape s) = some s :=
  expandGo_flatMap pescChar_cases (by decide) (by decide) _ (fun _ _ => rfl) s

theorem attrValue_attrEscape (s : List Char) : Umya.Spec.Xml.attrValue (attrEscape s) = some s :=
  expandGo_flatMap attrEscChar_cases (by decide) (by decide) _ (fun c h => by simp_all) s

theorem escape_safe (s : List Char) : ∀ c ∈ escape s, c ≠ '<' ∧ c ≠ '\r' := escChar_cases.no_lt_cr (by simp) (by simp) s

theorem partialEscape_safe (s : List Char) : ∀ c ∈ partialEscape s, c ≠ '<' ∧ c ≠ '\r' :=
  pescChar_cases.no_lt_cr (by simp) (by simp) s

theorem escape_noCR (s : List Char) : '\r' ∉ escape s := fun h => (escape_safe s _ h).2 rfl

theorem escape_noLt (s : List Char) : '<' ∉ escape s := fun h => (escape_safe s _ h).1 rfl

theorem partialEscape_noLt (s : List Char) : '<' ∉ partialEscape s := fun h => (partialEscape_safe s _ h).1 rfl

theorem xml_escChar_eq (c : Char) : Umya.Xml.escChar c = escChar c := by
  unfold Umya.Xml.escChar escChar escCharOld
  by_cases h : c = '\r'
  · rw [if_pos h, if_pos h]; rfl
  · rw [if_neg h, if_neg h]; rfl

/-- the two chains test `\r` at different places -/
theorem xml_pescChar_eq (c : Char) : Umya.Xml.pescChar c = pescChar c := by
  unfold Umya.Xml.pescChar pescChar
  by_cases h : c = '\r'
  · subst h; rfl
  · simp only [if_neg h]; rfl

theorem xml_escape_eq (s : List Char) : Umya.Xml.escape s = escape s := by
  unfold Umya.Xml.escape escape
  rw [show Umya.Xml.escChar = escChar from funext xml_escChar_eq]

theorem xml_partialEscape_eq (s : List Char) : Umya.Xml.partialEscape s = partialEscape s := by
  unfold Umya.Xml.partialEscape partialEscape
  rw [show Umya.Xml.pescChar = pescChar from funext xml_pescChar_eq]

section
open Umya.Spec.Xml

theorem lex_text_step (acc : List Char) (c : Char) (r : List Char) (hx : isXmlChar c = true) (hc : c ≠ '<') :
    lexGo (.text acc) (c :: r) = lexGo (.text (c :: acc)) r := by
  rw [lexGo]; simp [hx, hc]

theorem lex_text_lt (acc : List Char) (r : List Char) :
    lexGo (.text acc) ('<' :: r) = flushText acc (lexGo .lt r) := by
  rw [lexGo]; simp [show isXmlChar '<' = true by decide]

theorem lex_text_run (raw : List Char) (hx : ∀ c ∈ raw, isXmlChar c = true) (hlt : '<' ∉ raw) :
    ∀ (acc rest : List Char), lexGo (.text acc) (raw ++ rest) = lexGo (.text (raw.reverse ++ acc)) rest :=
  run_pushed (fun acc => lexGo (.text acc)) (fun c => isXmlChar c = true ∧ c ≠ '<') (fun acc c r h => lex_text_step acc c r h.1 h.2) raw
    (fun c hc => ⟨hx c hc, fun e => hlt (e ▸ hc)⟩)

end

end Umya.XmlChannel
