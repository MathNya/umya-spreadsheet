/-
  The decoder's list checks (`ascending`, `nonDecreasing`, `fillRefs`, `expandShared`) on lists of the shape the writer
  produces; the row loop of `Umya/Model/SheetNode.lean` (`takeRow`, `rowGroups`) on a well-formed sheet; one step of
  `writeRows`, and the shape of the elements `hlWalk` writes.
-/
import Umya.Model.SheetNode
import Umya.Lemmas.ListFacts
namespace Umya.SheetNode
open Umya.CellXml Umya.Spec.Sml

theorem errs_flat {α β} (f : α → β) (gs : List α) :
    (gs.map (fun g => (f g, ([] : List String)))).flatMap (·.2) = [] := by
  induction gs with
  | nil => rfl
  | cons g gs ih => simp only [List.map_cons, List.flatMap_cons, ih]; rfl

/-- the decoder's order checks fold a test over neighbours -/
theorem chain_fold (r : Nat → Nat → Bool) : ∀ (xs : List Nat) (x : Nat), (x :: xs).Pairwise (r · ·) →
    (xs.foldl (fun (acc : Bool × Nat) y => (acc.1 && r acc.2 y, y)) (true, x)).1 = true
  | [], _, _ => rfl
  | y :: ys, x, h => by
    have hx := List.pairwise_cons.1 h
    rw [List.foldl_cons, hx.1 y List.mem_cons_self]
    exact chain_fold r ys y hx.2

theorem ascending_of_pairwise (l : List Nat) (h : l.Pairwise (· < ·)) : ascending l = true := by
  cases l with
  | nil => rfl
  | cons x xs => exact chain_fold (fun a b => decide (a < b)) xs x (h.imp decide_eq_true)

theorem nonDecreasing_of_pairwise (l : List Nat) (h : l.Pairwise (· ≤ ·)) : nonDecreasing l = true := by
  cases l with
  | nil => rfl
  | cons x xs => exact chain_fold (fun a b => decide (a ≤ b)) xs x (h.imp decide_eq_true)

theorem fillRefs_id (rn : Nat) (cs : List CellV) : ∀ prev, (∀ c ∈ cs, c.ref.isEmpty = false) → fillRefs rn prev cs = cs := by
  induction cs with
  | nil => intro _ _; rfl
  | cons c cs ih =>
    intro prev h
    simp only [fillRefs, h c (by simp), Bool.false_eq_true, if_false]
    rw [ih _ (fun d hd => h d (by simp [hd]))]

theorem expandShared_id (cs : List CellV) : ∀ ms, (∀ c ∈ cs, c.shared = none) → expandShared ms cs = cs := by
  induction cs with
  | nil => intro _ _; rfl
  | cons c cs ih =>
    intro ms h
    simp only [expandShared, h c (by simp)]
    rw [ih _ (fun d hd => h d (by simp [hd]))]

section
variable {N : Type}

theorem takeRow_eq (n : Nat) (cells : List (Cell N)) :
    takeRow n cells = (cells.takeWhile (·.row = n), cells.dropWhile (·.row = n)) := by
  induction cells with
  | nil => rfl
  | cons c cs ih => by_cases h : c.row = n <;> simp [takeRow, h, ih]

theorem takeRow_split (n : Nat) (cells : List (Cell N)) :
    (takeRow n cells).1 ++ (takeRow n cells).2 = cells ∧ (∀ c ∈ (takeRow n cells).1, c.row = n) ∧
    (∀ c, (takeRow n cells).2.head? = some c → c.row ≠ n) := by
  rw [takeRow_eq]
  simpa only [decide_eq_true_eq, decide_eq_false_iff_not, ne_eq] using takeWhile_dropWhile_spec (·.row = n) cells

theorem rowGroups_rows (rs : List RowW) : ∀ cells : List (Cell N), (rowGroups rs cells).map (·.1) = rs := by
  induction rs with
  | nil => intro _; rfl
  | cons r rs ih => intro cells; simp [rowGroups, ih]

theorem rowGroups_map {β} (f : RowW → β) (rs : List RowW) (cells : List (Cell N)) :
    (rowGroups rs cells).map (fun g => f g.1) = rs.map f :=
  (List.map_map (f := fun g : RowW × List (Cell N) => g.1) (g := f)).symm.trans (congrArg _ (rowGroups_rows rs cells))

theorem rowGroups_mem (rs : List RowW) : ∀ cells : List (Cell N), ∀ g ∈ rowGroups rs cells,
    g.2.Sublist cells ∧ ∀ c ∈ g.2, c.row = g.1.num := by
  induction rs with
  | nil => intro _ g hg; simp [rowGroups] at hg
  | cons r rs ih =>
    intro cells g hg
    simp only [rowGroups, List.mem_cons] at hg
    rcases hg with rfl | hg
    · exact ⟨by rw [takeRow_eq]; exact List.takeWhile_sublist _, (takeRow_split r.num cells).2.1⟩
    · exact ⟨(ih _ g hg).1.trans (by rw [takeRow_eq]; exact List.dropWhile_sublist _), (ih _ g hg).2⟩

theorem rowGroups_all (rs : List RowW) (cells : List (Cell N))
    (hrs : rs.Pairwise (fun a b => a.num < b.num))
    (hcs : cells.Pairwise (fun a b => a.row ≤ b.row))
    (hin : ∀ c ∈ cells, c.row ∈ rs.map (·.num)) : (rowGroups rs cells).flatMap (·.2) = cells := by
  induction rs generalizing cells with
  | nil =>
    cases cells with
    | nil => rfl
    | cons c cs => cases hin c List.mem_cons_self
  | cons r rs ih =>
    have hr := List.pairwise_cons.1 hrs
    simp only [rowGroups, List.flatMap_cons, takeRow_eq]
    rw [ih _ hr.2 (hcs.sublist (List.dropWhile_sublist _))
      (dropWhile_key_mem (·.row) r.num _ (List.forall_mem_map.2 hr.1) cells hcs hin)]
    exact List.takeWhile_append_dropWhile

end

theorem writeRows_cons_some (F : Umya.Num.NumFmt) {tbl t : Table} {r : RowW} {cs : List (Cell F.Num)} {gs : List (RowW × List (Cell F.Num))}
    {ws : List (RowX F.Num)} (h : writeRows F tbl ((r, cs) :: gs) = some (t, ws)) :
    ∃ t1 xs ys, writeCells F tbl cs = some (t1, xs) ∧ writeRows F t1 gs = some (t, ys) ∧ ws = ⟨r, cs, xs⟩ :: ys := by
  simp only [writeRows] at h
  cases hw : writeCells F tbl cs with
  | none => simp [hw] at h
  | some p =>
    cases hws : writeRows F p.1 gs with
    | none => simp [hw, hws] at h
    | some q =>
      simp only [hw, hws, Option.some.injEq, Prod.mk.injEq] at h
      exact ⟨p.1, p.2, q.2, rfl, h.1 ▸ hws, h.2.symm⟩

theorem hlWalk_shape (ls : List LinkW) : ∀ k, ∀ x ∈ hlWalk k ls, ∃ as, x = Umya.Spec.Xml.Node.elem nHyperlink as [] := by
  induction ls with
  | nil => intro k x hx; simp [hlWalk] at hx
  | cons l ls ih =>
    intro k x hx
    simp only [hlWalk] at hx
    split at hx <;> rcases List.mem_cons.1 hx with rfl | hx
    · exact ⟨_, rfl⟩
    · exact ih _ x hx
    · exact ⟨_, rfl⟩
    · exact ih _ x hx

end Umya.SheetNode
