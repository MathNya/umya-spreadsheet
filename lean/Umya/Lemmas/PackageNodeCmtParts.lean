/-
  The package of `Umya/Model/PackageNodeCmt.lean` (sheets that may carry comments) as an instance of `Pieces`: the
  numbers the sheets are given are distinct, so the VML / comments parts are found under their names.
-/
import Umya.Lemmas.PackageNodeLookup
import Umya.Lemmas.PackageNodeCmtPath
namespace Umya.PackageNode
open Umya.Xml Umya.CellXml Umya.CellNode Umya.SheetNode Umya.WorkbookNode Umya.Dec
open Umya.Spec.Xml (Node Attr)
open Umya.Spec.Sml
open Umya.AnnotComment (Comment writeVml writeComments)

/-- different sheets with comments have different VML numbers and different comments numbers -/
def NumsDistinct {α : Type} (an : List (α × Option (Nat × Nat))) : Prop :=
  an.Pairwise (fun a b => ∀ v w v' w', a.2 = some (v, w) → b.2 = some (v', w') → v ≠ v' ∧ w ≠ w')

theorem annotate_distinct {N : Type} (ss : List (SheetC N)) : NumsDistinct (annotate ss) := by
  unfold NumsDistinct annotate
  rw [numbering_nil]
  refine (List.pairwise_map (f := Prod.snd)
    (R := fun a b => ∀ v w v' w', a = some (v, w) → b = some (v', w') → v ≠ v' ∧ w ≠ w')).1 ?_
  rw [List.map_snd_zip (by rw [numSpec_length, List.length_map]; exact Nat.le_refl _)]
  exact numSpec_pairwise _ 0

theorem annotate_length {N : Type} (ss : List (SheetC N)) : (annotate ss).length = ss.length := by
  unfold annotate
  rw [numbering_nil, List.length_zip, numSpec_length, List.length_map, Nat.min_self]

theorem annotate_fst {N : Type} (ss : List (SheetC N)) (i : Nat) {p : SheetC N × Option (Nat × Nat)} (h : (annotate ss)[i]? = some p) :
    ss[i]? = some p.1 := by
  unfold annotate at h
  rw [List.getElem?_zip_eq_some] at h
  exact h.1

theorem annotate_get {N : Type} (ss : List (SheetC N)) (i : Nat) (s : SheetC N) (h : ss[i]? = some s) :
    ∃ num, (annotate ss)[i]? = some (s, num) := by
  have hi : i < (annotate ss).length := by rw [annotate_length]; exact (List.getElem?_eq_some_iff.1 h).1
  have h2 := List.getElem?_eq_getElem hi
  have h3 := annotate_fst ss i h2
  rw [h] at h3
  cases h3
  exact ⟨((annotate ss)[i]).2, h2⟩

section
variable {N : Type}

theorem cmtPartsC_cons {s : SheetC N} {v c : Nat} {an : List (SheetC N × Option (Nat × Nat))} {cmt : List Part}
    (h : cmtPartsC ((s, some (v, c)) :: an) = some cmt) :
    ∃ root ps, writeComments s.authors s.comments = some root ∧ cmtPartsC an = some ps ∧
      cmt = xmlPart (vmlPartL v) (writeVml s.comments) :: xmlPart (commentsPartL c) root :: ps := by
  simp only [cmtPartsC] at h
  cases hw : writeComments s.authors s.comments with
  | none => rw [hw] at h; cases h
  | some root =>
    cases hr : cmtPartsC an with
    | none => rw [hw, hr] at h; cases h
    | some ps => rw [hw, hr] at h; exact ⟨root, ps, rfl, rfl, (Option.some.inj h).symm⟩

theorem cmtParts_names : ∀ (an : List (SheetC N × Option (Nat × Nat))) (cmt : List Part), cmtPartsC an = some cmt →
    ∀ part ∈ cmt, ∃ s v c, (s, some (v, c)) ∈ an ∧
      (part = xmlPart (vmlPartL v) (writeVml s.comments) ∨
       ∃ root, writeComments s.authors s.comments = some root ∧ part = xmlPart (commentsPartL c) root) := by
  intro an
  induction an with
  | nil => intro cmt h part hp; simp only [cmtPartsC, Option.some.injEq] at h; subst h; simp at hp
  | cons a an ih =>
    intro cmt h part hp
    obtain ⟨s, num⟩ := a
    cases num with
    | none =>
      simp only [cmtPartsC] at h
      obtain ⟨s', v, c, hm, hh⟩ := ih cmt h part hp
      exact ⟨s', v, c, List.mem_cons_of_mem _ hm, hh⟩
    | some vc =>
      obtain ⟨v, c⟩ := vc
      obtain ⟨root, ps, hw, hr, rfl⟩ := cmtPartsC_cons h
      rcases List.mem_cons.1 hp with rfl | hp
      · exact ⟨s, v, c, List.mem_cons_self, Or.inl rfl⟩
      rcases List.mem_cons.1 hp with rfl | hp
      · exact ⟨s, v, c, List.mem_cons_self, Or.inr ⟨root, hw, rfl⟩⟩
      · obtain ⟨s', v', c', hm, hh⟩ := ih ps hr part hp
        exact ⟨s', v', c', List.mem_cons_of_mem _ hm, hh⟩

theorem cmtParts_find : ∀ (an : List (SheetC N × Option (Nat × Nat))) (cmt : List Part), cmtPartsC an = some cmt →
    NumsDistinct an → ∀ s v c, (s, some (v, c)) ∈ an →
    cmt.find? (fun x => x.name = String.ofList (vmlPartL v)) = some (xmlPart (vmlPartL v) (writeVml s.comments)) ∧
    ∃ root, writeComments s.authors s.comments = some root ∧
      cmt.find? (fun x => x.name = String.ofList (commentsPartL c)) = some (xmlPart (commentsPartL c) root) := by
  intro an
  induction an with
  | nil => intro cmt _ _ s v c hm; simp at hm
  | cons a an ih =>
    intro cmt h hd s v c hm
    obtain ⟨s0, num⟩ := a
    have hd' := List.pairwise_cons.1 hd
    cases num with
    | none =>
      simp only [cmtPartsC] at h
      rcases List.mem_cons.1 hm with he | hm
      · cases he
      · exact ih cmt h hd'.2 s v c hm
    | some vc =>
      obtain ⟨v0, c0⟩ := vc
      obtain ⟨root, ps, hw, hr, rfl⟩ := cmtPartsC_cons h
      rcases List.mem_cons.1 hm with he | hm
      · cases he
        exact ⟨by rw [find_cons_eq], root, hw, by rw [find_cons_ne _ _ _ _ (vml_ne_comments v c), find_cons_eq]⟩
      · have hne := hd'.1 _ hm v0 c0 v c rfl rfl
        obtain ⟨hv, root', hw', hf⟩ := ih ps hr hd'.2 s v c hm
        refine ⟨?_, root', hw', ?_⟩
        · rw [find_cons_ne _ _ _ _ (fun e => hne.1 (vmlPartL_inj _ _ e)), find_cons_ne _ _ _ _ (fun e => vml_ne_comments v c0 e.symm)]
          exact hv
        · rw [find_cons_ne _ _ _ _ (vml_ne_comments v0 c), find_cons_ne _ _ _ _ (fun e => hne.2 (commentsPartL_inj _ _ e))]
          exact hf

end

theorem mem_vmlNums {N : Type} {an : List (SheetC N × Option (Nat × Nat))} (s : SheetC N) (v c : Nat) (h : (s, some (v, c)) ∈ an) :
    v ∈ vmlNums an ∧ c ∈ cmtNums an := by
  unfold vmlNums cmtNums
  exact ⟨List.mem_filterMap.2 ⟨_, h, rfl⟩, List.mem_filterMap.2 ⟨_, h, rfl⟩⟩

section
variable (F : Umya.Num.NumFmt)

def headC (b : BookC F.Num) : List Part := [xmlPart nApp b.app, xmlPart nCore b.core, xmlPart nRootRels rootRelsNode, xmlPart nTheme b.theme]
def tailC (b : BookC F.Num) (hs : Bool) : List Part :=
  [xmlPart nStyles b.styles,
   xmlPart nWorkbookPart (workbookNode b.wbFrame (b.sheets.map (·.entry)) b.names),
   xmlPart nWorkbookRels (workbookRelsNode b.sheets.length (wbRelsRest b.sheets.length hs)),
   xmlPart nContentTypes (contentTypesNodeC b.sheets.length hs (vmlNums (annotate b.sheets)) (cmtNums (annotate b.sheets)))]

theorem assembleC_eq (b : BookC F.Num) (hs : Bool) (roots : List Node) (cmt sst : List Part) :
    assembleC F b hs roots cmt sst =
      headC F b ++ sheetParts 1 roots ++ cmt ++ relsPartsG 1 (relsInput (annotate b.sheets)) ++ sst ++ tailC F b hs := rfl

def piecesC (b : BookC F.Num) (hs : Bool) (roots : List Node) (cmt sst : List Part) : Pieces :=
  { app := b.app, core := b.core, theme := b.theme, styles := b.styles,
    workbook := workbookNode b.wbFrame (b.sheets.map (·.entry)) b.names,
    contentTypes := contentTypesNodeC b.sheets.length hs (vmlNums (annotate b.sheets)) (cmtNums (annotate b.sheets)),
    n := b.sheets.length, hs := hs, roots := roots, extra := cmt, rels := relsInput (annotate b.sheets), sst := sst }

theorem assembleC_pieces (b : BookC F.Num) (hs : Bool) (roots : List Node) (cmt sst : List Part) :
    assembleC F b hs roots cmt sst = (piecesC F b hs roots cmt sst).pkg := rfl

/-- `writePackageC` succeeded with these pieces; `tbl` is the final shared-string table -/
structure Built (b : BookC F.Num) (cmt : List Part) (tbl : Table) (sst : List Part) : Prop where
  cmt : cmtPartsC (annotate b.sheets) = some cmt
  sst : SstShape tbl sst

variable {F}
variable {b : BookC F.Num} {cmt : List Part} {tbl : Table} {sst : List Part} (hb : Built F b cmt tbl sst) (hs : Bool) (roots : List Node)
include hb

theorem cmt_foreign : ∀ p ∈ cmt, ∃ nm r, p = xmlPart nm r ∧ Foreign nm := by
  intro p hp
  obtain ⟨s, v, c, _, rfl | ⟨root, _, rfl⟩⟩ := cmtParts_names _ _ hb.cmt p hp
  · exact ⟨_, _, rfl, foreign_vml v⟩
  · exact ⟨_, _, rfl, foreign_comments c⟩

theorem piecesC_ok : (piecesC F b hs roots cmt sst).OK tbl := ⟨hb.sst, cmt_foreign hb⟩

theorem partC_own (s : SheetC F.Num) (v c : Nat) (hm : (s, some (v, c)) ∈ annotate b.sheets) :
    (piecesC F b hs roots cmt sst).pkg.part? (String.ofList (vmlPartL v)) = some (xmlPart (vmlPartL v) (writeVml s.comments)) ∧
    ∃ root, writeComments s.authors s.comments = some root ∧
      (piecesC F b hs roots cmt sst).pkg.part? (String.ofList (commentsPartL c)) = some (xmlPart (commentsPartL c) root) := by
  obtain ⟨hv, root, hw, hf⟩ := cmtParts_find _ _ hb.cmt (annotate_distinct _) s v c hm
  exact ⟨Pieces.part_extra (foreign_vml v) hv, root, hw, Pieces.part_extra (foreign_comments c) hf⟩

end
end Umya.PackageNode
