/-
  The reference calendar `Umya.Spec.Calendar`: both round trips of `daysFromCivil` / `civilFromDays`, validity, monotonicity.
  A day number splits into March-based year `Y`, day `u` of that year and March-based month `mp` (`Decomp`, `decomp`), and
  `daysFromCivil` is `yearStart + monthStart + d` up to a constant (`daysFromCivil_linear`).  The round trip from a day number
  is read off the decomposition; the one from a date follows from it by validity and strict monotonicity.

  Trap: `omega` is incomplete on nested literal divisions, and every division fact in the context is
  paid for at each call (one hypothesis holding Hinnant's year formula makes every call far dearer).
  So every arithmetic step is its own small lemma with exactly the hypotheses
  it needs, and the assembling proofs only pass terms around.
-/
import Umya.Spec.Calendar
namespace Umya.Lemmas.Calendar
open Umya.Spec.Calendar

/-! Hinnant's year-of-era `(doe - doe/1460 + doe/36524 - doe/146096) / 365`.  Write the day-of-era as
  `doe = 36524·c + 1461·q + s` (century `c`, four-year cycle `q`): the three quotients take back the leap days passed and
  leave `365·(100c + 4q) + (s − e)` with `e ∈ {0, 1}`, whence the year `100c + 4q + (s − e)/365`.  Since
  `36524 = 25·1460 + 24` and `1461 = 1460 + 1`, `doe/1460 = 25c + q + e` with `e = (24c + q + s)/1460`. -/

/-- century `c` of the era (the fourth is a day longer), four-year cycle `q` of the century, day `s` of the cycle -/
theorem doe_digits (doe : Int) (h0 : 0 ≤ doe) (h1 : doe ≤ 146096) :
    ∃ c q s : Int, doe / 36524 - doe / 146096 = c ∧ doe = 36524 * c + 1461 * q + s ∧
      0 ≤ c ∧ c ≤ 3 ∧ 0 ≤ q ∧ q ≤ 24 ∧ 0 ≤ s ∧ s ≤ 1460 ∧ (c < 3 → 1461 * q + s ≤ 36523) := by
  refine ⟨_, (doe - 36524 * (doe / 36524 - doe / 146096)) / 1461,
    (doe - 36524 * (doe / 36524 - doe / 146096)) % 1461, rfl, ?_⟩
  omega

theorem L10 (c q s : Int) (h : c < 3 → 1461 * q + s ≤ 36523) : c < 3 → 1461 * q + s ≤ 36523 := h

/-- `e` is the leap day of the running four-year cycle, once it has passed -/
theorem yoe_numerator (doe c q s e : Int) (hc : doe / 36524 - doe / 146096 = c) (hdoe : doe = 36524 * c + 1461 * q + s)
    (he : (24 * c + q + s) / 1460 = e) :
    doe - doe / 1460 + doe / 36524 - doe / 146096 = 365 * (100 * c + 4 * q) + (s - e) := by
  have h1460 : doe / 1460 = 25 * c + q + e := by rw [hdoe, ← he]; omega
  omega

/-- year `t` of the four-year cycle and day `u` of that year: only the fourth year has a day 365, and not in the last
    cycle of a century other than the fourth -/
theorem year_digit (c q s e : Int) (hc0 : 0 ≤ c) (hc3 : c ≤ 3) (hq0 : 0 ≤ q) (hq1 : q ≤ 24) (hs0 : 0 ≤ s) (hs1 : s ≤ 1460)
    (hlast : c < 3 → 1461 * q + s ≤ 36523) (he : (24 * c + q + s) / 1460 = e) (a : Int) :
    ∃ t u : Int, (365 * a + (s - e)) / 365 = a + t ∧ 0 ≤ t ∧ t ≤ 3 ∧ s = 365 * t + u ∧ 0 ≤ u ∧
      (u ≤ 364 ∨ (u = 365 ∧ t = 3 ∧ (q ≤ 23 ∨ c = 3))) := by
  refine ⟨(s - e) / 365, s - 365 * ((s - e) / 365), ?_⟩
  have he01 : e = 0 ∧ 24 * c + q + s < 1460 ∨ e = 1 ∧ 1460 ≤ 24 * c + q + s := by omega
  clear he
  rcases he01 with ⟨rfl, h⟩ | ⟨rfl, h⟩ <;> omega

/-- `u = 365` only in a March-based year that ends in a leap February -/
theorem yoe_spec (doe : Int) (h0 : 0 ≤ doe) (h1 : doe ≤ 146096) :
    ∃ y u : Int, (doe - doe / 1460 + doe / 36524 - doe / 146096) / 365 = y ∧ 0 ≤ y ∧ y ≤ 399 ∧
      doe = 365 * y + y / 4 - y / 100 + u ∧ 0 ≤ u ∧
      (u ≤ 364 ∨ (u = 365 ∧ (y + 1) % 4 = 0 ∧ ((y + 1) % 100 ≠ 0 ∨ y + 1 = 400))) := by
  obtain ⟨c, q, s, hc, hdoe, hc0, hc3, hq0, hq1, hs0, hs1, hlast⟩ := doe_digits doe h0 h1
  obtain ⟨t, u, hy, ht0, ht3, hs, hu0, hu⟩ := year_digit c q s _ hc0 hc3 hq0 hq1 hs0 hs1 hlast rfl (100 * c + 4 * q)
  refine ⟨100 * c + 4 * q + t, u, by rw [yoe_numerator doe c q s _ hc hdoe rfl, hy], ?_⟩
  clear hy hc
  have h4 : (100 * c + 4 * q + t) / 4 = 25 * c + q := by omega
  have h100 : (100 * c + 4 * q + t) / 100 = c := by omega
  refine ⟨by omega, by omega, by rw [h4, h100]; omega, hu0, ?_⟩
  rcases hu with hu | ⟨hu, ht, hl⟩
  · exact Or.inl hu
  · subst ht; exact Or.inr ⟨hu, by omega, by omega⟩

/-! Hinnant's day-of-year formula `(153·mp + 2)/5` for the March-based month `mp` is the table of month starts; the month
  lengths of the calendar are its differences (February, the last month, apart).  Everything about months below goes
  through these two facts, not through the twelve cases. -/

/-- days from March 1 to the first of the March-based month `mp` (March = 0 … February = 11) -/
def monthStart (mp : Int) : Int := (153 * mp + 2) / 5

/-- `m` of `civilFromDays`; `marchYear` and `marchMonth` below are `y'` and `mp` of `daysFromCivil` -/
def monthOf (mp : Int) : Int := if mp < 10 then mp + 3 else mp - 9

def marchYear (y m : Int) : Int := if m ≤ 2 then y - 1 else y
def marchMonth (m : Int) : Int := if m > 2 then m - 3 else m + 9

theorem monthStart_mono (a b : Int) (h : a ≤ b) : monthStart a ≤ monthStart b := by
  unfold monthStart; omega

/-- Hinnant's month formula `(5u + 2)/153` inverts `monthStart` -/
theorem month_of_doy (u : Int) :
    monthStart ((5 * u + 2) / 153) ≤ u ∧ u < monthStart ((5 * u + 2) / 153 + 1) := by
  unfold monthStart; omega

theorem month_range (u : Int) (h0 : 0 ≤ u) (h1 : u ≤ 365) : 0 ≤ (5 * u + 2) / 153 ∧ (5 * u + 2) / 153 ≤ 11 := by
  omega

theorem monthOf_props (mp : Int) (h0 : 0 ≤ mp) (h1 : mp ≤ 11) :
    marchMonth (monthOf mp) = mp ∧ 1 ≤ monthOf mp ∧ monthOf mp ≤ 12 := by
  unfold monthOf marchMonth
  by_cases h : mp < 10
  · rw [if_pos h, if_pos (by omega)]; omega
  · rw [if_neg h, if_neg (by omega)]; omega

theorem marchMonth_props (m : Int) (h1 : 1 ≤ m) (h12 : m ≤ 12) :
    monthOf (marchMonth m) = m ∧ 0 ≤ marchMonth m ∧ marchMonth m ≤ 11 := by
  unfold monthOf marchMonth
  by_cases h : m > 2
  · rw [if_pos h, if_pos (by omega)]; omega
  · rw [if_neg h, if_neg (by omega)]; omega

theorem isLeap_iff (y : Int) : isLeap y = true ↔ (y % 4 = 0 ∧ (y % 100 ≠ 0 ∨ y % 400 = 0)) := by
  simp [isLeap]

theorem dim31 (y m : Int) (h : m = 1 ∨ m = 3 ∨ m = 5 ∨ m = 7 ∨ m = 8 ∨ m = 10 ∨ m = 12) :
    daysInMonth y m = 31 := by unfold daysInMonth; rw [if_pos h]

theorem dim30 (y m : Int) (h : m = 4 ∨ m = 6 ∨ m = 9 ∨ m = 11) : daysInMonth y m = 30 := by
  unfold daysInMonth; rw [if_neg (by omega), if_pos h]

theorem dimFeb (y : Int) : daysInMonth y 2 = if isLeap y then 29 else 28 := by
  unfold daysInMonth; rw [if_neg (by decide), if_neg (by decide), if_pos rfl]

theorem daysInMonth_le (y m : Int) : daysInMonth y m ≤ 31 := by
  unfold daysInMonth; repeat' split
  all_goals decide

theorem daysInMonth_monthOf (y mp : Int) (h0 : 0 ≤ mp) (h1 : mp ≤ 10) :
    daysInMonth y (monthOf mp) = monthStart (mp + 1) - monthStart mp := by
  have : mp = 0 ∨ mp = 1 ∨ mp = 2 ∨ mp = 3 ∨ mp = 4 ∨ mp = 5 ∨ mp = 6 ∨ mp = 7 ∨ mp = 8 ∨ mp = 9 ∨ mp = 10 := by
    omega
  rcases this with rfl | rfl | rfl | rfl | rfl | rfl | rfl | rfl | rfl | rfl | rfl <;> rfl

theorem marchYear_monthOf (Y mp : Int) : marchYear (if monthOf mp ≤ 2 then Y + 1 else Y) (monthOf mp) = Y := by
  unfold marchYear
  by_cases h : monthOf mp ≤ 2
  · rw [if_pos h, if_pos h]; omega
  · rw [if_neg h, if_neg h]

/-- validity in March-based terms; the bound by the end of the year only tells in February, the last month, which the table
    gives 30 days -/
theorem validDate_iff (y m d : Int) (h1 : 1 ≤ m) (h12 : m ≤ 12) :
    ValidDate y m d ↔ 1 ≤ d ∧ monthStart (marchMonth m) + d - 1 < monthStart (marchMonth m + 1) ∧
      monthStart (marchMonth m) + d - 1 < 365 + (if isLeap (marchYear y m + 1) then 1 else 0) := by
  obtain ⟨e, b0, b1⟩ := marchMonth_props m h1 h12
  unfold ValidDate
  have e11 : monthStart 11 = 337 := rfl
  by_cases h : marchMonth m ≤ 10
  · have hd := daysInMonth_monthOf y _ b0 h
    have := monthStart_mono (marchMonth m + 1) 11 (by omega)
    rw [e] at hd
    rw [hd]; split <;> omega
  · have h11 : marchMonth m = 11 := by omega
    have e2 : m = 2 := by rw [h11] at e; exact e.symm
    have hy : marchYear y m + 1 = y := by unfold marchYear; rw [e2, if_pos (by decide)]; omega
    have e12 : monthStart (11 + 1) = 367 := rfl
    rw [hy, h11, e11, e12, e2, dimFeb]
    split <;> omega

/-- first day (March 1) of the March-based year `Y`, up to the constant 719468 -/
def yearStart (Y : Int) : Int := 365 * Y + Y / 4 - Y / 100 + Y / 400

/-- Hinnant's `era·146097 + doe` is `yearStart` of the full March-based year `Y = 400·era + yoe` plus the day `X` of that year -/
theorem era_sum (Y era yoe X : Int) (hera : Y / 400 = era) (hyoe : Y - era * 400 = yoe) :
    era * 146097 + (yoe * 365 + yoe / 4 - yoe / 100 + X) - 719468 = yearStart Y + X - 719468 := by
  unfold yearStart
  have h4 : Y / 4 = 100 * era + yoe / 4 := by omega
  have h100 : Y / 100 = 4 * era + yoe / 100 := by omega
  omega

theorem yearStart_mono (a b : Int) (h : a ≤ b) : yearStart a ≤ yearStart b := by
  unfold yearStart
  have h1 : a / 4 ≤ b / 4 := by omega
  have h2 : a / 400 ≤ b / 400 := by omega
  have h3 : b / 100 - a / 100 ≤ b - a := by omega
  omega

theorem yearStart_succ (Y : Int) :
    yearStart (Y + 1) = yearStart Y + 365 + (if isLeap (Y + 1) then 1 else 0) := by
  unfold yearStart
  by_cases h : isLeap (Y + 1) = true
  · rw [if_pos h]; rw [isLeap_iff] at h; omega
  · rw [if_neg h]; rw [isLeap_iff] at h; omega

/-- `civilFromDays` unfolded, its intermediate quantities named, so that what follows handles variables and not formulas -/
theorem civilFromDays_eq (z era doe Y u mp : Int) (hera : (z + 719468) / 146097 = era)
    (hdoe : z + 719468 - era * 146097 = doe)
    (hY : (doe - doe / 1460 + doe / 36524 - doe / 146096) / 365 = Y)
    (hu : doe - (365 * Y + Y / 4 - Y / 100) = u) (hmp : (5 * u + 2) / 153 = mp) :
    civilFromDays z = (if monthOf mp ≤ 2 then Y + era * 400 + 1 else Y + era * 400, monthOf mp, u - monthStart mp + 1) := by
  subst hera hdoe hY hu hmp; rfl

theorem daysFromCivil_eq (y m d era yoe : Int) (hera : marchYear y m / 400 = era)
    (hyoe : marchYear y m - era * 400 = yoe) :
    daysFromCivil y m d =
      era * 146097 + (yoe * 365 + yoe / 4 - yoe / 100 + (monthStart (marchMonth m) + d - 1)) - 719468 := by
  subst hera hyoe; rfl

theorem daysFromCivil_linear (y m d : Int) :
    daysFromCivil y m d = yearStart (marchYear y m) + (monthStart (marchMonth m) + d - 1) - 719468 := by
  rw [daysFromCivil_eq y m d _ _ rfl rfl]
  exact era_sum _ _ _ _ rfl rfl

/-- Everything one needs to know about `civilFromDays z`: the March-based year `Y`, the day `u` of that year, the
    March-based month `mp`. -/
structure Decomp (z : Int) where
  Y : Int
  u : Int
  mp : Int
  hz : z + 719468 = yearStart Y + u
  hu : u ≤ 364 ∨ (u = 365 ∧ isLeap (Y + 1) = true)
  hmp : 0 ≤ mp ∧ mp ≤ 11
  hms : monthStart mp ≤ u ∧ u < monthStart (mp + 1)
  hcfd : civilFromDays z = (if monthOf mp ≤ 2 then Y + 1 else Y, monthOf mp, u - monthStart mp + 1)

theorem isLeap_era (y era : Int) (h4 : (y + 1) % 4 = 0) (h : (y + 1) % 100 ≠ 0 ∨ y + 1 = 400) :
    isLeap (y + era * 400 + 1) = true := by
  rw [isLeap_iff]; omega

theorem decomp (z : Int) : Nonempty (Decomp z) := by
  obtain ⟨era, hera⟩ : ∃ e, (z + 719468) / 146097 = e := ⟨_, rfl⟩
  obtain ⟨doe, hdoe⟩ : ∃ e, z + 719468 - era * 146097 = e := ⟨_, rfl⟩
  have hb : 0 ≤ doe ∧ doe ≤ 146096 := by omega
  obtain ⟨y, u, hy, hy0, hy1, hdoe', hu0, hu⟩ := yoe_spec doe hb.1 hb.2
  have hcfd := civilFromDays_eq z era doe y u ((5 * u + 2) / 153) hera hdoe hy
    (by clear hy; omega) rfl
  clear hy
  have hys := era_sum (y + era * 400) era y 0 (by omega) (by omega)
  have hz : z + 719468 = yearStart (y + era * 400) + u := by omega
  exact ⟨⟨y + era * 400, u, (5 * u + 2) / 153, hz, hu.imp_right fun h => ⟨h.1, isLeap_era y era h.2.1 h.2.2⟩,
    month_range u hu0 (by omega), month_of_doy u, hcfd⟩⟩

theorem daysFromCivil_civilFromDays (z : Int) :
    daysFromCivil (civilFromDays z).1 (civilFromDays z).2.1 (civilFromDays z).2.2 = z := by
  obtain ⟨D⟩ := decomp z
  obtain ⟨hm1, _, _⟩ := monthOf_props D.mp D.hmp.1 D.hmp.2
  rw [D.hcfd]
  show daysFromCivil (if monthOf D.mp ≤ 2 then D.Y + 1 else D.Y) (monthOf D.mp) (D.u - monthStart D.mp + 1) = z
  rw [daysFromCivil_linear, marchYear_monthOf, hm1]
  have := D.hz
  omega

theorem civilFromDays_valid (z : Int) :
    ValidDate (civilFromDays z).1 (civilFromDays z).2.1 (civilFromDays z).2.2 := by
  obtain ⟨D⟩ := decomp z
  rw [D.hcfd]
  obtain ⟨hmm, hm1, hm12⟩ := monthOf_props D.mp D.hmp.1 D.hmp.2
  obtain ⟨hs1, hs2⟩ := D.hms
  refine (validDate_iff _ _ _ hm1 hm12).2 ?_
  dsimp only
  rw [hmm, marchYear_monthOf]
  rcases D.hu with hu | ⟨hu, hl⟩
  · split <;> omega
  · rw [hl, if_pos rfl]; omega

/-- `12·Y + mp` numbers the months in calendar order, in the March-based reckoning as in the civil one (shifted by 3): the
    lexicographic order on (year, month) becomes linear and `omega` can carry it across (`lex_transfer`) -/
theorem march_key (y m : Int) (h1 : 1 ≤ m) (h12 : m ≤ 12) :
    12 * marchYear y m + marchMonth m = 12 * y + m - 3 ∧ 0 ≤ marchMonth m ∧ marchMonth m ≤ 11 := by
  unfold marchYear marchMonth
  by_cases h : m ≤ 2
  · rw [if_pos h, if_neg (by omega)]; omega
  · rw [if_neg h, if_pos (by omega)]; omega

theorem valid_doy (y m d : Int) (hv : ValidDate y m d) :
    0 ≤ monthStart (marchMonth m) + d - 1 ∧
    yearStart (marchYear y m) + (monthStart (marchMonth m) + d - 1) < yearStart (marchYear y m + 1) := by
  obtain ⟨hd1, _, hB⟩ := (validDate_iff y m d hv.1 hv.2.1).1 hv
  have hs := yearStart_succ (marchYear y m)
  have h0 : 0 ≤ monthStart (marchMonth m) := monthStart_mono 0 _ (marchMonth_props m hv.1 hv.2.1).2.1
  exact ⟨by omega, by omega⟩

theorem doy_lt (y m1 d1 m2 d2 : Int) (hv : ValidDate y m1 d1) (hd2 : 1 ≤ d2)
    (hlt : marchMonth m1 < marchMonth m2) :
    monthStart (marchMonth m1) + d1 - 1 < monthStart (marchMonth m2) + d2 - 1 := by
  obtain ⟨_, hA, _⟩ := (validDate_iff y m1 d1 hv.1 hv.2.1).1 hv
  have := monthStart_mono (marchMonth m1 + 1) (marchMonth m2) (by omega)
  omega

theorem lex_transfer (y1 m1 y2 m2 : Int) {Y1 p1 Y2 p2 : Int}
    (k1 : 12 * Y1 + p1 = 12 * y1 + m1 - 3 ∧ 0 ≤ p1 ∧ p1 ≤ 11)
    (k2 : 12 * Y2 + p2 = 12 * y2 + m2 - 3 ∧ 0 ≤ p2 ∧ p2 ≤ 11)
    (hm1 : 1 ≤ m1 ∧ m1 ≤ 12) (hm2 : 1 ≤ m2 ∧ m2 ≤ 12) :
    (y1 < y2 ∨ (y1 = y2 ∧ m1 < m2) → Y1 < Y2 ∨ (Y1 = Y2 ∧ p1 < p2)) ∧
    (y1 = y2 ∧ m1 = m2 → Y1 = Y2 ∧ p1 = p2) := by omega

theorem add_sub_lt_of_lt_of_le {a b c x1 x2 k : Int} (h1 : a + x1 < b) (h2 : b ≤ c) (h3 : 0 ≤ x2) :
    a + x1 - k < c + x2 - k := by omega

theorem daysFromCivil_strictMono (y1 m1 d1 y2 m2 d2 : Int) (hv1 : ValidDate y1 m1 d1)
    (hv2 : ValidDate y2 m2 d2) (hlt : dateLt (y1, m1, d1) (y2, m2, d2)) :
    daysFromCivil y1 m1 d1 < daysFromCivil y2 m2 d2 := by
  unfold dateLt at hlt
  simp only at hlt
  have hlt : (y1 < y2 ∨ (y1 = y2 ∧ m1 < m2)) ∨ (y1 = y2 ∧ m1 = m2 ∧ d1 < d2) := by omega
  rw [daysFromCivil_linear, daysFromCivil_linear]
  have k1 := march_key y1 m1 hv1.1 hv1.2.1
  have k2 := march_key y2 m2 hv2.1 hv2.2.1
  obtain ⟨tr1, tr2⟩ := lex_transfer y1 m1 y2 m2 k1 k2 ⟨hv1.1, hv1.2.1⟩ ⟨hv2.1, hv2.2.1⟩
  rcases hlt with h | ⟨hy, hm, hd⟩
  · rcases tr1 h with hY | ⟨hY, hp⟩
    · -- an earlier March-based year: its last day is before the first day of any later year
      exact add_sub_lt_of_lt_of_le (valid_doy y1 m1 d1 hv1).2 (yearStart_mono _ _ (by omega)) (valid_doy y2 m2 d2 hv2).1
    · rw [hY]
      have := doy_lt y1 m1 d1 m2 d2 hv1 hv2.2.2.1 hp
      omega
  · obtain ⟨hY, hp⟩ := tr2 ⟨hy, hm⟩
    rw [hY, hp]; omega

theorem dateLe_iff (y1 m1 d1 y2 m2 d2 : Int) :
    dateLe (y1, m1, d1) (y2, m2, d2) ↔ y1 < y2 ∨ (y1 = y2 ∧ (m1 < m2 ∨ (m1 = m2 ∧ d1 ≤ d2))) := by
  unfold dateLe dateLt
  simp only [Prod.mk.injEq]
  omega

/-- `daysFromCivil_strictMono` for `≤`, with the calendar order spelled out (for `omega`; `dateLe_iff` converts) -/
theorem daysFromCivil_mono (y1 m1 d1 y2 m2 d2 : Int) (hv1 : ValidDate y1 m1 d1) (hv2 : ValidDate y2 m2 d2)
    (hle : y1 < y2 ∨ (y1 = y2 ∧ (m1 < m2 ∨ (m1 = m2 ∧ d1 ≤ d2)))) :
    daysFromCivil y1 m1 d1 ≤ daysFromCivil y2 m2 d2 := by
  by_cases e : y1 = y2 ∧ m1 = m2 ∧ d1 = d2
  · obtain ⟨rfl, rfl, rfl⟩ := e; exact Int.le_refl _
  · exact Int.le_of_lt (daysFromCivil_strictMono _ _ _ _ _ _ hv1 hv2 (by unfold dateLt; simp only; omega))

theorem daysFromCivil_inj (y1 m1 d1 y2 m2 d2 : Int) (hv1 : ValidDate y1 m1 d1) (hv2 : ValidDate y2 m2 d2)
    (h : daysFromCivil y1 m1 d1 = daysFromCivil y2 m2 d2) : y1 = y2 ∧ m1 = m2 ∧ d1 = d2 := by
  by_cases h1 : dateLt (y1, m1, d1) (y2, m2, d2)
  · have := daysFromCivil_strictMono _ _ _ _ _ _ hv1 hv2 h1; omega
  · by_cases h2 : dateLt (y2, m2, d2) (y1, m1, d1)
    · have := daysFromCivil_strictMono _ _ _ _ _ _ hv2 hv1 h2; omega
    · unfold dateLt at h1 h2
      simp only at h1 h2
      omega

theorem civilFromDays_daysFromCivil (y m d : Int) (hv : ValidDate y m d) :
    civilFromDays (daysFromCivil y m d) = (y, m, d) := by
  obtain ⟨a, b, c⟩ := daysFromCivil_inj _ _ _ y m d (civilFromDays_valid _) hv (daysFromCivil_civilFromDays _)
  exact Prod.ext a (Prod.ext b c)

end Umya.Lemmas.Calendar
