/-
  A call on path `h` does not change what is at another path `d`, in any intermediate state (`Stable`); each system call has
  one lemma saying that and what the call leaves at `h`, and the proofs about the protocols do not look into a state.
  `Wrote` says what writing through a handle has done; the save protocols are put together from it, and `finish_spec`
  turns it into `SaveSpec`: at the destination, the old node in every state, or the new file in the last one and the old
  node before.
-/
import Umya.Model.Fs
namespace Umya.Fs

theorem get_set_same (fs : Fs) (p : Path) (n : Node) : get (set fs p n) p = some n := by
  simp [set, get]

theorem get_set_ne {fs : Fs} {p q : Path} {n : Node} (h : p ≠ q) : get (set fs p n) q = get fs q := by
  simp [set, get, h]

theorem get_del_same (fs : Fs) (p : Path) : get (del fs p) p = none := by
  induction fs with
  | nil => rfl
  | cons x r ih =>
    obtain ⟨q, n⟩ := x
    by_cases hq : q = p
    · simp [del, hq, ih]
    · simp [del, hq, get, ih]

theorem get_del_ne {fs : Fs} {p q : Path} (h : p ≠ q) : get (del fs p) q = get fs q := by
  induction fs with
  | nil => rfl
  | cons x r ih =>
    obtain ⟨a, n⟩ := x
    by_cases ha : a = p
    · rw [del, if_pos ha, ih, get, if_neg (ha ▸ h)]
    · rw [del, if_neg ha, get, get, ih]

theorem tmpOf_ne (d : Path) : tmpOf d ≠ d := by
  intro h
  have := congrArg List.length h
  simp [tmpOf] at this

/-- the frame invariant of the step lemmas: path `d` holds `o` in EVERY state of the history, not only the last -/
def Stable (d : Path) (o : Option Node) (st : St) : Prop := ∀ s ∈ st.states, get s d = o

theorem Stable.tick {d o st} (h : Stable d o st) : Stable d o st.tick := h

theorem Stable.step {d o st} (h : Stable d o st) {fs' : Fs} (h' : get fs' d = o) :
    Stable d o (st.step fs') := by
  intro s hs
  rcases List.mem_cons.mp hs with rfl | hs
  · exact h'
  · exact h s hs

theorem Stable.cur {d o st} (h : Stable d o st) : get st.cur d = o := h _ (by simp [St.states])

theorem sysWrite_spec (φ : Fault) {h d : Path} {o : Option Node} (hd : h ≠ d) (bs : Bytes) {st : St} {c : Bytes}
    (hf : get st.cur h = some (.file c)) (hs : Stable d o st) :
    ∃ st' m, m ≤ bs.length ∧ Stable d o st' ∧ get st'.cur h = some (.file (c ++ bs.take m)) ∧
      (sysWrite φ h bs st = (st', .accept m) ∨ m = 0 ∧ sysWrite φ h bs st = (st', .err)) := by
  unfold sysWrite
  simp only [hf]
  cases φ.write st.calls c.length bs.length with
  | err => exact ⟨st.tick, 0, Nat.zero_le _, hs.tick, by simpa [St.tick] using hf, .inr ⟨rfl, rfl⟩⟩
  | accept n =>
    refine ⟨_, _, Nat.min_le_right n _, ?_, ?_, .inl rfl⟩
    · exact hs.tick.step (by rw [get_set_ne hd]; exact hs.cur)
    · exact get_set_same ..

theorem sysCreate_spec (φ : Fault) {p d : Path} {o : Option Node} (hpd : p ≠ d) {st : St}
    (hns : ∀ t, get st.cur p ≠ some (.symlink t)) (hs : Stable d o st) :
    sysCreate φ p st = (st, none) ∨
    ∃ st', sysCreate φ p st = (st', some p) ∧ Stable d o st' ∧ get st'.cur p = some (.file []) := by
  have hres : resolve st.cur 40 p = some p := by
    show resolve st.cur (39 + 1) p = some p
    unfold resolve
    split
    · rename_i t ht; exact absurd ht (hns t)
    · rfl
  unfold sysCreate
  simp only [hres]
  split
  · exact .inl rfl
  · split
    · exact .inl rfl
    · exact .inl rfl
    · exact .inr ⟨_, rfl, hs.step (by rw [get_set_ne hpd]; exact hs.cur), get_set_same ..⟩

theorem sysRemove_stable (φ : Fault) {p d : Path} (hpd : p ≠ d) {o st} (h : Stable d o st) :
    Stable d o (sysRemove φ p st).1 := by
  unfold sysRemove
  split
  · exact h
  · split
    · exact h
    · exact h
    · exact h.step (by rw [get_del_ne hpd]; exact h.cur)

theorem sysRename_spec (φ : Fault) {src dst : Path} {st : St} {n : Node} {o : Option Node}
    (hs : get st.cur src = some n) (hd : Stable dst o st) (hnd : o ≠ some .dir) :
    sysRename φ src dst st = (st, .err) ∨
    ∃ st', sysRename φ src dst st = (st', .ok) ∧ get st'.cur dst = some n ∧ ∀ s ∈ st'.hist, get s dst = o := by
  unfold sysRename
  simp only [hs]
  split
  · exact .inl rfl
  · split
    · next hdir => exact absurd (hd.cur.symm.trans hdir) hnd
    · exact .inr ⟨_, rfl, get_set_same .., hd⟩

theorem writeAll_spec (φ : Fault) {h d : Path} {o : Option Node} (hd : h ≠ d) :
    ∀ (fuel : Nat) (data : Bytes) (st : St) (c : Bytes),
      data.length ≤ fuel → get st.cur h = some (.file c) → Stable d o st →
      ∃ k, Stable d o (writeAll φ h fuel data st).1 ∧
        get (writeAll φ h fuel data st).1.cur h = some (.file (c ++ data.take k)) ∧
        ((writeAll φ h fuel data st).2 = .ok ∧ k = data.length ∨ (writeAll φ h fuel data st).2 = .err ∧ k < data.length) := by
  intro fuel
  induction fuel with
  | zero =>
    intro data st c hl hf hs
    cases data with
    | nil => rw [writeAll]; exact ⟨0, hs, by simpa using hf, .inl ⟨rfl, rfl⟩⟩
    | cons b bs => simp at hl
  | succ k ih =>
    intro data st c hl hf hs
    cases data with
    | nil => rw [writeAll]; exact ⟨0, hs, by simpa using hf, .inl ⟨rfl, rfl⟩⟩
    | cons b bs =>
      obtain ⟨st', m, hm, hs', hf', e | ⟨rfl, e⟩⟩ := sysWrite_spec φ hd (b :: bs) hf hs
      · cases m with
        | zero => rw [writeAll, e]; exact ⟨0, hs', hf', .inr ⟨rfl, Nat.succ_pos _⟩⟩
        | succ m =>
          rw [writeAll, e]
          have hl' : ((b :: bs).drop (m + 1)).length ≤ k := by rw [List.length_drop]; omega
          obtain ⟨k', hs'', hf'', hr⟩ := ih _ st' _ hl' hf' hs'
          refine ⟨m + 1 + k', hs'', hf''.trans (by rw [List.append_assoc, ← List.take_add]), ?_⟩
          rw [List.length_drop] at hr
          exact hr.imp (fun ⟨r, e⟩ => ⟨r, e ▸ Nat.add_sub_cancel' hm⟩) fun ⟨r, e⟩ => ⟨r, Nat.add_lt_of_lt_sub' e⟩
      · rw [writeAll, e]; exact ⟨0, hs', hf', .inr ⟨rfl, Nat.succ_pos _⟩⟩

/-- what writing `data` through the handle `h`, whose file held `c`, has done: all of it (ok), or an error with `h` still a regular
    file; meanwhile the other path `d` holds `o` in every state.  The unit in which the save protocols are put together. -/
def Wrote (h d : Path) (o : Option Node) (c data : Bytes) (out : St × R) : Prop :=
  Stable d o out.1 ∧
  ((out.2 = .ok ∧ get out.1.cur h = some (.file (c ++ data))) ∨ (out.2 = .err ∧ ∃ c', get out.1.cur h = some (.file c')))

theorem Wrote.file {h d o c data out} (w : Wrote h d o c data out) : ∃ c', get out.1.cur h = some (.file c') := by
  rcases w.2 with ⟨_, g⟩ | ⟨_, g⟩
  · exact ⟨_, g⟩
  · exact g

theorem Wrote.nil {h d o c st} (hf : get st.cur h = some (.file c)) (hs : Stable d o st) : Wrote h d o c [] (st, .ok) :=
  ⟨hs, .inl ⟨rfl, by simpa using hf⟩⟩

/-- one write after another, the second only if the first returned ok (`?`) -/
theorem Wrote.seq {h d o c a b} {x y : St × R} (w : Wrote h d o c a x)
    (hok : ∀ st, x = (st, .ok) → get st.cur h = some (.file (c ++ a)) → Stable d o st → Wrote h d o (c ++ a) b y)
    (herr : ∀ st, x = (st, .err) → y = x) : Wrote h d o c (a ++ b) y := by
  obtain ⟨st, r⟩ := x
  rcases w.2 with ⟨rfl, g⟩ | ⟨rfl, g⟩
  · have := hok st rfl g w.1
    unfold Wrote at this ⊢
    rwa [List.append_assoc] at this
  · rw [herr st rfl]
    exact ⟨w.1, .inr ⟨rfl, g⟩⟩

theorem writeAll_wrote (φ : Fault) {h d : Path} {o : Option Node} (hd : h ≠ d) (data : Bytes) (st : St) (c : Bytes)
    (hf : get st.cur h = some (.file c)) (hs : Stable d o st) : Wrote h d o c data (writeAll φ h data.length data st) := by
  obtain ⟨k, s, g, r⟩ := writeAll_spec φ hd data.length data st c (Nat.le_refl _) hf hs
  exact ⟨s, r.imp (fun ⟨r, e⟩ => ⟨r, by rw [g, e, List.take_length]⟩) fun ⟨r, _⟩ => ⟨r, _, g⟩⟩

theorem flushBuf_writeAll (φ : Fault) (h : Path) : ∀ (fuel : Nat) (buf : Bytes) (st : St),
    (flushBuf φ h fuel buf st).2 = writeAll φ h fuel buf st ∧
      ((flushBuf φ h fuel buf st).2.2 = .ok → (flushBuf φ h fuel buf st).1 = []) := by
  intro fuel
  induction fuel with
  | zero => intro buf st; cases buf <;> simp [flushBuf, writeAll]
  | succ k ih =>
    intro buf st
    cases buf with
    | nil => simp [flushBuf, writeAll]
    | cons b bs =>
      simp only [flushBuf, writeAll]
      split <;> first | exact ih _ _ | simp

theorem bufFlush_wrote (φ : Fault) (bw : BufW) {d : Path} {o : Option Node} (hd : bw.h ≠ d)
    (st : St) (c : Bytes) (hf : get st.cur bw.h = some (.file c)) (hs : Stable d o st) :
    Wrote bw.h d o c bw.buf (bufFlush φ bw st).2 ∧ (bufFlush φ bw st).1.h = bw.h ∧
      ((bufFlush φ bw st).2.2 = .ok → (bufFlush φ bw st).1.buf = []) := by
  obtain ⟨e, hnil⟩ := flushBuf_writeAll φ bw.h bw.buf.length bw.buf st
  exact ⟨e ▸ writeAll_wrote φ hd bw.buf st c hf hs, rfl, hnil⟩

theorem bufFlush_empty (φ : Fault) (h : Path) (st : St) :
    bufFlush φ ⟨h, []⟩ st = (⟨h, []⟩, st, .ok) := by
  simp [bufFlush, flushBuf]

theorem bufDrop_empty (φ : Fault) (h : Path) (st : St) : bufDrop φ ⟨h, []⟩ st = st := by
  simp [bufDrop, bufFlush_empty]

/-- `drop(writer)` after a flush: nothing is left to write if the flush returned ok; after an error whatever the drop still writes
    goes to the handle's file -/
theorem Wrote.drop {φ : Fault} {h d o c data} {x : BufW × St × R} (hd : h ≠ d) (w : Wrote h d o c data x.2) (hh : x.1.h = h)
    (hnil : x.2.2 = .ok → x.1.buf = []) : Wrote h d o c data (bufDrop φ x.1 x.2.1, x.2.2) := by
  obtain ⟨⟨h', b⟩, st, r⟩ := x
  subst hh
  rcases w.2 with ⟨rfl, g⟩ | ⟨rfl, c', g⟩
  · rw [show b = [] from hnil rfl, bufDrop_empty]; exact w
  · have f := (bufFlush_wrote φ ⟨h', b⟩ hd st c' g w.1).1
    exact ⟨f.1, .inr ⟨rfl, f.file⟩⟩

theorem bufWriteAll_empty (φ : Fault) (h : Path) (data : Bytes) (st : St) :
    bufWriteAll φ ⟨h, []⟩ data st =
      if data.length < cap then (⟨h, data⟩, st, .ok)
      else (⟨h, []⟩, (writeAll φ h data.length data st).1, (writeAll φ h data.length data st).2) := by
  unfold bufWriteAll
  by_cases hlt : data.length < cap
  · simp [hlt]
  · -- flushing the empty buffer does nothing, whether or not the data exceeds the capacity
    simp only [List.length_nil, Nat.sub_zero, hlt, if_false, bufFlush_empty, ite_self, Nat.le_of_not_lt hlt, if_true]

theorem writeTmp_wrote (φ : Fault) {h d : Path} {o : Option Node} (hd : h ≠ d) (data : Bytes)
    {st : St} {c : Bytes} (hf : get st.cur h = some (.file c)) (hs : Stable d o st) :
    Wrote h d o c data (writeTmp φ h data st) := by
  unfold writeTmp
  rw [bufWriteAll_empty]
  by_cases hlt : data.length < cap
  · simp only [hlt, if_true]
    obtain ⟨w, hh, hnil⟩ := bufFlush_wrote φ ⟨h, data⟩ hd st c hf hs
    exact w.drop hd hh hnil
  · -- handed to the file directly; the buffer stays empty, so flush and drop do nothing
    simp only [hlt, if_false]
    have w := writeAll_wrote φ hd data st c hf hs
    generalize writeAll φ h data.length data st = x at w ⊢
    obtain ⟨st', r⟩ := x
    rcases w.2 with ⟨rfl, _⟩ | ⟨rfl, _⟩ <;> simpa only [bufFlush_empty, bufDrop_empty] using w

theorem writeChunks_wrote (φ : Fault) {h d : Path} {o : Option Node} (hd : h ≠ d) :
    ∀ (chunks : List Bytes) {st : St} {c : Bytes}, get st.cur h = some (.file c) → Stable d o st →
      Wrote h d o c chunks.flatten (writeChunks φ h chunks st)
  | [], _, _, hf, hs => Wrote.nil hf hs
  | x :: xs, st, c, hf, hs => by
    refine (writeAll_wrote φ hd x st c hf hs).seq (fun st' e hf' hs' => ?_) fun st' e => ?_
    · rw [writeChunks, e]; exact writeChunks_wrote φ hd xs hf' hs'
    · rw [writeChunks, e]

/-- outcome of a path save with respect to a destination that was in state `o` before (`none` =
    the destination did not exist): an error with `o` in every state, or success where the last
    state holds the new file and all earlier states `o` -/
def SaveSpec (dest : Path) (o : Option Node) (new : Bytes) (out : St × R) : Prop :=
  (out.2 = .err ∧ Stable dest o out.1) ∨
  (out.2 = .ok ∧ get out.1.cur dest = some (.file new) ∧ ∀ s ∈ out.1.hist, get s dest = o)

theorem finish_spec (φ : Fault) (dest : Path) (o : Option Node) (hnd : o ≠ some .dir) {new : Bytes}
    {x : St × R} (w : Wrote (tmpOf dest) dest o [] new x) : SaveSpec dest o new (finish φ dest x.1 x.2) := by
  obtain ⟨st, r⟩ := x
  have hs : Stable dest o st := w.1
  unfold finish
  rcases w.2 with ⟨rfl, ht⟩ | ⟨rfl, _⟩
  · rcases sysRename_spec φ ht hs hnd with e | ⟨st', e, hg, hh⟩
    · simp only [e]
      exact Or.inl ⟨rfl, sysRemove_stable φ (tmpOf_ne dest) hs⟩
    · simp only [e]
      exact Or.inr ⟨rfl, hg, hh⟩
  · exact Or.inl ⟨rfl, sysRemove_stable φ (tmpOf_ne dest) hs⟩

theorem SaveSpec.all_or_nothing {dest : Path} {o : Option Node} {new : Bytes} {out : St × R} (h : SaveSpec dest o new out) :
    (out.2 = .err ∧ get out.1.cur dest = o) ∨ (out.2 = .ok ∧ get out.1.cur dest = some (.file new)) := by
  rcases h with ⟨r, s⟩ | ⟨r, c, _⟩
  · exact Or.inl ⟨r, s.cur⟩
  · exact Or.inr ⟨r, c⟩

theorem SaveSpec.observer {dest : Path} {o : Option Node} {new : Bytes} {out : St × R} (h : SaveSpec dest o new out) :
    ∀ s ∈ out.1.states, get s dest = o ∨ get s dest = some (.file new) := by
  intro s hs
  rcases h with ⟨_, st⟩ | ⟨_, c, hh⟩
  · exact Or.inl (st s hs)
  · simp only [St.states, List.mem_cons] at hs
    rcases hs with rfl | hs
    · exact Or.inr c
    · exact Or.inl (hh s hs)

end Umya.Fs
