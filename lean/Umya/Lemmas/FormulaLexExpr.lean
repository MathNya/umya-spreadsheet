/-
  Pass 1 on printed expressions: the fragment `LexOk` of expressions whose text the tokenizer reads back, and the
  induction on the expression (`lex_expr`, `lex_args`) that says in which state the text leaves the machine.
-/
import Umya.Lemmas.FormulaLex
namespace Umya.Formula
open Umya.Coord Umya.Dec Umya.Spec

/-- an operand text that pass 3 classifies as Range: not a number for `str::parse::<f64>`, not a
    boolean -/
def isRangeText (t : List Char) : Bool := !parseF64Ok t && !eqUpper t "TRUE" && !eqUpper t "FALSE"

mutual
  /-- the printed text of `e` is inside the fragment for which lexer correctness is proved:
      numbers are non-empty texts of ordinary characters that `parse::<f64>` accepts (so no sign
      inside: `1E+5` is excluded, the tokenizer cuts it in three), names and function names are
      non-empty texts of ordinary characters (no operator, quote, bracket, blank, comma), names and
      reference texts are not numbers / booleans (`isRangeText`), function names do not start with `@`, unquoted sheet qualifiers
      consist of ordinary characters; no intersections, array constants, structured references -/
  def LexOk : Expr → Prop
    | .num t => t ≠ [] ∧ ordText t = true ∧ parseF64Ok t = true
    | .str _ => True
    | .bool _ => True
    | .err _ => True
    | .name n => n ≠ [] ∧ ordText n = true ∧ isRangeText n = true
    | .ref r => RefLexOk r ∧ isRangeText r.text = true
    | .opaque _ => False
    | .array _ => False
    | .neg e => LexOk e
    | .pos e => LexOk e
    | .pct e => LexOk e
    | .bin _ a b => LexOk a ∧ LexOk b
    | .isect _ _ => False
    | .union es => LexOkA es
    | .paren e => LexOk e
    | .call f as => (f ≠ [] ∧ ordText f = true ∧ f.head? ≠ some '@') ∧ LexOkA as
  def LexOkA : Args → Prop
    | .nil => True
    | .cons e rest => LexOk e ∧ LexOkA rest
    | .skip rest => LexOkA rest
end

theorem step_infix (T S : List Tok) (c : Char) (hc : isPlainInfix c = true) :
    stepNormal ⟨T, S, [], .normal⟩ c = ⟨T ++ [⟨[c], .opInfix, .nothing, .none⟩], S, [], .normal⟩ := by
  simp [sn_infix _ c hc, LexSt.flush, LexSt.push]

theorem lex_op (op : BinOp) (p : Pend) (T S : List Tok) :
    Startable (op.text.foldl step (p.st T S)) (T ++ p.toks ++ [op1 op]) S := by
  have one : ∀ c, isPlainInfix c = true →
      Startable ([c].foldl step (p.st T S)) (T ++ p.toks ++ [⟨[c], .opInfix, .nothing, .none⟩]) S := fun c h => by
    rw [List.foldl_cons, step_delim p T S c (by simp [isDelim, h]), step_infix _ _ c h]
    exact Or.inl rfl
  have cmp : ∀ a, a = '<' ∨ a = '>' →
      step (p.st T S) a = ⟨T ++ p.toks, S, [], .cmp a⟩ := fun a h => by
    rcases h with rfl | rfl
    · rw [step_delim p T S _ (by decide), sn_lt]; simp [LexSt.flush]
    · rw [step_delim p T S _ (by decide), sn_gt]; simp [LexSt.flush]
  have two : ∀ a c, a = '<' ∨ a = '>' → isMultiCmp a c = true →
      Startable ([a, c].foldl step (p.st T S)) (T ++ p.toks ++ [⟨[a, c], .opInfix, .logical, .none⟩]) S :=
    fun a c h hmc => by
      rw [List.foldl_cons, cmp a h]
      exact Or.inl (by simp [step, hmc, LexSt.push])
  cases op
  case lt => exact Or.inr ⟨'<', T ++ p.toks, cmp _ (Or.inl rfl), rfl⟩
  case gt => exact Or.inr ⟨'>', T ++ p.toks, cmp _ (Or.inr rfl), rfl⟩
  case le => exact two _ _ (Or.inl rfl) (by decide)
  case ge => exact two _ _ (Or.inr rfl) (by decide)
  case ne => exact two _ _ (Or.inl rfl) (by decide)
  all_goals exact one _ (by decide)

theorem step_comma (p : Pend) (T S : List Tok) (t : Tok) :
    step (p.st T (t :: S)) ',' =
      ⟨T ++ p.toks ++ [sepTok t.ty], ⟨[], t.ty, .stop, t.arr⟩ :: S, [], .normal⟩ := by
  rw [step_delim p T _ ',' (by decide)]
  simp [sn_comma, LexSt.flush, LexSt.push]

theorem step_close (p : Pend) (T S : List Tok) (t : Tok) :
    step (p.st T (t :: S)) ')' = ⟨T ++ p.toks ++ [⟨[], t.ty, .stop, t.arr⟩], S, [], .normal⟩ := by
  rw [step_delim p T _ ')' (by decide)]
  simp [sn_rp, LexSt.flush, LexSt.close]

theorem step_open_sub (T S : List Tok) :
    stepNormal ⟨T, S, [], .normal⟩ '(' =
      ⟨T ++ [⟨[], .subexpression, .start, .none⟩], ⟨[], .subexpression, .start, .none⟩ :: S, [], .normal⟩ := by
  simp [sn_lp, LexSt.open_]

theorem step_open_fn (T S : List Tok) (f : List Char) (hf : f ≠ []) :
    step ⟨T, S, f, .normal⟩ '(' =
      ⟨T ++ [⟨f, .function, .start, .none⟩], ⟨f, .function, .start, .none⟩ :: S, [], .normal⟩ := by
  simp [step, sn_lp, LexSt.open_, hf]

theorem step_pct (p : Pend) (T S : List Tok) :
    step (p.st T S) '%' = ⟨T ++ p.toks ++ [⟨['%'], .opPostfix, .nothing, .none⟩], S, [], .normal⟩ := by
  rw [step_delim p T S '%' (by decide)]
  simp [sn_pct, LexSt.flush, LexSt.push]

mutual
  theorem lex_expr (e : Expr) (h : LexOk e) (st : LexSt) (T S : List Tok) (hs : Startable st T S) :
      e.print.foldl step st = (pendE e).st (T ++ preE e) S := by
    match e, h with
    | .num t, h | .name t, h =>
      simp only [Expr.print, pendE, preE, Pend.st, List.append_nil]; exact lex_ord t h.1 h.2.1 st T S hs
    | .str s, _ =>
      simp only [Expr.print, pendE, preE, Pend.st, List.append_nil]; exact lex_str s st T S hs
    | .bool b, _ =>
      cases b <;>
        (simp only [Expr.print, pendE, preE, Pend.st, List.append_nil, boolText]
         exact lex_ord _ (by simp) (by decide) st T S hs)
    | .err e, _ => simp only [Expr.print, pendE, preE, Pend.st]; exact lex_err e st T S hs
    | .ref r, h =>
      simp only [Expr.print, pendE, preE, Pend.st, List.append_nil]; exact lex_ref r h.1 st T S hs
    | .opaque _, h | .array _, h | .isect _ _, h => exact absurd h (by simp [LexOk])
    | .neg e, h =>
      simp only [Expr.print, List.foldl_cons, pendE, preE]
      rw [step_start st T S hs '-' (by decide) (by decide), step_infix T S '-' (by decide),
        lex_expr e h _ _ S (startable_fresh _ _)]
      simp
    | .pos e, h =>
      simp only [Expr.print, List.foldl_cons, pendE, preE]
      rw [step_start st T S hs '+' (by decide) (by decide), step_infix T S '+' (by decide),
        lex_expr e h _ _ S (startable_fresh _ _)]
      simp
    | .pct e, h =>
      simp only [Expr.print, List.foldl_append, List.foldl_cons, List.foldl_nil, pendE, preE, Pend.st]
      rw [lex_expr e h st T S hs, step_pct]
      simp
    | .bin op a b, h =>
      simp only [Expr.print, List.foldl_append, pendE, preE]
      rw [lex_expr a h.1 st T S hs, lex_expr b h.2 _ _ S (lex_op op (pendE a) (T ++ preE a) S)]
      simp
    | .paren e, h =>
      simp only [Expr.print, List.foldl_cons, List.foldl_append, List.foldl_nil, pendE, preE, Pend.st]
      rw [step_start st T S hs '(' (by decide) (by decide), step_open_sub,
        lex_expr e h _ _ _ (startable_fresh _ _), step_close]
      simp
    | .union es, h =>
      simp only [Expr.print, List.foldl_cons, List.foldl_append, List.foldl_nil, pendE, preE, Pend.st]
      rw [step_start st T S hs '(' (by decide) (by decide), step_open_sub]
      obtain ⟨t', ht', hr⟩ := lex_args es h .subexpression ⟨[], .subexpression, .start, .none⟩ ⟨rfl, rfl⟩
        (T ++ [⟨[], .subexpression, .start, .none⟩]) S
      rw [hr, step_close, ht'.1, ht'.2]
      simp
    | .call f as, h =>
      simp only [Expr.print, List.foldl_cons, List.foldl_append, List.foldl_nil, pendE, preE, Pend.st]
      rw [lex_ord f h.1.1 h.1.2.1 st T S hs, step_open_fn T S f h.1.1]
      obtain ⟨t', ht', hr⟩ := lex_args as h.2 .function ⟨f, .function, .start, .none⟩ ⟨rfl, rfl⟩
        (T ++ [⟨f, .function, .start, .none⟩]) S
      rw [hr, step_close, ht'.1, ht'.2]
      simp
  /-- `t` is the token that opened the bracket, `t'` what the commas leave of it on the stack (its Stop form, once there is one) -/
  theorem lex_args (as : Args) (h : LexOkA as) (k : TT) (t : Tok) (ht : t.ty = k ∧ t.arr = .none)
      (T S : List Tok) :
      ∃ t', (t'.ty = k ∧ t'.arr = .none) ∧
        as.print.foldl step ⟨T, t :: S, [], .normal⟩ = (pendA as).st (T ++ preA k as) (t' :: S) := by
    match as, h with
    | .nil, _ => exact ⟨t, ht, by simp [Args.print, pendA, preA, Pend.st]⟩
    | .cons e rest, h =>
      by_cases hr : rest = .nil
      · subst hr
        refine ⟨t, ht, ?_⟩
        simp only [Args.print, pendA, preA]
        exact lex_expr e h.1 _ T _ (startable_fresh _ _)
      · obtain ⟨t', ht', hrest⟩ := lex_args rest h.2 k ⟨[], t.ty, .stop, t.arr⟩ ⟨ht.1, ht.2⟩
          (T ++ preE e ++ (pendE e).toks ++ [sepTok t.ty]) S
        refine ⟨t', ht', ?_⟩
        simp only [Args.print, List.foldl_append, List.foldl_cons, pendA, preA]
        rw [lex_expr e h.1 _ T _ (startable_fresh _ _), step_comma, hrest, ht.1]
        simp
    | .skip rest, h =>
      by_cases hr : rest = .nil
      · subst hr; exact ⟨t, ht, by simp [Args.print, pendA, preA, Pend.st]⟩
      · obtain ⟨t', ht', hrest⟩ := lex_args rest h k ⟨[], t.ty, .stop, t.arr⟩ ⟨ht.1, ht.2⟩
          (T ++ [sepTok t.ty]) S
        refine ⟨t', ht', ?_⟩
        simp only [Args.print, List.foldl_cons, pendA, preA]
        have := step_comma .none T S t
        simp only [Pend.st, Pend.toks, List.append_nil] at this
        rw [this, hrest, ht.1]
        simp
end

end Umya.Formula
