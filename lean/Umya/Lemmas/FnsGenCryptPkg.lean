/-
  Tie to the source (T) — `src/helper/crypt.rs`: `convert_password_to_key`, `create_iv`, `crypt_package` (encrypt direction) and
  `encrypt_parts` as compiled from the source on this run are the hand model's (`Umya/Model/Crypt.lean`), for all arguments.

  The compiled `hash` = `sha512Of P` (`gen_hash`); `crypt(..)` = the extern `cryptOf P` (the model's `crypt`: the size
  checks of the Rust function + AES-CBC; its three leading arguments are ignored by the Rust function as well); `hmac` = the extern
  `hmacOf P`; the compiled `build_encryption_info(..)` = `infoOf P` (the model's descriptor record filled from the twenty arguments +
  `buildEncryptionInfo`: `gen_build_encryption_info`; the quick-xml writer is the text written so far); the k-th call of a
  `gen_random_N()` is a field of the model's `Randoms`.  The `while` loop of `crypt_package` runs on fuel `input.len() + 1`; the loop lemma shows it suffices.
-/
import Umya.Lemmas.FnsGenCryptBuf
import Umya.Lemmas.Crypt
import Umya.Lemmas.ListFacts
namespace Umya.Gen
open Umya.Crypto Umya.Crypt Umya.Agile
set_option linter.unusedSimpArgs false

/-- every comparison a program may make between two numbers, in each case of the trichotomy: given to `simp` as ONE fact, whatever way the
    source tells the cases apart (`match a.cmp(b)` in any arm order, an `if` chain on `<` / `>` / `==`).  `cmp_eq` gives the equation as
    `b = a` only: `simp` rewrites with it, so that the size asked for becomes the length at hand (`fit x.length x`) -/
theorem cmp_lt {a b : Nat} (h : a < b) : compare a b = .lt ∧ (a < b) ∧ ¬ b < a ∧ a ≤ b ∧ ¬ b ≤ a ∧ ¬ a = b ∧ ¬ b = a :=
  ⟨Nat.compare_eq_lt.2 h, h, by omega, by omega, by omega, by omega, by omega⟩
theorem cmp_eq {a b : Nat} (h : a = b) : compare a b = .eq ∧ ¬ a < b ∧ ¬ b < a ∧ a ≤ b ∧ b ≤ a ∧ b = a :=
  ⟨Nat.compare_eq_eq.2 h, by omega, by omega, by omega, by omega, h.symm⟩
theorem cmp_gt {a b : Nat} (h : b < a) : compare a b = .gt ∧ ¬ a < b ∧ (b < a) ∧ ¬ a ≤ b ∧ b ≤ a ∧ ¬ a = b ∧ ¬ b = a :=
  ⟨Nat.compare_eq_gt.2 h, by omega, h, by omega, by omega, by omega, by omega⟩

theorem fit_cases (n : Nat) (x : Bytes) :
    (x.length < n → fit n x = x ++ List.replicate (n - x.length) 0x36) ∧ fit x.length x = x ∧ (n < x.length → fit n x = x.take n) := by
  refine ⟨fun h => by simp [fit, h], by simp [fit], fun h => ?_⟩
  have : ¬ x.length < n := by omega
  simp [fit, this]

theorem gen_convert_password_to_key (P : Prims) (pw alg : List Char) (salt : Bytes) (spin keyBits : Nat) (blockKey : Bytes) :
    crypt_convert_password_to_key P.sha512 [] shaUpd pw alg salt spin keyBits blockKey =
      if algOk alg then some (convertPasswordToKey P pw salt spin keyBits blockKey) else none := by
  gen_unfold_crypt_convert_password_to_key
  simp only [gen_hash]
  by_cases h : algOk alg
  · simp only [sha512Of_ok P alg h, if_pos h]
    simp only [gen_nf]
    simp only [convertPasswordToKey, spinLoop_eq_foldl, List.length_replicate]
    generalize P.sha512 (List.foldl _ _ _ ++ blockKey) = x
    obtain ⟨f1, f2, f3⟩ := fit_cases (keyBits / 8) x
    rcases Nat.lt_trichotomy x.length (keyBits / 8) with hc | hc | hc
    · simp [cmp_lt hc, f1 hc, List.drop_replicate, rt_bslice]
    · simp [cmp_eq hc, f2, rt_bslice, List.drop_replicate]
    · simp [cmp_gt hc, f3 hc, rt_bslice]
  · simp only [sha512Of_bad P alg h, if_neg h]
    simp only [gen_nf]

theorem gen_create_iv (P : Prims) (alg : List Char) (salt : Bytes) (blockSize : Nat) (blockKey : Bytes) :
    crypt_create_iv P.sha512 [] shaUpd alg salt blockSize blockKey =
      if algOk alg then some (createIv P salt blockSize blockKey) else none := by
  gen_unfold_crypt_create_iv
  simp only [gen_hash]
  by_cases h : algOk alg
  · simp only [sha512Of_ok P alg h, if_pos h]
    simp only [gen_nf]
    simp only [createIv, List.length_replicate]
    generalize P.sha512 (salt ++ blockKey) = x
    obtain ⟨f1, f2, f3⟩ := fit_cases blockSize x
    rcases Nat.lt_trichotomy x.length blockSize with hc | hc | hc
    · simp [cmp_lt hc, f1 hc, List.drop_replicate, rt_bslice]
    · simp [cmp_eq hc, f2, rt_bslice, List.drop_replicate]
    · simp [cmp_gt hc, f3 hc, rt_bslice]
  · simp only [sha512Of_bad P alg h, if_neg h]
    simp only [gen_nf]

/-- `crypt(encrypt, cipher_algorithm, cipher_chaining, key, iv, input)`: the Rust function ignores its first three arguments -/
def cryptOf (P : Prims) (_enc : Bool) (_alg _chain : List Char) (key iv input : Bytes) : Option Bytes := Crypt.crypt P key iv input

theorem drop_min_length {α} (l : List α) (a : Nat) : l.drop (min a l.length) = l.drop a := by
  by_cases h : a ≤ l.length
  · rw [Nat.min_eq_left h]
  · rw [Nat.min_eq_right (by omega), List.drop_length, List.drop_of_length_le (by omega)]

/-- the `while` loop of `crypt_package` over any condition / body that meet the two step specifications: the chunks from offset `e` on,
    encrypted with their running number.  Fuel `> input.length - e` suffices. -/
theorem whileM_chunks (P : Prims) (salt key input : Bytes)
    (cond : List Bytes × Nat × Nat → Bool) (body : List Bytes × Nat × Nat → Option (List Bytes × Nat × Nat))
    (hc : ∀ oc i e, cond (oc, i, e) = decide (e < input.length))
    (hb : ∀ oc i e, e < input.length → body (oc, i, e) =
      (Crypt.crypt P key (createIv P salt 16 (le32 i)) (padChunk ((input.drop e).take chunkSize))).map
        (fun o => (oc ++ [o], i + 1, min (e + chunkSize) input.length))) :
    ∀ (fuel : Nat) (oc : List Bytes) (i e : Nat), e ≤ input.length → input.length - e < fuel →
      rt_whileM cond body fuel (oc, i, e) =
        (cryptChunks P salt key i (chunks (input.drop e))).map (fun os => (oc ++ os, i + os.length, input.length)) := by
  intro fuel
  induction fuel with
  | zero => intro oc i e _ h; omega
  | succ fuel ih =>
    intro oc i e he hf
    rw [rt_whileM, hc]
    by_cases hlt : e < input.length
    · have hne : (input.drop e).length ≠ 0 := by simp; omega
      rw [chunks_cons _ hne, cryptChunks, hb oc i e hlt]
      simp only [hlt, decide_true, if_true]
      cases hcr : Crypt.crypt P key (createIv P salt 16 (le32 i)) (padChunk ((input.drop e).take chunkSize)) with
      | none => simp
      | some o =>
        simp only [Option.map_some, Option.bind_some]
        rw [ih (oc ++ [o]) (i + 1) (min (e + chunkSize) input.length) (Nat.min_le_right _ _) (by simp [chunkSize]; omega)]
        rw [drop_min_length, List.drop_drop]
        cases cryptChunks P salt key (i + 1) (chunks (List.drop (e + chunkSize) input)) with
        | none => simp
        | some os => simp [Nat.add_assoc, Nat.add_comm 1]
    · have he' : e = input.length := by omega
      subst he'
      simp [chunks_nil, cryptChunks]

theorem ite_gt_min (a b : Nat) : (if a > b then b else a) = min a b := by
  split <;> omega
theorem nat_min_eq (a b : Nat) : Nat.min a b = min a b := rfl

theorem bslice_chunk (input : Bytes) (e : Nat) (he : e < input.length) :
    rt_bslice input e (min (e + chunkSize) input.length) = some ((input.drop e).take chunkSize) := by
  have h1 : e ≤ min (e + chunkSize) input.length ∧ min (e + chunkSize) input.length ≤ input.length := by omega
  simp only [rt_bslice, h1, and_self, if_true]
  congr 1
  by_cases h : e + chunkSize ≤ input.length
  · rw [Nat.min_eq_left h]; congr 1; omega
  · rw [Nat.min_eq_right (by omega), List.take_of_length_le (by simp), List.take_of_length_le (by simp; omega)]

theorem usub_mod16 (n : Nat) : usub 16 (n % 16) = some (16 - n % 16) := by
  have : n % 16 ≤ 16 := by omega
  simp [usub, this]

theorem gen_crypt_package (P : Prims) (cipher chain alg : List Char) (salt key input : Bytes) (h : algOk alg) :
    crypt_crypt_package (cryptOf P) P.sha512 [] shaUpd true cipher chain alg 16 salt key input = cryptPackage P salt key input := by
  gen_unfold_crypt_crypt_package
  rw [whileM_chunks P salt key input]
  case hc => intro oc i e; rfl
  case hb =>
    intro oc i e he
    simp only [beq_self_eq_true, if_true, Nat.add_zero, decide_eq_true_eq, ite_gt_min, nat_min_eq, show (4096 : Nat) = chunkSize from rfl,
      gen_buffer_slice, bslice_chunk input e he, Option.bind_eq_bind, Option.bind_some, rt_umod_pos 16 (by decide), usub_mod16]
    simp only [gen_buffer_concat, gen_buffer_alloc, List.flatten_cons, List.flatten_nil, List.append_nil, gen_le32_none, le32_mod,
      gen_create_iv, if_pos h, Option.bind_some, cryptOf]
    generalize List.take chunkSize (List.drop e input) = c
    -- whatever way the program asks whether the chunk needs padding (`> 0`, `!= 0`, ..): decide it here, give `simp` both spellings
    by_cases hr : c.length % 16 = 0
    · have h0 : ¬ (c.length % 16 > 0) := by omega
      have hp : padChunk c = c := by simp [padChunk, hr]
      simp only [hp, hr, h0, gt_iff_lt, Nat.lt_irrefl, ne_eq, not_true_eq_false, decide_false, decide_true, if_false, if_true,
        Bool.false_eq_true, not_false_eq_true, Option.bind_some]
      cases Crypt.crypt P key (createIv P salt 16 (le32 i)) c <;> rfl
    · have h0 : c.length % 16 > 0 := by omega
      have hp : padChunk c = c ++ List.replicate (16 - c.length % 16) 0 := by simp [padChunk, h0]
      simp only [hr, h0, hp, ne_eq, not_true_eq_false, not_false_eq_true, decide_false, decide_true, if_false, if_true,
        Bool.false_eq_true, Option.bind_some]
      cases Crypt.crypt P key (createIv P salt 16 (le32 i)) (c ++ List.replicate (16 - c.length % 16) 0) <;> rfl
  case a => exact Nat.zero_le _  -- the offset 0 is within the input
  case a => omega  -- the fuel
  simp only [List.drop_zero, if_true, gen_le32_some8, le32_mod, Option.bind_some, gen_buffer_concat, List.flatten_cons,
    List.flatten_nil, List.append_nil, List.nil_append, cryptPackage]
  cases cryptChunks P salt key 0 (chunks input) <;> simp

/-- `hmac(algorithm, key, buffers)`: HMAC-SHA-512 of the concatenation for `"SHA512"`, `Err` otherwise (one spelling only, where `hash`
    accepts two: so in crypt.rs) -/
def hmacOf (P : Prims) (alg : List Char) (key : Bytes) (bufs : List Bytes) : Option Bytes :=
  if alg = ['S', 'H', 'A', '5', '1', '2'] then some (P.hmac key bufs.flatten) else none

/-- the descriptor `build_encryption_info(..)` writes: the model's record filled from the twenty arguments in the order of the Rust
    signature (sizes as numbers, buffers in base64), rendered by the model's `buildEncryptionInfo` (`gen_build_encryption_info` below
    shows the compiled function produces exactly this) -/
def infoOf (P : Prims) (packageSalt : Bytes) (packageBlockSize packageKeyBits packageHashSize : Nat)
    (packageCipher packageChaining packageHash : List Char) (encHmacKey encHmacValue : Bytes) (spin : Nat) (keySalt : Bytes)
    (keyBlockSize keyKeyBits keyHashSize : Nat) (keyCipher keyChaining keyHash : List Char)
    (encVerifierInput encVerifierValue encKeyValue : Bytes) : Bytes :=
  buildEncryptionInfo
    { keyData := { saltSize := packageSalt.length, blockSize := packageBlockSize, keyBits := packageKeyBits, hashSize := packageHashSize,
                   cipherAlgorithm := packageCipher, cipherChaining := packageChaining, hashAlgorithm := packageHash,
                   saltValue := P.b64 packageSalt }
      encryptedHmacKey := P.b64 encHmacKey
      encryptedHmacValue := P.b64 encHmacValue
      spinCount := spin
      key := { saltSize := keySalt.length, blockSize := keyBlockSize, keyBits := keyKeyBits, hashSize := keyHashSize,
               cipherAlgorithm := keyCipher, cipherChaining := keyChaining, hashAlgorithm := keyHash, saltValue := P.b64 keySalt }
      encryptedVerifierHashInput := P.b64 encVerifierInput
      encryptedVerifierHashValue := P.b64 encVerifierValue
      encryptedKeyValue := P.b64 encKeyValue }

/-! the externs of `build_encryption_info`: the quick-xml writer as the text written so far, the helpers of `writer/driver.rs` as the
  model's `startTag` / `endTag` (attribute values as they are: on the plain values of a descriptor the writer's escape is the identity, `renderDoc_infoW`) -/

/-- `Event::Decl(BytesDecl::new(version, encoding, standalone))` -/
def xmlDecl (w v : List Char) (enc sa : Option (List Char)) : List Char :=
  w ++ "<?xml version=\"".toList ++ v ++ ['"'] ++
    (match enc with | some e => " encoding=\"".toList ++ e ++ ['"'] | none => []) ++
    (match sa with | some x => " standalone=\"".toList ++ x ++ ['"'] | none => []) ++ "?>".toList
def xmlNewLine (w : List Char) : List Char := w ++ ['\r', '\n']
def xmlStartTag (w name : List Char) (attrs : List (List Char × List Char)) (empty : Bool) : List Char := w ++ startTag name attrs empty
def xmlEndTag (w name : List Char) : List Char := w ++ endTag name
def xmlBytes (w : List Char) : Bytes := w.map fun c => UInt8.ofNat c.toNat

/-- `build_encryption_info(..)` as compiled from the source — the XML declaration, the five start tags with their attribute ↔ value
    tables (which argument goes to which attribute: `len().to_string()`, `to_string()`, base64, or the text itself), the end tags, the
    8-byte prefix — is the model's `buildEncryptionInfo` of the descriptor `infoOf` builds, for ALL twenty arguments -/
theorem gen_build_encryption_info (P : Prims) (packageSalt : Bytes) (packageBlockSize packageKeyBits packageHashSize : Nat)
    (packageCipher packageChaining packageHash : List Char) (encHmacKey encHmacValue : Bytes) (spin : Nat) (keySalt : Bytes)
    (keyBlockSize keyKeyBits keyHashSize : Nat) (keyCipher keyChaining keyHash : List Char)
    (encVerifierInput encVerifierValue encKeyValue : Bytes) :
    crypt_build_encryption_info (List Char) P.b64 xmlBytes xmlDecl xmlEndTag [] xmlNewLine xmlStartTag
        packageSalt packageBlockSize packageKeyBits packageHashSize packageCipher packageChaining packageHash encHmacKey encHmacValue
        spin keySalt keyBlockSize keyKeyBits keyHashSize keyCipher keyChaining keyHash encVerifierInput encVerifierValue encKeyValue =
      infoOf P packageSalt packageBlockSize packageKeyBits packageHashSize packageCipher packageChaining packageHash encHmacKey
        encHmacValue spin keySalt keyBlockSize keyKeyBits keyHashSize keyCipher keyChaining keyHash encVerifierInput encVerifierValue
        encKeyValue := by
  gen_unfold_crypt_build_encryption_info
  simp only [infoOf, buildEncryptionInfo]
  -- (`unfold`, not `simp only`: generating the equation lemmas of these definitions evaluates their long string literals)
  unfold encryptionInfoXml keyDataAttrs encryptionNs passwordNs certificateNs encryptionInfoPrefix
  simp only [xmlBytes, xmlDecl, xmlEndTag, xmlNewLine, xmlStartTag, gen_buffer_concat, List.flatten_cons, List.flatten_nil]
  -- (`toList_lit`, not `String.reduceToList`, which leaves the kernel to decode each literal)
  simp only [toList_lit, List.append_assoc, List.cons_append, List.nil_append, List.append_nil]

/-- the three `gen_random_16()` calls of `encrypt_parts`, in source order (`gen_random_32` and `gen_random_64` are called once each, so
    a constant function stands for them in `gen_encrypt_parts`) -/
def draws16 (ρ : Randoms) : Nat → Bytes
  | 0 => ρ.packageSalt
  | 1 => ρ.keySalt
  | _ => ρ.verifierInput

theorem bind_fun_none {α β} (x : Option α) : (x.bind fun _ => (none : Option β)) = none := by cases x <;> rfl

theorem gen_encrypt_parts (P : Prims) (data : Bytes) (pw : List Char) (ρ : Randoms) :
    crypt_encrypt_parts (List Char) P.b64 (cryptOf P) (draws16 ρ) (fun _ => ρ.packageKey) (fun _ => ρ.hmacKey) (hmacOf P)
        P.sha512 [] shaUpd xmlBytes xmlDecl xmlEndTag [] xmlNewLine xmlStartTag data pw =
      (encrypt P data pw ρ).map (fun r => (buildEncryptionInfo r.1, r.2)) := by
  gen_unfold_crypt_encrypt_parts
  simp only [gen_crypt_package P _ _ _ _ _ _ algOk_sha512, gen_create_iv, gen_convert_password_to_key, if_pos algOk_sha512, gen_hash,
    gen_build_encryption_info,
    sha512Of_ok P _ algOk_sha512, hmacOf, cryptOf, draws16, if_true, Option.bind_eq_bind, Option.bind_some, List.flatten_cons,
    List.flatten_nil, List.append_nil, encrypt, encryptWith]
  simp only [blkHmacKey, blkHmacValue, blkKey, blkVerifierInput, blkVerifierValue]
  -- the model tests the six results in one order, the program binds them in its own: split along the model, rewrite the program
  repeat' (split <;> simp_all only [Option.bind_none, Option.bind_some, Option.map_none, Option.map_some, bind_fun_none])
  all_goals simp_all [infoOf, aes, cbc, sha512Name, bind_fun_none]
end Umya.Gen
