/-
  The decoder's own A1 reading (`Spec/Sml.lean::colOf`, `rowOf`) on letters followed by digits, and on the reference
  `Cell::write_to` prints.
-/
import Umya.Lemmas.Coord
import Umya.Spec.Sml
namespace Umya.Coord
open Umya.Dec Umya.Spec.Sml

theorem takeWhile_alpha (ls ds : List Char) (hu : ls.all isUpperAZ = true) (hd : ds.all Umya.Dec.isDigit = true) :
    (ls ++ ds).takeWhile Char.isAlpha = ls ∧ (ls ++ ds).dropWhile Char.isAlpha = ds := by
  refine takeWhile_dropWhile_run Char.isAlpha ls ds
    (List.all_eq_true.2 fun a ha => upper_isAlpha a (List.all_eq_true.1 hu a ha)) ?_
  cases ds with
  | nil => exact .inl rfl
  | cons d r => exact .inr ⟨d, r, rfl, digit_not_alpha d (List.all_eq_true.1 hd d List.mem_cons_self)⟩

theorem foldl_upper (ls : List Char) (hu : ls.all isUpperAZ = true) (a : Nat) :
    ls.foldl (fun a c => 26 * a + (c.toUpper.toNat - 64)) a = ls.foldl (fun a c => 26 * a + (c.toNat - 65 + 1)) a := by
  induction ls generalizing a with
  | nil => rfl
  | cons c r ih =>
    simp only [List.all_cons, Bool.and_eq_true] at hu
    have hc := (isUpperAZ_iff c).1 hu.1
    simp only [List.foldl_cons, upper_toUpper c hu.1]
    rw [ih hu.2]
    congr 1
    omega

theorem colOf_append {ls ds : List Char} (hu : ls.all isUpperAZ = true) (hd : ds.all Umya.Dec.isDigit = true) :
    colOf (ls ++ ds) = alphaToIndexGen ls := by
  unfold colOf alphaToIndexGen
  rw [(takeWhile_alpha ls ds hu hd).1, foldl_upper ls hu]

theorem rowOf_append {ls ds : List Char} (hu : ls.all isUpperAZ = true) (hd : ds.all Umya.Dec.isDigit = true)
    (hne : ds ≠ []) : rowOf (ls ++ ds) = parseDec ds := by
  unfold rowOf
  rw [(takeWhile_alpha ls ds hu hd).2]
  unfold natOf
  rw [if_pos ⟨hne, by rw [charIsDigit_eq]; exact hd⟩]
  rfl

theorem coordText_eq (col row : Nat) :
    coordinateFromIndexWithLock col row false false = indexToAlpha col ++ decDigits row := by
  simp [coordinateFromIndexWithLock]

theorem rowOf_position (col row : Nat) : rowOf (coordinateFromIndexWithLock col row false false) = row := by
  rw [coordText_eq, rowOf_append (indexToAlpha_upper col) (decDigits_all_digit row) (decDigits_ne_nil row)]
  exact parseDec_decDigits row

theorem colOf_position (col row : Nat) (hc : 1 ≤ col) : colOf (coordinateFromIndexWithLock col row false false) = col := by
  rw [coordText_eq, colOf_append (indexToAlpha_upper col) (decDigits_all_digit row)]
  exact alphaVal_indexToAlpha col hc

theorem ref_position (col row : Nat) (hc : 1 ≤ col) :
    colOf (coordinateFromIndexWithLock col row false false) = col ∧
    rowOf (coordinateFromIndexWithLock col row false false) = row :=
  ⟨colOf_position col row hc, rowOf_position col row⟩

end Umya.Coord
