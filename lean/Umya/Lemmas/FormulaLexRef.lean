/-
  The text of a well-formed reference is classified as Range by pass 3: it is never accepted by
  `str::parse::<f64>` (`parseF64Ok`) and never equals TRUE / FALSE.  This gives the conjunct
  `isRangeText r.text = true` of `LexOk` from `r.WF` (`LexOk'`, `lexOk_of_wf`).
-/
import Umya.Lemmas.FormulaLexExpr
namespace Umya.Formula
open Umya.Coord Umya.Dec Umya.Spec

/-- `isNumCh`, `headNum`: the characters a numeral that `parseF64Ok` accepts consists of, and those it can begin with
    (`parseF64Ok_shape`) -/
def isNumCh (c : Char) : Bool := isDigit c || c == '.' || c == 'e' || c == 'E' || c == '+' || c == '-'

def headNum (c : Char) : Bool := isDigit c || c == '.' || c == '+' || c == '-'

/-- characters that occur in reference texts and in none of `nan` / `inf` / `infinity` / `TRUE` /
    `FALSE` in any case -/
def mark (c : Char) : Bool := isDigit c || c == '!' || c == ':' || c == '$'

/-- `stripSign` (an optional sign goes, before the mantissa and in the exponent), `f64Special`, `fracPart`, `expOk`,
    `f64Body`: the body of `parseF64Ok` cut into named pieces (`parseF64Ok_cons`, by `rfl`), so that a proof can split on
    one piece at a time -/
def stripSign (s : List Char) : List Char :=
  match s with
  | c :: r => if c = '-' || c = '+' then r else s
  | [] => s

def f64Special (t : List Char) : Bool :=
  t.map lowerAscii = "nan".toList || t.map lowerAscii = "inf".toList || t.map lowerAscii = "infinity".toList

def fracPart (r1 : List Char) : List Char × List Char :=
  match r1 with
  | '.' :: r1' => spanDigits r1'
  | _ => ([], r1)

def expOk (r2 : List Char) : Bool :=
  match r2 with
  | [] => true
  | e :: r3 =>
    if e = 'e' || e = 'E' then
      let (d, r5) := spanDigits (stripSign r3)
      !d.isEmpty && r5.isEmpty
    else false

def f64Body (t : List Char) : Bool :=
  if f64Special t then true else
  if (spanDigits t).1.length + (fracPart (spanDigits t).2).1.length = 0 then false else
  expOk (fracPart (spanDigits t).2).2

theorem parseF64Ok_cons (c : Char) (r : List Char) :
    parseF64Ok (c :: r) =
      (if stripSign (c :: r) = [] then false else f64Body (stripSign (c :: r))) := by
  rfl

theorem mark_not_letter (x : Char) (h : mark x = true) : isUpperAZ x = false ∧ isLowerAZ x = false := by
  simp only [mark, Bool.or_eq_true, beq_iff_eq] at h
  rcases h with ((h | h) | h) | h
  · simp [isUpperAZ, isLowerAZ, isDigit] at *; omega
  · subst h; decide
  · subst h; decide
  · subst h; decide

theorem map_ne_of_mark {f : Char → Char} {L : List Char} (hL : ∀ y ∈ L, mark y = false) {t : List Char} {x : Char}
    (hx : x ∈ t) (hm : mark x = true) (hf : f x = x) : t.map f ≠ L := fun h => by
  have := hL x (h ▸ hf ▸ List.mem_map_of_mem hx)
  rw [hm] at this; cases this

theorem special_no_mark (t : List Char) (h : f64Special t = true) : ∀ x ∈ t, mark x = false := by
  intro x hx
  cases hm : mark x with
  | false => rfl
  | true =>
    have hl : lowerAscii x = x := by simp [lowerAscii, (mark_not_letter x hm).1]
    simp only [f64Special, Bool.or_eq_true, decide_eq_true_eq] at h
    rcases h with (h | h) | h <;> exact absurd h (map_ne_of_mark (by decide) hx hm hl)

theorem not_bool_of_mark (t : List Char) (x : Char) (hx : x ∈ t) (hm : mark x = true) :
    eqUpper t "TRUE" = false ∧ eqUpper t "FALSE" = false := by
  have hu : upcase x = x := by simp [upcase, (mark_not_letter x hm).2]
  simp only [eqUpper, decide_eq_false_iff_not]
  exact ⟨map_ne_of_mark (by decide) hx hm hu, map_ne_of_mark (by decide) hx hm hu⟩

theorem mem_strip (s : List Char) (x : Char) (hx : x ∈ s) : (x = '-' ∨ x = '+') ∨ x ∈ stripSign s := by
  unfold stripSign
  split
  · split
    · rename_i hc
      rcases List.mem_cons.1 hx with h | h
      · subst h; left; simpa using hc
      · exact Or.inr h
    · exact Or.inr hx
  · exact Or.inr hx

theorem mem_span (t : List Char) (x : Char) (hx : x ∈ t) : isNumCh x = true ∨ x ∈ (spanDigits t).2 := by
  have e := List.takeWhile_append_dropWhile (p := isDigit) (l := t)
  rw [← e] at hx
  rcases List.mem_append.1 hx with h | h
  · left
    have := List.all_eq_true.1 List.all_takeWhile _ h
    simp [isNumCh, this]
  · right; exact h

theorem mem_frac (r1 : List Char) (x : Char) (hx : x ∈ r1) : isNumCh x = true ∨ x ∈ (fracPart r1).2 := by
  unfold fracPart
  split
  · rename_i r1'
    rcases List.mem_cons.1 hx with h | h
    · left; subst h; decide
    · exact mem_span r1' x h
  · right; exact hx

theorem expOk_num (r2 : List Char) (h : expOk r2 = true) : ∀ x ∈ r2, isNumCh x = true := by
  intro x hx
  cases r2 with
  | nil => cases hx
  | cons e r3 =>
    simp only [expOk] at h
    split at h
    · rename_i he
      simp only [Bool.and_eq_true, List.isEmpty_iff] at h
      rcases List.mem_cons.1 hx with hxe | hx3
      · subst hxe
        simp only [Bool.or_eq_true, decide_eq_true_eq] at he
        rcases he with he | he <;> subst he <;> decide
      · rcases mem_strip r3 x hx3 with h1 | h1
        · rcases h1 with h1 | h1 <;> subst h1 <;> decide
        · rcases mem_span _ x h1 with h2 | h2
          · exact h2
          · rw [h.2] at h2; cases h2
    · cases h

theorem f64Body_shape (t : List Char) (h : f64Body t = true) :
    (∀ x ∈ t, mark x = false) ∨
      ((∀ x ∈ t, isNumCh x = true) ∧ ∀ c r, t = c :: r → (isDigit c = true ∨ c = '.')) := by
  unfold f64Body at h
  split at h
  · left; exact special_no_mark t (by assumption)
  · split at h
    · cases h
    · rename_i hlen
      right
      refine ⟨?_, ?_⟩
      · intro x hx
        rcases mem_span t x hx with h1 | h1
        · exact h1
        · rcases mem_frac _ x h1 with h2 | h2
          · exact h2
          · exact expOk_num _ h x h2
      · rintro c r rfl
        by_cases hd : isDigit c = true
        · exact Or.inl hd
        · refine Or.inr (Classical.byContradiction fun hc => hlen ?_)
          have : fracPart (c :: r) = ([], c :: r) := by
            unfold fracPart
            split
            · rename_i heq; injection heq with heq _; exact absurd heq hc
            · rfl
          simp [spanDigits, List.takeWhile, List.dropWhile, hd, this]

/-- an accepted text either contains no digit / `!` / `:` / `$`
    at all (`nan`, `inf`, `infinity` with an optional sign), or begins with a digit, `.` or a sign
    and consists of digits, `.`, `e`, `E`, `+`, `-` only -/
theorem parseF64Ok_shape (c : Char) (r : List Char) (h : parseF64Ok (c :: r) = true) :
    (∀ x ∈ c :: r, mark x = false) ∨ (headNum c = true ∧ ∀ x ∈ c :: r, isNumCh x = true) := by
  rw [parseF64Ok_cons] at h
  split at h
  · cases h
  have sign : ∀ x, x = '-' ∨ x = '+' → mark x = false ∧ headNum x = true ∧ isNumCh x = true := by
    rintro x (rfl | rfl) <;> decide
  rcases f64Body_shape _ h with h1 | h1
  · left
    intro x hx
    exact (mem_strip _ x hx).elim (fun hs => (sign x hs).1) (h1 x)
  · right
    refine ⟨?_, fun x hx => (mem_strip _ x hx).elim (fun hs => (sign x hs).2.2) (h1.1 x)⟩
    by_cases hs : c = '-' ∨ c = '+'
    · exact (sign c hs).2.1
    · have : stripSign (c :: r) = c :: r := by simpa [stripSign] using hs
      rcases h1.2 c r this with h2 | h2
      · simp [headNum, h2]
      · subst h2; decide

theorem isRangeText_of_mark (t : List Char) (x : Char) (hx : x ∈ t) (hm : mark x = true)
    (h : isNumCh x = false ∨ ∀ c ∈ t.head?, headNum c = false) : isRangeText t = true := by
  have hb := not_bool_of_mark t x hx hm
  have hf : parseF64Ok t = false := by
    cases hp : parseF64Ok t with
    | false => rfl
    | true =>
      cases t with
      | nil => cases hx
      | cons c r =>
        rcases parseF64Ok_shape c r hp with h1 | h1
        · rw [h1 x hx] at hm; cases hm
        · rcases h with h | h
          · rw [h1.2 x hx] at h; cases h
          · rw [h c rfl] at h1; cases h1.1
  simp [isRangeText, hf, hb.1, hb.2]

theorem upper_not_headNum (c : Char) (h : isUpperAZ c = true) : headNum c = false := by
  have h1 : isDigit c = false := by simp [isUpperAZ, isDigit] at *; omega
  have h2 : c ≠ '.' ∧ c ≠ '+' ∧ c ≠ '-' := by
    refine ⟨?_, ?_, ?_⟩ <;> (rintro rfl; exact absurd h (by decide))
  simp [headNum, h1, h2]

theorem qual_text_bang (q : Qual) : '!' ∈ q.text := by
  unfold Qual.text
  split <;> simp

/-- covers cell, range, whole columns, whole rows, any `$` flags, no / plain / quoted sheet qualifier; `r.WF` is
    needed only for an unqualified single corner, to have both its column and its row -/
theorem isRangeText_of_WF (r : CRef) (h : r.WF) : isRangeText r.text = true := by
  obtain ⟨s, a⟩ := r
  cases s with
  | some q => exact isRangeText_of_mark _ '!' (List.mem_append_left _ (qual_text_bang q)) rfl (Or.inl rfl)
  | none =>
    simp only [CRef.text, List.nil_append]
    cases a with
    | two k1 k2 => exact isRangeText_of_mark _ ':' (by simp [Area.text]) rfl (Or.inl rfl)
    | one k =>
      obtain ⟨kc, kr⟩ := k
      have hw := h.1
      simp only [Area.WF] at hw
      cases kc with
      | none => exact absurd hw.1 (by simp)
      | some cr =>
        cases kr with
        | none => exact absurd hw.2.1 (by simp)
        | some rr =>
          simp only [Area.text, Corner.text, optText, colRefText, rowRefText]
          obtain ⟨d, dr, hdd, hdig⟩ := decDigits_head rr.num
          obtain ⟨l, lr, hll, hup⟩ := indexToAlpha_head cr.num
          rw [hdd, hll]
          refine isRangeText_of_mark _ d (by simp) (by simp [mark, hdig]) (Or.inr ?_)
          cases cr.lock
          · simpa using upper_not_headNum l hup
          · simp [headNum, isDigit]

mutual
  /-- `LexOk` with `r.WF` on the references instead of `isRangeText r.text = true` -/
  def LexOk' : Expr → Prop
    | .num t => t ≠ [] ∧ ordText t = true ∧ parseF64Ok t = true
    | .str _ => True
    | .bool _ => True
    | .err _ => True
    | .name n => n ≠ [] ∧ ordText n = true ∧ isRangeText n = true
    | .ref r => RefLexOk r ∧ r.WF
    | .opaque _ => False
    | .array _ => False
    | .neg e => LexOk' e
    | .pos e => LexOk' e
    | .pct e => LexOk' e
    | .bin _ a b => LexOk' a ∧ LexOk' b
    | .isect _ _ => False
    | .union es => LexOkA' es
    | .paren e => LexOk' e
    | .call f as => (f ≠ [] ∧ ordText f = true ∧ f.head? ≠ some '@') ∧ LexOkA' as
  def LexOkA' : Args → Prop
    | .nil => True
    | .cons e rest => LexOk' e ∧ LexOkA' rest
    | .skip rest => LexOkA' rest
end

mutual
  theorem lexOk_of_wf (e : Expr) (h : LexOk' e) : LexOk e := by
    match e, h with
    | .num _, h | .name _, h => exact h
    | .str _, _ | .bool _, _ | .err _, _ => trivial
    | .ref r, h => exact ⟨h.1, isRangeText_of_WF r h.2⟩
    | .opaque _, h | .array _, h | .isect _ _, h => exact absurd h (by simp [LexOk'])
    | .neg e, h | .pos e, h | .pct e, h | .paren e, h => simp only [LexOk]; exact lexOk_of_wf e h
    | .bin _ a b, h => simp only [LexOk]; exact ⟨lexOk_of_wf a h.1, lexOk_of_wf b h.2⟩
    | .union es, h => simp only [LexOk]; exact lexOkA_of_wf es h
    | .call f as, h => simp only [LexOk]; exact ⟨h.1, lexOkA_of_wf as h.2⟩
  theorem lexOkA_of_wf (as : Args) (h : LexOkA' as) : LexOkA as := by
    match as, h with
    | .nil, _ => trivial
    | .cons e rest, h => simp only [LexOkA]; exact ⟨lexOk_of_wf e h.1, lexOkA_of_wf rest h.2⟩
    | .skip rest, h => simp only [LexOkA]; exact lexOkA_of_wf rest h
end

end Umya.Formula
