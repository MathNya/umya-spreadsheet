import Umya.Lemmas.Coherent
import Umya.Lemmas.ListFacts
namespace Umya.Sheet
open Umya.Coord (Res)

theorem sorted_getLast_fst_max (l : List Key) (h : SSorted l) :
    (∀ k ∈ l, k.1 ≤ (l.getLast?.map (·.1)).getD 0) ∧
    (l ≠ [] → ∃ k ∈ l, k.1 = (l.getLast?.map (·.1)).getD 0) := by
  cases hl : l.getLast? with
  | none =>
    rw [List.getLast?_eq_none_iff.1 hl]
    exact ⟨fun _ hk => (nomatch hk), fun hne => absurd rfl hne⟩
  | some m =>
    refine ⟨fun k hk => ?_, fun _ => ⟨m, List.mem_of_getLast? hl, rfl⟩⟩
    obtain ⟨ys, rfl⟩ := List.getLast?_eq_some_iff.1 hl
    show k.1 ≤ m.1
    rcases List.mem_append.1 hk with hk | hk
    · have := (List.pairwise_append.1 h).2.2 k hk m (List.mem_singleton_self m)
      rw [keyLt_iff] at this; omega
    · rw [List.mem_singleton.1 hk]; exact Nat.le_refl _

theorem sorted_filter_fst (l : List Key) (h : SSorted l) (a : Nat) :
    ((l.filter (·.1 = a)).map (·.2)).Pairwise (· < ·) ∧
    ∀ b, b ∈ (l.filter (·.1 = a)).map (·.2) ↔ (a, b) ∈ l := by
  constructor
  · rw [List.pairwise_map]
    refine (List.Pairwise.filter (fun k : Key => decide (k.1 = a)) h).imp_of_mem ?_
    intro x y hx hy hxy
    have hx' := of_decide_eq_true (List.mem_filter.1 hx).2
    have hy' := of_decide_eq_true (List.mem_filter.1 hy).2
    rw [keyLt_iff] at hxy
    omega
  · intro b
    simp only [List.mem_map, List.mem_filter, decide_eq_true_eq]
    constructor
    · rintro ⟨k, ⟨hk, rfl⟩, rfl⟩; exact hk
    · intro hk; exact ⟨(a, b), ⟨hk, rfl⟩, rfl⟩

theorem colsInRow_spec (s : Sheet) (h : Coherent s) (r : Nat) :
    (colsInRow s r).Pairwise (· < ·) ∧ ∀ c, c ∈ colsInRow s r ↔ (r, c) ∈ keysOf s :=
  ⟨(sorted_filter_fst _ h.rsorted r).1, fun c => ((sorted_filter_fst _ h.rsorted r).2 c).trans (h.rmem (r, c))⟩

theorem rowsInCol_spec (s : Sheet) (h : Coherent s) (c : Nat) :
    (rowsInCol s c).Pairwise (· < ·) ∧ ∀ r, r ∈ rowsInCol s c ↔ (r, c) ∈ keysOf s :=
  ⟨(sorted_filter_fst _ h.csorted c).1, fun r => ((sorted_filter_fst _ h.csorted c).2 r).trans (h.cmem (c, r))⟩

theorem keyLe_iff (a b : Key) : keyLe a b = true ↔ a.1 < b.1 ∨ (a.1 = b.1 ∧ a.2 ≤ b.2) := by
  obtain ⟨a1, a2⟩ := a; obtain ⟨b1, b2⟩ := b
  simp only [keyLe, Bool.or_eq_true, decide_eq_true_eq, keyLt_iff, Prod.mk.injEq]
  omega

theorem coordsInRange_spec (s : Sheet) (h : Coherent s) (rs re cs ce : Nat) (l : List Key)
    (hok : coordsInRange s rs re cs ce = .ok l) :
    SSorted (l.map swap) ∧
    ∀ k : Key, swap k ∈ l ↔ (k ∈ keysOf s ∧ rs ≤ k.1 ∧ k.1 ≤ re ∧ cs ≤ k.2 ∧ k.2 ≤ ce) := by
  unfold coordsInRange at hok
  split at hok
  · cases hok
  · cases hok
    constructor
    · rw [List.map_map, show swap ∘ swap = id from rfl, List.map_id]
      exact List.Pairwise.filter _ (List.Pairwise.filter _ h.rsorted)
    · intro k
      simp only [List.mem_map, List.mem_filter, Bool.and_eq_true, decide_eq_true_eq, keyLe_iff]
      constructor
      · rintro ⟨a, ⟨⟨ha, h1, h2⟩, h3, h4⟩, e⟩
        obtain rfl : a = k := congrArg swap e
        exact ⟨(h.rmem _).1 ha, by omega, by omega, h3, h4⟩
      · rintro ⟨hk, h1, h2, h3, h4⟩
        exact ⟨k, ⟨⟨(h.rmem _).2 hk, by omega, by omega⟩, h3, h4⟩, rfl⟩

theorem highest_spec (s : Sheet) (h : Coherent s) :
    (∀ k ∈ keysOf s, k.1 ≤ (highest s).2 ∧ k.2 ≤ (highest s).1) ∧
    (keysOf s = [] → highest s = (0, 0)) ∧
    (keysOf s ≠ [] → (∃ k ∈ keysOf s, k.1 = (highest s).2) ∧ (∃ k ∈ keysOf s, k.2 = (highest s).1)) := by
  obtain ⟨r1, r2⟩ := sorted_getLast_fst_max s.rowIdx h.rsorted
  obtain ⟨c1, c2⟩ := sorted_getLast_fst_max s.colIdx h.csorted
  have hsw : ∀ k ∈ keysOf s, swap k ∈ s.colIdx := fun k hk => (h.cmem (swap k)).2 hk
  refine ⟨fun k hk => ⟨r1 k ((h.rmem k).2 hk), c1 (swap k) (hsw k hk)⟩, fun he => ?_, fun hne => ?_⟩
  · have r0 : s.rowIdx = [] := List.eq_nil_iff_forall_not_mem.2 fun k hk => by
      have := (h.rmem k).1 hk; rw [he] at this; cases this
    have c0 : s.colIdx = [] := List.eq_nil_iff_forall_not_mem.2 fun k hk => by
      have := (h.cmem k).1 hk; rw [he] at this; cases this
    unfold highest; rw [r0, c0]; rfl
  · obtain ⟨k0, hk0⟩ := List.exists_mem_of_ne_nil _ hne
    obtain ⟨m, hm, e⟩ := r2 (List.ne_nil_of_mem ((h.rmem k0).2 hk0))
    obtain ⟨m', hm', e'⟩ := c2 (List.ne_nil_of_mem (hsw k0 hk0))
    exact ⟨⟨m, (h.rmem m).1 hm, e⟩, ⟨swap m', (h.cmem m').1 hm', e'⟩⟩

theorem sortedCells_coords (s : Sheet) (h : Coherent s) :
    (sortedCells s).map (fun c => (c.row, c.col)) = s.rowIdx := by
  rw [sortedCells, List.map_filterMap]
  refine (filterMap_congr_mem fun k hk => ?_).trans List.filterMap_some
  obtain ⟨p, hp, rfl⟩ := List.mem_map.1 ((h.rmem k).1 hk)
  rw [lookup_of_mem_nodup h.nodup hp]
  exact congrArg some (Prod.ext (h.coord p hp).1 (h.coord p hp).2)

theorem mem_insertRowSorted (r x : RowM) (l : List RowM) : x ∈ insertRowSorted r l ↔ x = r ∨ x ∈ l := by
  induction l with
  | nil => simp [insertRowSorted]
  | cons y ys ih =>
    simp only [insertRowSorted]
    split
    · simp
    · simp only [List.mem_cons, ih]; exact or_left_comm

theorem sorted_insertRowSorted (r : RowM) (l : List RowM) (h : l.Pairwise (fun a b => a.num < b.num))
    (hne : ∀ x ∈ l, x.num ≠ r.num) : (insertRowSorted r l).Pairwise (fun a b => a.num < b.num) := by
  induction l with
  | nil => simp [insertRowSorted]
  | cons y ys ih =>
    have hy := List.pairwise_cons.1 h
    simp only [insertRowSorted]
    split
    · rename_i hlt
      apply List.pairwise_cons.2
      refine ⟨?_, h⟩
      intro z hz
      rcases List.mem_cons.1 hz with rfl | hz
      · exact hlt
      · exact Nat.lt_trans hlt (hy.1 z hz)
    · rename_i hnlt
      apply List.pairwise_cons.2
      refine ⟨?_, ih hy.2 (fun x hx => hne x (List.mem_cons_of_mem _ hx))⟩
      intro z hz
      rcases (mem_insertRowSorted r z ys).1 hz with rfl | hz
      · have := hne y (by simp); omega
      · exact hy.1 z hz

theorem foldr_insertRowSorted (l : List RowM) (hn : (l.map (·.num)).Nodup) :
    (l.foldr insertRowSorted []).Pairwise (fun a b => a.num < b.num) ∧
    ∀ x, x ∈ l.foldr insertRowSorted [] ↔ x ∈ l := by
  induction l with
  | nil => exact ⟨List.Pairwise.nil, fun _ => Iff.rfl⟩
  | cons r rs ih =>
    obtain ⟨hr, hn⟩ := List.nodup_cons.1 hn
    obtain ⟨i1, i2⟩ := ih hn
    refine ⟨sorted_insertRowSorted _ _ i1 fun x hx e => hr (List.mem_map.2 ⟨x, (i2 x).1 hx, e⟩), fun x => ?_⟩
    rw [List.foldr_cons, mem_insertRowSorted, i2, List.mem_cons]

theorem sortedRows_spec (s : Sheet) (h : Coherent s) :
    (sortedRows s).Pairwise (fun a b => a.num < b.num) ∧ ∀ n, n ∈ (sortedRows s).map (·.num) ↔ n ∈ s.rows.map (·.1) := by
  have e : (s.rows.map (·.2)).map (·.num) = s.rows.map (·.1) := by
    rw [List.map_map]; exact List.map_congr_left h.rowKey
  obtain ⟨k1, k2⟩ := foldr_insertRowSorted (s.rows.map (·.2)) (e ▸ h.rowNodup)
  refine ⟨k1, fun n => ?_⟩
  rw [← e]
  simp only [sortedRows, List.mem_map, k2]

/-- the peek-and-consume loop is `span` -/
theorem takeRow_eq (n : Nat) (cells : List CellM) :
    takeRow n cells = (cells.takeWhile (·.row = n), cells.dropWhile (·.row = n)) := by
  induction cells with
  | nil => rfl
  | cons c cs ih => by_cases h : c.row = n <;> simp [takeRow, h, ih]

theorem takeRow_split (n : Nat) (cells : List CellM) :
    (takeRow n cells).1 ++ (takeRow n cells).2 = cells ∧ (∀ c ∈ (takeRow n cells).1, c.row = n) ∧
    (∀ c, (takeRow n cells).2.head? = some c → c.row ≠ n) := by
  rw [takeRow_eq]
  simpa only [decide_eq_true_eq, decide_eq_false_iff_not, ne_eq] using takeWhile_dropWhile_spec (·.row = n) cells

theorem rowLoop_all (rs : List RowM) (cells : List CellM)
    (hrs : rs.Pairwise (fun a b => a.num < b.num))
    (hcs : cells.Pairwise (fun a b => a.row ≤ b.row))
    (hin : ∀ c ∈ cells, c.row ∈ rs.map (·.num)) : rowLoop rs cells = cells := by
  induction rs generalizing cells with
  | nil =>
    cases cells with
    | nil => rfl
    | cons c cs => cases hin c List.mem_cons_self
  | cons r rs ih =>
    have hr := List.pairwise_cons.1 hrs
    show (takeRow r.num cells).1 ++ rowLoop rs (takeRow r.num cells).2 = cells
    rw [takeRow_eq, ih _ hr.2 (hcs.sublist (List.dropWhile_sublist _))
      (dropWhile_key_mem (·.row) r.num _ (List.forall_mem_map.2 hr.1) cells hcs hin)]
    exact List.takeWhile_append_dropWhile

theorem sortedCells_sorted (s : Sheet) (h : Coherent s) :
    (sortedCells s).Pairwise fun a b => keyLt (a.row, a.col) (b.row, b.col) = true := by
  have := h.rsorted
  rw [← sortedCells_coords s h, SSorted, List.pairwise_map] at this
  exact this

theorem sortedCells_row_known (s : Sheet) (h : Coherent s) (c : CellM) (hc : c ∈ sortedCells s) :
    c.row ∈ (sortedRows s).map (·.num) := by
  rw [(sortedRows_spec s h).2]
  have : (c.row, c.col) ∈ s.rowIdx := by
    rw [← sortedCells_coords s h]; exact List.mem_map.2 ⟨c, hc, rfl⟩
  exact h.rowKnown _ ((h.rmem _).1 this)

theorem emitted_all (s : Sheet) (h : Coherent s) : emitted s = sortedCells s :=
  rowLoop_all _ _ (sortedRows_spec s h).1
    ((sortedCells_sorted s h).imp fun hab => by rw [keyLt_iff] at hab; simp only at hab; omega)
    (sortedCells_row_known s h)

end Umya.Sheet
