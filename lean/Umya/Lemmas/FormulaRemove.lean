/-
  The steps of `adjustment_remove_formula_coordinate` on the corners of an area (the parts of an axis taken out,
  `remove_parts`, the parts put back, the corners rendered), against `Spec.remAxis` and `Spec.rebuild`.
-/
import Umya.Lemmas.Formula
namespace Umya.Formula
open Umya.Coord Umya.Dec Umya.Thm.C17

theorem corner_text_cr (x y : Ref) : Spec.Corner.text ⟨some x, some y⟩ = colRefText x ++ rowRefText y := rfl

def cornersOf : Spec.Area → List Spec.Corner
  | .one k => [k]
  | .two a b => [a, b]

theorem parse_cornerTexts (a : Spec.Area) (hw : a.WF) :
    (cornerTexts a).map parseCorner = (cornersOf a).map (fun k => some (toCorner k)) := by
  cases a with
  | one k =>
    obtain ⟨hg, hne⟩ := corner_of_wf_one k hw
    simp [cornerTexts, cornersOf, parseCorner_text k hg hne]
  | two a b =>
    obtain ⟨hga, hgb, hna, hnb⟩ := corners_of_wf_two a b hw
    simp [cornerTexts, cornersOf, parseCorner_text a hga hna, parseCorner_text b hgb hnb]

theorem removePartsGo_zero (l : List Part) (i : Nat) :
    removePartsGo 0 0 i l (l.map fun _ => false) = .ok l := by
  induction l generalizing i with
  | nil => rfl
  | cons p ps ih => simp [removePartsGo, removeCoordinate, ih]

/-- the axis that is not edited is called with root 0, offset 0: nothing moves -/
theorem removeParts_zero (l : List Part) : removeParts l 0 0 = .ok (some l) := by
  have hm : mapRes (fun (p : Part) => isRemoveCoordinate p.1 0 0) l = .ok (l.map fun _ => false) :=
    mapRes_pointwise _ _ l (fun p _ => by simp [isRemoveCoordinate])
  cases l with
  | nil => exact removeParts_nil 0 0
  | cons p ps =>
    simp only [removeParts, hm, removePartsGo_zero]
    simp

theorem putCols_colsOf (ks : List (Option Corner)) : putCols ks (colsOf ks) = ks := by
  induction ks with
  | nil => rfl
  | cons k ks ih =>
    simp only [colsOf] at ih ⊢
    rcases k with _ | ⟨_ | c, r⟩ <;> simp [putCols, ih]

theorem putRows_rowsOf (ks : List (Option Corner)) : putRows ks (rowsOf ks) = ks := by
  induction ks with
  | nil => rfl
  | cons k ks ih =>
    simp only [rowsOf] at ih ⊢
    rcases k with _ | ⟨c, _ | r⟩ <;> simp [putRows, ih]

theorem colsOf_area (a : Spec.Area) :
    colsOf ((cornersOf a).map fun k => some (toCorner k))
      = ((Spec.startOf a).col.toList ++ (Spec.endOf a).col.toList).map toPart := by
  rcases a with ⟨⟨_ | _, _⟩⟩ | ⟨⟨_ | _, _⟩, ⟨_ | _, _⟩⟩ <;> rfl

theorem rowsOf_area (a : Spec.Area) :
    rowsOf ((cornersOf a).map fun k => some (toCorner k))
      = ((Spec.startOf a).row.toList ++ (Spec.endOf a).row.toList).map toPart := by
  rcases a with ⟨⟨_, _ | _⟩⟩ | ⟨⟨_, _ | _⟩, ⟨_, _ | _⟩⟩ <;> rfl

/-- `remAxis` keeps which of the two parts are present (`remAxis_some`), so the adjusted numbers go back into the
    corners they came from: the corners of `Spec.rebuild` -/
theorem putCols_area (a : Spec.Area) (at_ n : Nat) (c : Option Ref × Option Ref)
    (h : Spec.remAxis (Spec.startOf a).col (Spec.endOf a).col at_ n = some c) :
    putCols ((cornersOf a).map fun k => some (toCorner k)) ((c.1.toList ++ c.2.toList).map toPart)
      = (cornersOf (Spec.rebuild a c ((Spec.startOf a).row, (Spec.endOf a).row))).map fun k => some (toCorner k) := by
  obtain ⟨rfl, _⟩ := remAxis_some h
  rcases a with ⟨⟨_ | _, _⟩⟩ | ⟨⟨_ | _, _⟩, ⟨_ | _, _⟩⟩ <;> rfl

theorem putRows_area (a : Spec.Area) (at_ n : Nat) (c : Option Ref × Option Ref)
    (h : Spec.remAxis (Spec.startOf a).row (Spec.endOf a).row at_ n = some c) :
    putRows ((cornersOf a).map fun k => some (toCorner k)) ((c.1.toList ++ c.2.toList).map toPart)
      = (cornersOf (Spec.rebuild a ((Spec.startOf a).col, (Spec.endOf a).col) c)).map fun k => some (toCorner k) := by
  obtain ⟨rfl, _⟩ := remAxis_some h
  rcases a with ⟨⟨_, _ | _⟩⟩ | ⟨⟨_, _ | _⟩, ⟨_, _ | _⟩⟩ <;> rfl

/-- columns at 1 or later is what rendering needs of the grid -/
theorem area_cols (a : Spec.Area) (hw : a.WF) :
    (∀ x, (Spec.startOf a).col = some x → 1 ≤ x.num) ∧ (∀ y, (Spec.endOf a).col = some y → 1 ≤ y.num) ∧
      Spec.leOpt (Spec.startOf a).col (Spec.endOf a).col := by
  cases a with
  | one k => exact ⟨fun x hx => (hw.2.2.1 x hx).1, fun _ hy => (by cases hy), fun _ _ _ hy => (by cases hy)⟩
  | two a b =>
    obtain ⟨_, hga, hgb, hlc, _⟩ := hw
    exact ⟨fun x hx => (hga.1 x hx).1, fun y hy => (hgb.1 y hy).1, hlc⟩

theorem remAxis_pos (a b : Option Ref) (at_ n : Nat) (h1 : 1 ≤ at_) (c : Option Ref × Option Ref)
    (h : Spec.remAxis a b at_ n = some c) (ha : ∀ x, a = some x → 1 ≤ x.num) (hb : ∀ y, b = some y → 1 ≤ y.num)
    (hle : Spec.leOpt a b) : (∀ z, c.1 = some z → 1 ≤ z.num) ∧ (∀ z, c.2 = some z → 1 ≤ z.num) := by
  obtain ⟨rfl, hd⟩ := remAxis_some h
  refine ⟨?_, ?_⟩
  · intro z hz
    obtain ⟨x, rfl, rfl⟩ := Option.map_eq_some_iff.1 hz
    have := remNum_pos x.num at_ n (ha x rfl) h1
    simp only [remPart]; split <;> simp_all
  · intro z hz
    obtain ⟨y, rfl, rfl⟩ := Option.map_eq_some_iff.1 hz
    have py := remNum_pos y.num at_ n (hb y rfl) h1
    cases hby : Spec.inBand y.num at_ n with
    | false => simpa [remPart, hby] using py
    | true =>
      -- something is left, so there is a start outside the band, and the end is clamped to `at_ - 1` behind it
      cases a with
      | none => simp [hby] at hd
      | some x =>
        have hbx : Spec.inBand x.num at_ n = false := by simpa [hby] using hd
        simpa [remPart, hby] using clampedEnd_pos x.num y.num at_ n (ha x rfl) (hle x y rfl rfl) hbx hby

theorem renderCorners_none (l : List (List Char)) : renderCorners (l.map fun _ => none) l = .ok l := by
  induction l with
  | nil => rfl
  | cons s r ih => simp [renderCorners, ih]

/-- `renderCorners` takes the old texts to keep that of a corner that did not parse (`none`, `renderCorners_none`); where
    every corner parsed, only their number matters -/
theorem renderCorners_texts (cs : List Spec.Corner) (ts : List (List Char)) (hlen : ts.length = cs.length)
    (hp : ∀ k ∈ cs, ∀ x, k.col = some x → 1 ≤ x.num) :
    renderCorners (cs.map fun k => some (toCorner k)) ts = .ok (cs.map (·.text)) := by
  induction cs generalizing ts with
  | nil => cases ts <;> rfl
  | cons k cs ih =>
    cases ts with
    | nil => simp at hlen
    | cons t ts =>
      simp [renderCorners, renderCorner_text k (hp k (by simp)),
        ih ts (by simpa using hlen) (fun k' hk' => hp k' (List.mem_cons_of_mem _ hk'))]

theorem renderCorners_rebuild (a : Spec.Area) (cols rows : Option Ref × Option Ref)
    (hs : ∀ x, cols.1 = some x → 1 ≤ x.num) (he : ∀ y, cols.2 = some y → 1 ≤ y.num) :
    renderCorners ((cornersOf (Spec.rebuild a cols rows)).map fun k => some (toCorner k)) (cornerTexts a)
      = .ok ((cornersOf (Spec.rebuild a cols rows)).map (·.text)) :=
  renderCorners_texts _ _ (by cases a <;> rfl) (by
    cases a with
    | one _ => simpa [cornersOf, Spec.rebuild] using hs
    | two _ _ => simpa [cornersOf, Spec.rebuild] using ⟨hs, he⟩)

theorem removeParts_axis (at_ n : Nat) (h1 : 1 ≤ at_) (hn : n ≠ 0) (ho : at_ + n ≤ u32Max) (a b : Option Ref) :
    removeParts ((a.toList ++ b.toList).map toPart) at_ n
      = .ok ((Spec.remAxis a b at_ n).map fun c => (c.1.toList ++ c.2.toList).map toPart) := by
  rw [removeParts_spec at_ n h1 hn ho, remAxis_eq]
  cases a <;> cases b <;> simp <;> split <;> simp_all [remPart]

end Umya.Formula
