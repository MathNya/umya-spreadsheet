/-
  (T) the regular-expression texts regenerated from the current source are the ones the model's matchers were written for.
-/
import Umya.Model.Gen.Tables
import Umya.Model.RegexTexts
namespace Umya.Gen

theorem gen_regex_texts : regex_literals = Umya.RegexTexts.texts := rfl

/-- the expressions of one file -/
def regexOf (file : String) (l : List (String × String)) : List String :=
  (l.filter fun r => r.1.startsWith file).map (·.2)

theorem gen_regex_coordinate : regexOf "src/helper/coordinate.rs" regex_literals = regexOf "src/helper/coordinate.rs" Umya.RegexTexts.texts := by
  rw [gen_regex_texts]

end Umya.Gen
