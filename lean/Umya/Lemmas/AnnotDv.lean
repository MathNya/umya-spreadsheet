/-
  `Model/AnnotDv.lean`: attributes by position (`getAttr_written` over `dvNames`); `sqref` is `split(' ')` after
  `join(" ")` over printed ranges, none of which contains a blank and each of which `Range.parse_print` reads back.
-/
import Umya.Model.AnnotDv
import Umya.Lemmas.AnnotCodec
import Umya.Lemmas.SplitCh
import Umya.Lemmas.CoordRange
namespace Umya.AnnotDv
open Umya.Coord Umya.Annot Umya.Thm.C17
open Umya.Spec.Xml (Node Attr)

theorem getAttr_cons_self (k v : Text) (r : List Attr) : getAttr (⟨k, v⟩ :: r) k = some v := by
  simp only [getAttr, if_true]

/-- this model's `getAttr` / `render` are those of `Model/AnnotCodec.lean`, names and values side by side instead of
    paired -/
theorem getAttr_eq (as : List Attr) (k : Text) : getAttr as k = AnnotCodec.getAttr as k := by
  induction as with
  | nil => rfl
  | cons a r ih => by_cases h : a.name = k <;> simp [getAttr, h, ih, AnnotCodec.getAttr]

theorem render_eq : ∀ (ns : List Text) (vs : List (Option Text)), render ns vs = AnnotCodec.render (ns.zip vs)
  | [], vs => by cases vs <;> rfl
  | _ :: _, [] => rfl
  | _ :: ns, none :: vs => render_eq ns vs
  | n :: ns, some v :: vs => congrArg (List.cons (Attr.mk n v)) (render_eq ns vs)

theorem map_fst_zip_sublist {α β} : ∀ (l : List α) (m : List β), ((l.zip m).map (·.1)).Sublist l
  | [], _ => by simp
  | _ :: _, [] => by simp
  | a :: l, _ :: m => by simpa using (map_fst_zip_sublist l m).cons_cons a

theorem getAttr_written {ns : List Text} {vs : List (Option Text)} {as : List Attr} (has : as = render ns vs)
    (hnd : ns.Nodup) : ∀ p ∈ ns.zip vs, getAttr as p.1 = p.2 := fun p hp => by
  rw [getAttr_eq]
  exact AnnotCodec.getAttr_written (has.trans (render_eq ns vs)) ((map_fst_zip_sublist ns vs).nodup hnd) p hp

theorem dvType_table (v : DvType) : DvType.fromStr (DvType.toStr v) = some v := by
  unfold DvType.fromStr DvType.toStr
  simp only [toList_lit]
  cases v <;> decide +kernel

theorem dvOp_table (v : DvOp) : DvOp.fromStr (DvOp.toStr v) = some v := by
  unfold DvOp.fromStr DvOp.toStr
  simp only [toList_lit]
  cases v <;> decide +kernel

theorem readEnum_eq {α} (fromStr : Text → Option α) (a : Option Text) : readEnum fromStr a = AnnotCodec.enumRead fromStr none a := by
  cases a <;> rfl

theorem readEnum_written {α} {fromStr : Text → Option α} {toStr : α → Text}
    (h : ∀ v, fromStr (toStr v) = some v) (o : Option α) : readEnum fromStr (o.map toStr) = o :=
  (readEnum_eq fromStr _).trans (AnnotCodec.enumRead_written h o)

-- `boolStr`, `boolOf` are this model's copies of `boolStr`, `boolRead` of `Model/AnnotCodec.lean`, with the same bodies
theorem map_boolOf_boolStr (o : Option Bool) : (o.map boolStr).map boolOf = o := AnnotCodec.optBool_map_boolStr o

theorem splitSp_eq (s : Text) : splitSp s = AnnotCodec.splitCh ' ' s :=
  AnnotCodec.splitCh_of_loop ' ' splitSp.go (fun _ => rfl) (fun _ _ _ => rfl) s

theorem joinSp_eq : ∀ ts : List Text, joinSp ts = AnnotCodec.joinCh ' ' ts
  | [] => rfl
  | [_] => rfl
  | a :: b :: r => by simp only [joinSp, AnnotCodec.joinCh, joinSp_eq (b :: r)]

theorem splitSp_joinSp {ts : List Text} (hne : ts ≠ []) (hf : ∀ t ∈ ts, ' ' ∉ t) : splitSp (joinSp ts) = ts := by
  rw [joinSp_eq, splitSp_eq]; exact AnnotCodec.splitCh_joinCh ' ' ts hne hf

theorem blank_free_print (ρ : Range) : ' ' ∉ ρ.print := Range.not_mem_print (by decide) (by decide) (by decide) ρ

theorem print_ne_nil (ρ : Range) (hs : Range.IsShape ρ) (hb : Range.InBounds ρ) : ρ.print ≠ [] := by
  intro e
  -- the empty text parses to the range `{}`, which has none of the four shapes; `parse_print` makes it `ρ`
  have h := Range.parse_print ρ hb
  rw [e] at h
  have h0 : Range.parse [] = .ok {} := by decide
  rw [h0] at h
  injection h with h
  subst h
  rcases hs with ⟨h1, _⟩ | ⟨h1, _⟩ | ⟨_, h1, _⟩ | ⟨h1, _⟩ <;> simp at h1

/-- the ranges a validation / a conditional format may carry: the four printable shapes within the grid
    bounds of the C17 codec -/
def RangesOK (rs : List Range) : Prop := ∀ ρ ∈ rs, Range.IsShape ρ ∧ Range.InBounds ρ

/-- dropping the empty pieces (fix 13062504) drops nothing of a printed list -/
theorem filter_print (rs : List Range) (h : RangesOK rs) :
    (rs.map Range.print).filter (fun p => !p.isEmpty) = rs.map Range.print := by
  apply List.filter_eq_self.2
  intro p hp
  obtain ⟨x, hx, rfl⟩ := List.mem_map.1 hp
  have := print_ne_nil x (h x hx).1 (h x hx).2
  cases hq : x.print with
  | nil => exact absurd hq this
  | cons a q => rfl

theorem pushRanges_print : ∀ (rs acc : List Range), RangesOK rs →
    pushRanges acc (rs.map Range.print) = .ok (acc ++ rs)
  | [], acc, _ => by simp [pushRanges]
  | ρ :: rs, acc, h => by
    have hρ := h ρ (by simp)
    simp only [List.map_cons, pushRanges, Range.parse_print ρ hρ.2]
    rw [pushRanges_print rs (acc ++ [ρ]) (fun x hx => h x (List.mem_cons_of_mem _ hx))]
    simp

theorem sqrefText_eq (rs : List Range) : sqrefText rs = AnnotCodec.joinCh ' ' (rs.map Range.print) := joinSp_eq _

theorem sqrefText_ne_nil (rs : List Range) (h : RangesOK rs) (hne : rs ≠ []) : sqrefText rs ≠ [] := by
  cases rs with
  | nil => exact absurd rfl hne
  | cons ρ r => exact sqrefText_eq _ ▸ AnnotCodec.joinCh_ne_nil ' ' (print_ne_nil ρ (h ρ (by simp)).1 (h ρ (by simp)).2)

theorem setSqref_text (rs : List Range) (h : RangesOK rs) : setSqref [] (sqrefText rs) = .ok rs := by
  cases rs with
  | nil => decide
  | cons ρ r =>
    simp only [setSqref, sqrefText]
    rw [splitSp_joinSp (by simp) (fun t ht => by obtain ⟨x, _, rfl⟩ := List.mem_map.1 ht; exact blank_free_print x),
      filter_print (ρ :: r) h]
    simpa using pushRanges_print (ρ :: r) [] h

theorem readSqref_written (rs : List Range) (h : RangesOK rs) : readSqref (sqrefAttr rs) = .ok rs := by
  cases rs with
  | nil => decide
  | cons ρ r => simp [sqrefAttr, sqrefText_ne_nil (ρ :: r) h (by simp), readSqref, setSqref_text (ρ :: r) h]

theorem lastText_textElem_kids (t : Text) : lastText (if t = [] then [] else [Node.text t]) [] = t := by
  by_cases h : t = [] <;> simp [h, lastText]

theorem readKids_written (f1 f2 : Option Text) :
    readKids (optElem nFormula1 f1 ++ optElem nFormula2 f2) (none, none) = (f1, f2) := by
  have h21 : nFormula2 ≠ nFormula1 := by decide
  cases f1 <;> cases f2 <;> simp [optElem, textElem, readKids, lastText_textElem_kids, h21]

theorem dvNames_nodup : dvNames.Nodup := by decide +kernel

/-- all that the round trip asks of a validation: ranges that the sqref codec carries; the other fields are free -/
def Dv.WF (x : Dv) : Prop := RangesOK x.sqref

theorem read_write (x : Dv) (h : x.WF) : read (write x) = .ok x := by
  obtain ⟨as, has⟩ : ∃ as, as = render dvNames (dvValues x) := ⟨_, rfl⟩
  have g := getAttr_written has dvNames_nodup
  simp only [dvNames, dvValues, List.zip_cons_cons, List.zip_nil_right, List.forall_mem_cons] at g
  obtain ⟨a0, a1, a2, a3, a4, a5, a6, a7, a8, a9, -⟩ := g
  simp only [write, read, ← has, a0, a1, a2, a3, a4, a5, a6, a7, a8, a9,
    readSqref_written x.sqref h, readKids_written, readEnum_written dvType_table, readEnum_written dvOp_table,
    map_boolOf_boolStr]

theorem readAll_written : ∀ (l : List Dv), (∀ x ∈ l, x.WF) → readAll (l.map write) = .ok l
  | [], _ => rfl
  | x :: r, h => by
    have hx := read_write x (h x (by simp))
    have hr := readAll_written r (fun y hy => h y (List.mem_cons_of_mem _ hy))
    simp only [List.map_cons]
    have hw : write x = .elem nDataValidation (render dvNames (dvValues x))
        (optElem nFormula1 x.formula1 ++ optElem nFormula2 x.formula2) := rfl
    rw [hw] at hx ⊢
    simp only [readAll, if_true, hx, hr]

end Umya.AnnotDv
