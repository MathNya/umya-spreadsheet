/-
  Display of date-formatted cells (C18, last sentence): Excel date-format codes as token lists, the text each
  token stands for, and the rendering of a token list by the model's `strftime` (chrono's `strftime`
  is outside the model; `Umya.Date.strftime` represents it and is tied by the harness).

  A code is a list of tokens `yyyy yy mmmm mmm mm m dddd ddd dd d hh h mm(minutes) ss`, `hh` / `h` of the 12-hour clock,
  the marker `AM/PM`, and separator characters `- / : . ,` and blank.  Month `mm` and minute `mm` are written the same way; which one the code
  `format_as_date` takes is decided by its replacement table (`:mm` / `mm:` ↦ minutes, tried before
  `mm` ↦ month).  `simpleCode toks` RUNS the model of that table (`Umya.Date.strftimeOf`, proved equal
  to the tables of date_formater.rs regenerated on every run: `C18_tables_match_source`) on the
  text of the token list and checks that the resulting strftime string is, token by token, the
  specifier the token means.  It is a decidable predicate on token lists (kernel evaluation);
  no general characterisation of the lists that satisfy it is proved.
-/
import Umya.Model.Date
import Umya.Lemmas.Date
import Umya.Lemmas.DateFmt
import Umya.Lemmas.ListFacts
namespace Umya.Lemmas.DateDisplay
open Umya.Date Umya.Dec Umya.Spec.Calendar Umya.Lemmas.DateFmt

inductive Tok where
  | yyyy | yy | mmm | mm | m | dd | d | hh | h | mi | ss
  | lit (c : Char)
  -- full month name, short / full weekday name, hour of the 12-hour clock (written `h` / `hh` like the
  -- 24-hour tokens; Excel reads them so when the code has an `AM/PM` marker), the marker `AM/PM`
  | mmmm | ddd | dddd | h12 | hh12 | ampm
  deriving DecidableEq, Repr

def isSep (c : Char) : Bool :=
  c == '-' || c == '/' || c == ':' || c == '.' || c == ',' || c == ' '

/-- a literal token is one of the separator characters -/
def Tok.ok : Tok → Bool
  | .lit c => isSep c
  | _ => true

/-- how the token is written in an Excel format code -/
def tokText : Tok → List Char
  | .yyyy => "yyyy".toList | .yy => "yy".toList | .mmm => "mmm".toList | .mm => "mm".toList
  | .m => "m".toList | .dd => "dd".toList | .d => "d".toList | .hh => "hh".toList | .h => "h".toList
  | .mi => "mm".toList | .ss => "ss".toList | .lit c => [c]
  | .mmmm => "mmmm".toList | .ddd => "ddd".toList | .dddd => "dddd".toList
  | .h12 => "h".toList | .hh12 => "hh".toList | .ampm => "AM/PM".toList

/-- the chrono specifier that means the same -/
def tokSf : Tok → List Char
  | .yyyy => "%Y".toList | .yy => "%y".toList | .mmm => "%b".toList | .mm => "%m".toList
  | .m => "%-m".toList | .dd => "%d".toList | .d => "%-d".toList | .hh => "%H".toList
  | .h => "%-H".toList | .mi => "%M".toList | .ss => "%S".toList | .lit c => [c]
  | .mmmm => "%B".toList | .ddd => "%a".toList | .dddd => "%A".toList
  | .h12 => "%-I".toList | .hh12 => "%I".toList | .ampm => "%P".toList

/-! The names the display rule writes, given on the specification side without the model's tables `monthNames` / `dayNames`;
  `month_names` and `day_names` tie the two. -/

def monthAbbr (m : Int) : List Char :=
  if m = 1 then "Jan".toList else if m = 2 then "Feb".toList else if m = 3 then "Mar".toList
  else if m = 4 then "Apr".toList else if m = 5 then "May".toList else if m = 6 then "Jun".toList
  else if m = 7 then "Jul".toList else if m = 8 then "Aug".toList else if m = 9 then "Sep".toList
  else if m = 10 then "Oct".toList else if m = 11 then "Nov".toList else if m = 12 then "Dec".toList
  else []

def monthFull (m : Int) : List Char :=
  if m = 1 then "January".toList else if m = 2 then "February".toList else if m = 3 then "March".toList
  else if m = 4 then "April".toList else if m = 5 then "May".toList else if m = 6 then "June".toList
  else if m = 7 then "July".toList else if m = 8 then "August".toList else if m = 9 then "September".toList
  else if m = 10 then "October".toList else if m = 11 then "November".toList
  else if m = 12 then "December".toList else []

/-- day of the week of day number `n` (1970-01-01 = day 0 was a Thursday): 0 = Sunday … 6 = Saturday -/
def weekdayOf (n : Int) : Int := (n + 4) % 7

def dayFull (w : Int) : List Char :=
  if w = 0 then "Sunday".toList else if w = 1 then "Monday".toList else if w = 2 then "Tuesday".toList
  else if w = 3 then "Wednesday".toList else if w = 4 then "Thursday".toList else if w = 5 then "Friday".toList
  else if w = 6 then "Saturday".toList else []

def dayAbbr (w : Int) : List Char :=
  if w = 0 then "Sun".toList else if w = 1 then "Mon".toList else if w = 2 then "Tue".toList
  else if w = 3 then "Wed".toList else if w = 4 then "Thu".toList else if w = 5 then "Fri".toList
  else if w = 6 then "Sat".toList else []

/-- the hour of the 12-hour clock: 0 and 12 o'clock are written 12, 13 … 23 are 1 … 11 -/
def hour12 (h : Int) : Int := if h % 12 = 0 then 12 else h % 12

/-- the text a token stands for, for a date and time of day:
    `yyyy` four digits of the year, `yy` two digits of the year mod 100, `mmm` the English three-letter
    month name, `mm` / `dd` / `hh` / minutes / `ss` two digits, `m` / `d` / `h` shortest decimal; `mmmm`, `dddd` / `ddd` the
    English full month name, full / three-letter weekday name; the 12-hour `h` / `hh` through `hour12` -/
def tokShow (dt : DateTime) : Tok → List Char
  | .yyyy => pad4 dt.year
  | .yy => pad2 (dt.year % 100)
  | .mmm => monthAbbr dt.month
  | .mm => pad2 dt.month
  | .m => decDigits dt.month.toNat
  | .dd => pad2 dt.day
  | .d => decDigits dt.day.toNat
  | .hh => pad2 dt.hour
  | .h => decDigits dt.hour.toNat
  | .mi => pad2 dt.minute
  | .ss => pad2 dt.second
  | .lit c => [c]
  | .mmmm => monthFull dt.month
  | .ddd => dayAbbr (weekdayOf dt.dayNo)
  | .dddd => dayFull (weekdayOf dt.dayNo)
  | .h12 => decDigits (hour12 dt.hour).toNat
  | .hh12 => pad2 (hour12 dt.hour)
  | .ampm => if dt.hour < 12 then "AM".toList else "PM".toList     -- Excel writes the marker in capitals

/-- what the CODE shows: as `tokShow`, except that the `AM/PM` marker comes out in lower case
    (`am/pm ↦ %P`, chrono's lower-case marker; the crate's own tests pin `12:00 am`) -/
def tokShowCode (dt : DateTime) : Tok → List Char
  | .ampm => if dt.hour < 12 then "am".toList else "pm".toList
  | t => tokShow dt t

def codeText (toks : List Tok) : List Char := toks.flatMap tokText
def codeSf (toks : List Tok) : List Char := toks.flatMap tokSf
def showToks (dt : DateTime) (toks : List Tok) : List Char := toks.flatMap (tokShow dt)
def showToksCode (dt : DateTime) (toks : List Tok) : List Char := toks.flatMap (tokShowCode dt)

theorem tokShowCode_of_ne (dt : DateTime) (t : Tok) (h : t ≠ .ampm) : tokShowCode dt t = tokShow dt t :=
  tokShowCode.eq_2 dt t h

theorem showToksCode_eq (dt : DateTime) (toks : List Tok) (h : toks.contains .ampm = false) :
    showToksCode dt toks = showToks dt toks :=
  flatMap_congr_mem fun t ht => tokShowCode_of_ne dt t fun e =>
    Bool.false_ne_true (h.symm.trans (List.contains_iff_mem.2 (e ▸ ht)))

/-- the code `format_as_date` (its replacement tables, as modelled) reads the token list the way
    the tokens mean — in particular every `mm` is taken as month / minute as the list says -/
def simpleCode (toks : List Tok) : Bool :=
  toks.all Tok.ok && decide (strftimeOf (codeText toks) = some (codeSf toks))

theorem simpleCode_iff (toks : List Tok) :
    simpleCode toks = true ↔ toks.all Tok.ok = true ∧ strftimeOf (codeText toks) = some (codeSf toks) := by
  simp only [simpleCode, Bool.and_eq_true, decide_eq_true_eq]

def noBlank (s : List Char) : Bool := s.all (· != ' ')

/-- the English names of chrono are those of the display rule; none has a blank -/
theorem month_names (m : Int) (hm : 1 ≤ m ∧ m ≤ 12) :
    nameAt monthNames (m - 1) = some (monthFull m) ∧ (monthFull m).take 3 = monthAbbr m ∧
    noBlank (monthFull m) = true ∧ monthFull m ≠ [] ∧ noBlank (monthAbbr m) = true ∧ monthAbbr m ≠ [] := by
  have : m = 1 ∨ m = 2 ∨ m = 3 ∨ m = 4 ∨ m = 5 ∨ m = 6 ∨ m = 7 ∨ m = 8 ∨ m = 9 ∨ m = 10 ∨ m = 11 ∨ m = 12 := by omega
  rcases this with rfl | rfl | rfl | rfl | rfl | rfl | rfl | rfl | rfl | rfl | rfl | rfl <;> decide +kernel

theorem day_names (w : Int) (hw : 0 ≤ w ∧ w ≤ 6) :
    nameAt dayNames w = some (dayFull w) ∧ (dayFull w).take 3 = dayAbbr w ∧
    noBlank (dayFull w) = true ∧ dayFull w ≠ [] ∧ noBlank (dayAbbr w) = true ∧ dayAbbr w ≠ [] := by
  have : w = 0 ∨ w = 1 ∨ w = 2 ∨ w = 3 ∨ w = 4 ∨ w = 5 ∨ w = 6 := by omega
  rcases this with rfl | rfl | rfl | rfl | rfl | rfl | rfl <;> decide +kernel

theorem weekdayOf_range (n : Int) : 0 ≤ weekdayOf n ∧ weekdayOf n ≤ 6 := by unfold weekdayOf; omega

theorem specPlain_B (dt : DateTime) (hm : 1 ≤ dt.month ∧ dt.month ≤ 12) :
    specPlain dt 'B' = some (monthFull dt.month) := (month_names dt.month hm).1

theorem specPlain_b (dt : DateTime) (hm : 1 ≤ dt.month ∧ dt.month ≤ 12) :
    specPlain dt 'b' = some (monthAbbr dt.month) := by
  show (nameAt monthNames (dt.month - 1)).map (·.take 3) = _
  rw [(month_names dt.month hm).1, Option.map_some, (month_names dt.month hm).2.1]

theorem specPlain_A (dt : DateTime) : specPlain dt 'A' = some (dayFull (weekdayOf dt.dayNo)) :=
  (day_names _ (weekdayOf_range dt.dayNo)).1

theorem specPlain_a (dt : DateTime) : specPlain dt 'a' = some (dayAbbr (weekdayOf dt.dayNo)) := by
  show (nameAt dayNames (weekdayOf dt.dayNo)).map (·.take 3) = _
  rw [(day_names _ (weekdayOf_range dt.dayNo)).1, Option.map_some, (day_names _ (weekdayOf_range dt.dayNo)).2.1]

theorem hour12_eq (h : Int) : (h + 11) % 12 + 1 = hour12 h := by unfold hour12; split <;> omega

theorem specPlain_Y (dt : DateTime) (hy : 0 ≤ dt.year ∧ dt.year ≤ 9999) :
    specPlain dt 'Y' = some (pad4 dt.year) := by
  show some (yearText dt.year) = _
  unfold yearText; rw [if_pos hy]

theorem tok_step (dt : DateTime) (hy : 0 ≤ dt.year ∧ dt.year ≤ 9999) (hm : 1 ≤ dt.month ∧ dt.month ≤ 12)
    (t : Tok) (ht : t.ok = true) (r : List Char) (fuel : Nat) :
    strftime dt (tokSf t ++ r) (fuel + 1) = (strftime dt r fuel).map (tokShowCode dt t ++ ·) := by
  cases t with
  | yyyy => exact strftime_plain dt 'Y' (by decide) (specPlain_Y dt hy) r fuel
  | yy => exact strftime_plain dt 'y' (by decide) rfl r fuel
  | mmm => exact strftime_plain dt 'b' (by decide) (specPlain_b dt hm) r fuel
  | mm => exact strftime_plain dt 'm' (by decide) rfl r fuel
  | m => exact strftime_dash dt 'm' rfl r fuel
  | dd => exact strftime_plain dt 'd' (by decide) rfl r fuel
  | d => exact strftime_dash dt 'd' rfl r fuel
  | hh => exact strftime_plain dt 'H' (by decide) rfl r fuel
  | h => exact strftime_dash dt 'H' rfl r fuel
  | mi => exact strftime_plain dt 'M' (by decide) rfl r fuel
  | ss => exact strftime_plain dt 'S' (by decide) rfl r fuel
  | lit c =>
    refine strftime_lit dt c (fun e => ?_) r fuel
    rw [e] at ht; exact absurd ht (by decide)
  | mmmm => exact strftime_plain dt 'B' (by decide) (specPlain_B dt hm) r fuel
  | ddd => exact strftime_plain dt 'a' (by decide) (specPlain_a dt) r fuel
  | dddd => exact strftime_plain dt 'A' (by decide) (specPlain_A dt) r fuel
  | h12 => exact strftime_dash dt 'I' (by show some _ = some _; rw [hour12_eq]; rfl) r fuel
  | hh12 => exact strftime_plain dt 'I' (by decide) (by show some _ = some _; rw [hour12_eq]; rfl) r fuel
  | ampm => exact strftime_plain dt 'P' (by decide) rfl r fuel

theorem strftime_toks (dt : DateTime) (hy : 0 ≤ dt.year ∧ dt.year ≤ 9999) (hm : 1 ≤ dt.month ∧ dt.month ≤ 12)
    (toks : List Tok) (fuel : Nat) (hok : toks.all Tok.ok = true) (hlen : (codeSf toks).length < fuel) :
    strftime dt (codeSf toks) fuel = some (showToksCode dt toks) := by
  induction toks generalizing fuel with
  | nil => simp [codeSf, showToksCode, strftime]
  | cons t rest ih =>
    have e : codeSf (t :: rest) = tokSf t ++ codeSf rest := by simp [codeSf]
    -- a token is at least one character, so the fuel left after it covers the rest
    have : 1 ≤ (tokSf t).length := by cases t <;> simp [tokSf]
    rw [e, List.length_append] at hlen
    obtain ⟨f, rfl⟩ : ∃ f, fuel = f + 1 := ⟨fuel - 1, by omega⟩
    simp only [List.all_cons, Bool.and_eq_true] at hok
    rw [e, tok_step dt hy hm t hok.1, ih f hok.2 (by omega)]
    simp [showToksCode]

/-- date (reference calendar) and time of day of day number `n` (1970-01-01 = 0), second `T`: the specification's side of
    the model's `ofEpochSeconds (n * 86400 + T)` (equal by `ofEpochSeconds_add`) -/
def civilDateTime (n T : Int) : DateTime :=
  let c := civilFromDays n
  ⟨c.1, c.2.1, c.2.2, T / 3600, T % 3600 / 60, T % 60, n⟩

/-- the range of years in which `%Y` prints four digits -/
theorem civil_year_range (n : Int) (h0 : daysFromCivil 1899 12 31 ≤ n) (h1 : n ≤ daysFromCivil 9999 12 31) :
    1899 ≤ (civilFromDays n).1 ∧ (civilFromDays n).1 ≤ 9999 := by
  have hv := Umya.Lemmas.Calendar.civilFromDays_valid n
  have hr := Umya.Lemmas.Calendar.daysFromCivil_civilFromDays n
  have e0 : daysFromCivil 1899 1 1 = -25932 := by decide
  obtain ⟨_, e1, _, _, e2⟩ := Umya.Lemmas.Date.landmark_days
  constructor
  · refine Int.not_lt.1 fun hlt => ?_
    have := Umya.Lemmas.Calendar.daysFromCivil_strictMono _ _ _ 1899 1 1 hv (by decide) (Or.inl hlt)
    omega
  · refine Int.not_lt.1 fun hlt => ?_
    have := Umya.Lemmas.Calendar.daysFromCivil_strictMono 9999 12 31 _ _ _ (by decide) hv (Or.inl hlt)
    omega

theorem render_toks (toks : List Tok) (hc : simpleCode toks = true) (n T : Int)
    (h0 : daysFromCivil 1899 12 31 ≤ n) (h1 : n ≤ daysFromCivil 9999 12 31) (hT : 0 ≤ T ∧ T < 86400) :
    ∃ sf, strftimeOf (codeText toks) = some sf ∧
      strftime (ofEpochSeconds (n * 86400 + T)) sf (sf.length + 1) = some (showToksCode (civilDateTime n T) toks) := by
  obtain ⟨hok, hsf⟩ := (simpleCode_iff toks).1 hc
  refine ⟨codeSf toks, hsf, ?_⟩
  rw [show ofEpochSeconds (n * 86400 + T) = civilDateTime n T from Umya.Lemmas.Date.ofEpochSeconds_add n T hT]
  have hy := civil_year_range n h0 h1
  have hv := Umya.Lemmas.Calendar.civilFromDays_valid n
  exact strftime_toks (civilDateTime n T) ⟨by show 0 ≤ (civilFromDays n).1; omega, hy.2⟩ ⟨hv.1, hv.2.1⟩ toks _ hok
    (Nat.lt_succ_self _)

theorem trimBlanks_id (s : List Char) (h1 : s.head? ≠ some ' ') (h2 : s.getLast? ≠ some ' ') : trimBlanks s = s := by
  have drop (l : List Char) (h : l.head? ≠ some ' ') : l.dropWhile (· == ' ') = l :=
    dropWhile_of_head?_false _ l fun c hc => beq_eq_false_iff_ne.2 fun e => h (e ▸ hc)
  unfold trimBlanks
  rw [drop s h1, drop s.reverse (by rwa [List.head?_reverse]), List.reverse_reverse]

theorem not_mem_blank (l : List Char) (hl : noBlank l = true) : ' ' ∉ l :=
  fun hm => absurd (List.all_eq_true.1 hl _ hm) (by decide)

theorem noBlank_decDigits (n : Nat) : noBlank (decDigits n) = true := decDigits_all (by decide) n

theorem noBlank_append (a b : List Char) (ha : noBlank a = true) (hb : noBlank b = true) :
    noBlank (a ++ b) = true := by
  unfold noBlank at *; rw [List.all_append, ha, hb]; rfl

theorem noBlank_pad2 (n : Int) : noBlank (pad2 n) = true ∧ pad2 n ≠ [] := by
  unfold pad2
  split
  · exact ⟨noBlank_append ['0'] _ (by decide) (noBlank_decDigits _), by simp⟩
  · exact ⟨noBlank_decDigits _, decDigits_ne_nil _⟩

theorem noBlank_pad4 (n : Int) : noBlank (pad4 n) = true ∧ pad4 n ≠ [] := by
  unfold pad4
  refine ⟨noBlank_append _ _ ?_ (noBlank_decDigits _), ?_⟩
  · unfold noBlank; rw [List.all_eq_true]; intro c hc
    rw [List.mem_replicate] at hc; rw [hc.2]; decide
  · intro h
    exact decDigits_ne_nil _ (List.append_eq_nil_iff.1 h).2

theorem tokShow_noBlank (dt : DateTime) (hm : 1 ≤ dt.month ∧ dt.month ≤ 12) (t : Tok)
    (hb : t ≠ .lit ' ') : noBlank (tokShow dt t) = true ∧ tokShow dt t ≠ [] := by
  obtain ⟨_, _, monthFullB, monthFullN, monthAbbrBN⟩ := month_names dt.month hm
  obtain ⟨_, _, dayFullB, dayFullN, dayAbbrBN⟩ := day_names _ (weekdayOf_range dt.dayNo)
  have hdec (n : Nat) : noBlank (decDigits n) = true ∧ decDigits n ≠ [] := ⟨noBlank_decDigits n, decDigits_ne_nil n⟩
  cases t with
  | yyyy => exact noBlank_pad4 _
  | mmm => exact monthAbbrBN
  | mmmm => exact ⟨monthFullB, monthFullN⟩
  | ddd => exact dayAbbrBN
  | dddd => exact ⟨dayFullB, dayFullN⟩
  | yy | mm | dd | hh | mi | ss | hh12 => exact noBlank_pad2 _
  | m | d | h | h12 => exact hdec _
  | lit c =>
    have hc : c ≠ ' ' := fun e => hb (by rw [e])
    exact ⟨by simp [tokShow, noBlank, hc], by simp [tokShow]⟩
  | ampm =>
    show noBlank (if dt.hour < 12 then "AM".toList else "PM".toList) = true ∧
      (if dt.hour < 12 then "AM".toList else "PM".toList) ≠ []
    split <;> decide

theorem tokShowCode_noBlank (dt : DateTime) (hm : 1 ≤ dt.month ∧ dt.month ≤ 12) (t : Tok)
    (hb : t ≠ .lit ' ') : noBlank (tokShowCode dt t) = true ∧ tokShowCode dt t ≠ [] := by
  by_cases h : t = .ampm
  · subst h
    show noBlank (if dt.hour < 12 then "am".toList else "pm".toList) = true ∧
      (if dt.hour < 12 then "am".toList else "pm".toList) ≠ []
    split <;> decide
  · rw [tokShowCode_of_ne dt t h]; exact tokShow_noBlank dt hm t hb

/-- the trimming of `to_formatted_string` changes nothing on a code that neither starts nor ends with a blank -/
theorem trimBlanks_flatMap (sh : Tok → List Char)
    (hsh : ∀ t : Tok, t ≠ .lit ' ' → noBlank (sh t) = true ∧ sh t ≠ []) (toks : List Tok)
    (hne : toks ≠ []) (h1 : toks.head? ≠ some (.lit ' '))
    (h2 : toks.getLast? ≠ some (.lit ' ')) : trimBlanks (toks.flatMap sh) = toks.flatMap sh := by
  obtain ⟨t, rest, e1⟩ := List.exists_cons_of_ne_nil hne
  obtain ⟨init, t', e2⟩ := (List.eq_nil_or_concat toks).resolve_left hne
  rw [List.concat_eq_append] at e2
  obtain ⟨n1, n2⟩ := hsh t fun e => h1 (by rw [e1, e]; rfl)
  obtain ⟨m1, m2⟩ := hsh t' fun e => h2 (by rw [e2, e, List.getLast?_concat])
  -- the text starts with the piece of the first token and ends with the piece of the last
  refine trimBlanks_id _ (fun h => not_mem_blank _ n1 (List.mem_of_head? ?_))
    (fun h => not_mem_blank _ m1 (List.mem_of_getLast? ?_))
  · rwa [e1, List.flatMap_cons, List.head?_append, List.head?_eq_some_head n2, Option.some_or,
      ← List.head?_eq_some_head n2] at h
  · rwa [e2, List.flatMap_append, List.flatMap_singleton, List.getLast?_append, List.getLast?_eq_some_getLast m2,
      Option.some_or, ← List.getLast?_eq_some_getLast m2] at h

theorem trimBlanks_showToks (dt : DateTime) (hm : 1 ≤ dt.month ∧ dt.month ≤ 12) (toks : List Tok)
    (hne : toks ≠ []) (h1 : toks.head? ≠ some (.lit ' '))
    (h2 : toks.getLast? ≠ some (.lit ' ')) : trimBlanks (showToks dt toks) = showToks dt toks :=
  trimBlanks_flatMap (tokShow dt) (tokShow_noBlank dt hm) toks hne h1 h2

theorem trimBlanks_showToksCode (dt : DateTime) (hm : 1 ≤ dt.month ∧ dt.month ≤ 12) (toks : List Tok)
    (hne : toks ≠ []) (h1 : toks.head? ≠ some (.lit ' '))
    (h2 : toks.getLast? ≠ some (.lit ' ')) : trimBlanks (showToksCode dt toks) = showToksCode dt toks :=
  trimBlanks_flatMap (tokShowCode dt) (tokShowCode_noBlank dt hm) toks hne h1 h2

end Umya.Lemmas.DateDisplay
