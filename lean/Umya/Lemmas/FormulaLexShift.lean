/-
  From token lists to whole texts: a token-wise adjuster that is the Spec's map on reference
  tokens and the identity elsewhere maps `tokensOf e` to `tokensOf (e.mapRefs F)`, and the latter
  renders to the printed text.
-/
import Umya.Lemmas.FormulaLexPass
import Umya.Lemmas.FormulaAdjust
namespace Umya.Formula
open Umya.Coord Umya.Dec Umya.Spec

mutual
  /-- every reference is well-formed, every name is inert, no structured references / array constants -/
  def RefsOk : Expr → Prop
    | .num _ => True
    | .str _ => True
    | .bool _ => True
    | .err _ => True
    | .name n => NameInert n = true
    | .ref r => r.WF
    | .opaque _ => False
    | .array _ => False
    | .neg e => RefsOk e
    | .pos e => RefsOk e
    | .pct e => RefsOk e
    | .bin _ a b => RefsOk a ∧ RefsOk b
    | .isect a b => RefsOk a ∧ RefsOk b
    | .union es => RefsOkA es
    | .paren e => RefsOk e
    | .call _ as => RefsOkA as
  def RefsOkA : Args → Prop
    | .nil => True
    | .cons e rest => RefsOk e ∧ RefsOkA rest
    | .skip rest => RefsOkA rest
end

theorem shape_tokens {e : Expr} (h : (∃ r', e = .ref r') ∨ e = .err .ref) : tokensOf e = [exprTok e] := by
  rcases h with ⟨r', h⟩ | h <;> rw [h] <;> simp [tokensOf, exprTok]

theorem mapRefs_ne_nil (F : CRef → Expr) (as : Args) (h : as ≠ .nil) : as.mapRefs F ≠ .nil := by
  cases as <;> simp [Args.mapRefs] at h ⊢

section
variable {g : Tok → Res Tok} {F : CRef → Expr} (M : TokMap g F)
include M

theorem sep_other (k : TT) : g (sepTok k) = .ok (sepTok k) := by
  apply M.other; by_cases h : k = .function <;> simp [isRangeOperand, sepTok, h]

mutual
  theorem map_tokensOf (e : Expr) (h : RefsOk e) :
      mapRes g (tokensOf e) = .ok (tokensOf (e.mapRefs F)) := by
    match e, h with
    | .num _, _ | .str _, _ | .bool _, _ | .err _, _ => exact mapRes_cons_ok (M.other _ rfl) rfl
    | .name n, h => exact mapRes_cons_ok (M.name n h) rfl
    | .ref r, h =>
      simp only [Expr.mapRefs, shape_tokens (M.shape r), tokensOf]
      exact mapRes_cons_ok (M.ref r h) rfl
    | .opaque _, h | .array _, h => exact absurd h (by simp [RefsOk])
    | .neg e, h | .pos e, h =>
      simp only [Expr.mapRefs, tokensOf]
      exact mapRes_cons_ok (M.other _ rfl) (map_tokensOf e h)
    | .pct e, h =>
      simp only [Expr.mapRefs, tokensOf]
      exact mapRes_append_ok (map_tokensOf e h) (mapRes_cons_ok (M.other _ rfl) rfl)
    | .bin _ a b, h | .isect a b, h =>
      simp only [Expr.mapRefs, tokensOf]
      exact mapRes_append_ok (map_tokensOf a h.1) (mapRes_cons_ok (M.other _ rfl) (map_tokensOf b h.2))
    | .paren e, h =>
      simp only [Expr.mapRefs, tokensOf]
      exact mapRes_cons_ok (M.other _ rfl) (mapRes_append_ok (map_tokensOf e h) (mapRes_cons_ok (M.other _ rfl) rfl))
    | .union es, h =>
      simp only [Expr.mapRefs, tokensOf]
      exact mapRes_cons_ok (M.other _ rfl)
        (mapRes_append_ok (map_tokensOfA es h .subexpression) (mapRes_cons_ok (M.other _ rfl) rfl))
    | .call f as, h =>
      simp only [Expr.mapRefs, tokensOf]
      exact mapRes_cons_ok (M.other _ rfl)
        (mapRes_append_ok (map_tokensOfA as h .function) (mapRes_cons_ok (M.other _ rfl) rfl))
  theorem map_tokensOfA (as : Args) (h : RefsOkA as) (k : TT) :
      mapRes g (tokensOfA k as) = .ok (tokensOfA k (as.mapRefs F)) := by
    match as, h with
    | .nil, _ => rfl
    | .cons e rest, h =>
      by_cases hr : rest = .nil
      · subst hr; simpa [Args.mapRefs, tokensOfA] using map_tokensOf e h.1
      · -- `hr`, `hr'`: the side conditions of the `tokensOfA` equation for a longer list, on either side;
        -- `simp only` takes them from the context (here and in `render_mapRefsA`)
        have hr' := mapRefs_ne_nil F rest hr
        simp only [Args.mapRefs, tokensOfA]
        exact mapRes_append_ok (map_tokensOf e h.1) (mapRes_cons_ok (sep_other M k) (map_tokensOfA rest h.2 k))
    | .skip rest, h =>
      by_cases hr : rest = .nil
      · subst hr; rfl
      · have hr' := mapRefs_ne_nil F rest hr
        simp only [Args.mapRefs, tokensOfA]
        exact mapRes_cons_ok (sep_other M k) (map_tokensOfA rest h k)
end
end

theorem render_sep (k : TT) : renderTok (sepTok k) = [','] := by
  by_cases h : k = .function <;> simp [renderTok, sepTok, h]

theorem render_op3 (op : BinOp) : renderTok (op3 op) = op.text := by
  cases op <;> simp [renderTok, op3, opSub]

theorem render_refTok (r : CRef) : renderTok (refTok r) = r.text := by simp [renderTok, refTok]

theorem dblQuote_eq (s : List Char) : dblQuote s = dbl s := rfl

mutual
  theorem render_mapRefs (F : CRef → Expr) (hF : ∀ r, (∃ r', F r = .ref r') ∨ F r = .err .ref)
      (e : Expr) (h : RefsOk e) : render (tokensOf (e.mapRefs F)) = (e.mapRefs F).print := by
    match e, h with
    | .num _, _ | .err _, _ | .name _, _ => simp [Expr.mapRefs, tokensOf, render, renderTok, Expr.print]
    | .str s, _ => simp [Expr.mapRefs, tokensOf, render, renderTok, Expr.print, dblQuote_eq]
    | .bool b, _ => cases b <;> simp [Expr.mapRefs, tokensOf, render, renderTok, Expr.print, boolText]
    | .ref r, _ =>
      rcases hF r with ⟨r', hr⟩ | hr <;>
        simp [Expr.mapRefs, hr, tokensOf, render, renderTok, Expr.print, refTok]
    | .opaque _, h | .array _, h => exact absurd h (by simp [RefsOk])
    | .neg e, h | .pos e, h =>
      simp only [Expr.mapRefs, tokensOf, render_cons, Expr.print, render_mapRefs F hF e h]
      simp [renderTok, prefixTok]
    | .pct e, h =>
      simp only [Expr.mapRefs, tokensOf, render_append, render_cons, Expr.print, render_mapRefs F hF e h]
      simp [renderTok, pctTok, render_nil]
    | .bin op a b, h =>
      simp only [Expr.mapRefs, tokensOf, render_append, render_cons, Expr.print, render_mapRefs F hF a h.1,
        render_mapRefs F hF b h.2, render_op3]
      simp
    | .isect a b, h =>
      simp only [Expr.mapRefs, tokensOf, render_append, render_cons, Expr.print, render_mapRefs F hF a h.1,
        render_mapRefs F hF b h.2]
      simp [renderTok]
    | .paren e, h =>
      simp only [Expr.mapRefs, tokensOf, render_append, render_cons, Expr.print, render_mapRefs F hF e h]
      simp [renderTok, subStart, subStop, render_nil]
    | .union es, h =>
      simp only [Expr.mapRefs, tokensOf, render_append, render_cons, Expr.print,
        render_mapRefsA F hF es h .subexpression]
      simp [renderTok, subStart, subStop, render_nil]
    | .call f as, h =>
      simp only [Expr.mapRefs, tokensOf, render_append, render_cons, Expr.print,
        render_mapRefsA F hF as h .function]
      simp [renderTok, fnStart, fnStop, render_nil]
  theorem render_mapRefsA (F : CRef → Expr) (hF : ∀ r, (∃ r', F r = .ref r') ∨ F r = .err .ref)
      (as : Args) (h : RefsOkA as) (k : TT) :
      render (tokensOfA k (as.mapRefs F)) = (as.mapRefs F).print := by
    match as, h with
    | .nil, _ => rfl
    | .cons e rest, h =>
      by_cases hr : rest = .nil
      · subst hr; simpa [Args.mapRefs, tokensOfA, Args.print] using render_mapRefs F hF e h.1
      · have hr' := mapRefs_ne_nil F rest hr
        simp only [Args.mapRefs, tokensOfA, Args.print, render_append, render_cons, render_sep,
          render_mapRefs F hF e h.1, render_mapRefsA F hF rest h.2 k]
        simp
    | .skip rest, h =>
      by_cases hr : rest = .nil
      · subst hr; rfl
      · have hr' := mapRefs_ne_nil F rest hr
        simp only [Args.mapRefs, tokensOfA, Args.print, render_cons, render_sep, render_mapRefsA F hF rest h k]
        simp
end

/-! The induction of `render_mapRefs` once more, on `e` itself.  Both use their hypothesis only to rule out `.array`,
    where `tokensOf` is junk, and `.opaque`, which they do not treat (`LexOk` rules out `.isect` too); neither
    hypothesis implies the other. -/
mutual
  theorem render_tokensOf (e : Expr) (h : LexOk e) : render (tokensOf e) = e.print := by
    match e, h with
    | .num _, _ | .err _, _ | .name _, _ => simp [tokensOf, render, renderTok, Expr.print]
    | .str s, _ => simp [tokensOf, render, renderTok, Expr.print, dblQuote_eq]
    | .bool b, _ => cases b <;> simp [tokensOf, render, renderTok, Expr.print, boolText]
    | .ref r, _ => simp [tokensOf, render, render_refTok, Expr.print]
    | .opaque _, h | .array _, h | .isect _ _, h => exact absurd h (by simp [LexOk])
    | .neg e, h | .pos e, h =>
      simp only [tokensOf, render_cons, Expr.print, render_tokensOf e h]
      simp [renderTok, prefixTok]
    | .pct e, h =>
      simp only [tokensOf, render_append, render_cons, Expr.print, render_tokensOf e h]
      simp [renderTok, pctTok, render_nil]
    | .bin op a b, h =>
      simp only [tokensOf, render_append, render_cons, Expr.print, render_tokensOf a h.1,
        render_tokensOf b h.2, render_op3]
      simp
    | .paren e, h =>
      simp only [tokensOf, render_append, render_cons, Expr.print, render_tokensOf e h]
      simp [renderTok, subStart, subStop, render_nil]
    | .union es, h =>
      simp only [tokensOf, render_append, render_cons, Expr.print, render_tokensOfA es h .subexpression]
      simp [renderTok, subStart, subStop, render_nil]
    | .call f as, h =>
      simp only [tokensOf, render_append, render_cons, Expr.print, render_tokensOfA as h.2 .function]
      simp [renderTok, fnStart, fnStop, render_nil]
  theorem render_tokensOfA (as : Args) (h : LexOkA as) (k : TT) :
      render (tokensOfA k as) = as.print := by
    match as, h with
    | .nil, _ => rfl
    | .cons e rest, h =>
      by_cases hr : rest = .nil
      · subst hr; simpa [tokensOfA, Args.print] using render_tokensOf e h.1
      · simp only [tokensOfA, Args.print, render_append, render_cons, render_sep,
          render_tokensOf e h.1, render_tokensOfA rest h.2 k]
        simp
    | .skip rest, h =>
      by_cases hr : rest = .nil
      · subst hr; rfl
      · simp only [tokensOfA, Args.print, render_cons, render_sep, render_tokensOfA rest h k]
        simp
end

/-- the whole-text theorems for translate, insert and remove are three instances -/
theorem tokMap_text {g : Tok → Res Tok} {F : CRef → Expr} (M : TokMap g F) (e : Expr) (hr : RefsOk e) :
    (match mapRes g (tokensOf e) with
      | .panic => .panic
      | .ok l => .ok (render l)) = Res.ok (e.mapRefs F).print := by
  rw [map_tokensOf M e hr]
  exact congrArg Res.ok (render_mapRefs _ M.shape e hr)

end Umya.Formula
