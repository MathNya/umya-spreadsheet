/-
  A digit list is the number `valOf`; the digit operations of `format_decimal_text` are arithmetic on it: truncation is
  `/ 10^k`, padding `· 10^k`, the carry loop `+ 1`, `roundDigits` half-up division; a digit list is printed as `decDigits` /
  `padLeft` / `groupNat` of its value.  Hence `formatDecimal = render ∘ roundHalfAway` (`formatDecimal_eq`).  Of `roundHalfAway`
  one law is used, that a common power of ten cancels (`roundHalfAway_scaled`); rounding to more decimals and to fewer are its cases.
-/
import Umya.Model.NumFmt
import Umya.Spec.Round
import Mathlib.Tactic.Ring
import Mathlib.Tactic.Linarith
namespace Umya.NumFmt
open Umya.Dec Umya.Spec

/-- most significant digit first -/
def valOf (ds : List Digit) : Nat := ds.foldl (fun a d => 10 * a + d.val) 0

theorem foldl_acc (ys : List Digit) (a : Nat) :
    ys.foldl (fun a d => 10 * a + d.val) a = a * 10 ^ ys.length + ys.foldl (fun a d => 10 * a + d.val) 0 := by
  induction ys generalizing a with
  | nil => simp
  | cons d r ih =>
    simp only [List.foldl_cons, List.length_cons]
    rw [ih (10 * a + d.val), ih (10 * 0 + d.val)]
    ring

theorem valOf_nil : valOf [] = 0 := rfl

theorem valOf_append (xs ys : List Digit) : valOf (xs ++ ys) = valOf xs * 10 ^ ys.length + valOf ys := by
  simp only [valOf, List.foldl_append]
  exact foldl_acc ys _

theorem valOf_cons (d : Digit) (r : List Digit) : valOf (d :: r) = d.val * 10 ^ r.length + valOf r := by
  have := valOf_append [d] r
  simpa [valOf] using this

theorem valOf_snoc (r : List Digit) (d : Digit) : valOf (r ++ [d]) = 10 * valOf r + d.val := by
  rw [valOf_append]; simp [valOf]; ring

theorem valOf_lt (ds : List Digit) : valOf ds < 10 ^ ds.length := by
  induction ds with
  | nil => simp [valOf]
  | cons d r ih =>
    rw [valOf_cons, List.length_cons, Nat.pow_succ]
    have hd := d.isLt
    have : d.val * 10 ^ r.length ≤ 9 * 10 ^ r.length := Nat.mul_le_mul_right _ (by omega)
    omega

theorem valOf_replicate_zero (p : Nat) : valOf (List.replicate p (0 : Digit)) = 0 := by
  induction p with
  | zero => rfl
  | succ p ih => rw [List.replicate_succ, valOf_cons, ih]; simp

theorem valOf_take_drop (ds : List Digit) (j : Nat) :
    valOf ds = valOf (ds.take j) * 10 ^ (ds.drop j).length + valOf (ds.drop j) := by
  conv => lhs; rw [← List.take_append_drop j ds]
  exact valOf_append _ _

theorem valOf_take (ds : List Digit) (j : Nat) : valOf (ds.take j) = valOf ds / 10 ^ (ds.length - j) := by
  have h := valOf_take_drop ds j
  have hl := valOf_lt (ds.drop j)
  rw [List.length_drop] at h hl
  rw [h, Nat.mul_comm, Nat.mul_add_div (Nat.pow_pos (by omega)), Nat.div_eq_of_lt hl]
  simp

theorem valOf_drop (ds : List Digit) (j : Nat) : valOf (ds.drop j) = valOf ds % 10 ^ (ds.length - j) := by
  have h := valOf_take_drop ds j
  have hl := valOf_lt (ds.drop j)
  rw [List.length_drop] at h hl
  rw [h, Nat.mul_comm, Nat.mul_add_mod, Nat.mod_eq_of_lt hl]

/-- the carry loop runs on the reversed digits -/
theorem valOf_incRev_reverse (r : List Digit) : valOf (incRev r).reverse = valOf r.reverse + 1 := by
  fun_induction incRev r with
  | case1 => rfl
  | case2 d r h ih => rw [List.reverse_cons, List.reverse_cons, valOf_snoc, valOf_snoc, ih, h]; simp; omega
  | case3 d r h => rw [List.reverse_cons, List.reverse_cons, valOf_snoc, valOf_snoc]; simp; omega

theorem valOf_increment (ds : List Digit) : valOf (increment ds) = valOf ds + 1 := by
  unfold increment
  rw [valOf_incRev_reverse, List.reverse_reverse]

theorem length_incRev (r : List Digit) : r.length ≤ (incRev r).length := by
  fun_induction incRev r with
  | case1 => simp
  | case2 d r h ih => simp; omega
  | case3 d r h => simp

theorem length_increment (ds : List Digit) : ds.length ≤ (increment ds).length := by
  unfold increment
  have := length_incRev ds.reverse
  simpa using this

theorem div_half_up (q r M : Nat) (hr : r < M) :
    (2 * (q * M + r) + M) / (2 * M) = if M ≤ 2 * r then q + 1 else q := by
  have e : 2 * (q * M + r) + M = 2 * M * q + (2 * r + M) := by ring
  rw [e, Nat.mul_add_div (by omega)]
  split
  · rw [Nat.div_eq_of_lt_le (k := 1) (by omega) (by omega)]
  · rw [Nat.div_eq_of_lt (by omega)]; rfl

/-- the point moved `a` places (both counts of decimals grow by `a`) changes nothing; `s` more digits kept are a factor
    `10 ^ s` -/
theorem roundHalfAway_scaled (N k n s a : Nat) :
    roundHalfAway N (a + k) (a + s + n) = roundHalfAway (10 ^ s * N) k n := by
  unfold roundHalfAway
  have hA : 0 < 10 ^ a := Nat.pow_pos (by omega)
  have e1 : 2 * N * 10 ^ (a + s + n) + 10 ^ (a + k) = (2 * (10 ^ s * N) * 10 ^ n + 10 ^ k) * 10 ^ a := by
    rw [Nat.pow_add, Nat.pow_add, Nat.pow_add]; ring
  have e2 : 2 * 10 ^ (a + k) = (2 * 10 ^ k) * 10 ^ a := by rw [Nat.pow_add]; ring
  rw [e1, e2, Nat.mul_div_mul_right _ _ hA]

theorem roundHalfAway_pad (N k n : Nat) (h : k ≤ n) : roundHalfAway N k n = N * 10 ^ (n - k) := by
  obtain ⟨s, rfl⟩ := Nat.exists_eq_add_of_le h
  rw [Nat.add_sub_cancel_left]
  refine (roundHalfAway_scaled N 0 0 s k).trans ?_
  rw [roundHalfAway]
  simp only [Nat.pow_zero, Nat.mul_one, Nat.mul_comm N]
  omega

theorem roundHalfAway_drop (q r k n : Nat) (h : n ≤ k) (hr : r < 10 ^ (k - n)) :
    roundHalfAway (q * 10 ^ (k - n) + r) k n = if 10 ^ (k - n) ≤ 2 * r then q + 1 else q := by
  obtain ⟨j, rfl⟩ := Nat.exists_eq_add_of_le h
  rw [Nat.add_sub_cancel_left] at hr ⊢
  refine (roundHalfAway_scaled _ j 0 0 n).trans ?_
  rw [roundHalfAway]
  simp only [Nat.pow_zero, Nat.mul_one, Nat.one_mul]
  exact div_half_up q r _ hr

theorem half_le_iff (d : Digit) (r : List Digit) : 10 ^ (d :: r).length ≤ 2 * valOf (d :: r) ↔ 5 ≤ d.val := by
  have hlt := valOf_lt r
  rw [valOf_cons, List.length_cons, Nat.pow_succ']
  generalize 10 ^ r.length = X at *
  constructor
  · intro hle
    by_contra hn
    have : d.val * X ≤ 4 * X := Nat.mul_le_mul_right _ (by omega)
    omega
  · intro h5
    have : 5 * X ≤ d.val * X := Nat.mul_le_mul_right _ h5
    omega

theorem roundUp_iff (ds : List Digit) (keep : Nat) (h : keep < ds.length) :
    roundUp ds keep = true ↔ 10 ^ (ds.length - keep) ≤ 2 * valOf (ds.drop keep) := by
  unfold roundUp
  rw [List.getElem?_eq_getElem h, ← List.length_drop, List.drop_eq_getElem_cons h, half_le_iff]
  simp only [decide_eq_true_eq]

/-- the digits are read as the fraction `valOf ds / 10 ^ ds.length` -/
theorem valOf_roundDigits (ds : List Digit) (keep : Nat) :
    valOf (roundDigits ds keep) = roundHalfAway (valOf ds) ds.length keep := by
  unfold roundDigits
  by_cases h : keep < ds.length
  · -- digits are dropped: `q` and `r` are the values of the kept and of the dropped digits
    have hres : resize ds keep = ds.take keep := by
      unfold resize; rw [show keep - ds.length = 0 by omega]; simp
    have hrl := valOf_lt (ds.drop keep)
    rw [List.length_drop] at hrl
    rw [hres, valOf_take_drop ds keep, List.length_drop, roundHalfAway_drop _ _ _ _ (by omega) hrl]
    simp only [← roundUp_iff ds keep h]
    split
    · rw [valOf_increment]
    · rfl
  · -- zeros are appended
    have hle : ds.length ≤ keep := by omega
    rw [show roundUp ds keep = false by unfold roundUp; rw [List.getElem?_eq_none hle]]
    simp only [Bool.false_eq_true, if_false]
    unfold resize
    rw [List.take_of_length_le hle, valOf_append, valOf_replicate_zero, List.length_replicate, roundHalfAway_pad _ _ _ hle]
    rfl

theorem length_resize (ds : List Digit) (keep : Nat) : (resize ds keep).length = keep := by
  unfold resize
  simp [List.length_take]; omega

theorem length_roundDigits (ds : List Digit) (keep : Nat) : keep ≤ (roundDigits ds keep).length := by
  unfold roundDigits
  split
  · have := length_increment (resize ds keep); rw [length_resize] at this; exact this
  · rw [length_resize]

theorem map_digitCh_reverse (r : List Digit) :
    r.reverse.map digitCh = padLeft r.length (valOf r.reverse) := by
  induction r with
  | nil => rfl
  | cons d r ih =>
    rw [List.reverse_cons, List.map_append, ih, valOf_snoc, List.length_cons, padLeft]
    have hd := d.isLt
    have h1 : (10 * valOf r.reverse + d.val) / 10 = valOf r.reverse := by omega
    have h2 : (10 * valOf r.reverse + d.val) % 10 = d.val := by omega
    rw [h1, h2]; rfl

theorem map_digitCh (ds : List Digit) : ds.map digitCh = padLeft ds.length (valOf ds) := by
  have := map_digitCh_reverse ds.reverse
  simpa using this

theorem padLeft_eq_decDigits (n v : Nat) (h1 : 10 ^ n ≤ v) (h2 : v < 10 ^ (n + 1)) :
    padLeft (n + 1) v = decDigits v := by
  induction n generalizing v with
  | zero =>
    simp at h2
    rw [padLeft, padLeft, decDigits_lt10 v h2, Nat.mod_eq_of_lt h2]; rfl
  | succ n ih =>
    have h10 : 10 ≤ v := by
      have : 10 ^ 1 ≤ 10 ^ (n + 1) := Nat.pow_le_pow_right (by omega) (by omega)
      omega
    rw [padLeft, decDigits_ge10 v h10, ih (v / 10)]
    · rw [Nat.pow_succ] at h1; omega
    · rw [Nat.pow_succ] at h2; omega

theorem valOf_zero_cons (r : List Digit) : valOf ((0 : Digit) :: r) = valOf r := by
  rw [valOf_cons]; simp

theorem stripZeros_text (ds : List Digit) : (stripZeros ds).map digitCh = decDigits (valOf ds) := by
  induction ds with
  | nil => rw [valOf_nil, decDigits_lt10 0 (by omega)]; rfl
  | cons d r ih =>
    by_cases hd : d = 0
    · subst hd
      rw [valOf_zero_cons, ← ih]
      simp [stripZeros, List.dropWhile]
    · have hs : stripZeros (d :: r) = d :: r := by
        simp [stripZeros, List.dropWhile, hd]
      rw [hs, map_digitCh, List.length_cons]
      apply padLeft_eq_decDigits
      · rw [valOf_cons]
        have : 1 ≤ d.val := Nat.pos_of_ne_zero fun h => hd (Fin.ext h)
        have := Nat.mul_le_mul_right (10 ^ r.length) this
        omega
      · have := valOf_lt (d :: r); simpa using this

theorem groupThousands_short (xs : List Char) (h : xs.length ≤ 3) : groupThousands xs = xs := by
  match xs, h with
  | [], _ => rfl
  | [a], _ => simp [groupThousands]
  | [a, b], _ => simp [groupThousands]
  | [a, b, c], _ => simp [groupThousands]
  | _ :: _ :: _ :: _ :: _, h => simp at h

theorem groupThousands_append3 (xs ys : List Char) (hy : ys.length = 3) (hx : xs ≠ []) :
    groupThousands (xs ++ ys) = groupThousands xs ++ ',' :: ys := by
  induction xs with
  | nil => exact absurd rfl hx
  | cons c r ih =>
    have hyne : ys ≠ [] := by intro h; rw [h] at hy; simp at hy
    by_cases hr : r = []
    · subst hr
      simp [groupThousands, hyne, hy, groupThousands_short ys (by omega)]
    · -- three more characters behind `r`: the same test decides the comma after `c`
      have hm : (r ++ ys).length % 3 = r.length % 3 := by rw [List.length_append, hy]; omega
      rw [List.cons_append, groupThousands, groupThousands, hm, ih hr]
      simp only [ne_eq, List.append_eq_nil_iff, hr, false_and, not_false_eq_true, true_and]
      split <;> rfl

theorem padLeft_length (n v : Nat) : (padLeft n v).length = n := by
  induction n generalizing v with
  | zero => rfl
  | succ n ih => rw [padLeft, List.length_append, ih]; rfl

theorem decDigits_lt1000_length (m : Nat) (h : m < 1000) : (decDigits m).length ≤ 3 := by
  by_cases h1 : m < 10
  · rw [decDigits_lt10 m h1]; simp
  · rw [decDigits_ge10 m (by omega)]
    by_cases h2 : m / 10 < 10
    · rw [decDigits_lt10 _ h2]; simp
    · rw [decDigits_ge10 _ (by omega), decDigits_lt10 (m / 10 / 10) (by omega)]; simp

theorem decDigits_split (k m : Nat) (h : 10 ^ k ≤ m) :
    decDigits m = decDigits (m / 10 ^ k) ++ padLeft k (m % 10 ^ k) := by
  induction k generalizing m with
  | zero => simp [padLeft]
  | succ k ih =>
    rw [Nat.pow_succ'] at h ⊢
    have hk : 0 < 10 ^ k := Nat.pow_pos (by omega)
    have h10 : 10 ≤ m := Nat.le_trans (Nat.le_mul_of_pos_right 10 hk) h
    rw [decDigits_ge10 m h10, ih (m / 10) ((Nat.le_div_iff_mul_le (by omega)).mpr (by rwa [Nat.mul_comm])), padLeft,
      Nat.div_div_eq_div_mul, Nat.mod_mul_right_div_self, Nat.mod_mul_right_mod, List.append_assoc]

theorem decDigits_ge1000 (m : Nat) (h : 1000 ≤ m) :
    decDigits m = decDigits (m / 1000) ++ padLeft 3 (m % 1000) :=
  decDigits_split 3 m h

theorem decDigits_ne_nil' (m : Nat) : decDigits m ≠ [] := decDigits_ne_nil m

theorem groupThousands_decDigits (m : Nat) : groupThousands (decDigits m) = groupNat m := by
  fun_induction groupNat m with
  | case1 m h => exact groupThousands_short _ (decDigits_lt1000_length m h)
  | case2 m h ih =>
    rw [decDigits_ge1000 m (by omega), groupThousands_append3 _ _ (padLeft_length 3 _) (decDigits_ne_nil _), ih]

theorem formatDecimal_eq (t : DecText) (shift n : Nat) (th : Bool) :
    formatDecimal t shift n th
      = render t.neg (roundHalfAway (10 ^ shift * valOf (t.int ++ t.frac)) t.frac.length n) n th := by
  have hR := valOf_roundDigits (t.int ++ t.frac) (t.int.length + shift + n)
  rw [List.length_append, roundHalfAway_scaled] at hR
  have hlen := length_roundDigits (t.int ++ t.frac) (t.int.length + shift + n)
  unfold formatDecimal render intText
  simp only []
  generalize roundDigits (t.int ++ t.frac) (t.int.length + shift + n) = digits at *
  have hn : n ≤ digits.length := by omega
  have hint : valOf (digits.take (digits.length - n)) = valOf digits / 10 ^ n := by
    rw [valOf_take]; congr 2; omega
  have hfrac : valOf (digits.drop (digits.length - n)) = valOf digits % 10 ^ n := by
    rw [valOf_drop]; congr 2; omega
  have hfl : (digits.drop (digits.length - n)).length = n := by rw [List.length_drop]; omega
  rw [stripZeros_text, map_digitCh, hfl, hint, hfrac, hR, groupThousands_decDigits]

theorem padLeft_all_digit (n v : Nat) : (padLeft n v).all isDigit = true := by
  induction n generalizing v with
  | zero => rfl
  | succ n ih => rw [padLeft, List.all_append, ih]; simp [isDigit_digitChar]

theorem filter_comma_digits {l : List Char} (hl : l.all isDigit = true) : l.filter (· ≠ ',') = l := by
  rw [List.filter_eq_self]
  intro c hc
  have hd := List.all_eq_true.mp hl c hc
  have : c ≠ ',' := by intro h; subst h; revert hd; decide
  simpa using this

theorem groupNat_filter (m : Nat) : (groupNat m).filter (· ≠ ',') = decDigits m := by
  fun_induction groupNat m with
  | case1 m h => exact filter_comma_digits (decDigits_all_digit m)
  | case2 m h ih =>
    rw [List.filter_append, ih, List.filter_cons]
    simp only [ne_eq, not_true_eq_false, decide_false, Bool.false_eq_true, if_false]
    rw [filter_comma_digits (padLeft_all_digit 3 _), ← decDigits_ge1000 m (by omega)]

/-- what is not a comma is one of the digits of `groupNat_filter` -/
theorem groupNat_all {p : Char → Bool} (hp : ∀ c, isDigit c = true → p c = true) (hc : p ',' = true) (m : Nat) :
    (groupNat m).all p = true := by
  rw [List.all_eq_true]
  intro c hm
  by_cases h : c = ','
  · rw [h]; exact hc
  · refine hp c (isDigit_of_mem_decDigits (n := m) ?_)
    rw [← groupNat_filter]; exact List.mem_filter.mpr ⟨hm, by simpa using h⟩

theorem getElem?_ne_comma {l : List Char} (hl : l.all isDigit = true) (i : Nat) : l[i]? ≠ some ',' :=
  fun hc => absurd (List.all_eq_true.mp hl _ (List.mem_of_getElem? hc)) (by decide)

/-- counting from the right, exactly every fourth character of the grouped text is a comma
    (so every comma is followed by a block of exactly three digits) -/
theorem groupNat_commas (m : Nat) (i : Nat) (hi : i < (groupNat m).length) :
    (groupNat m).reverse[i]? = some ',' ↔ i % 4 = 3 := by
  fun_induction groupNat m generalizing i with
  | case1 m h =>
    have hl := decDigits_lt1000_length m h
    have hd := getElem?_ne_comma (List.all_reverse.trans (decDigits_all_digit m)) i
    exact ⟨fun hc => absurd hc hd, fun h3 => by omega⟩
  | case2 m h ih =>
    rw [List.reverse_append, List.reverse_cons]
    have hp : (padLeft 3 (m % 1000)).reverse.length = 3 := by rw [List.length_reverse, padLeft_length]
    have hpd := getElem?_ne_comma (List.all_reverse.trans (padLeft_all_digit 3 (m % 1000))) i
    rw [List.length_append, List.length_cons, padLeft_length] at hi
    by_cases h3 : i < 3
    · rw [List.getElem?_append_left (by simp [padLeft_length]; omega),
        List.getElem?_append_left (by rw [hp]; exact h3)]
      exact ⟨fun hc => absurd hc hpd, fun _ => by omega⟩
    · by_cases h4 : i = 3
      · subst h4
        rw [List.getElem?_append_left (by simp [padLeft_length]),
          List.getElem?_append_right (by rw [hp]), hp]
        simp
      · rw [List.getElem?_append_right (by simp [padLeft_length]; omega)]
        simp only [List.length_append, hp, List.length_cons, List.length_nil]
        rw [ih (i - (3 + (0 + 1))) (by omega)]
        omega

end Umya.NumFmt
