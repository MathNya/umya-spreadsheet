/-
  The anatomy of `Spec.Sml.decode` (its result as named functions of the package and the workbook root), and what
  those functions return on the workbook part and the workbook relationships part rendered by
  `Umya/Model/WorkbookNode.lean`.
-/
import Umya.Lemmas.SheetNodeDecode
import Umya.Model.WorkbookNode
namespace Umya.WorkbookNode
open Umya.CellNode Umya.Dec Umya.SheetNode
open Umya.Spec.Sml
open Umya.Spec.Xml (Node Attr localName)

/-! The `d*` functions and `sheetOf` are transcriptions of the `let`s in the body of `Spec.Sml.decode`, one per
    component of its result (names as character lists); where the main relationship and the workbook part are found,
    `decode` is equal to them by `rfl`: `decode_anatomy`.
    `dE1` … `dE4` are the workbook-level diagnostics, numbered in the order `decode` appends them: sheet names not unique,
    sheetIds missing or not unique, activeTab outside the sheet list, a localSheetId outside the sheet list. -/

def dSst (p : Package) (wbPath : String) : List (List Char) :=
  match ((relsOf p wbPath).find? (fun r => r.type.endsWith "/sharedStrings")).map (fun r => resolveTarget wbPath r.target) with
  | some sp => sharedStrings p sp
  | none => []

def dStylesRoot (p : Package) (wbPath : String) : Option Node :=
  ((((relsOf p wbPath).find? (fun r => r.type.endsWith "/styles")).map (fun r => resolveTarget wbPath r.target)).bind p.part?).bind (·.xml)

def dNXf (p : Package) (wbPath : String) : Nat :=
  match dStylesRoot p wbPath with
  | some sr => ((sr.kid? "cellXfs").map (fun x => (x.kids "xf").length)).getD 1
  | none => 1

def dNDxf (p : Package) (wbPath : String) : Nat :=
  match dStylesRoot p wbPath with
  | some sr => ((sr.kid? "dxfs").map (fun x => (x.kids "dxf").length)).getD 0
  | none => 0

def dSheetEls (wb : Node) : List Node := ((kidL wb nSheets).map (kidsL · nSheet)).getD []

def sheetOf (p : Package) (wbPath : String) (s : Node) : SheetV × List String :=
  let name := (s.attr? ['n', 'a', 'm', 'e']).getD []
  let state := str ((s.attr? ['s', 't', 'a', 't', 'e']).getD ['v', 'i', 's', 'i', 'b', 'l', 'e'])
  match (s.attr? ['r', ':', 'i', 'd']).bind (fun rid => (relsOf p wbPath).find? (fun (r : Rel) => r.id = str rid)) with
  | none => (SheetV.mk name state [] [] [] [] [] [] false, [s!"sheet {str name}: r:id does not resolve"])
  | some r =>
    let path := resolveTarget wbPath r.target
    let (b, errs) := decodeSheet p path (dSst p wbPath) (dNXf p wbPath) (dNDxf p wbPath)
    (SheetV.mk name state b.cells b.merges b.links b.cols b.rows b.tables b.noR, errs)

def dSheetsE (p : Package) (wbPath : String) (wb : Node) : List (SheetV × List String) :=
  (dSheetEls wb).map (sheetOf p wbPath)

def dNames (wb : Node) : List NameV :=
  (((kidL wb nDefinedNames).map (kidsL · nDefinedName)).getD []).map fun d =>
    NameV.mk ((d.attr? ['n', 'a', 'm', 'e']).getD []) ((d.attr? ['l', 'o', 'c', 'a', 'l', 'S', 'h', 'e', 'e', 't', 'I', 'd']).bind natOf) d.ownText

def dE1 (wb : Node) : List String :=
  if (((dSheetEls wb).map (fun s => (s.attr? ['n', 'a', 'm', 'e']).getD [])).map (fun n => (str n).toLower)).eraseDups.length
      = (((dSheetEls wb).map (fun s => (s.attr? ['n', 'a', 'm', 'e']).getD [])).map (fun n => (str n).toLower)).length
  then [] else ["sheet names are not unique"]

def dE2 (wb : Node) : List String :=
  if ((dSheetEls wb).filterMap (fun s => s.attr? ['s', 'h', 'e', 'e', 't', 'I', 'd'])).eraseDups.length = ((dSheetEls wb).filterMap (fun s => s.attr? ['s', 'h', 'e', 'e', 't', 'I', 'd'])).length ∧
      ((dSheetEls wb).filterMap (fun s => s.attr? ['s', 'h', 'e', 'e', 't', 'I', 'd'])).length = (dSheetEls wb).length
  then [] else ["sheetIds missing or not unique"]

def dE4 (wb : Node) : List String :=
  (dNames wb).filterMap fun n => match n.scope with
    | some i => if i < (dSheetEls wb).length then none else some s!"defined name {str n.name}: localSheetId {i} outside the sheet list"
    | none => none

/-- the package-level diagnostics of `decode`: a part without content type, an XML part that is not
    well-formed, duplicate relationship ids, an internal relationship target that is not in the package -/
def dEPkg (p : Package) : List String :=
  (p.filterMap fun part =>
    if part.name = "[Content_Types].xml" then none
    else if (contentTypeOf p part.name).isNone then some s!"part {part.name} has no content type" else none) ++
  (p.filterMap fun part => if part.isXml ∧ part.xml.isNone then some s!"part {part.name} is not well-formed XML" else none) ++
  (p.flatMap fun part =>
    if isRelsNameL part.name.toList then
      let src := String.ofList (relsSourceL part.name.toList)
      let rs := relsOf p src
      let ids := rs.map (·.id)
      (if ids.eraseDups.length = ids.length then [] else [s!"{part.name}: duplicate relationship ids"]) ++
      rs.filterMap fun r =>
        if r.external then none
        else
          let t := resolveTarget src r.target
          if (p.part? t).isSome then none else some s!"{part.name}: relationship {r.id} targets {t} which is not in the package"
    else [])

/-- what `dEPkg` asks of the relationships of the part `src`: ids pairwise different, internal targets in the package -/
def RelsOK (p : Package) (src : String) : Prop :=
  ((relsOf p src).map (·.id)).eraseDups.length = ((relsOf p src).map (·.id)).length ∧
  ∀ r ∈ relsOf p src, r.external = false → (p.part? (resolveTarget src r.target)).isSome = true

theorem dEPkg_nil (p : Package)
    (hct : ∀ part ∈ p, part.name ≠ "[Content_Types].xml" → (contentTypeOf p part.name).isSome = true)
    (hxml : ∀ part ∈ p, part.xml.isSome = true)
    (hrels : ∀ part ∈ p, isRelsNameL part.name.toList = true → RelsOK p (String.ofList (relsSourceL part.name.toList))) :
    dEPkg p = [] := by
  unfold dEPkg
  rw [List.append_eq_nil_iff, List.append_eq_nil_iff, List.filterMap_eq_nil_iff, List.filterMap_eq_nil_iff, List.flatMap_eq_nil_iff]
  refine ⟨⟨fun part hp => ?_, fun part hp => ?_⟩, fun part hp => ?_⟩
  · by_cases hn : part.name = "[Content_Types].xml"
    · rw [if_pos hn]
    · obtain ⟨ct, hc⟩ := Option.isSome_iff_exists.1 (hct part hp hn)
      rw [if_neg hn, hc]; rfl
  · have := hxml part hp
    rw [if_neg (by intro hh; rw [Option.isNone_iff_eq_none] at hh; rw [hh.2] at this; cases this)]
  · split
    · obtain ⟨hids, htg⟩ := hrels part hp ‹_›
      dsimp only
      rw [if_pos hids, List.nil_append]
      apply List.filterMap_eq_nil_iff.2
      intro r hr
      cases he : r.external with
      | true => simp
      | false => simp [htg r hr he]
    · rfl

def dActive (wb : Node) : Nat :=
  (((wb.kid? "bookViews").bind (·.kid? "workbookView")).bind (fun v => (v.attr? ['a', 'c', 't', 'i', 'v', 'e', 'T', 'a', 'b']).bind natOf)).getD 0

def dE3 (wb : Node) : List String :=
  if (dSheetEls wb).isEmpty ∨ dActive wb < (dSheetEls wb).length then []
  else [s!"activeTab {dActive wb} is outside the sheet list of {(dSheetEls wb).length}"]

theorem decode_anatomy (p : Package) (mr : Rel) (wb : Node)
    (h1 : (relsOf p "").find? (fun r => r.type.endsWith "/officeDocument") = some mr)
    (h2 : (p.part? (resolveTarget "" mr.target)).bind (·.xml) = some wb) :
    ∃ (b : BookV), decode p = (some b,
        dEPkg p ++ dE1 wb ++ dE2 wb ++ (dSheetsE p (resolveTarget "" mr.target) wb).flatMap (·.2) ++ dE3 wb ++ dE4 wb) ∧
      b.sheets = (dSheetsE p (resolveTarget "" mr.target) wb).map (·.1) ∧ b.names = dNames wb ∧ b.active = dActive wb := by
  unfold decode
  simp only [h1, h2, toList_lit]
  exact ⟨_, rfl, rfl, rfl, rfl⟩

theorem kidsL_workbook (fr : WbFrame) (ss : List SheetE) (ds : List NameE) (nm : List Char) :
    kidsL (workbookNode fr ss ds) nm = fr.pre.filter (isKid nm) ++ (if nSheets = nm then [Node.elem nSheets [] (sheetEls 1 ss)] else []) ++
      (if nDefinedNames = nm then definedNamesNodes ds else []) ++ fr.post.filter (isKid nm) := by
  have hk : ∀ (a : List Char) (ks : List Node), localName a = a → isKid nm (Node.elem a [] ks) = decide (a = nm) :=
    fun a ks ha => by rw [isKid_elem, ha]
  have hd : (definedNamesNodes ds).filter (isKid nm) = if nDefinedNames = nm then definedNamesNodes ds else [] := by
    unfold definedNamesNodes
    split
    · exact (ite_self _).symm
    · simp only [List.filter_cons, hk _ _ (show localName nDefinedNames = nDefinedNames by decide), decide_eq_true_eq, List.filter_nil]
  simp only [kidsL, workbookNode, Node.children, List.filter_append, List.filter_cons, List.filter_nil,
    hk _ _ (show localName nSheets = nSheets by decide), hd, decide_eq_true_eq]

/-- the frame's own children hold no `sheets` and no `definedNames` element (`fr.ok`), so the filter behind `kidL` finds
    exactly the written one -/
theorem wb_sheets (fr : WbFrame) (ss : List SheetE) (ds : List NameE) (h : fr.ok = true) :
    kidL (workbookNode fr ss ds) nSheets = some (Node.elem nSheets [] (sheetEls 1 ss)) ∧
    kidL (workbookNode fr ss ds) nDefinedNames = (definedNamesNodes ds).head? := by
  unfold WbFrame.ok at h
  rw [List.all_append, Bool.and_eq_true, List.all_eq_true, List.all_eq_true] at h
  have hno : ∀ (nm : List Char), nm = nSheets ∨ nm = nDefinedNames → ∀ l : List Node,
      (∀ k ∈ l, (!(k.isElem && (decide (localName k.name = nSheets) || decide (localName k.name = nDefinedNames)))) = true) →
      l.filter (isKid nm) = [] := by
    intro nm hnm l hl
    apply List.filter_eq_nil_iff.2
    intro k hk hkid
    have := hl k hk
    unfold isKid at hkid
    simp only [Bool.and_eq_true, decide_eq_true_eq] at hkid
    rcases hnm with rfl | rfl <;> simp [hkid.1, hkid.2] at this
  constructor
  · rw [kidL, kidsL_workbook, hno _ (.inl rfl) _ h.1, hno _ (.inl rfl) _ h.2, if_pos rfl, if_neg (by decide)]
    rfl
  · rw [kidL, kidsL_workbook, hno _ (.inr rfl) _ h.1, hno _ (.inr rfl) _ h.2, if_neg (by decide), if_pos rfl, List.nil_append,
      List.nil_append, List.append_nil]

theorem sheetEls_eq (ss : List SheetE) : ∀ k, sheetEls k ss = (ss.zipIdx k).map fun p => sheetEl p.2 p.1 := by
  induction ss with
  | nil => intro _; rfl
  | cons s ss ih => intro k; rw [sheetEls, ih, List.zipIdx_cons, List.map_cons]

theorem sheetEls_length (ss : List SheetE) : ∀ k, (sheetEls k ss).length = ss.length := by
  intro k; rw [sheetEls_eq, List.length_map, List.length_zipIdx]

theorem sheetEls_isKid (ss : List SheetE) : ∀ k, (sheetEls k ss).filter (isKid nSheet) = sheetEls k ss := by
  intro k
  apply List.filter_eq_self.2
  intro x hx
  rw [sheetEls_eq] at hx
  obtain ⟨p, _, rfl⟩ := List.mem_map.1 hx
  unfold sheetEl; rw [isKid_elem]; decide

theorem sheetEls_names (ss : List SheetE) : ∀ k, (sheetEls k ss).map (fun s => (s.attr? ['n', 'a', 'm', 'e']).getD []) = ss.map (·.name) := by
  intro k
  conv => rhs; rw [← List.zipIdx_map_fst k ss]
  rw [sheetEls_eq, List.map_map, List.map_map]
  exact List.map_congr_left fun p _ => by simp [sheetEl, Node.attr?, Node.attrs]

theorem sheetEls_ids (ss : List SheetE) : ∀ k, (sheetEls k ss).filterMap (fun s => s.attr? ['s', 'h', 'e', 'e', 't', 'I', 'd'])
    = (List.range' k ss.length).map decDigits := by
  intro k
  rw [sheetEls_eq, List.filterMap_map, ← List.zipIdx_map_snd k ss, List.map_map, ← List.filterMap_eq_map]
  exact congrArg (List.filterMap · _) (funext fun p => by simp [sheetEl, Node.attr?, Node.attrs])

theorem dSheetEls_rendered (fr : WbFrame) (ss : List SheetE) (ds : List NameE) (h : fr.ok = true) :
    dSheetEls (workbookNode fr ss ds) = sheetEls 1 ss := by
  simp only [dSheetEls, (wb_sheets fr ss ds h).1, Option.map_some, Option.getD_some, kidsL, Node.children, sheetEls_isKid]

theorem nameEls_isKid (ds : List NameE) : (ds.map nameEl).filter (isKid nDefinedName) = ds.map nameEl := by
  apply List.filter_eq_self.2
  intro x hx
  obtain ⟨d, _, rfl⟩ := List.mem_map.1 hx
  exact isKid_self _ _ _ (by decide)

/-- `ownText_txt` of `Lemmas/CellDecode.lean` for the `txt` of `Model/WorkbookNode.lean`, which has the same body as the one there -/
theorem ownText_txt' (n : List Char) (as : List Attr) (s : List Char) : (Node.elem n as (txt s)).ownText = s :=
  ownText_txt n as s

theorem nameEl_view (d : NameE) :
    NameV.mk (((nameEl d).attr? ['n', 'a', 'm', 'e']).getD [])
      (((nameEl d).attr? ['l', 'o', 'c', 'a', 'l', 'S', 'h', 'e', 'e', 't', 'I', 'd']).bind natOf) (nameEl d).ownText = nameView d := by
  obtain ⟨n, sc, a⟩ := d
  unfold nameEl nameView
  rw [ownText_txt']
  cases sc <;> simp [Node.attr?, Node.attrs, natOf_decDigits]

theorem dNames_rendered (fr : WbFrame) (ss : List SheetE) (ds : List NameE) (h : fr.ok = true) :
    dNames (workbookNode fr ss ds) = ds.map nameView := by
  unfold dNames
  rw [(wb_sheets fr ss ds h).2]
  unfold definedNamesNodes
  cases ds with
  | nil => rfl
  | cons d ds =>
    simp only [List.isEmpty_cons, Bool.false_eq_true, if_false, List.head?_cons, Option.map_some, Option.getD_some, kidsL,
      Node.children, nameEls_isKid, List.map_map]
    apply List.map_congr_left
    intro d' _
    exact nameEl_view d'

def wsRec (k : Nat) : Rel := { id := str (rIdText k), type := str worksheetType, target := str (sheetTarget k), external := false }

/-- the worksheet relationships as records: `n` of them, numbered from `k` -/
def wsRecs (k n : Nat) : List Rel := (List.range' k n).map wsRec

theorem wsRels_recs (n : Nat) : ∀ k, ((wsRels k n).filter (isKid nRelationship)).map relOf = wsRecs k n := by
  induction n with
  | zero => intro _; rfl
  | succ n ih =>
    intro k
    have hk : isKid nRelationship (Node.elem nRelationship [⟨['I', 'd'], rIdText k⟩, ⟨['T', 'y', 'p', 'e'], worksheetType⟩,
        ⟨['T', 'a', 'r', 'g', 'e', 't'], sheetTarget k⟩] []) = true := isKid_self _ _ _ (by decide)
    simp only [wsRels, wsRecs, List.range'_succ, List.filter_cons, hk, if_true, List.map_cons, ih]
    simp [wsRec, relOf, Node.attr?, Node.attrs]

theorem relsOf_workbook (p : Package) (wbPath : String) (n : Nat) (rest : List Node)
    (h : (p.part? (relsNameOf wbPath)).bind (·.xml) = some (workbookRelsNode n rest)) :
    relsOf p wbPath = wsRecs 1 n ++ (rest.filter (isKid nRelationship)).map relOf := by
  rw [relsOf_some p wbPath _ h]
  show ((wsRels 1 n ++ rest).filter (isKid nRelationship)).map relOf = _
  rw [List.filter_append, List.map_append, wsRels_recs]

theorem rids_nodup (l : List Nat) (h : l.Nodup) : (l.map (fun i => str (rIdText i))).Nodup :=
  nodup_map_inj _ (fun a b e => rIdText_inj a b e) l h

theorem wsRecs_ids (n k : Nat) : (wsRecs k n).map (·.id) = (List.range' k n).map (fun i => str (rIdText i)) :=
  List.map_map

theorem wsRecs_mem {n k : Nat} {r : Rel} (h : r ∈ wsRecs k n) : ∃ j, k ≤ j ∧ j < k + n ∧ r = wsRec j := by
  obtain ⟨j, hj, rfl⟩ := List.mem_map.1 h
  exact ⟨j, (List.mem_range'_1.1 hj).1, (List.mem_range'_1.1 hj).2, rfl⟩

theorem wsRecs_find_none (p : Rel → Bool) (hp : ∀ k, p (wsRec k) = false) (n k : Nat) : (wsRecs k n).find? p = none :=
  List.find?_eq_none.2 fun r hr => by
    obtain ⟨j, _, _, rfl⟩ := wsRecs_mem hr
    simp [hp j]

theorem ws_find (R : List Rel) : ∀ (n k : Nat) (A : List Rel) (j : Nat),
    (∀ r ∈ A, ∃ i, i < k ∧ r.id = str (rIdText i)) → k ≤ j → j < k + n →
    (A ++ wsRecs k n ++ R).find? (fun (r : Rel) => r.id = str (rIdText j))
      = some { id := str (rIdText j), type := str worksheetType, target := str (sheetTarget j), external := false } := by
  intro n k A j hA h1 h2
  have hj : (wsRecs k n).find? (fun (r : Rel) => r.id = str (rIdText j)) = some (wsRec j) :=
    find?_key_of_nodup Rel.id (wsRecs k n) (by rw [wsRecs_ids]; exact rids_nodup _ (List.nodup_range' (step := 1)))
      (wsRec j) (List.mem_map_of_mem (List.mem_range'_1.2 ⟨h1, h2⟩))
  have hA' : ∀ r ∈ A, ∃ i, i < j ∧ r.id = str (rIdText i) :=
    fun r hr => (hA r hr).imp fun _ hi => ⟨Nat.lt_of_lt_of_le hi.1 h1, hi.2⟩
  rw [List.append_assoc, List.find?_append, find_rId_none A j hA', Option.none_or, List.find?_append, hj]
  rfl

theorem eraseDups_nodup {α} [BEq α] [LawfulBEq α] : ∀ (l : List α), l.Nodup → l.eraseDups = l := by
  intro l
  induction l with
  | nil => intro _; simp
  | cons a as ih =>
    intro h
    have ha := List.nodup_cons.1 h
    rw [List.eraseDups_cons]
    have hf : as.filter (fun b => !b == a) = as := by
      apply List.filter_eq_self.2
      intro b hb
      simp only [Bool.not_eq_eq_eq_not, Bool.not_true, beq_eq_false_iff_ne, ne_eq]
      intro e; subst e; exact ha.1 hb
    rw [hf, ih ha.2]

theorem decDigits_inj (a b : Nat) (h : decDigits a = decDigits b) : a = b := decDigits_injective h

theorem ids_nodup (n : Nat) : ∀ k, ((List.range' k n).map decDigits).Nodup :=
  fun _ => nodup_map_inj _ decDigits_inj _ (List.nodup_range' (step := 1))

theorem dE1_rendered (fr : WbFrame) (ss : List SheetE) (ds : List NameE) (hfr : fr.ok = true) :
    dE1 (workbookNode fr ss ds) = if namesDistinct ss = true then [] else ["sheet names are not unique"] := by
  unfold dE1 namesDistinct
  rw [dSheetEls_rendered fr ss ds hfr, sheetEls_names]
  simp only [List.map_map, List.length_map, Function.comp_def, decide_eq_true_eq]

theorem dE2_rendered (fr : WbFrame) (ss : List SheetE) (ds : List NameE) (hfr : fr.ok = true) :
    dE2 (workbookNode fr ss ds) = [] := by
  unfold dE2
  rw [dSheetEls_rendered fr ss ds hfr, sheetEls_ids, sheetEls_length, eraseDups_nodup _ (ids_nodup _ _)]
  simp

end Umya.WorkbookNode
