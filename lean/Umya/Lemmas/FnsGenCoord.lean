/-
  Tie to the source, `src/helper/coordinate.rs`: the functions compiled from the source on this run (tools/extract_fns.py,
  `Umya/Model/Gen/Fns.lean`) are the hand model's (`Umya/Model/Coord.lean`).  `coordinate_from_index[_with_lock]` and
  `column_index_from_string` take `string_from_column_index` / `alpha_to_index` as parameters, instantiated here with the model;
  `alpha_to_index`, `index_to_alpha`, `string_from_column_index` have their iterator chains lowered to list functions.
-/
import Umya.Lemmas.FnsGen
import Umya.Model.Coord
namespace Umya.Gen
open Umya.Coord Umya.Dec
set_option linter.unusedSimpArgs false

def resToOpt {α} : Res α → Option α
  | .ok a => some a
  | .panic => none

theorem gen_coordinate_from_index_with_lock (col row : Nat) (lc lr : Bool) :
    coordinate_from_index_with_lock indexToAlpha? col row lc lr = coordinateFromIndexWithLock? col row lc lr := by
  unfold coordinate_from_index_with_lock coordinateFromIndexWithLock? indexToAlpha? indexToAlpha
  by_cases h : col ≥ 1 <;> cases lc <;> cases lr <;> simp [h]

theorem gen_coordinate_from_index (col row : Nat) :
    coordinate_from_index indexToAlpha? col row = coordinateFromIndexWithLock? col row false false := by
  unfold coordinate_from_index coordinateFromIndexWithLock? indexToAlpha? indexToAlpha
  by_cases h : col ≥ 1 <;> simp [h]

theorem gen_column_index_from_string (s : List Char) :
    column_index_from_string (fun t => resToOpt (alphaToIndex t)) s = resToOpt (columnIndexFromString s) := by
  unfold column_index_from_string columnIndexFromString
  -- the test in either orientation
  by_cases h : s = ['0']
  · subst h; simp [resToOpt]
  · have h' : ¬ ['0'] = s := fun e => h e.symm
    cases hA : alphaToIndex s <;> simp [h, h', hA, resToOpt] <;> (repeat' split) <;> simp_all [resToOpt]

theorem gen_alpha_constants :
    alpha_to_index_base_char_code = 65 ∧ alpha_to_index_positional_constants = [26 ^ 0, 26 ^ 1, 26 ^ 2] := by decide

/-- the closure of `alpha_to_index`: `POSITIONAL_CONSTANTS[index] * ((v as u32 - 'A') + 1)`; it panics beyond three
    characters and below `'A'`, exactly where the model's `alphaToIndex` says `.panic`.
    (The translator emits this closure, and the step and digit of `index_to_alpha`, twice: once on its own
    (`…_term`, `…_step`, `…_digit`) and once lifted out of the whole function (`…_closure_#`, below).  Each copy is compared
    with the specification by itself, so that neither proof depends on the two being generated alike.) -/
theorem gen_alpha_to_index_term (i : Nat) (c : Char) :
    alpha_to_index_term i c = if i < 3 ∧ 65 ≤ c.toNat then some (26 ^ i * (c.toNat - 65 + 1)) else none := by
  unfold alpha_to_index_term
  have hA : Char.toNat 'A' = 65 := by decide
  by_cases hc : 65 ≤ c.toNat
  · match i with
    | 0 => simp [usub, rt_index, hA, hc] <;> omega
    | 1 => simp [usub, rt_index, hA, hc] <;> omega
    | 2 => simp [usub, rt_index, hA, hc] <;> omega
    | n + 3 =>
      have h3 : ¬ (n + 3 < 3) := by omega
      simp [usub, rt_index, hA, hc, h3]
  · simp [usub, rt_index, hA, hc]

theorem gen_index_to_alpha_step (v : Nat) :
    index_to_alpha_step v = some (if v / 26 = 0 then none else some (v / 26 - 1)) := by
  unfold index_to_alpha_step
  gen_eq

/-- `BASE_CHAR_CODE + (v % 26)` is the code of the model's `letter v` -/
theorem gen_index_to_alpha_digit (v : Nat) : Char.ofNat (index_to_alpha_digit v) = letter v := by
  unfold index_to_alpha_digit letter
  (try simp only [show Char.toNat 'A' = 65 from by decide]) <;> first | rfl | (congr 1; omega)

theorem gen_alphaRev_step (v : Nat) :
    alphaRev v = Char.ofNat (index_to_alpha_digit v) ::
      (match index_to_alpha_step v with
       | some (some n) => alphaRev n
       | _ => []) := by
  rw [alphaRev, gen_index_to_alpha_step, gen_index_to_alpha_digit]
  by_cases h : v / 26 = 0 <;> simp [h]

/-! The whole functions `alpha_to_index`, `index_to_alpha`, `string_from_column_index`.
  The closures are lifted into definitions of their own by the translator; each is proved equal to a fixed specification
  (`termSpec`, `stepSpec`, `digitSpec`), and the skeleton (`to_uppercase().chars().rev().enumerate().map(..).sum()`;
  `successors(..).map(..).collect().into_iter().rev().map(char::from_u32 .. unwrap).collect()`) is related to the hand
  model once and for all, over these specifications. -/

def termSpec (i : Nat) (c : Char) : Option Nat := if i < 3 ∧ 65 ≤ c.toNat then some (26 ^ i * (c.toNat - 65 + 1)) else none

theorem gen_alpha_to_index_closure (i : Nat) (c : Char) : alpha_to_index_closure_0 i c = termSpec i c := by
  unfold alpha_to_index_closure_0 termSpec
  have hA : Char.toNat 'A' = 65 := by decide
  by_cases hc : 65 ≤ c.toNat
  · match i with
    | 0 => simp [usub, rt_index, hA, hc] <;> omega
    | 1 => simp [usub, rt_index, hA, hc] <;> omega
    | 2 => simp [usub, rt_index, hA, hc] <;> omega
    | n + 3 =>
      have h3 : ¬ (n + 3 < 3) := by omega
      simp [usub, rt_index, hA, hc, h3]
  · simp [usub, rt_index, hA, hc]

/-- the skeleton of `alpha_to_index` over the specified term -/
theorem mapM_terms (l : List Char) : ∀ (i acc : Nat),
    (rt_mapM (fun x : Nat × Char => termSpec x.1 x.2) (rt_enumerate_from i l)).map (fun t => acc + t.sum) =
      if (l.length = 0 ∨ i + l.length ≤ 3) ∧ (∀ c ∈ l, 65 ≤ c.toNat) then some (alphaToIndex.go l i acc) else none := by
  induction l with
  | nil => intro i acc; simp [rt_enumerate_from, rt_mapM, alphaToIndex.go]
  | cons c l ih =>
    intro i acc
    simp only [rt_enumerate_from, rt_mapM, alphaToIndex.go]
    by_cases hc : i < 3 ∧ 65 ≤ c.toNat
    · have ht : termSpec i c = some (26 ^ i * (c.toNat - 65 + 1)) := by simp [termSpec, hc]
      have e : ∀ t : List Nat, acc + (26 ^ i * (c.toNat - 65 + 1) :: t).sum = (acc + 26 ^ i * (c.toNat - 65 + 1)) + t.sum := by
        intro t; simp [List.sum_cons]; omega
      simp only [ht, Option.bind_some, Option.map_map, Function.comp_def, e]
      rw [ih (i + 1) (acc + 26 ^ i * (c.toNat - 65 + 1))]
      have hl : ((l.length = 0 ∨ i + 1 + l.length ≤ 3) ∧ ∀ c ∈ l, 65 ≤ c.toNat) ↔
          (((c :: l).length = 0 ∨ i + (c :: l).length ≤ 3) ∧ ∀ d ∈ c :: l, 65 ≤ d.toNat) := by
        simp only [List.length_cons, List.mem_cons, forall_eq_or_imp]
        constructor
        · rintro ⟨h1, h2⟩; exact ⟨by omega, hc.2, h2⟩
        · rintro ⟨h1, _, h2⟩; exact ⟨by omega, h2⟩
      by_cases hh : (l.length = 0 ∨ i + 1 + l.length ≤ 3) ∧ ∀ c ∈ l, 65 ≤ c.toNat
      · rw [if_pos hh, if_pos (hl.1 hh)]
      · rw [if_neg hh, if_neg (fun h => hh (hl.2 h))]
    · have ht : termSpec i c = none := by simp [termSpec, hc]
      have hn : ¬ (((c :: l).length = 0 ∨ i + (c :: l).length ≤ 3) ∧ ∀ d ∈ c :: l, 65 ≤ d.toNat) := by
        simp only [List.length_cons, List.mem_cons, forall_eq_or_imp]
        rintro ⟨h1, h2, _⟩; exact hc ⟨by omega, h2⟩
      rw [if_neg hn, ht]
      rfl

/-- the two panic conditions of the model, in the form the skeleton lemma produces them -/
theorem alpha_cases (u : List Char) :
    (if (u.reverse.length = 0 ∨ u.reverse.length ≤ 3) ∧ (∀ c ∈ u, 65 ≤ c.toNat) then some (alphaToIndex.go u.reverse 0 0) else none) =
      resToOpt (if u.length > 3 then Res.panic else if u.any (fun c => decide (c.toNat < 65)) = true then Res.panic
                else Res.ok (alphaToIndex.go u.reverse 0 0)) := by
  simp only [List.length_reverse]
  by_cases h3 : u.length > 3
  · have hn : ¬ ((u.length = 0 ∨ u.length ≤ 3) ∧ ∀ c ∈ u, 65 ≤ c.toNat) := fun hh => by omega
    rw [if_neg hn, if_pos h3]; rfl
  · rw [if_neg h3]
    by_cases ha : u.any (fun c => decide (c.toNat < 65)) = true
    · have hn : ¬ ((u.length = 0 ∨ u.length ≤ 3) ∧ ∀ c ∈ u, 65 ≤ c.toNat) := by
        rintro ⟨_, hall⟩
        obtain ⟨c, hc, hlt⟩ := List.any_eq_true.1 ha
        have := hall c hc
        simp at hlt; omega
      rw [if_neg hn, if_pos ha]; rfl
    · have hp : (u.length = 0 ∨ u.length ≤ 3) ∧ ∀ c ∈ u, 65 ≤ c.toNat := by
        refine ⟨by omega, fun c hc => ?_⟩
        by_cases hlt : c.toNat < 65
        · exact absurd (List.any_eq_true.2 ⟨c, hc, by simpa using hlt⟩) ha
        · omega
      rw [if_pos hp, if_neg ha]; rfl

/-- `alpha_to_index` as it is in the source — `to_uppercase().chars().rev().enumerate().map(term).sum::<u32>()` — is the
    model's `alphaToIndex`, for every text (`to_uppercase` on its documented ASCII domain): the same value, and a panic
    (more than three characters: index out of bounds; a character below `'A'`: `u32` underflow) exactly where the model says -/
theorem gen_alpha_to_index (s : List Char) : alpha_to_index s = resToOpt (alphaToIndex s) := by
  unfold alpha_to_index alphaToIndex
  simp only [gen_alpha_to_index_closure]
  have h := mapM_terms (List.reverse (rt_to_uppercase s)) 0 0
  simp only [Nat.zero_add, List.mem_reverse] at h
  have e : ∀ o : Option (List Nat), (Option.bind o fun t => some (List.sum t)) = o.map (fun t => t.sum) := by
    intro o; cases o <;> rfl
  rw [e, rt_enumerate, h]
  simp only [rt_to_uppercase]
  exact alpha_cases _

def stepSpec (v : Nat) : Option (Option Nat) := some (if v / 26 = 0 then none else some (v / 26 - 1))
def digitSpec (v : Nat) : Nat := 65 + v % 26

theorem gen_index_to_alpha_closure_0 (v : Nat) : index_to_alpha_closure_0 v = stepSpec v := by
  unfold index_to_alpha_closure_0 stepSpec
  gen_eq

theorem gen_index_to_alpha_closure_1 (v : Nat) : index_to_alpha_closure_1 v = digitSpec v := by
  unfold index_to_alpha_closure_1 digitSpec
  (try simp only [show Char.toNat 'A' = 65 from by decide]) <;> first | rfl | omega

theorem gen_index_to_alpha_closure_2 (n : Nat) : index_to_alpha_closure_2 n = rt_char_from_u32 n := by
  unfold index_to_alpha_closure_2
  cases rt_char_from_u32 n <;> rfl

/-- the values `successors` produces from `v`: termination measure = the value (`v / 26 - 1 < v`) -/
def succList (v : Nat) : List Nat := if v / 26 = 0 then [v] else v :: succList (v / 26 - 1)
termination_by v
decreasing_by omega

theorem successors_fuel (v : Nat) : ∀ fuel, v < fuel → rt_successors_fuel stepSpec fuel v = some (succList v) := by
  induction v using Nat.strongRecOn with
  | ind v ih =>
    intro fuel hf
    match fuel, hf with
    | fuel + 1, hf =>
      rw [succList]
      by_cases h : v / 26 = 0
      · simp [rt_successors_fuel, stepSpec, h]
      · have hlt : v / 26 - 1 < v := by omega
        simp [rt_successors_fuel, stepSpec, h, ih (v / 26 - 1) hlt fuel (by omega)]

theorem succList_letters (v : Nat) : (succList v).map (fun x => Char.ofNat (digitSpec x)) = alphaRev v := by
  induction v using Nat.strongRecOn with
  | ind v ih =>
    rw [succList, alphaRev]
    by_cases h : v / 26 = 0
    · simp [h, digitSpec, letter]
    · have hlt : v / 26 - 1 < v := by omega
      simpa [h, digitSpec, letter] using ih _ hlt

theorem mapM_chars (l : List Nat) :
    rt_mapM rt_char_from_u32 (l.map digitSpec) = some (l.map (fun x => Char.ofNat (digitSpec x))) := by
  induction l with
  | nil => rfl
  | cons a l ih =>
    have hv : (digitSpec a).isValidChar := by
      unfold digitSpec Nat.isValidChar; left; omega
    simp [rt_mapM, rt_char_from_u32, hv, ih]

/-- `index_to_alpha` as it is in the source — the assertion, `successors(Some(index - 1), step)`, the digit map, the
    reversal and `char::from_u32(..).unwrap()` — is the model's `indexToAlpha?`, for every index: the letters for
    `index ≥ 1`, a panic for 0; the unfold never runs out of fuel and no `unwrap` fails -/
theorem gen_index_to_alpha (n : Nat) : index_to_alpha n = indexToAlpha? n := by
  unfold index_to_alpha indexToAlpha?
  simp only [gen_index_to_alpha_closure_0, gen_index_to_alpha_closure_1, gen_index_to_alpha_closure_2]
  rcases Nat.eq_zero_or_pos n with h0 | hpos
  · -- index 0: whatever the assertion is spelled like, it is a closed Boolean
    subst h0; simp
  · have h1 : 1 ≤ n := hpos
    have hs : rt_successors (fun x => stepSpec x) (some (n - 1)) = some (succList (n - 1)) :=
      successors_fuel (n - 1) _ (by omega)
    have hm : rt_mapM (fun x => rt_char_from_u32 x) (List.reverse (List.map (fun x => digitSpec x) (succList (n - 1)))) =
        some ((alphaRev (n - 1)).reverse) := by
      rw [← List.map_reverse]
      exact (mapM_chars _).trans (by rw [List.map_reverse, succList_letters])
    -- every conditional of both sides (the assertion in any spelling); excluded paths by `omega`
    simp only [usub_bind, guardO, ite_bind', Option.bind_some, Option.bind_none]
    repeat' split
    all_goals (try simp only [gen_nf] at *)
    all_goals (first
      | (exfalso; omega)
      | rfl
      | simp [h1, hs, hm])

/-- `string_from_column_index` as it is in the source (its own assertion, then `index_to_alpha`) -/
theorem gen_string_from_column_index (n : Nat) : string_from_column_index n = indexToAlpha? n := by
  unfold string_from_column_index
  simp only [gen_index_to_alpha]
  unfold indexToAlpha?
  gen_eq

end Umya.Gen
