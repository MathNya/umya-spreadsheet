/-
  C01 at tree level, one cell: the fact view (`Umya/Model/CellTree.lean::cellFact`) of the element tree that
  `Umya/Model/CellNode.lean::cellNode` renders for a written `<c>` fact is that fact up to the spelling of its
  raw texts, and C01's reader does not see the difference — so `writeTo_readCell` (the fact-level round trip)
  lifts to trees (`writeTo_readCellN`).
-/
import Umya.Model.CellTree
import Umya.Lemmas.CellDecode
namespace Umya.CellTree
open Umya.Xml Umya.CellXml Umya.CellNode Umya.Num Umya.Coord Umya.Dec Umya.InternC01
open Umya.Spec.Xml (Node Attr localName)

/-- the `<v>` fact that a `<v>` child with the VALUE `ov` is viewed as -/
def vFactOf : Option Text → VNode
  | none => .absent
  | some s => if s = [] then .emptyTag else .text (escape s)

theorem txt_isEmpty (s : Text) : (txt s).isEmpty = decide (s = []) := by
  by_cases h : s = [] <;> simp [txt, h]

theorem lastKid_eq (n : Node) (name : String) : lastKid n name = (n.children.filter (isKid name.toList)).getLast? := rfl

theorem fOf_cElem (ref t : Text) (styled : Bool) (xf : Nat) (fo ov : Option Text) :
    fOf (cElem ref t styled xf fo ov) = fo.map escape := by
  rw [fOf, lastKid, kids_f]
  cases fo <;> simp [fKids, ownText_txt]

theorem vOf_cElem (ref t : Text) (styled : Bool) (xf : Nat) (fo ov : Option Text) :
    vOf (cElem ref t styled xf fo ov) = vFactOf ov := by
  rw [vOf, lastKid, kids_v]
  cases ov <;> simp [vKids, ownText_txt, vFactOf, txt_isEmpty, Node.children]

theorem localName_is : localName ['i', 's'] = ['i', 's'] := by decide

theorem isOf_cElem (ref t : Text) (styled : Bool) (xf : Nat) (fo ov : Option Text) :
    isOf (cElem ref t styled xf fo ov) = none := by
  rw [isOf, lastKid, kids_is]
  rfl

theorem cellFact_cElem (ref t : Text) (styled : Bool) (xf : Nat) (fo ov : Option Text) :
    cellFact (cElem ref t styled xf fo ov)
      = { ref := ref, t := t, styled := styled, f := fo.map escape, v := vFactOf ov, is := none } := by
  unfold cellFact
  rw [attr_r, attr_t, attr_s, fOf_cElem, vOf_cElem, isOf_cElem]
  by_cases ht : t = [] <;> cases styled <;> simp [ht]

section
variable (F : NumFmt)

theorem readCell_congr (sst : Table) {x y : CellX} (hr : x.ref = y.ref) (ht : x.t = y.t) (hs : x.styled = y.styled)
    (hf : readF x.f = readF y.f) (hv : ∀ fo, readV F sst x.t x.v fo = readV F sst y.t y.v fo)
    (hx : x.is = none) (hy : y.is = none) : readCell F sst x = readCell F sst y := by
  unfold readCell
  rw [hr, hf, hs, hx, hy]
  split
  · simp only [readIs, ht]
    congr 1
    funext formula
    have := hv formula
    rw [ht] at this
    rw [this]
  · rfl

theorem readV_text_congr (sst : Table) (t a b : Text) (fo : Option Text)
    (h : readText (decide (t ≠ tSTR)) a = readText (decide (t ≠ tSTR)) b) :
    readV F sst t (.text a) fo = readV F sst t (.text b) fo := by
  simp only [readV, h]

theorem escape_ne_nil {s : Text} (h : s ≠ []) : escape s ≠ [] := fun e => h (escape_eq_nil.1 e)

/-- The `<v>` of the rendered tree, taken back as a fact (`vFactOf ov`: the text re-spelled with `escape`), is read by
    `readV` exactly as the fact that was written.  `hch` excludes the empty text under a formula, written
    `<v></v>`, which is the same tree as `<v/>` (head of `Umya/Model/CellTree.lean`). -/
theorem writeV_view (hF : F.Sound) (tbl : Table) (raw : RawValue F.Num) (fo : Option Text)
    (hnl : raw.isLazy = false) (hne : ¬ (raw.isEmpty = true ∧ fo.isNone = true))
    (hch : ¬ (raw = .str [] ∧ fo.isSome = true)) :
    ∃ ov, vNodes (writeV F tbl (dataTypeOf F raw fo) raw).2 = some (vKids ov) ∧
      ∀ (sst : Table) (fo' : Option Text),
        readV F sst (tAttrOf (dataTypeOf F raw fo)) (vFactOf ov) fo'
          = readV F sst (tAttrOf (dataTypeOf F raw fo)) (writeV F tbl (dataTypeOf F raw fo) raw).2 fo' := by
  cases raw with
  | empty =>
    cases fo with
    | none => exact absurd ⟨rfl, rfl⟩ hne
    | some f => exact ⟨some [], vNodes_emptyTag, fun sst fo' => rfl⟩
  | str s =>
    cases fo with
    | none =>
      rw [show dataTypeOf F (.str s) none = tS from rfl, writeV_shared F tbl _ rfl]
      refine ⟨_, vNodes_written charData_escape _, fun sst fo' => ?_⟩
      simp [vFactOf, decDigits_ne_nil]
    | some f =>
      have hs : s ≠ [] := fun e => hch ⟨by rw [e], rfl⟩
      rw [show dataTypeOf F (.str s) (some f) = tSTR from rfl, writeV_str, show tAttrOf tSTR = tSTR from rfl]
      refine ⟨some s, vNodes_written charData_partialEscape _, fun sst fo' => ?_⟩
      simp only [vFactOf, hs, if_false]
      apply readV_text_congr
      simp [readText_false_escape, readText_false_partialEscape]
  | rich rs =>
    rw [dataTypeOf_rich, writeV_shared F tbl _ rfl]
    refine ⟨_, vNodes_written charData_escape _, fun sst fo' => ?_⟩
    simp [vFactOf, decDigits_ne_nil]
  | num n =>
    rw [dataTypeOf_num, writeV_num]
    refine ⟨some (F.fmt n), vNodes_written charData_partialEscape _, fun sst fo' => ?_⟩
    simp only [vFactOf, hF.fmt_ne n, if_false]
    apply readV_text_congr
    have h1 := readText_true_partialEscape (F.fmt n) (hF.fmt_ne n) (fmt_no_ws F hF n)
    have h2 := readText_true_escape (F.fmt n) (hF.fmt_ne n) (fmt_no_ws F hF n)
    have hd2 : decide (tAttrOf tN ≠ tSTR) = true := by decide
    rw [hd2, h1, h2]
  | bool b =>
    rw [dataTypeOf_bool, writeV_bool]
    refine ⟨_, vNodes_written charData_escape _, fun sst fo' => ?_⟩
    cases b <;> rfl
  | err e =>
    rw [dataTypeOf_err, writeV_err]
    refine ⟨some e.text, vNodes_written charData_escape _, fun sst fo' => ?_⟩
    simp [vFactOf, errText_ne_nil]
  | lazy s => simp [RawValue.isLazy] at hnl

theorem charsCore_iff (raw : RawValue F.Num) (fo : Option Text) :
    charsCore F raw fo = true ↔ ¬ (raw = .str [] ∧ fo.isSome = true) := by
  unfold charsCore
  constructor
  · intro h ⟨h1, h2⟩
    subst h1
    cases fo with
    | none => simp at h2
    | some f => simp at h
  · intro h
    split
    · rename_i h1 h2
      exact absurd ⟨rfl, rfl⟩ h
    · rfl

theorem writeCore_readCellN (hF : F.Sound) (tbl : Table) (c : Cell F.Num) (hc : cellOK F c = true)
    (hnl : c.raw.isLazy = false) (hch : charsCore F c.raw c.formula = true) :
    ∃ tbl' ox, writeCore F tbl c = some (tbl', ox) ∧
      (∃ ext, tbl' = tbl ++ ext ∧ ∀ it ∈ ext, ItemOK it) ∧
      (blankCore F c = true → ox = none) ∧
      (blankCore F c = false → ∃ x, ox = some x ∧ ∀ xf : Nat, ∃ node, cellNode xf x = some node ∧
        ∀ sst : Table, sst.length < 18446744073709551616 → Extends sst tbl' → readCellN F sst node = some c) := by
  obtain ⟨tbl', ox, hw, hext, hblank, hkeep⟩ := writeCore_readCell F hF tbl c hc hnl
  refine ⟨tbl', ox, hw, hext, hblank, fun hb => ?_⟩
  obtain ⟨x, hox, hrx⟩ := hkeep hb
  subst hox
  refine ⟨x, rfl, fun xf => ?_⟩
  have hch' := (charsCore_iff F c.raw c.formula).1 hch
  have hc1 := ((cellOK_iff F).1 hc).1.1
  by_cases he : c.raw.isEmpty = true ∧ c.formula.isNone = true
  · rw [writeCore_bare F tbl hb hc1 he] at hw
    cases hw
    obtain ⟨col, row, raw, fo, styled⟩ := c
    obtain ⟨rfl, rfl⟩ := isEmpty_isNone_iff.1 he
    refine ⟨cElem (coordinateFromIndexWithLock col row false false) [] styled xf none none,
      cellNode_written xf (fo := none) vNodes_absent, fun sst hlen hx => ?_⟩
    rw [← hrx sst hlen hx, readCellN, cellFact_cElem]
    rfl
  · rw [writeCore_value F tbl hb hc1 he] at hw
    cases hw
    obtain ⟨ov, hvn, hrd⟩ := writeV_view F hF tbl c.raw c.formula hnl he hch'
    refine ⟨cElem _ _ c.styled xf c.formula ov, cellNode_written xf hvn, fun sst hlen hx => ?_⟩
    rw [← hrx sst hlen hx, readCellN, cellFact_cElem]
    refine readCell_congr F sst rfl rfl rfl ?_ ?_ rfl rfl
    · show readF (c.formula.map escape) = readF (c.formula.map partialEscape)
      rw [readF_map readText_false_escape, readF_map readText_false_partialEscape]
    · exact hrd sst

theorem writeTo_readCellN (hF : F.Sound) (tbl : Table) (c : Cell F.Num) (hc : cellOK F c = true) (hch : charsOK F c = true) :
    ∃ tbl' ox, writeTo F tbl c = some (tbl', ox) ∧
      (∃ ext, tbl' = tbl ++ ext ∧ ∀ it ∈ ext, ItemOK it) ∧
      (blankUnstyled F c = true → ox = none) ∧
      (blankUnstyled F c = false → ∃ x, ox = some x ∧ ∀ xf : Nat, ∃ node, cellNode xf x = some node ∧
        ∀ sst : Table, sst.length < 18446744073709551616 → Extends sst tbl' →
          readCellN F sst node = some (Cell.resolved F c)) :=
  writeCore_readCellN F hF tbl (Cell.resolved F c) (cellOK_resolved F hc) (resolveRaw_not_lazy F c.raw) hch

end

end Umya.CellTree
