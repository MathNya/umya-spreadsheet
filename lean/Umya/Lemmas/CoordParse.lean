/-
  Parse-then-print for the coordinate and range codecs: every text of the canonical grammar
  (`Umya/Model/CoordCanon.lean`) IS the print of an in-bounds value, and every print of an in-bounds value is in the
  grammar.  With print-then-parse (`coord_print_parse`, `Range.parse_print` of `Umya/Lemmas/CoordRange.lean`, whose
  namespace `Umya.Thm.C17` also holds `Range.IsShape` / `Range.InBounds`) this gives both inverse laws.
-/
import Umya.Model.CoordCanon
import Umya.Lemmas.CoordRange
namespace Umya.Coord
open Umya.Dec Umya.Thm.C17

theorem canonDigits_spec {ds : List Char} (h : canonDigitsB ds = true) :
    parseDec ds < 4294967296 ∧ decDigits (parseDec ds) = ds := by
  simp only [canonDigitsB, Bool.and_eq_true, Bool.or_eq_true, decide_eq_true_eq, Bool.not_eq_true'] at h
  obtain ⟨⟨⟨hne, hd⟩, hz⟩, hb⟩ := h
  refine ⟨hb, ?_⟩
  rcases hz with rfl | hz
  · have : parseDec ['0'] = 0 := by decide
    rw [this, decDigits_lt10 0 (by decide)]; rfl
  · cases ds with
    | nil => simp at hne
    | cons a r => exact decDigits_parseDec a r hd (by intro e; apply hz; simp [e])

theorem canonDigits_decDigits {n : Nat} (h : n < 4294967296) : canonDigitsB (decDigits n) = true := by
  simp only [canonDigitsB, Bool.and_eq_true, Bool.or_eq_true, decide_eq_true_eq, Bool.not_eq_true',
    decDigits_isEmpty, decDigits_all_digit, parseDec_decDigits, h, and_true, true_and]
  by_cases h0 : n = 0
  · subst h0; left; rw [decDigits_lt10 0 (by decide)]; rfl
  · right; exact decDigits_head_ne_zero n (by omega)

theorem canonLetters_spec {ls : List Char} (h : canonLettersB ls = true) :
    columnIndexFromString ls = .ok (alphaVal ls) ∧ (1 ≤ alphaVal ls ∧ alphaVal ls ≤ 18278) ∧
      indexToAlpha (alphaVal ls) = ls := by
  simp only [canonLettersB, Bool.and_eq_true, decide_eq_true_eq] at h
  exact letters_parse_print ls h.2 h.1

theorem canonLetters_indexToAlpha {n : Nat} (h : 1 ≤ n ∧ n ≤ 18278) : canonLettersB (indexToAlpha n) = true := by
  simp only [canonLettersB, Bool.and_eq_true, decide_eq_true_eq, indexToAlpha_upper, and_true]
  exact ⟨indexToAlpha_length_pos _, indexToAlpha_length_le3 _ h.2⟩

theorem stripDollar_eq (s : List Char) : s = dollar (stripDollar s).1 ++ (stripDollar s).2 := by
  unfold stripDollar
  split <;> simp [dollar]

theorem stripDollar_dollar {b : Bool} {r : List Char} (h : r.head? ≠ some '$') :
    stripDollar (dollar b ++ r) = (b, r) := by
  cases b
  · simp only [dollar, Bool.false_eq_true, if_false, List.nil_append]
    unfold stripDollar
    split
    · rename_i r' ; simp at h
    · rfl
  · simp [dollar, stripDollar]

theorem canonCol_spec (s : List Char) (h : canonColB s = true) :
    ∃ c : Ref, (1 ≤ c.num ∧ c.num ≤ 18278) ∧ s = colRefText c := by
  -- `canonColB s` is `canonLettersB (stripDollar s).2` by definition (and `canonRowB`, `canonDigitsB` likewise)
  obtain ⟨_, hc, h3⟩ := canonLetters_spec h
  refine ⟨⟨alphaVal (stripDollar s).2, (stripDollar s).1⟩, hc, ?_⟩
  simp only [colRefText, h3]
  exact stripDollar_eq s

theorem canonRow_spec (s : List Char) (h : canonRowB s = true) :
    ∃ r : Ref, r.num < 4294967296 ∧ s = rowRefText r := by
  obtain ⟨h1, h2⟩ := canonDigits_spec h
  refine ⟨⟨parseDec (stripDollar s).2, (stripDollar s).1⟩, h1, ?_⟩
  simp only [rowRefText, h2]
  exact stripDollar_eq s

theorem canonCell_spec (s : List Char) (h : canonCellB s = true) :
    ∃ c r : Ref, (1 ≤ c.num ∧ c.num ≤ 18278) ∧ r.num < 4294967296 ∧ s = colRefText c ++ rowRefText r := by
  simp only [canonCellB, Bool.and_eq_true] at h
  obtain ⟨_, hc, h3⟩ := canonLetters_spec h.1
  obtain ⟨r, hr, hre⟩ := canonRow_spec _ h.2
  refine ⟨⟨alphaVal ((stripDollar s).2.takeWhile isUpperAZ), (stripDollar s).1⟩, r, hc, hr, ?_⟩
  simp only [colRefText, h3, ← hre, List.append_assoc, List.takeWhile_append_dropWhile]
  exact stripDollar_eq s

theorem indexToAlpha_head_ne_dollar (n : Nat) : (indexToAlpha n).head? ≠ some '$' := by
  obtain ⟨c, r, h, hu⟩ := indexToAlpha_head n
  rw [h]
  exact fun e => isUpperAZ_ne_dollar hu (Option.some.inj e)

theorem decDigits_head_ne_dollar (n : Nat) : (decDigits n).head? ≠ some '$' :=
  fun e => not_mem_decDigits (by decide) n (List.mem_of_mem_head? e)

theorem canonCol_colRefText (c : Ref) (hc : 1 ≤ c.num ∧ c.num ≤ 18278) : canonColB (colRefText c) = true := by
  have : colRefText c = dollar c.lock ++ indexToAlpha c.num := rfl
  simp only [canonColB, this, stripDollar_dollar (indexToAlpha_head_ne_dollar _)]
  exact canonLetters_indexToAlpha hc

theorem canonRow_rowRefText (r : Ref) (hr : r.num < 4294967296) : canonRowB (rowRefText r) = true := by
  have : rowRefText r = dollar r.lock ++ decDigits r.num := rfl
  simp only [canonRowB, this, stripDollar_dollar (decDigits_head_ne_dollar _)]
  exact canonDigits_decDigits hr

theorem canonCell_print (c r : Ref) (hc : 1 ≤ c.num ∧ c.num ≤ 18278) (hr : r.num < 4294967296) :
    canonCellB (colRefText c ++ rowRefText r) = true := by
  have e : colRefText c ++ rowRefText r = dollar c.lock ++ (indexToAlpha c.num ++ rowRefText r) := by
    simp [colRefText, dollar]
  have hh : (indexToAlpha c.num ++ rowRefText r).head? ≠ some '$' := by
    obtain ⟨a, as, ha, _⟩ := indexToAlpha_head c.num
    have := indexToAlpha_head_ne_dollar c.num
    rw [ha] at this ⊢
    simpa using this
  obtain ⟨t1, t2⟩ := takeWhile_dropWhile_run isUpperAZ (indexToAlpha c.num) (rowRefText r) (indexToAlpha_upper _)
    (Or.inr (List.append_nil (rowRefText r) ▸ rowRefText_head r []))
  simp only [canonCellB, e, stripDollar_dollar hh, t1, t2, Bool.and_eq_true]
  exact ⟨canonLetters_indexToAlpha hc, canonRow_rowRefText r hr⟩

/-- `joinCh ':' [a]` is `a`, `joinCh ':' [a, b]` is `a ++ ':' :: b` -/
theorem eq_of_splitColon {t : List Char} {l : List (List Char)} (h : splitColon t = l) : t = AnnotCodec.joinCh ':' l := by
  rw [← h, splitColon_eq, AnnotCodec.joinCh_splitCh]

theorem cellSingle_spec (a : List Char) (h : canonCellB a = true) :
    ∃ c r, Range.InBounds ⟨some c, some r, none, none⟩ ∧ a = Range.print ⟨some c, some r, none, none⟩ := by
  obtain ⟨c, r, hc, hr, e⟩ := canonCell_spec a h
  refine ⟨c, r, ?_, by rw [e]; simp [Range.print, optText]⟩
  refine ⟨?_, ?_, ?_, ?_⟩ <;> intro x hx <;> cases hx <;> assumption

theorem cellPair_spec (a b : List Char) (ha : canonCellB a = true) (hb : canonCellB b = true) :
    ∃ c r c' r', Range.InBounds ⟨some c, some r, some c', some r'⟩ ∧
      a ++ ':' :: b = Range.print ⟨some c, some r, some c', some r'⟩ := by
  obtain ⟨c, r, hc, hr, e⟩ := canonCell_spec a ha
  obtain ⟨c', r', hc', hr', e'⟩ := canonCell_spec b hb
  refine ⟨c, r, c', r', ?_, by rw [e, e']; simp [Range.print, optText]⟩
  refine ⟨?_, ?_, ?_, ?_⟩ <;> intro x hx <;> cases hx <;> assumption

theorem canonRange_spec (t : List Char) (h : canonRangeB t = true) :
    ∃ ρ : Range, Range.IsShape ρ ∧ Range.InBounds ρ ∧ t = ρ.print := by
  unfold canonRangeB at h
  split at h
  · rename_i a ha
    obtain ⟨c, r, hb, e⟩ := cellSingle_spec a h
    exact ⟨_, Or.inl ⟨rfl, rfl, rfl, rfl⟩, hb, (eq_of_splitColon ha).trans e⟩
  · rename_i a b hab
    have ht : t = a ++ ':' :: b := eq_of_splitColon hab
    simp only [Bool.or_eq_true, Bool.and_eq_true] at h
    rcases h with (⟨h1, h2⟩ | ⟨h1, h2⟩) | ⟨h1, h2⟩
    · obtain ⟨c, r, c', r', hb, e⟩ := cellPair_spec a b h1 h2
      exact ⟨_, Or.inr (Or.inl ⟨rfl, rfl, rfl, rfl⟩), hb, ht.trans e⟩
    · obtain ⟨c, hc, e⟩ := canonCol_spec a h1
      obtain ⟨c', hc', e'⟩ := canonCol_spec b h2
      refine ⟨⟨some c, none, some c', none⟩, Or.inr (Or.inr (Or.inr ⟨rfl, rfl, rfl, rfl⟩)), ?_, ?_⟩
      · refine ⟨?_, ?_, ?_, ?_⟩ <;> intro x hx <;> cases hx <;> assumption
      · rw [ht, e, e']; simp [Range.print, optText]
    · obtain ⟨r, hr, e⟩ := canonRow_spec a h1
      obtain ⟨r', hr', e'⟩ := canonRow_spec b h2
      refine ⟨⟨none, some r, none, some r'⟩, Or.inr (Or.inr (Or.inl ⟨rfl, rfl, rfl, rfl⟩)), ?_, ?_⟩
      · refine ⟨?_, ?_, ?_, ?_⟩ <;> intro x hx <;> cases hx <;> assumption
      · rw [ht, e, e']; simp [Range.print, optText]
  · cases h

theorem canonRange_print (ρ : Range) (hs : Range.IsShape ρ) (hb : Range.InBounds ρ) :
    canonRangeB ρ.print = true := by
  obtain ⟨b1, b2, b3, b4⟩ := hb
  rw [canonRangeB, Range.splitColon_print]
  rcases hs.cases with ⟨a, b, rfl⟩ | ⟨a, b, x, y, rfl⟩ | ⟨x, y, rfl⟩ | ⟨x, y, rfl⟩
  · exact canonCell_print a b (b1 a rfl) (b3 b rfl)
  · simp [optText, canonCell_print a b (b1 a rfl) (b3 b rfl), canonCell_print x y (b2 x rfl) (b4 y rfl)]
  · simp [optText, canonRow_rowRefText x (b3 x rfl), canonRow_rowRefText y (b4 y rfl)]
  · simp [optText, canonCol_colRefText x (b1 x rfl), canonCol_colRefText y (b2 y rfl)]

end Umya.Coord
