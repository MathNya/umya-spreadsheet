/-
  Cells under re-saving: the blank unstyled cells `normalize` drops are exactly the ones the writer skips without
  touching the string table, so the SECOND save writes the very same facts as the first — same `<c>` elements, same
  shared-string part.  This gives closure of C01's side condition (the size of the written string table) under
  `normalize`.  For the edits: one save + load of a sheet is a `filterMap` (`keepR`) and an edit touches one element of
  the list of sheets (`onIdx`), so the two commute as soon as they do on one cell.
-/
import Umya.Lemmas.BookRoundTrip
import Umya.Model.CellEdit
namespace Umya.Thm.C04

/-- `f` applied to element `i` of a list (nothing happens when there is none) -/
def onIdx {α : Type} (l : List α) (i : Nat) (f : α → α) : List α :=
  match l[i]? with
  | some a => l.set i (f a)
  | none => l

theorem map_onIdx {α β : Type} {l : List α} {i : Nat} {f : α → α} {f' : β → β} {g : α → β}
    (hg : ∀ a, l[i]? = some a → g (f a) = f' (g a)) : (onIdx l i f).map g = onIdx (l.map g) i f' := by
  unfold onIdx
  cases h : l[i]? with
  | none => simp [h]
  | some a => simp [h, List.map_set, hg a h]

theorem onIdx_other {α : Type} (l : List α) (i i' : Nat) (f : α → α) (hne : i' ≠ i) : (onIdx l i f)[i']? = l[i']? := by
  unfold onIdx
  cases h : l[i]? with
  | none => rfl
  | some a => simp [Ne.symm hne]

theorem onIdx_self {α : Type} (l : List α) (i : Nat) (f : α → α) (a : α) (h : l[i]? = some a) :
    (onIdx l i f)[i]? = some (f a) := by
  unfold onIdx
  simp only [h, List.getElem?_set_self (List.getElem?_eq_some_iff.1 h).1]

theorem forall_mem_onIdx {α : Type} {P : α → Prop} {l : List α} {i : Nat} {f : α → α} (h : ∀ a ∈ l, P a)
    (hf : ∀ a, l[i]? = some a → P (f a)) : ∀ a ∈ onIdx l i f, P a := by
  intro a ha
  unfold onIdx at ha
  split at ha
  · next a0 h0 => exact (List.mem_or_eq_of_mem_set ha).elim (h a) fun e => e ▸ hf a0 h0
  · exact h a ha

theorem flatten_onIdx {α : Type} (l : List (List α)) (i : Nat) (s : List α) (g : List α → List α) (h : l[i]? = some s) :
    ∃ A B, l.flatten = A ++ s ++ B ∧ (onIdx l i g).flatten = A ++ g s ++ B := by
  obtain ⟨hi, rfl⟩ := List.getElem?_eq_some_iff.1 h
  refine ⟨(l.take i).flatten, (l.drop (i + 1)).flatten, ?_, ?_⟩
  · rw [List.append_assoc, ← List.flatten_cons, ← List.flatten_append, ← List.drop_eq_getElem_cons hi, List.take_append_drop]
  · simp only [onIdx, h, List.set_eq_take_append_cons_drop, hi, if_true, List.flatten_append, List.flatten_cons, List.append_assoc]

end Umya.Thm.C04

namespace Umya.CellXml
open Umya.Num Umya.Thm.C04

section
variable (F : NumFmt)

theorem writeTo_resolved (tbl : Table) (c : Cell F.Num) : writeTo F tbl (Cell.resolved F c) = writeTo F tbl c := by
  unfold writeTo; rw [resolved_idem]

theorem writeCells_filter : ∀ (cs : List (Cell F.Num)) (tbl : Table),
    writeCells F tbl ((cs.filter (fun c => !blankUnstyled F c)).map (Cell.resolved F)) = writeCells F tbl cs
  | [], _ => rfl
  | c :: cs, tbl => by
    cases hb : blankUnstyled F c with
    | true =>
      have hw : writeTo F tbl c = some (tbl, none) := writeCore_blank F tbl hb
      simp only [List.filter_cons, hb, Bool.not_true, Bool.false_eq_true, if_false, writeCells, hw,
        writeCells_filter cs tbl]
      cases writeCells F tbl cs with
      | none => rfl
      | some p => rfl
    | false =>
      simp only [List.filter_cons, hb, Bool.not_false, if_true, List.map_cons, writeCells, writeTo_resolved]
      cases writeTo F tbl c with
      | none => rfl
      | some p => simp only [writeCells_filter cs p.1]

theorem writeSheets_normalize : ∀ (sheets : List (List (Cell F.Num))) (tbl : Table),
    writeSheets F tbl (normalize F sheets) = writeSheets F tbl sheets
  | [], _ => rfl
  | s :: ss, tbl => by
    simp only [normalize, List.map_cons, writeSheets, writeCells_filter]
    cases writeCells F tbl s with
    | none => rfl
    | some p =>
      have := writeSheets_normalize ss p.1
      simp only [normalize] at this
      simp only [this]

theorem writeBook_normalize (light : Bool) (sheets : List (List (Cell F.Num))) :
    writeBook F light (normalize F sheets) = writeBook F light sheets := by
  simp only [writeBook, writeSheets_normalize]

/-- by definition: `normS` (`Umya/Model/CellEdit.lean`) is the body of `normalize` under a name -/
theorem normalize_eq_map (cells : List (List (Cell F.Num))) : normalize F cells = cells.map (normS F) := rfl

/-- what one save + load makes of one cell: nothing if it is blank and unstyled, otherwise the cell resolved.  One
    sheet's save + load is `filterMap` of it (`normS_eq_filterMap`), so `normS` against an edit of the list is a core
    `filterMap` lemma and a fact about one cell. -/
def keepR (c : Cell F.Num) : Option (Cell F.Num) := if blankUnstyled F c then none else some (Cell.resolved F c)

theorem normS_eq_filterMap (s : List (Cell F.Num)) : normS F s = s.filterMap (keepR F) := by
  induction s with
  | nil => rfl
  | cons c s ih =>
    unfold normS at ih ⊢
    cases h : blankUnstyled F c <;> simp [keepR, h, ih]

@[simp] theorem resolved_row (c : Cell F.Num) : (Cell.resolved F c).row = c.row := rfl
@[simp] theorem resolved_col (c : Cell F.Num) : (Cell.resolved F c).col = c.col := rfl

theorem normS_idem (s : List (Cell F.Num)) : normS F (normS F s) = normS F s := by
  simp only [normS_eq_filterMap, List.filterMap_filterMap]
  congr 1; funext c
  cases hb : blankUnstyled F c <;> simp [keepR, hb, blankUnstyled_resolved, resolved_idem]

theorem normalize_idem' (sheets : List (List (Cell F.Num))) : normalize F (normalize F sheets) = normalize F sheets := by
  simp only [normalize_eq_map, List.map_map]
  exact List.map_congr_left fun s _ => normS_idem F s

theorem normalize_cellOK (sheets : List (List (Cell F.Num))) (h : ∀ s ∈ sheets, ∀ c ∈ s, cellOK F c = true) :
    ∀ s ∈ normalize F sheets, ∀ c ∈ s, cellOK F c = true := by
  intro s hs c hc
  simp only [normalize, List.mem_map] at hs
  obtain ⟨s0, hs0, rfl⟩ := hs
  obtain ⟨c0, hc0, rfl⟩ := List.mem_map.1 hc
  exact cellOK_resolved F (h s0 hs0 c0 (List.mem_filter.1 hc0).1)

/-- one save + load of all cells of a workbook -/
def cellsRs (light : Bool) (sheets : List (List (Cell F.Num))) : Option (List (List (Cell F.Num))) :=
  (writeBook F light sheets).bind (readBook F)

/-- the hypotheses of `C01_roundtrip`: covered cells, and fewer than 2^64 distinct strings written -/
def CellsWF (light : Bool) (sheets : List (List (Cell F.Num))) : Prop :=
  (∀ s ∈ sheets, ∀ c ∈ s, cellOK F c = true) ∧
  ∀ b, writeBook F light sheets = some b → b.sst.length < 18446744073709551616

theorem cellsRs_eq (hF : F.Sound) (light : Bool) (sheets : List (List (Cell F.Num))) (h : CellsWF F light sheets) :
    cellsRs F light sheets = some (normalize F sheets) := by
  obtain ⟨b, hw, hr⟩ := writeBook_readBook F hF light sheets h.1
  simp [cellsRs, hw, hr (h.2 b hw)]

theorem CellsWF_normalize (light : Bool) (sheets : List (List (Cell F.Num))) (h : CellsWF F light sheets) :
    CellsWF F light (normalize F sheets) :=
  ⟨normalize_cellOK F sheets h.1, fun b hb => h.2 b (by rw [← writeBook_normalize]; exact hb)⟩

/-- `set_value…` on the cell at (row, column) `k` of one sheet's cell list: every cell with that coordinate is
    replaced by `f` of itself, every other cell is left alone -/
def editSheet (k : Nat × Nat) (f : Cell F.Num → Cell F.Num) (s : List (Cell F.Num)) : List (Cell F.Num) :=
  s.map (fun c => if (c.row, c.col) = k then f c else c)

/-- the same on sheet `i` of a workbook (nothing happens when there is no such sheet) -/
def editCells (cells : List (List (Cell F.Num))) (i : Nat) (k : Nat × Nat) (f : Cell F.Num → Cell F.Num) :
    List (List (Cell F.Num)) :=
  match cells[i]? with
  | some s => cells.set i (editSheet F k f s)
  | none => cells

/-- `rfl` fails (two matchers) -/
theorem onSheet_eq_onIdx (cells : List (List (Cell F.Num))) (i : Nat) (g : List (Cell F.Num) → List (Cell F.Num)) :
    onSheet F cells i g = onIdx cells i g := by
  unfold onSheet onIdx
  cases cells[i]? <;> rfl

theorem normalize_onSheet (cells : List (List (Cell F.Num))) (i : Nat) (g g' : List (Cell F.Num) → List (Cell F.Num))
    (hg : ∀ s, cells[i]? = some s → normS F (g s) = g' (normS F s)) :
    normalize F (onSheet F cells i g) = onSheet F (normalize F cells) i g' := by
  rw [onSheet_eq_onIdx, onSheet_eq_onIdx]; exact map_onIdx hg

theorem onSheet_other (cells : List (List (Cell F.Num))) (i i' : Nat) (g : List (Cell F.Num) → List (Cell F.Num))
    (hne : i' ≠ i) : (onSheet F cells i g)[i']? = cells[i']? := by
  rw [onSheet_eq_onIdx]; exact onIdx_other cells i i' g hne

theorem onSheet_self (cells : List (List (Cell F.Num))) (i : Nat) (g : List (Cell F.Num) → List (Cell F.Num))
    (s : List (Cell F.Num)) (h : cells[i]? = some s) : (onSheet F cells i g)[i]? = some (g s) := by
  rw [onSheet_eq_onIdx]; exact onIdx_self cells i g s h

theorem editCells_eq_onSheet (cells : List (List (Cell F.Num))) (i : Nat) (k : Nat × Nat) (f : Cell F.Num → Cell F.Num) :
    editCells F cells i k f = onSheet F cells i (editSheet F k f) := by
  unfold editCells onSheet
  cases cells[i]? <;> rfl

/-- `hf` is asked of EVERY cell, so `f` must leave a blank unstyled cell blank and unstyled: an `f` that sets a value,
    a formula or a style whatever the cell does not satisfy it (one guarded by `blankUnstyled` does).  `hr` holds of an
    edit that sets a definite value / formula / style, or leaves the value alone.  `resolved` keeps the coordinate the
    edit is keyed by. -/
theorem normS_editSheet (k : Nat × Nat) (f : Cell F.Num → Cell F.Num)
    (hf : ∀ c, blankUnstyled F (f c) = blankUnstyled F c)
    (hr : ∀ c, Cell.resolved F (f c) = f (Cell.resolved F c)) (s : List (Cell F.Num)) :
    normS F (editSheet F k f s) = editSheet F k f (normS F s) := by
  simp only [normS_eq_filterMap, editSheet, List.filterMap_map, List.map_filterMap]
  congr 1; funext c
  by_cases hk : (c.row, c.col) = k <;> cases hb : blankUnstyled F c <;> simp [hk, keepR, hf, hr, hb]

theorem normalize_editCells (cells : List (List (Cell F.Num))) (i : Nat) (k : Nat × Nat) (f : Cell F.Num → Cell F.Num)
    (hf : ∀ c, blankUnstyled F (f c) = blankUnstyled F c)
    (hr : ∀ c, Cell.resolved F (f c) = f (Cell.resolved F c)) :
    normalize F (editCells F cells i k f) = editCells F (normalize F cells) i k f := by
  rw [editCells_eq_onSheet, editCells_eq_onSheet]
  exact normalize_onSheet F cells i _ _ fun s _ => normS_editSheet F k f hf hr s

theorem editCells_other (cells : List (List (Cell F.Num))) (i i' : Nat) (k : Nat × Nat) (f : Cell F.Num → Cell F.Num)
    (hne : i' ≠ i) : (editCells F cells i k f)[i']? = cells[i']? := by
  rw [editCells_eq_onSheet]; exact onSheet_other F cells i i' _ hne

theorem editSheet_other (k : Nat × Nat) (f : Cell F.Num → Cell F.Num) (s : List (Cell F.Num)) (j : Nat) (c : Cell F.Num)
    (hj : s[j]? = some c) (hk : (c.row, c.col) ≠ k) : (editSheet F k f s)[j]? = some c := by
  simp [editSheet, hj, hk]

end
end Umya.CellXml
