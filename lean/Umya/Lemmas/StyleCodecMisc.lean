/-
  The records written as attributes only: alignment, protection, number format, row, column.  `read (write x)` is `some x` for the first
  three; a row or column comes back with a `some false` flag and a zero height turned into `none` (`Row.norm`, `Col.norm`).
-/
import Umya.Lemmas.StyleCodec
namespace Umya.StyleCodec
open Umya.Spec.Xml (Node Attr)
open Umya.Dec

theorem getAttr_optAttr_self {α : Type} (k : String) (o : Option α) (f : α → Tok) (rest : List Attr) :
    getAttr (optAttr k o f ++ rest) k = match o with | some a => some (f a) | none => getAttr rest k := by
  cases o <;> simp [getAttr_append, getAttr_optAttr]

theorem getAttr_optAttr_other {α : Type} (k k' : String) (hk : k.toList ≠ k'.toList) (o : Option α) (f : α → Tok)
    (rest : List Attr) : getAttr (optAttr k o f ++ rest) k' = getAttr rest k' := by
  have hne : k ≠ k' := fun e => hk (congrArg _ e)
  simp [getAttr_append, getAttr_optAttr, hne]

theorem getAttr_flagAttr_self (k : String) (o : Option Bool) (rest : List Attr) :
    getAttr (flagAttr k o ++ rest) k = if o.getD false then some (boolStr true) else getAttr rest k := by
  cases h : o.getD false <;> simp [getAttr_append, getAttr_flagAttr, h]

theorem getAttr_flagAttr_other (k k' : String) (hk : k.toList ≠ k'.toList) (o : Option Bool) (rest : List Attr) :
    getAttr (flagAttr k o ++ rest) k' = getAttr rest k' := by
  have hne : k ≠ k' := fun e => hk (congrArg _ e)
  simp [getAttr_append, getAttr_flagAttr, hne]

theorem getAttr_single (k k' : String) (v : Tok) :
    getAttr [mkAttr k v] k' = if k.toList = k'.toList then some v else none := by
  simp [getAttr_mkAttr, String.toList_inj]

theorem normFlag_eq (b : Option Bool) : (if b.getD false = true then some (boolOf (boolStr true)) else none) = normFlag b := by
  cases b with
  | none => rfl
  | some v => cases v <;> rfl

theorem Alignment.read_write (a : Alignment) (h : a.Range) : Alignment.read a.write = some a := by
  obtain ⟨ho, ve, wr, ro⟩ := a
  have hr : ∀ n, ro = some n → u32Of (decDigits n) = some n := fun n hn => u32Of_decDigits n (h n hn)
  cases ro <;>
    simp_all [Alignment.read, Alignment.write, enumAttr_none, boolAttr_none, u32Attr_none, getAttr_append, getAttr_optAttr,
      HAlign.fromStr_toStr, VAlign.fromStr_toStr, Option.bind_map, Option.map_map, Function.comp_def]

theorem Protection.read_write (p : Protection) : Protection.read p.write = some p := by
  simp [Protection.read, Protection.write, boolAttr_none, getAttr_append, getAttr_optAttr, Function.comp_def]

theorem NumFmt.read_write (v : NumFmt) (h : u32Range v.id) : NumFmt.read v.write = some v := by
  simp [NumFmt.read, NumFmt.write, getAttr_mkAttr, u32Of_decDigits v.id h]

/-- a row without `r` is numbered `last + 1` (`last`: the number of the row before); a written row has `r`, whatever `last` -/
theorem Row.read_write (cf : Tok → Tok) (r : Row) (h : r.Range cf) (xf : Nat) (hxf : u32Range xf) (spans : Option Tok)
    (kids : List Node) (last : Nat) :
    Row.read cf last (r.write xf spans kids) = some (r.norm, if xf > 0 then some xf else none) := by
  obtain ⟨hn, hh, hd⟩ := h
  have eh : Option.map cf (if r.height.getD zeroTok = zeroTok then none else some (r.height.getD zeroTok)) = r.norm.height := by
    cases hr : r.height with
    | none => simp [Row.norm, hr]
    | some t => by_cases ht : t = zeroTok <;> simp [Row.norm, hr, ht, hh t hr]
  -- plain `simp`, not `simp only`: the key literals have to be compared by `String.reduceEq`, not by unfolding `String.decEq`
  simp [Row.read, Row.write, u32Attr_none, floatAttr_none, boolAttr_none, getAttr_append, getAttr_mkAttr,
    getAttr_optAttr, getAttr_flagAttr, getAttr_ite, u32Of_decDigits r.num hn, eh]
  by_cases hx : 0 < xf <;> simp [hx, u32Of_decDigits xf hxf, Row.norm, normFlag] <;>
    cases hr : r.descent with
    | none => rfl
    | some t => simp [hd t hr]

theorem Row.norm_idem (r : Row) : r.norm.norm = r.norm := by
  obtain ⟨num, height, descent, thickBot, customHeight, hidden⟩ := r
  cases height with
  | none => simp [Row.norm, normFlag_idem]
  | some t => by_cases ht : t = zeroTok <;> simp [Row.norm, normFlag_idem, ht]

theorem Row.eff_norm (r : Row) : r.norm.eff = r.eff := by
  obtain ⟨num, height, descent, thickBot, customHeight, hidden⟩ := r
  cases height with
  | none => simp [Row.norm, Row.eff, normFlag_getD]
  | some t => by_cases ht : t = zeroTok <;> simp [Row.norm, Row.eff, normFlag_getD, ht]

theorem Row.norm_range (cf : Tok → Tok) (r : Row) (h : r.Range cf) : r.norm.Range cf := by
  obtain ⟨h1, h2, h3⟩ := h
  refine ⟨h1, ?_, h3⟩
  intro t ht
  cases hh : r.height with
  | none => simp [Row.norm, hh] at ht
  | some h0 =>
    simp only [Row.norm, hh] at ht
    split at ht
    · cases ht
    · cases ht; exact h2 _ hh

theorem Col.read_write (cf : Tok → Tok) (c : Col) (hw : cf c.width = c.width) (mn mx xf : Nat)
    (h1 : u32Range mn) (h2 : u32Range mx) (h3 : u32Range xf) :
    Col.read cf (c.write mn mx xf) = some (c.norm, mn, mx, if xf > 0 then some xf else none) := by
  simp [Col.read, Col.write, u32Attr_none, boolAttr_none, getAttr_append, getAttr_mkAttr, getAttr_flagAttr, getAttr_ite,
    u32Of_decDigits mn h1, u32Of_decDigits mx h2, hw]
  by_cases hx : 0 < xf <;> simp [hx, u32Of_decDigits xf h3, Col.norm, normFlag]

theorem Col.norm_idem (c : Col) : c.norm.norm = c.norm := by simp [Col.norm, normFlag_idem]
theorem Col.eff_norm (c : Col) : c.norm.eff = c.eff := by simp [Col.norm, Col.eff, normFlag_getD]

end Umya.StyleCodec
