/-
  The OPC path rules of `Umya/Spec/Sml.lean` on the names of the VML, comments and table parts
  (`xl/drawings/vmlDrawing{v}.vml`, `xl/comments{c}.xml`, `xl/tables/table{t}.xml`: names of their own, `Foreign`) and on the
  relationship targets that lead to the first two from a sheet part, for every number; the smallest-free-index rule.
-/
import Umya.Model.PackageNodeTbl
import Umya.Lemmas.PackagePath
import Umya.Lemmas.FreeIndex
namespace Umya.PackageNode
open Umya.Dec Umya.SheetNode Umya.WorkbookNode
open Umya.Spec.Sml

/-- the literal beginnings of `vmlPartL`, `commentsPartL` and `tblPartL`, up to the number -/
def vmlPre : List Char := ['x', 'l', '/', 'd', 'r', 'a', 'w', 'i', 'n', 'g', 's', '/', 'v', 'm', 'l', 'D', 'r', 'a', 'w', 'i', 'n', 'g']
def commentsPre : List Char := ['x', 'l', '/', 'c', 'o', 'm', 'm', 'e', 'n', 't', 's']
def tblPre : List Char := ['x', 'l', '/', 't', 'a', 'b', 'l', 'e', 's', '/', 't', 'a', 'b', 'l', 'e']

theorem vmlPartL_inj (j k : Nat) (h : vmlPartL j = vmlPartL k) : j = k := numbered_inj vmlPre _ j k h

theorem commentsPartL_inj (j k : Nat) (h : commentsPartL j = commentsPartL k) : j = k := numbered_inj commentsPre _ j k h

theorem tblPartL_inj (j k : Nat) (h : tblPartL j = tblPartL k) : j = k := numbered_inj tblPre _ j k h

theorem vml_ne_comments (j k : Nat) : vmlPartL j ≠ commentsPartL k :=
  append_ne_append (p := vmlPre) (q := commentsPre) _ _ (by decide)

theorem vml_ne_tbl (j k : Nat) : vmlPartL j ≠ tblPartL k :=
  append_ne_append (p := vmlPre) (q := tblPre) _ _ (by decide)

theorem foreign_numbered (pre : List Char) (k : Nat) (mid : List Char) (c : Char) (hc : c ≠ 's')
    (h : ∀ nm ∈ sheetPre :: sheetRelsPre :: closedNames, differ pre nm = true) : Foreign (pre ++ (decDigits k ++ (mid ++ [c]))) where
  closed := numbered_not_closed pre _ fun nm hm => h nm (.tail _ (.tail _ hm))
  sheet _ := (append_ne_append _ _ (h _ (.head _))).symm
  rels _ := (append_ne_append _ _ (h _ (.tail _ (.head _)))).symm
  notRels := not_rels_numbered pre k mid c hc

theorem foreign_vml (v : Nat) : Foreign (vmlPartL v) := foreign_numbered vmlPre v ['.', 'v', 'm'] 'l' (by decide) (by decide)

theorem foreign_comments (c : Nat) : Foreign (commentsPartL c) := foreign_numbered commentsPre c ['.', 'x', 'm'] 'l' (by decide) (by decide)

theorem foreign_tbl (t : Nat) : Foreign (tblPartL t) := foreign_numbered tblPre t ['.', 'x', 'm'] 'l' (by decide) (by decide)

theorem segsOf_vmlPart (v : Nat) :
    segsOf (vmlPartL v) = [['x', 'l'], ['d', 'r', 'a', 'w', 'i', 'n', 'g', 's'], 'v' :: 'm' :: 'l' :: 'D' :: 'r' :: 'a' :: 'w' :: 'i' :: 'n' :: 'g' :: (decDigits v ++ ['.', 'v', 'm', 'l'])] :=
  segsOf_numbered vmlPre v _ (by decide)

theorem segsOf_vmlTarget (v : Nat) :
    segsOf (vmlTarget v) = [['.', '.'], ['d', 'r', 'a', 'w', 'i', 'n', 'g', 's'], 'v' :: 'm' :: 'l' :: 'D' :: 'r' :: 'a' :: 'w' :: 'i' :: 'n' :: 'g' :: (decDigits v ++ ['.', 'v', 'm', 'l'])] :=
  segsOf_numbered ('.' :: '.' :: vmlPre.drop 2) v _ (by decide)

theorem segsOf_commentsTarget (c : Nat) :
    segsOf (commentsTarget c) = [['.', '.'], 'c' :: 'o' :: 'm' :: 'm' :: 'e' :: 'n' :: 't' :: 's' :: (decDigits c ++ ['.', 'x', 'm', 'l'])] :=
  segsOf_numbered ('.' :: '.' :: commentsPre.drop 2) c _ (by decide)

theorem resolve_vmlTarget (k v : Nat) : resolveTargetL (sheetPartL k) (vmlTarget v) = vmlPartL v := by
  have hh : (vmlTarget v).head? ≠ some '/' := by simp [vmlTarget]
  unfold resolveTargetL
  rw [if_neg hh, segsOf_sheetPart, segsOf_vmlTarget]
  simp [resolveSegs, joinSegs, List.intercalate, vmlPartL]

theorem resolve_commentsTarget (k c : Nat) : resolveTargetL (sheetPartL k) (commentsTarget c) = commentsPartL c := by
  have hh : (commentsTarget c).head? ≠ some '/' := by simp [commentsTarget]
  unfold resolveTargetL
  rw [if_neg hh, segsOf_sheetPart, segsOf_commentsTarget]
  simp [resolveSegs, joinSegs, List.intercalate, commentsPartL]

theorem ext_vmlPart (v : Nat) : extOfL (vmlPartL v) = ['v', 'm', 'l'] := ext_numbered vmlPre v [] _ (by decide)
theorem ext_commentsPart (c : Nat) : extOfL (commentsPartL c) = ['x', 'm', 'l'] := ext_numbered commentsPre c [] _ (by decide)
theorem ext_tblPart (t : Nat) : extOfL (tblPartL t) = ['x', 'm', 'l'] := ext_numbered tblPre t [] _ (by decide)

theorem firstFreeGo_eq (used : List Nat) : ∀ (fuel i : Nat), firstFreeGo used fuel i = freeFrom used.contains fuel i
  | 0, _ => rfl
  | fuel + 1, i => by rw [firstFreeGo, freeFrom, firstFreeGo_eq used fuel]

/-- `used.length` tests are enough: pigeonhole -/
theorem firstFree_spec (used : List Nat) :
    1 ≤ firstFree used ∧ firstFree used ∉ used ∧ ∀ j, 1 ≤ j → j < firstFree used → j ∈ used := by
  obtain ⟨h1, h2, h3⟩ := freeFrom_spec used.contains used.length 1
  simp only [← firstFreeGo_eq, List.contains_eq_mem, decide_eq_true_eq, decide_eq_false_iff_not] at h1 h2 h3
  refine ⟨h1, ?_, h2⟩
  rcases h3 with h3 | h3
  · exact h3
  · intro hmem
    -- `1 … used.length + 1` would all be in `used`
    have := List.Nodup.length_le_of_subset (List.nodup_range' (s := 1) (n := used.length + 1) (step := 1)) (l₂ := used) (by
      intro j hj
      rw [List.mem_range'_1] at hj
      by_cases hj' : j = used.length + 1
      · rw [hj']; unfold firstFree at hmem; rw [h3] at hmem; rwa [Nat.add_comm] at hmem
      · exact h2 j hj.1 (by unfold firstFree at *; omega))
    rw [List.length_range'] at this
    omega

theorem firstFree_range (c : Nat) : firstFree (List.range' 1 c) = c + 1 := by
  obtain ⟨h1, h2, h3⟩ := firstFree_spec (List.range' 1 c)
  have h4 := fun h => List.mem_range'_1.1 (h3 (c + 1) (by omega) h)
  rw [List.mem_range'_1] at h2
  omega

theorem range'_snoc (c : Nat) : List.range' 1 c ++ [c + 1] = List.range' 1 (c + 1) := by
  rw [List.range'_concat]
  simp; omega

/-- starting with `1 … c` registered in both families, the sheets with comments get, in order, the
    pairs `(c+1, c+1)`, `(c+2, c+2)`, … -/
def numSpec : Nat → List Bool → List (Option (Nat × Nat))
  | _, [] => []
  | c, false :: r => none :: numSpec c r
  | c, true :: r => some (c + 1, c + 1) :: numSpec (c + 1) r

theorem numbering_spec (flags : List Bool) : ∀ c, numbering (List.range' 1 c) (List.range' 1 c) flags = numSpec c flags := by
  induction flags with
  | nil => intro _; rfl
  | cons f r ih =>
    intro c
    cases f with
    | false => simp only [numbering, numSpec, ih]
    | true => simp only [numbering, numSpec, firstFree_range, range'_snoc, ih]

theorem numbering_nil (flags : List Bool) : numbering [] [] flags = numSpec 0 flags := numbering_spec flags 0

theorem numSpec_length (flags : List Bool) : ∀ c, (numSpec c flags).length = flags.length := by
  induction flags with
  | nil => intro _; rfl
  | cons f r ih => intro c; cases f <;> simp [numSpec, ih]

theorem numSpec_mem (flags : List Bool) : ∀ c v w, some (v, w) ∈ numSpec c flags → c < v ∧ v = w := by
  induction flags with
  | nil => intro c v w h; cases h
  | cons f r ih =>
    intro c v w h
    cases f with
    | false => exact ih c v w ((List.mem_cons.1 h).resolve_left (fun e => nomatch e))
    | true =>
      rcases List.mem_cons.1 h with e | h
      · cases e; exact ⟨Nat.lt_succ_self c, rfl⟩
      · have := ih (c + 1) v w h; exact ⟨by omega, this.2⟩

theorem numSpec_pairwise (flags : List Bool) : ∀ c, (numSpec c flags).Pairwise
    (fun a b => ∀ v w v' w', a = some (v, w) → b = some (v', w') → v ≠ v' ∧ w ≠ w') := by
  induction flags with
  | nil => intro _; exact List.Pairwise.nil
  | cons f r ih =>
    intro c
    cases f with
    | false => exact List.Pairwise.cons (fun b _ v w v' w' h _ => nomatch h) (ih c)
    | true =>
      refine List.Pairwise.cons (fun b hb v w v' w' h h' => ?_) (ih (c + 1))
      cases h
      subst h'
      have := numSpec_mem r (c + 1) v' w' hb
      omega

end Umya.PackageNode
