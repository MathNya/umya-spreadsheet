import Umya.Lemmas.ReaderStyle
namespace Umya.Reader.Lemmas
open Umya.Reader Umya.Spec.Xml Umya.Spec.Sml
open Umya.StyleCodec

theorem Font.step_spec (cf : Tok → Tok) (f f' : Font) (n : Node) (h : Font.step cf f n = some f') :
    f'.name = (if named "name" n || named "rFont" n then getAttr n.attrs "val" else f.name) ∧
    f'.size = (if named "sz" n then (getAttr n.attrs "val").map cf else f.size) ∧
    f'.bold = (if named "b" n then boolAttr n.attrs "val" (some true) else f.bold) ∧
    f'.italic = (if named "i" n then boolAttr n.attrs "val" (some true) else f.italic) ∧
    f'.underline = (if named "u" n then enumAttr Underline.fromStr n.attrs "val" (some .single) else f.underline) ∧
    f'.strike = (if named "strike" n then boolAttr n.attrs "val" (some true) else f.strike) ∧
    f'.color = (if named "color" n then colorG cf f.color n else f.color) := by
  cases n with
  | text t => simp only [Font.step, Option.some.injEq] at h; subst h; simp [named, Node.isElem]
  | elem nm as cs =>
    simp only [Font.step] at h
    by_cases c1 : nm = "name".toList ∨ nm = "rFont".toList
    · rw [if_pos c1] at h
      obtain ⟨v, hv, rfl⟩ := Option.map_eq_some_iff.mp h
      rcases c1 with c1 | c1 <;> subst c1 <;> simp [named, Node.isElem, Node.name, Node.attrs, hv]
    rw [if_neg c1] at h
    simp only [not_or] at c1
    by_cases c2 : nm = "sz".toList
    · rw [if_pos c2] at h
      obtain ⟨v, hv, rfl⟩ := Option.map_eq_some_iff.mp h
      subst c2; simp [named, Node.isElem, Node.name, Node.attrs, hv]
    rw [if_neg c2] at h
    by_cases c3 : nm = "family".toList
    · rw [if_pos c3] at h
      subst c3
      split at h
      · obtain ⟨v, hv, rfl⟩ := Option.map_eq_some_iff.mp h
        simp [named, Node.isElem, Node.name]
      · simp only [Option.some.injEq] at h; subst h; simp [named, Node.isElem, Node.name]
    rw [if_neg c3] at h
    by_cases c4 : nm = "b".toList
    · rw [if_pos c4] at h; simp only [Option.some.injEq] at h; subst h; subst c4
      simp [named, Node.isElem, Node.name, Node.attrs]
    rw [if_neg c4] at h
    by_cases c5 : nm = "i".toList
    · rw [if_pos c5] at h; simp only [Option.some.injEq] at h; subst h; subst c5
      simp [named, Node.isElem, Node.name, Node.attrs]
    rw [if_neg c5] at h
    by_cases c6 : nm = "u".toList
    · rw [if_pos c6] at h; simp only [Option.some.injEq] at h; subst h; subst c6
      simp [named, Node.isElem, Node.name, Node.attrs]
    rw [if_neg c6] at h
    by_cases c7 : nm = "strike".toList
    · rw [if_pos c7] at h; simp only [Option.some.injEq] at h; subst h; subst c7
      simp [named, Node.isElem, Node.name, Node.attrs]
    rw [if_neg c7] at h
    by_cases c8 : nm = "color".toList
    · rw [if_pos c8] at h
      obtain ⟨c, hc, rfl⟩ := Option.map_eq_some_iff.mp h
      subst c8; simp [named, Node.isElem, Node.name, Node.attrs, colorG, hc]
    rw [if_neg c8] at h
    by_cases c9 : nm = "charset".toList
    · rw [if_pos c9] at h
      subst c9
      split at h
      · obtain ⟨v, hv, rfl⟩ := Option.map_eq_some_iff.mp h
        simp [named, Node.isElem, Node.name]
      · simp only [Option.some.injEq] at h; subst h; simp [named, Node.isElem, Node.name]
    rw [if_neg c9] at h
    by_cases c10 : nm = "scheme".toList
    · rw [if_pos c10] at h
      obtain ⟨v, hv, rfl⟩ := Option.map_eq_some_iff.mp h
      subst c10; simp [named, Node.isElem, Node.name]
    rw [if_neg c10] at h
    by_cases c11 : nm = "vertAlign".toList
    · rw [if_pos c11] at h; simp only [Option.some.injEq] at h; subst h; subst c11
      simp [named, Node.isElem, Node.name]
    rw [if_neg c11] at h
    simp only [Option.some.injEq] at h; subst h
    simp_all [named, Node.isElem, Node.name]

/-- the reader does not panic on this child of `<font>`: `name` / `rFont` / `sz` / `scheme` carry `val`; `family` / `charset`
    a `val` that is an `i32`; `color` is a `colorOk`; the `val` of `u` is a word of ST_UnderlineValues -/
def fontKidOk (c : Node) : Bool :=
  if named "name" c || named "rFont" c || named "sz" c || named "scheme" c then (getAttr c.attrs "val").isSome
  else if named "family" c || named "charset" c then
    (match getAttr c.attrs "val" with | some v => (i32Of v).isSome | none => true)
  else if named "color" c then colorOk c.attrs
  else if named "u" c then valIn Underline.fromStr "val" c.attrs
  else true

/-- a valid `<font>` (CT_Font): unprefixed children, each of `name sz b i u strike color` at most once, no
    `rFont` (that is CT_RPrElt), and `fontKidOk` for every child.  `fontKidOk` is what keeps the reader from panicking
    (`unwrap` on `val`, `parse::<i32>`, the colour's `u32`s); the other clauses, and the `u` clause of `fontKidOk`, are
    where library and decoder would otherwise disagree: the library compares raw element names, lets the LAST child of
    a name win, reads `rFont` as `name` and an unknown underline word as the default; the decoder takes local names,
    the FIRST child and the text as it stands. -/
def validFont (n : Node) : Bool :=
  n.children.all plain && n.children.all fontKidOk && !(n.children.any (named "rFont")) &&
  uniq n.children "name" && uniq n.children "sz" && uniq n.children "b" && uniq n.children "i" &&
  uniq n.children "u" && uniq n.children "strike" && uniq n.children "color"

theorem Font.step_total (cf : Tok → Tok) (f : Font) (c : Node) (h : fontKidOk c = true) :
    ∃ f', Font.step cf f c = some f' := by
  cases c with
  | text t => exact ⟨f, rfl⟩
  | elem nm as cs =>
    simp only [Font.step]
    -- `name`, `rFont`, `sz`, `scheme`: there is a `val`
    have hval : ∀ g : Tok → Font, (getAttr as "val").isSome = true → ∃ f', (getAttr as "val").map g = some f' :=
      fun g hv => Option.isSome_iff_exists.mp (by rw [Option.isSome_map]; exact hv)
    -- `family`, `charset`: no `val`, or one that is an `i32`
    have hi32 : ∀ g : Int → Font,
        (match getAttr as "val" with | some v => (i32Of v).isSome | none => true) = true →
        ∃ f', (match getAttr as "val" with | some v => (i32Of v).map g | none => some f) = some f' := by
      intro g
      cases getAttr as "val" with
      | none => exact fun _ => ⟨_, rfl⟩
      | some v => exact fun hv => Option.isSome_iff_exists.mp (by rw [Option.isSome_map]; exact hv)
    by_cases c1 : nm = "name".toList ∨ nm = "rFont".toList
    · rw [if_pos c1]
      rcases c1 with c1 | c1 <;> subst c1 <;>
        exact hval _ (by simpa [fontKidOk, named, Node.isElem, Node.name, Node.attrs] using h)
    rw [if_neg c1]
    by_cases c2 : nm = "sz".toList
    · rw [if_pos c2]
      subst c2
      exact hval _ (by simpa [fontKidOk, named, Node.isElem, Node.name, Node.attrs] using h)
    rw [if_neg c2]
    by_cases c3 : nm = "family".toList
    · rw [if_pos c3]
      subst c3
      exact hi32 _ (by simpa [fontKidOk, named, Node.isElem, Node.name, Node.attrs] using h)
    rw [if_neg c3]
    by_cases c4 : nm = "b".toList
    · rw [if_pos c4]; exact ⟨_, rfl⟩
    rw [if_neg c4]
    by_cases c5 : nm = "i".toList
    · rw [if_pos c5]; exact ⟨_, rfl⟩
    rw [if_neg c5]
    by_cases c6 : nm = "u".toList
    · rw [if_pos c6]; exact ⟨_, rfl⟩
    rw [if_neg c6]
    by_cases c7 : nm = "strike".toList
    · rw [if_pos c7]; exact ⟨_, rfl⟩
    rw [if_neg c7]
    by_cases c8 : nm = "color".toList
    · rw [if_pos c8]
      have : colorOk as = true := by
        subst c8; simpa [fontKidOk, named, Node.isElem, Node.name, Node.attrs] using h
      obtain ⟨c', hc'⟩ := Color.readInto_total cf f.color as this
      exact ⟨_, by rw [hc']; rfl⟩
    rw [if_neg c8]
    by_cases c9 : nm = "charset".toList
    · rw [if_pos c9]
      subst c9
      exact hi32 _ (by simpa [fontKidOk, named, Node.isElem, Node.name, Node.attrs] using h)
    rw [if_neg c9]
    by_cases c10 : nm = "scheme".toList
    · rw [if_pos c10]
      subst c10
      exact hval _ (by simpa [fontKidOk, named, Node.isElem, Node.name, Node.attrs] using h)
    rw [if_neg c10]
    by_cases c11 : nm = "vertAlign".toList
    · rw [if_pos c11]; exact ⟨_, rfl⟩
    rw [if_neg c11]; exact ⟨_, rfl⟩

theorem font_agrees (cf : Tok → Tok) (n : Node) (h : validFont n = true) :
    ∃ f, Font.read cf n = some f ∧ fontFacts f = cfFont cf (fontV n) := by
  simp only [validFont, Bool.and_eq_true, uniq, decide_eq_true_eq, Bool.not_eq_true'] at h
  obtain ⟨⟨⟨⟨⟨⟨⟨⟨⟨hpl, hok⟩, hrf⟩, u1⟩, u2⟩, u3⟩, u4⟩, u5⟩, u6⟩, u7⟩ := h
  obtain ⟨f, hf⟩ := foldOpt_total (Font.step_total cf) n.children {} hok
  refine ⟨f, hf, ?_⟩
  obtain ⟨hfil, hfind⟩ := or_absent (named "name") (named "rFont") n.children hrf
  have e1 := foldOpt_field (Font.step cf) (·.name) (fun c => named "name" c || named "rFont" c)
    (fun _ b => getAttr b.attrs "val") (fun x b x' hx => (Font.step_spec cf x x' b hx).1) hf (by rw [hfil]; exact u1)
  have e2 := foldOpt_field (Font.step cf) (·.size) (named "sz")
    (fun _ b => (getAttr b.attrs "val").map cf) (fun x b x' hx => (Font.step_spec cf x x' b hx).2.1) hf u2
  have e3 := foldOpt_field (Font.step cf) (·.bold) (named "b")
    (fun _ b => StyleCodec.boolAttr b.attrs "val" (some true)) (fun x b x' hx => (Font.step_spec cf x x' b hx).2.2.1) hf u3
  have e4 := foldOpt_field (Font.step cf) (·.italic) (named "i")
    (fun _ b => StyleCodec.boolAttr b.attrs "val" (some true)) (fun x b x' hx => (Font.step_spec cf x x' b hx).2.2.2.1) hf u4
  have e5 := foldOpt_field (Font.step cf) (·.underline) (named "u")
    (fun _ b => enumAttr Underline.fromStr b.attrs "val" (some .single))
    (fun x b x' hx => (Font.step_spec cf x x' b hx).2.2.2.2.1) hf u5
  have e6 := foldOpt_field (Font.step cf) (·.strike) (named "strike")
    (fun _ b => StyleCodec.boolAttr b.attrs "val" (some true)) (fun x b x' hx => (Font.step_spec cf x x' b hx).2.2.2.2.2.1) hf u6
  have e7 := foldOpt_field (Font.step cf) (·.color) (named "color")
    (fun c b => colorG cf c b) (fun x b x' hx => (Font.step_spec cf x x' b hx).2.2.2.2.2.2) hf u7
  have flag : ∀ k : String,
      ((((n.children.find? (named k)).map (fun b => StyleCodec.boolAttr b.attrs "val" (some true))).getD none).getD false) =
        boolProp n k := by
    intro k
    unfold boolProp
    rw [kid?_eq_find n k hpl]
    cases n.children.find? (named k) with
    | none => rfl
    | some b =>
      simp only [Option.map_some, Option.getD_some, StyleCodec.boolAttr, attr?_eq_getAttr]
      cases getAttr b.attrs "val" with
      | none => rfl
      | some v => simp only [Option.getD_some, boolOf_xsdTrue]; rfl
  simp only [fontFacts, cfFont, fontV, valOf, kid?_eq_find n _ hpl, e1, e2, e3, e4, e5, e6, e7, hfind, flag]
  congr 1
  · cases n.children.find? (named "name") <;> rfl
  · cases n.children.find? (named "sz") <;> rfl
  · cases hu : n.children.find? (named "u") with
    | none => rfl
    | some b =>
      obtain ⟨hb, as, ks, rfl⟩ := found_of_all hok hu
      simp only [Option.map_some, Option.getD_some, Node.attrs, attr?_eq_getAttr]
      exact enum_attr_text Underline.fromStr Underline.toStr .none "val" as (some .single) Underline.toStr_of_fromStr
        (by simpa [fontKidOk, named, Node.isElem, Node.name, Node.attrs] using hb)
  · apply colorKid_agrees
    intro b hb
    obtain ⟨hk, as, ks, rfl⟩ := found_of_all hok hb
    simpa [fontKidOk, named, Node.isElem, Node.name, Node.attrs] using hk

end Umya.Reader.Lemmas
