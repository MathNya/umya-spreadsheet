/-
  What every attribute-level record codec of C06 rests on: over a field table whose keys are pairwise distinct,
  `get_attribute` on the written attribute list returns what each field wrote (`getAttr_render`, for all fields at once
  `getAttr_written`).  Attribute and element names are `String` literals in the model, so whether two of them differ
  is decided on the strings (`nodup_map_toList`, `toList_ne`).
-/
import Umya.Model.AnnotCodec
import Umya.Lemmas.ListFacts
namespace Umya.AnnotCodec
open Umya.Spec.Xml (Node Attr)
open Umya.Dec

theorem mem_render {fs : List (Text × Option Text)} {a : Attr} : a ∈ render fs ↔ (a.name, some a.value) ∈ fs := by
  simp only [render, List.mem_filterMap, Option.map_eq_some_iff]
  constructor
  · rintro ⟨p, hp, v, hv, rfl⟩
    exact hv ▸ hp
  · exact fun h => ⟨_, h, _, rfl, rfl⟩

theorem render_names_sublist : ∀ fs : List (Text × Option Text), ((render fs).map (·.name)).Sublist (fs.map (·.1))
  | [] => List.Sublist.slnil
  | (k, none) :: r => by
    simpa [render] using (render_names_sublist r).cons k
  | (k, some v) :: r => by
    simpa [render] using (render_names_sublist r).cons_cons k

theorem render_no_attr (fs : List (Text × Option Text)) (hnd : (fs.map (·.1)).Nodup) (k : Text)
    (h : (k, none) ∈ fs) : ∀ a ∈ render fs, a.name ≠ k :=
  fun _ ha e => nomatch inj_of_nodup_map hnd (mem_render.1 ha) h e

theorem getAttr_render (fs : List (Text × Option Text)) (hnd : (fs.map (·.1)).Nodup) {k : Text} {v : Option Text}
    (h : (k, v) ∈ fs) : getAttr (render fs) k = v := by
  cases v with
  | none =>
    simp only [getAttr, Option.map_eq_none_iff, List.find?_eq_none, decide_eq_true_eq]
    exact render_no_attr fs hnd k h
  | some t =>
    exact congrArg (Option.map (·.value))
      (find?_key_of_nodup Attr.name _ ((render_names_sublist fs).nodup hnd) ⟨k, t⟩ (mem_render.2 h))

/-- A record's reader is a term in `getAttr as k`, one per field, and this is what each of them evaluates to.
    Spelling out `∀ p ∈ fs` over the literal field list yields the equations without comparing any two keys. -/
theorem getAttr_written {fs : List (Text × Option Text)} {as : List Attr} (has : as = render fs)
    (hnd : (fs.map (·.1)).Nodup) : ∀ p ∈ fs, getAttr as p.1 = p.2 :=
  fun _ hp => has ▸ getAttr_render fs hnd hp

theorem render_append (a b : List (Text × Option Text)) : render (a ++ b) = render a ++ render b :=
  List.filterMap_append

theorem nodup_map_toList {l : List String} (h : l.Nodup) : (l.map String.toList).Nodup :=
  nodup_map_inj String.toList (fun _ _ => String.toList_inj.mp) l h

theorem toList_ne {a b : String} (h : a ≠ b) : (a.toList = b.toList) = False :=
  eq_false fun e => h (String.toList_inj.mp e)

theorem boolRead_boolStr (b : Bool) : boolRead (boolStr b) = b := by cases b <;> decide

theorem optBool_map_boolStr (v : Option Bool) : optBool (v.map boolStr) = v := by
  cases v <;> simp [optBool, boolRead_boolStr]

/-- 4294967296 = 2^32: the bound in `parseU32` (`str::parse::<u32>`) -/
theorem u32Attr_decDigits (n : Nat) (h : n < 4294967296) : u32Attr (decDigits n) = some n := by
  unfold u32Attr
  split
  · next r heq => exact absurd heq (decDigits_ne_cons (by decide) n r)
  · exact parseU32_decDigits n h

theorem optU32_map_decDigits {v : Option Nat} (h : ∀ n, v = some n → n < 4294967296) :
    optU32 (v.map decDigits) = some v := by
  cases v with
  | none => rfl
  | some n => simp [optU32, u32Attr_decDigits n (h n rfl)]

theorem enumRead_written {α} {fromStr : Text → Option α} {toStr : α → Text} (h : ∀ v, fromStr (toStr v) = some v)
    (o : Option α) : enumRead fromStr none (o.map toStr) = o := by
  cases o <;> simp [enumRead, h]

theorem numRead_fmt (Z : NumZ) (hs : Z.F.Sound) (x : Z.F.Num) : numRead Z (Z.F.fmt x) = x := by
  simp [numRead, hs.parse_fmt]

end Umya.AnnotCodec
