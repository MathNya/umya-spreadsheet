/-
  What `decode` needs to know of the sheets of `Umya/Model/PackageNodeCmt.lean`: the numbers they are given, and the
  `legacyDrawing` child of a sheet with comments, whose `r:id` is the `Id` of a relationship of the sheet's part like every
  other of the written frame (`frameW_ridsOk`).
-/
import Umya.Lemmas.PackageNodeCmtRels
namespace Umya.PackageNode
open Umya.Xml Umya.CellXml Umya.CellNode Umya.SheetNode Umya.WorkbookNode Umya.Dec
open Umya.Spec.Xml (Node Attr localName)
open Umya.Spec.Sml

def countTrue (l : List Bool) : Nat := (l.filter id).length

theorem numSpec_get (flags : List Bool) : ∀ (c i : Nat),
    (numSpec c flags)[i]? = (flags[i]?).map (fun f => if f then some (c + countTrue (flags.take i) + 1, c + countTrue (flags.take i) + 1) else none) := by
  induction flags with
  | nil => intro c i; simp [numSpec]
  | cons f r ih =>
    intro c i
    cases i with
    | zero => cases f <;> simp [numSpec, countTrue]
    | succ i =>
      cases f with
      | false => simp [numSpec, ih, countTrue]
      | true =>
        simp only [numSpec, List.getElem?_cons_succ, ih, List.take_succ_cons, countTrue, List.filter_cons, id, if_true, List.length_cons]
        congr 1
        funext g
        cases g <;> simp only [if_true, Bool.false_eq_true, if_false]
        congr 2 <;> omega

theorem annotate_num {N : Type} (ss : List (SheetC N)) (i : Nat) (s : SheetC N) (num : Option (Nat × Nat))
    (h : (annotate ss)[i]? = some (s, num)) :
    num = if s.has then some (countTrue ((ss.take i).map (·.has)) + 1, countTrue ((ss.take i).map (·.has)) + 1) else none := by
  unfold annotate at h
  rw [List.getElem?_zip_eq_some] at h
  obtain ⟨h1, h2⟩ := h
  rw [numbering_nil, numSpec_get, List.getElem?_map, h1] at h2
  simp only [Option.map_some, Option.some.injEq, Nat.zero_add, ← List.map_take] at h2
  exact h2.symm

theorem annotate_isSome {N : Type} (ss : List (SheetC N)) (i : Nat) (s : SheetC N) (num : Option (Nat × Nat))
    (h : (annotate ss)[i]? = some (s, num)) : num.isSome = s.has := by
  rw [annotate_num ss i s num h]
  cases s.has <;> rfl

theorem legacy_attr (k : Nat) : (legacyEl k).attr? ['r', ':', 'i', 'd'] = some (rIdText k) := by
  simp [legacyEl, Node.attr?, Node.attrs]

theorem frameW_ridsOk {N : Type} (s : SheetC N) (num : Option (Nat × Nat)) (hnum : num.isSome = s.has)
    (h : s.frameU.ridsOk (relIds (relWalk 1 s.sheet.links)) = true) :
    s.frameW.ridsOk (relIds (relWalk 1 s.sheet.links ++ restOf s.sheet.links num)) = true := by
  rw [relIds_append]
  have hU := ridsOk_append_left _ (relIds (restOf s.sheet.links num)) _ h
  unfold Frame.ridsOk Frame.kids at hU ⊢
  simp only [SheetC.frameU, SheetC.frameW, List.all_append, Bool.and_eq_true] at hU ⊢
  refine ⟨hU.1, ⟨hU.2.1, ?_⟩, hU.2.2⟩
  unfold SheetC.legacy
  cases hh : s.has with
  | false => rfl
  | true =>
    rw [hh] at hnum
    cases num with
    | none => cases hnum
    | some vc =>
      obtain ⟨v, c⟩ := vc
      simp only [if_true, List.all_cons, List.all_nil, Bool.and_true, legacy_attr, relIds_recs (restOf _ _), restOf_recs]
      simp [cmtRecs, relRec]

theorem renderSheet_post_children (F : Umya.Num.NumFmt) {xf : List Char → Nat} {fr : Frame} {tbl : Table} {s : SheetW F.Num} {t : Table} {root : Node}
    (h : renderSheet F xf fr tbl s = some (t, root)) : ∀ k ∈ fr.post, k ∈ root.children := by
  obtain ⟨_, sd, _, _, rfl⟩ := renderSheet_inv F xf fr tbl s t root h
  intro k hk
  simp only [worksheetNode, Node.children, List.mem_append]
  exact Or.inr hk

end Umya.PackageNode
