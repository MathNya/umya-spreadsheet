/-
  The model's encodings (`le32`, `utf16le`) agree with the ones the specification defines independently; the written
  attribute lists of the protection elements as field tables of `Lemmas/AnnotCodec.lean`.
-/
import Umya.Model.PwHash
import Umya.Spec.PwHash
import Umya.Lemmas.AnnotCodec
import Umya.Lemmas.ListFacts
namespace Umya.PwHash
open Umya.Crypto Umya.Dec

/-- the base64 of the toy primitives: bytes written as the characters of the same code and read back -/
theorem bytes_chars_bytes (x : Bytes) :
    (x.map fun b => Char.ofNat b.toNat).map (fun c => UInt8.ofNat c.toNat) = x := by
  rw [List.map_map]
  conv => rhs; rw [← List.map_id x]
  apply List.map_congr_left
  intro b _
  have : ∀ b : Fin 256, UInt8.ofNat (Char.ofNat b.val).toNat = UInt8.ofNat b.val := by decide +kernel
  have h2 := this ⟨b.toNat, b.toNat_lt⟩
  simp only [Function.comp, id] at h2 ⊢
  rw [h2]
  exact UInt8.ofNat_toNat

theorem le32_eq_leBytes (n : Nat) : le32 n = Umya.Spec.PwHash.leBytes 4 n := by
  simp [le32, Umya.Spec.PwHash.leBytes, Nat.div_div_eq_div_mul]

theorem utf16le_eq (s : List Char) : utf16le s = Umya.Spec.PwHash.utf16le s := by
  induction s with
  | nil => rfl
  | cons c cs ih =>
    have hc : utf16le (c :: cs) = utf16le [c] ++ utf16le cs := by
      simp [utf16le]
    rw [hc, Umya.Spec.PwHash.utf16le, ih]
    congr 1
    simp only [utf16le, utf16Units, List.flatMap_cons, List.flatMap_nil, List.append_nil]
    split <;> simp [Umya.Spec.PwHash.leBytes]

def xmlSafe (c : Char) : Bool := !(c == '<' || c == '>' || c == '&' || c == '\'' || c == '"')

theorem escapeChar_safe (c : Char) (h : xmlSafe c = true) : escapeChar c = [c] := by
  unfold xmlSafe at h
  simp only [Bool.not_eq_true', Bool.or_eq_false_iff, beq_eq_false_iff_ne, ne_eq] at h
  obtain ⟨⟨⟨⟨h1, h2⟩, h3⟩, h4⟩, h5⟩ := h
  simp [escapeChar, h1, h2, h3, h4, h5]

theorem escape_safe (s : List Char) (h : s.all xmlSafe = true) : escape s = s :=
  flatMap_eq_self fun c hc => escapeChar_safe c (List.all_eq_true.1 h c hc)

theorem decDigits_safe (n : Nat) : (decDigits n).all xmlSafe = true := decDigits_all (by decide) n

def safeOpt : Option (List Char) → Bool
  | some s => s.all xmlSafe
  | none => true

/-- the values of one kind survive `escape` unchanged and the spin count fits `u32` -/
def PwFields.safe (f : PwFields) : Bool :=
  safeOpt f.algorithmName && safeOpt f.hashValue && safeOpt f.saltValue && safeOpt f.password &&
  (match f.spinCount with | some n => decide (n < 4294967296) | none => true)

theorem getAttribute_nil (key : List Char) : getAttribute [] key = none := rfl

-- plain `rfl` makes the unifier decode the string literal; with the record unfolded the two sides are the same term up to
-- the projection
@[simp] theorem sheetNames_alg : sheetNames.alg = "algorithmName".toList := by unfold sheetNames; with_reducible rfl
@[simp] theorem sheetNames_hash : sheetNames.hash = "hashValue".toList := by unfold sheetNames; with_reducible rfl
@[simp] theorem sheetNames_salt : sheetNames.salt = "saltValue".toList := by unfold sheetNames; with_reducible rfl
@[simp] theorem sheetNames_spin : sheetNames.spin = "spinCount".toList := by unfold sheetNames; with_reducible rfl
@[simp] theorem sheetNames_password : sheetNames.password = "password".toList := by unfold sheetNames; with_reducible rfl
@[simp] theorem workbookNames_alg : workbookNames.alg = "workbookAlgorithmName".toList := by unfold workbookNames; with_reducible rfl
@[simp] theorem workbookNames_hash : workbookNames.hash = "workbookHashValue".toList := by unfold workbookNames; with_reducible rfl
@[simp] theorem workbookNames_salt : workbookNames.salt = "workbookSaltValue".toList := by unfold workbookNames; with_reducible rfl
@[simp] theorem workbookNames_spin : workbookNames.spin = "workbookSpinCount".toList := by unfold workbookNames; with_reducible rfl
@[simp] theorem workbookNames_password : workbookNames.password = "workbookPassword".toList := by unfold workbookNames; with_reducible rfl
@[simp] theorem revisionsNames_alg : revisionsNames.alg = "revisionsAlgorithmName".toList := by unfold revisionsNames; with_reducible rfl
@[simp] theorem revisionsNames_hash : revisionsNames.hash = "revisionsHashValue".toList := by unfold revisionsNames; with_reducible rfl
@[simp] theorem revisionsNames_salt : revisionsNames.salt = "revisionsSaltValue".toList := by unfold revisionsNames; with_reducible rfl
@[simp] theorem revisionsNames_spin : revisionsNames.spin = "revisionsSpinCount".toList := by unfold revisionsNames; with_reducible rfl
@[simp] theorem revisionsNames_password : revisionsNames.password = "revisionsPassword".toList := by unfold revisionsNames; with_reducible rfl

/-! `writeFields n f` is `AnnotCodec.render` of the five `(name, escaped text if any)` pairs of the kind and `getAttribute` is
  `AnnotCodec.getAttr`; so one kind reads back from ANY duplicate-free field table that holds its five fields
  (`readFields_of_table`): the kind alone (`<sheetProtection>`) or two kinds side by side (`<workbookProtection>`). -/

/-- this model's attribute, a pair, as the `Attr` structure over which `AnnotCodec` is stated -/
def toAttr (a : Attr) : Umya.Spec.Xml.Attr := ⟨a.1, a.2⟩

theorem getAttribute_eq (as : List Attr) (k : List Char) : getAttribute as k = AnnotCodec.getAttr (as.map toAttr) k := by
  have e : ((fun a : Umya.Spec.Xml.Attr => decide (a.name = k)) ∘ toAttr) = fun a : Attr => a.1 == k := by
    funext a; exact (Bool.beq_eq_decide_eq _ k).symm
  simp only [getAttribute, AnnotCodec.getAttr, List.find?_map, Option.map_map, e]
  rfl

def Names.table (n : Names) (f : PwFields) : List (List Char × Option (List Char)) :=
  [(n.alg, f.algorithmName.map escape), (n.hash, f.hashValue.map escape), (n.salt, f.saltValue.map escape),
   (n.spin, (f.spinCount.map decDigits).map escape), (n.password, f.password.map escape)]

def Names.list (n : Names) : List (List Char) := [n.alg, n.hash, n.salt, n.spin, n.password]

theorem names_nodup : sheetNames.list.Nodup ∧ (workbookNames.list ++ revisionsNames.list).Nodup := by decide +kernel

/-- over a variable `n`, so that `rfl` compares no names: handing `names_nodup.1` directly to a goal about
    `(sheetNames.table f).map (·.1)` makes the unifier decode the key literals -/
theorem Names.table_keys (n : Names) (f : PwFields) : (n.table f).map (·.1) = n.list := rfl

theorem sheet_table_nodup (f : PwFields) : ((sheetNames.table f).map (·.1)).Nodup :=
  (sheetNames.table_keys f).symm ▸ names_nodup.1

theorem workbook_table_nodup (f g : PwFields) : ((workbookNames.table f ++ revisionsNames.table g).map (·.1)).Nodup := by
  rw [List.map_append, Names.table_keys, Names.table_keys]; exact names_nodup.2

theorem optAttr_eq (n : List Char) (v : Option (List Char)) :
    (optAttr n v).map toAttr = AnnotCodec.render [(n, v.map escape)] := by cases v <;> rfl

theorem writeFields_eq (n : Names) (f : PwFields) : (writeFields n f).map toAttr = AnnotCodec.render (n.table f) := by
  simp only [writeFields, List.map_append, optAttr_eq, ← AnnotCodec.render_append]
  rfl

theorem writeWorkbook_eq (f g : PwFields) : (writeFields workbookNames f ++ writeFields revisionsNames g).map toAttr
    = AnnotCodec.render (workbookNames.table f ++ revisionsNames.table g) := by
  rw [List.map_append, writeFields_eq, writeFields_eq, AnnotCodec.render_append]

theorem map_escape_safe (v : Option (List Char)) (h : safeOpt v = true) : v.map escape = v := by
  cases v with
  | none => rfl
  | some x => exact congrArg some (escape_safe x h)

theorem readFields_of_table (n : Names) (f : PwFields) (h : f.safe = true) {fs : List (List Char × Option (List Char))}
    (hnd : (fs.map (·.1)).Nodup) (hsub : ∀ p ∈ n.table f, p ∈ fs) {as : List Attr} (has : as.map toAttr = AnnotCodec.render fs) :
    readFields n as = some f := by
  have g : ∀ p ∈ n.table f, getAttribute as p.1 = p.2 := fun p hp =>
    (getAttribute_eq as p.1).trans (AnnotCodec.getAttr_written has hnd p (hsub p hp))
  obtain ⟨a, b, c, d, e⟩ := f
  simp only [PwFields.safe, Bool.and_eq_true] at h
  obtain ⟨⟨⟨⟨ha, hb⟩, hc⟩, he⟩, hd⟩ := h
  simp only [Names.table, List.forall_mem_cons, map_escape_safe _ ha, map_escape_safe _ hb, map_escape_safe _ hc,
    map_escape_safe _ he] at g
  obtain ⟨e1, e2, e3, e4, e5, -⟩ := g
  simp only [readFields, e1, e2, e3, e4, e5]
  cases d with
  | none => rfl
  | some m =>
    simp only [decide_eq_true_eq] at hd
    simp only [Option.map_some, escape_safe _ (decDigits_safe m), parseU32_decDigits m hd]

end Umya.PwHash
