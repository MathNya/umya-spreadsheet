/-
  The sorted enumeration of the cell store (`Store.sorted`, `Umya/Model/CellStore.lean`): a merge sort of the entries
  by (row, column).  The sorted entries are a permutation of the store, strictly increasing by position when
  the store has no position twice, and two strictly increasing entry lists that answer every look-up alike are equal.
-/
import Umya.Model.CellStore
import Umya.Lemmas.ListFacts
namespace Umya.Reader.Lemmas.StoreSorted
open Umya.Reader

/-- the comparison that `Store.sorted` spells out as a lambda, under a name (`sorted_eq` is `rfl`) -/
def posLe (a b : Pos) : Bool := a.1 < b.1 || (a.1 == b.1 && a.2 ≤ b.2)

def posLt (a b : Pos) : Prop := a.1 < b.1 ∨ (a.1 = b.1 ∧ a.2 < b.2)

/-- the sort of `Store.sorted` before the values are projected -/
def sortedEntries {α : Type} (s : Store α) : Store α := s.mergeSort fun a b => posLe a.1 b.1

theorem sorted_eq {α : Type} (s : Store α) : s.sorted = (sortedEntries s).map (·.2) := rfl

theorem posLe_iff (a b : Pos) : posLe a b = true ↔ (a.1 < b.1 ∨ (a.1 = b.1 ∧ a.2 ≤ b.2)) := by
  simp [posLe]

theorem posLe_trans (a b c : Pos) (h1 : posLe a b = true) (h2 : posLe b c = true) : posLe a c = true := by
  rw [posLe_iff] at *
  omega

theorem posLe_total (a b : Pos) : (posLe a b || posLe b a) = true := by
  rw [Bool.or_eq_true, posLe_iff, posLe_iff]
  omega

theorem posLe_antisymm (a b : Pos) (h1 : posLe a b = true) (h2 : posLe b a = true) : a = b := by
  rw [posLe_iff] at *
  apply Prod.ext <;> omega

theorem posLt_of_le_ne {a b : Pos} (h1 : posLe a b = true) (h2 : a ≠ b) : posLt a b := by
  rw [posLe_iff] at h1
  unfold posLt
  have : ¬ (a.1 = b.1 ∧ a.2 = b.2) := fun h => h2 (Prod.ext h.1 h.2)
  omega

theorem posLt_ne {a b : Pos} (h : posLt a b) : a ≠ b := by
  intro e; subst e; unfold posLt at h; omega

theorem posLt_asymm (a b : Pos) (h : posLt a b) (h' : posLt b a) : False := by
  unfold posLt at *; omega

theorem sortedEntries_perm {α : Type} (s : Store α) : (sortedEntries s).Perm s :=
  List.mergeSort_perm s _

theorem sortedEntries_pairwise_le {α : Type} (s : Store α) :
    (sortedEntries s).Pairwise (fun a b => posLe a.1 b.1 = true) :=
  List.pairwise_mergeSort (le := fun (a b : Pos × α) => posLe a.1 b.1) (fun a b c => posLe_trans a.1 b.1 c.1)
    (fun a b => posLe_total a.1 b.1) s

theorem sortedEntries_keys_nodup {α : Type} (s : Store α) (h : (s.map (·.1)).Nodup) :
    ((sortedEntries s).map (·.1)).Nodup :=
  ((sortedEntries_perm s).map (·.1)).nodup_iff.mpr h

theorem sortedEntries_pairwise_lt {α : Type} (s : Store α) (h : (s.map (·.1)).Nodup) :
    (sortedEntries s).Pairwise (fun a b => posLt a.1 b.1) :=
  ((sortedEntries_pairwise_le s).and (List.pairwise_map.1 (sortedEntries_keys_nodup s h))).imp
    fun hab => posLt_of_le_ne hab.1 hab.2

theorem strictlySorted_of_pairwise : ∀ (l : List Pos), l.Pairwise posLt → strictlySorted l = true
  | [], _ => rfl
  | [_], _ => rfl
  | a :: b :: rest, h => by
    rw [List.pairwise_cons] at h
    have hab := h.1 b List.mem_cons_self
    have ih := strictlySorted_of_pairwise (b :: rest) h.2
    unfold posLt at hab
    simp only [strictlySorted, ih, Bool.and_true, Bool.or_eq_true, decide_eq_true_eq, Bool.and_eq_true, beq_iff_eq]
    exact hab

theorem get?_cons_self {α : Type} (e : Pos × α) (s : Store α) : Store.get? (e :: s) e.1 = some e.2 := by
  simp only [Store.get?, List.find?_cons, beq_self_eq_true, Option.map_some]

theorem get?_cons_ne {α : Type} (e : Pos × α) (s : Store α) (k : Pos) (h : e.1 ≠ k) :
    Store.get? (e :: s) k = Store.get? s k := by
  simp only [Store.get?, List.find?_cons, beq_eq_false_iff_ne.mpr h]

theorem get?_none_of_forall_ne {α : Type} (s : Store α) (k : Pos) (h : ∀ e ∈ s, e.1 ≠ k) : Store.get? s k = none := by
  rw [Store.get?, List.find?_eq_none.2 fun e he => by simpa using h e he]; rfl

theorem get?_eq_some_iff {α : Type} (s : Store α) (h : (s.map (·.1)).Nodup) (k : Pos) (v : α) :
    Store.get? s k = some v ↔ (k, v) ∈ s := by
  induction s with
  | nil => simp [Store.get?]
  | cons e t ih =>
    simp only [List.map_cons, List.nodup_cons] at h
    rw [List.mem_cons]
    by_cases he : e.1 = k
    · subst he
      rw [get?_cons_self, Option.some.injEq]
      exact ⟨fun hv => Or.inl (by rw [← hv]), fun hm => hm.elim (fun e' => (congrArg Prod.snd e').symm)
        (fun hm => absurd (List.mem_map_of_mem (f := (·.1)) hm) h.1)⟩
    · rw [get?_cons_ne e t k he, ih h.2]
      exact ⟨Or.inr, fun hm => hm.resolve_left fun e' => he (congrArg Prod.fst e').symm⟩

theorem get?_perm {α : Type} {s t : Store α} (hp : s.Perm t) (h : (t.map (·.1)).Nodup) (k : Pos) :
    Store.get? s k = Store.get? t k :=
  Option.ext fun v => by
    rw [get?_eq_some_iff s ((hp.map (·.1)).nodup_iff.mpr h), get?_eq_some_iff t h, hp.mem_iff]

theorem get?_sortedEntries {α : Type} (s : Store α) (h : (s.map (·.1)).Nodup) (k : Pos) :
    Store.get? (sortedEntries s) k = Store.get? s k :=
  get?_perm (sortedEntries_perm s) h k

theorem strict_keys_nodup {α : Type} {s : Store α} (h : s.Pairwise (fun a b => posLt a.1 b.1)) : (s.map (·.1)).Nodup :=
  List.pairwise_map.2 (h.imp posLt_ne)

theorem mem_map_iff_get? {α γ : Type} (f : α → γ) (s : Store α) (h : (s.map (·.1)).Nodup) (k : Pos) (v : γ) :
    (k, v) ∈ s.map (fun e => (e.1, f e.2)) ↔ (Store.get? s k).map f = some v := by
  simp only [List.mem_map, Option.map_eq_some_iff, get?_eq_some_iff s h, Prod.mk.injEq]
  exact ⟨fun ⟨e, he, hk, hv⟩ => ⟨e.2, hk ▸ he, hv⟩, fun ⟨a, ha, hv⟩ => ⟨(k, a), ha, rfl, hv⟩⟩

theorem strict_unique {α β γ : Type} (f : α → γ) (g : β → γ) : ∀ (l1 : Store α) (l2 : Store β),
    l1.Pairwise (fun a b => posLt a.1 b.1) → l2.Pairwise (fun a b => posLt a.1 b.1) →
    (∀ k, (Store.get? l1 k).map f = (Store.get? l2 k).map g) →
    l1.map (fun e => (e.1, f e.2)) = l2.map (fun e => (e.1, g e.2)) := by
  intro l1 l2 h1 h2 h
  -- both sides are strictly increasing by position and, by the look-ups, have the same members
  refine eq_of_pairwise_of_mem_iff (r := fun (a b : Pos × γ) => posLt a.1 b.1) (fun a b => posLt_asymm a.1 b.1)
    (List.pairwise_map.2 h1) (List.pairwise_map.2 h2) fun (k, v) => ?_
  rw [mem_map_iff_get? f l1 (strict_keys_nodup h1), mem_map_iff_get? g l2 (strict_keys_nodup h2), h k]

end Umya.Reader.Lemmas.StoreSorted
