/-
  Lexer correctness on printed expressions: `tokensOf`, the specification of the lexer's result on an
  expression, and passes 2 and 3 taking the pass-1 tokens `toks1` of the expression to it.
-/
import Umya.Lemmas.FormulaLexExpr
import Umya.Lemmas.Formula
import Umya.Lemmas.Passes
namespace Umya.Formula
open Umya.Coord Umya.Dec Umya.Spec

/-! A `1` in a name (`op1`, `toks1`, both imported) says a token as pass 1 leaves it, a `3` as pass 3 does;
    `signTok` is pass 1's token for a `-` / `+`, `prefixTok` what pass 3 makes of it. -/

def opSub : BinOp → ST
  | .add | .sub | .mul | .div | .pow => .math
  | .cat => .concatenation
  | _ => .logical

def op3 (op : BinOp) : Tok := ⟨op.text, .opInfix, opSub op, .none⟩
def subStart : Tok := ⟨[], .subexpression, .start, .none⟩
def subStop : Tok := ⟨[], .subexpression, .stop, .none⟩
def fnStart (f : List Char) : Tok := ⟨f, .function, .start, .none⟩
def fnStop : Tok := ⟨[], .function, .stop, .none⟩
def pctTok : Tok := ⟨['%'], .opPostfix, .nothing, .none⟩
def signTok (c : Char) : Tok := ⟨[c], .opInfix, .nothing, .none⟩
def prefixTok (c : Char) : Tok := ⟨[c], .opPrefix, .nothing, .none⟩
def stopOf (k : TT) : Tok := ⟨[], k, .stop, .none⟩

mutual
  /-- the tokens of an expression: one operand token per leaf (numbers Number, strings Text with
      the quotes removed and doubled quotes halved, booleans Logical, error literals Error, names
      and references Range), prefix / infix / postfix operator tokens with their subtypes, Start /
      Stop tokens for parentheses and calls, a Union-infix `,` between the arguments of a call and
      an Argument `,` inside plain parentheses.  (Intersections, array constants and `.opaque`: outside the
      fragment of `LexOk`; the value given here for them is not claimed to be what the lexer returns.) -/
  def tokensOf : Expr → List Tok
    | .num t => [⟨t, .operand, .number, .none⟩]
    | .str s => [⟨s, .operand, .text, .none⟩]
    | .bool b => [⟨boolText b, .operand, .logical, .none⟩]
    | .err e => [⟨e.text, .operand, .error, .none⟩]
    | .name n => [⟨n, .operand, .range, .none⟩]
    | .ref r => [refTok r]
    | .opaque t => [⟨t, .operand, .range, .none⟩]
    | .array _ => []
    | .neg e => prefixTok '-' :: tokensOf e
    | .pos e => prefixTok '+' :: tokensOf e
    | .pct e => tokensOf e ++ [pctTok]
    | .bin op a b => tokensOf a ++ op3 op :: tokensOf b
    | .isect a b => tokensOf a ++ ⟨[], .opInfix, .intersection, .none⟩ :: tokensOf b
    | .union es => subStart :: (tokensOfA .subexpression es ++ [subStop])
    | .paren e => subStart :: (tokensOf e ++ [subStop])
    | .call f as => fnStart f :: (tokensOfA .function as ++ [fnStop])
  def tokensOfA (k : TT) : Args → List Tok
    | .nil => []
    | .cons e .nil => tokensOf e
    | .cons e rest => tokensOf e ++ sepTok k :: tokensOfA k rest
    | .skip .nil => []
    | .skip rest => sepTok k :: tokensOfA k rest
end

theorem toks1_val (v : List Char) (hv : v ≠ []) : (Pend.val v).toks = [⟨v, .operand, .nothing, .none⟩] := by
  simp [Pend.toks, hv]

theorem toks1_neg (e : Expr) : toks1 (.neg e) = signTok '-' :: toks1 e := by simp [toks1, preE, pendE, signTok]
theorem toks1_pos (e : Expr) : toks1 (.pos e) = signTok '+' :: toks1 e := by simp [toks1, preE, pendE, signTok]
theorem toks1_pct (e : Expr) : toks1 (.pct e) = toks1 e ++ [pctTok] := by
  simp [toks1, preE, pendE, Pend.toks, pctTok]
theorem toks1_bin (op : BinOp) (a b : Expr) : toks1 (.bin op a b) = toks1 a ++ op1 op :: toks1 b := by
  simp [toks1, preE, pendE, List.append_assoc]
theorem toks1_paren (e : Expr) : toks1 (.paren e) = subStart :: (toks1 e ++ [subStop]) := by
  simp [toks1, preE, pendE, Pend.toks, subStart, subStop, List.append_assoc]
theorem toks1_union (es : Args) : toks1 (.union es) = subStart :: (toks1A .subexpression es ++ [subStop]) := by
  simp [toks1, toks1A, preE, pendE, Pend.toks, subStart, subStop, List.append_assoc]
theorem toks1_call (f : List Char) (as : Args) :
    toks1 (.call f as) = fnStart f :: (toks1A .function as ++ [fnStop]) := by
  simp [toks1, toks1A, preE, pendE, Pend.toks, fnStart, fnStop, List.append_assoc]

def pre3 (a : List Tok) : Res (List Tok) → Res (List Tok)
  | .ok l => .ok (a ++ l)
  | .panic => .panic

theorem pre3_pre3 (a b : List Tok) (r : Res (List Tok)) : pre3 a (pre3 b r) = pre3 (a ++ b) r := by
  cases r <;> simp [pre3]

theorem pass3Go_cons_ok (prev : Option Tok) (t t' : Tok) (rest : List Tok) (h : pass3Tok prev t = .ok t') :
    pass3Go prev (t :: rest) = pre3 [t'] (pass3Go (some t) rest) := by
  simp only [pass3Go, h]
  cases pass3Go (some t) rest <;> simp [pre3]

/-- pass 3 turns `l` into `l'` when `prev` stands before it, whatever follows, and hands `nxt` on as the previous
    token: the form in which the pass composes along `++` -/
def P3 (prev : Option Tok) (l l' : List Tok) (nxt : Option Tok) : Prop :=
  ∀ rest, pass3Go prev (l ++ rest) = pre3 l' (pass3Go nxt rest)

theorem P3.nil (prev : Option Tok) : P3 prev [] [] prev := fun rest => by
  cases h : pass3Go prev rest <;> simp [pre3, h]

theorem P3.append {p q r : Option Tok} {a a' b b' : List Tok} (h1 : P3 p a a' q) (h2 : P3 q b b' r) :
    P3 p (a ++ b) (a' ++ b') r := fun rest => by rw [List.append_assoc, h1, h2, pre3_pre3]

theorem P3.cons {prev r : Option Tok} {t t' : Tok} {b b' : List Tok} (h : pass3Tok prev t = .ok t')
    (h2 : P3 (some t) b b' r) : P3 prev (t :: b) (t' :: b') r := fun rest => by
  rw [List.cons_append, pass3Go_cons_ok _ _ _ _ h, h2, pre3_pre3]; rfl

theorem P3.one {prev : Option Tok} {t t' : Tok} (h : pass3Tok prev t = .ok t') : P3 prev [t] [t'] (some t) :=
  .cons h (.nil _)

/-- the previous token does not end a value: a `-` / `+` behind it is a prefix sign -/
def NotVE (prev : Option Tok) : Prop := ∀ p, prev = some p → isValueEnd p = false

theorem notVE_of {t : Tok} (h : isValueEnd t = false) : NotVE (some t) := fun _ hp => by cases hp; exact h

theorem p3_num (prev : Option Tok) (v : List Char) (h : parseF64Ok v = true) :
    pass3Tok prev ⟨v, .operand, .nothing, .none⟩ = .ok ⟨v, .operand, .number, .none⟩ := by
  simp [pass3Tok, h]

theorem p3_range (prev : Option Tok) (v : List Char) (h : isRangeText v = true) :
    pass3Tok prev ⟨v, .operand, .nothing, .none⟩ = .ok ⟨v, .operand, .range, .none⟩ := by
  simp only [isRangeText, Bool.and_eq_true, Bool.not_eq_true'] at h
  simp [pass3Tok, h.1.1, h.1.2, h.2]

theorem p3_bool (prev : Option Tok) (b : Bool) :
    pass3Tok prev ⟨boolText b, .operand, .nothing, .none⟩ = .ok ⟨boolText b, .operand, .logical, .none⟩ := by
  have h1 : parseF64Ok ['T', 'R', 'U', 'E'] = false := by decide
  have h2 : parseF64Ok ['F', 'A', 'L', 'S', 'E'] = false := by decide
  have h3 : eqUpper ['T', 'R', 'U', 'E'] "TRUE" = true := by decide
  have h4 : eqUpper ['F', 'A', 'L', 'S', 'E'] "FALSE" = true := by decide
  cases b <;> simp [pass3Tok, boolText, h1, h2, h3, h4]

theorem p3_typed (prev : Option Tok) (v : List Char) (s : ST) (hs : s ≠ .nothing) :
    pass3Tok prev ⟨v, .operand, s, .none⟩ = .ok ⟨v, .operand, s, .none⟩ := by simp [pass3Tok, hs]

theorem p3_sign (prev : Option Tok) (hp : NotVE prev) (c : Char) (hc : c = '-' ∨ c = '+') :
    pass3Tok prev (signTok c) = .ok (prefixTok c) := by
  cases prev with
  | none => rcases hc with h | h <;> subst h <;> simp [pass3Tok, signTok, prefixTok]
  | some p =>
    have := hp p rfl
    rcases hc with h | h <;> subst h <;> simp [pass3Tok, signTok, prefixTok, this]

theorem p3_op (l : Tok) (hl : isValueEnd l = true) (op : BinOp) :
    pass3Tok (some l) (op1 op) = .ok (op3 op) := by
  cases op <;> simp [pass3Tok, op1, op3, opSub, BinOp.text, hl]

theorem p3_pct (prev : Option Tok) : pass3Tok prev pctTok = .ok pctTok := by simp [pass3Tok, pctTok]
theorem p3_subStart (prev : Option Tok) : pass3Tok prev subStart = .ok subStart := by simp [pass3Tok, subStart]
theorem p3_stop (prev : Option Tok) (k : TT) (hk : k = .function ∨ k = .subexpression) :
    pass3Tok prev (stopOf k) = .ok (stopOf k) := by
  rcases hk with h | h <;> subst h <;> simp [pass3Tok, stopOf]
theorem p3_sep (prev : Option Tok) (k : TT) : pass3Tok prev (sepTok k) = .ok (sepTok k) := by
  by_cases h : k = .function <;> simp [pass3Tok, sepTok, h]
theorem p3_fnStart (prev : Option Tok) (f : List Char) (h : f.head? ≠ some '@') :
    pass3Tok prev (fnStart f) = .ok (fnStart f) := pass3Tok_function prev f _ _ h

theorem notVE_sep (k : TT) : NotVE (some (sepTok k)) :=
  notVE_of (by by_cases h : k = .function <;> simp [isValueEnd, sepTok, h])

mutual
  theorem p3_expr (e : Expr) (h : LexOk e) (prev : Option Tok) (hp : NotVE prev) :
      ∃ l, isValueEnd l = true ∧ P3 prev (toks1 e) (tokensOf e) (some l) := by
    match e, h with
    | .num t, h =>
      exact ⟨_, rfl, by simpa [toks1, preE, pendE, toks1_val t h.1, tokensOf] using P3.one (p3_num prev t h.2.2)⟩
    | .str s, _ => exact ⟨_, rfl, by simpa [toks1, preE, pendE, Pend.toks, tokensOf] using P3.one (p3_typed prev s .text nofun)⟩
    | .bool b, _ =>
      have hb : boolText b ≠ [] := by cases b <;> simp [boolText]
      exact ⟨_, rfl, by simpa [toks1, preE, pendE, toks1_val _ hb, tokensOf] using P3.one (p3_bool prev b)⟩
    | .err e, _ =>
      exact ⟨_, rfl, by simpa [toks1, preE, pendE, Pend.toks, tokensOf] using P3.one (p3_typed prev e.text .error nofun)⟩
    | .name n, h =>
      exact ⟨_, rfl, by simpa [toks1, preE, pendE, toks1_val n h.1, tokensOf] using P3.one (p3_range prev n h.2.2)⟩
    | .ref r, h =>
      have hr : r.text ≠ [] := by have := h.1.1; simp [CRef.text, this]
      exact ⟨_, rfl, by
        simpa [toks1, preE, pendE, toks1_val _ hr, tokensOf, refTok] using P3.one (p3_range prev r.text h.2)⟩
    | .opaque _, h | .array _, h | .isect _ _, h => exact absurd h (by simp [LexOk])
    | .neg e, h =>
      obtain ⟨l, hl, hr⟩ := p3_expr e h (some (signTok '-')) (notVE_of rfl)
      exact ⟨l, hl, by rw [toks1_neg, tokensOf]; exact .cons (p3_sign prev hp '-' (Or.inl rfl)) hr⟩
    | .pos e, h =>
      obtain ⟨l, hl, hr⟩ := p3_expr e h (some (signTok '+')) (notVE_of rfl)
      exact ⟨l, hl, by rw [toks1_pos, tokensOf]; exact .cons (p3_sign prev hp '+' (Or.inr rfl)) hr⟩
    | .pct e, h =>
      obtain ⟨l, _, hr⟩ := p3_expr e h prev hp
      exact ⟨pctTok, rfl, by rw [toks1_pct, tokensOf]; exact hr.append (.one (p3_pct _))⟩
    | .bin op a b, h =>
      obtain ⟨l, hl, hr⟩ := p3_expr a h.1 prev hp
      obtain ⟨l2, hl2, hr2⟩ := p3_expr b h.2 (some (op1 op)) (notVE_of (by cases op <;> rfl))
      exact ⟨l2, hl2, by rw [toks1_bin, tokensOf]; exact hr.append (.cons (p3_op l hl op) hr2)⟩
    | .paren e, h =>
      obtain ⟨l, _, hr⟩ := p3_expr e h (some subStart) (notVE_of rfl)
      exact ⟨subStop, rfl, by
        rw [toks1_paren, tokensOf]; exact .cons (p3_subStart prev) (hr.append (.one (p3_stop _ _ (.inr rfl))))⟩
    | .union es, h =>
      obtain ⟨l, hr⟩ := p3_argsP es h .subexpression (some subStart) (notVE_of rfl)
      exact ⟨subStop, rfl, by
        rw [toks1_union, tokensOf]; exact .cons (p3_subStart prev) (hr.append (.one (p3_stop _ _ (.inr rfl))))⟩
    | .call f as, h =>
      obtain ⟨l, hr⟩ := p3_argsP as h.2 .function (some (fnStart f)) (notVE_of rfl)
      exact ⟨fnStop, rfl, by
        rw [toks1_call, tokensOf]; exact .cons (p3_fnStart prev f h.1.2.2) (hr.append (.one (p3_stop _ _ (.inl rfl))))⟩
  theorem p3_argsP (as : Args) (h : LexOkA as) (k : TT) (prev : Option Tok) (hp : NotVE prev) :
      ∃ l, P3 prev (toks1A k as) (tokensOfA k as) l := by
    match as, h with
    | .nil, _ => exact ⟨prev, .nil prev⟩
    | .cons e r, h =>
      obtain ⟨l, _, hl⟩ := p3_expr e h.1 prev hp
      by_cases hr : r = .nil
      · subst hr; exact ⟨some l, by simpa [toks1A, preA, pendA, tokensOfA, toks1] using hl⟩
      · obtain ⟨l2, hl2⟩ := p3_argsP r h.2 k (some (sepTok k)) (notVE_sep k)
        have ht : toks1A k (.cons e r) = toks1 e ++ sepTok k :: toks1A k r := by
          simp [toks1A, preA, pendA, toks1, List.append_assoc]
        refine ⟨l2, ?_⟩
        rw [ht, tokensOfA]
        · exact hl.append (.cons (p3_sep _ k) hl2)
        · exact hr
    | .skip r, h =>
      by_cases hr : r = .nil
      · subst hr; exact ⟨prev, .nil prev⟩
      · obtain ⟨l2, hl2⟩ := p3_argsP r h k (some (sepTok k)) (notVE_sep k)
        have ht : toks1A k (.skip r) = sepTok k :: toks1A k r := by simp [toks1A, preA, pendA]
        refine ⟨l2, ?_⟩
        rw [ht, tokensOfA]
        · exact .cons (p3_sep _ k) hl2
        · exact hr
end

/-- `p3_argsP` (`P` for its conclusion, a `P3`) with `P3` unfolded -/
theorem p3_args (as : Args) (h : LexOkA as) (k : TT) (prev : Option Tok) (hp : NotVE prev)
    (rest : List Tok) :
    ∃ l, pass3Go prev (toks1A k as ++ rest) = pre3 (tokensOfA k as) (pass3Go l rest) :=
  (p3_argsP as h k prev hp).imp fun _ hl => hl rest

def NoWs (l : List Tok) : Prop := ∀ t ∈ l, t.ty ≠ .whitespace

theorem noWs_nil : NoWs [] := by intro t ht; cases ht
theorem noWs_cons (t : Tok) (l : List Tok) (h : t.ty ≠ .whitespace) (hl : NoWs l) : NoWs (t :: l) :=
  List.forall_mem_cons.2 ⟨h, hl⟩
theorem noWs_append (a b : List Tok) (ha : NoWs a) (hb : NoWs b) : NoWs (a ++ b) :=
  List.forall_mem_append.2 ⟨ha, hb⟩

theorem noWs_pend (p : Pend) : NoWs p.toks := by
  cases p with
  | none => exact noWs_nil
  | val v => simp only [Pend.toks]; split
             · exact noWs_nil
             · exact noWs_cons _ _ (by simp) noWs_nil
  | str v => exact noWs_cons _ _ (by simp) noWs_nil

theorem sep_ty (k : TT) : (sepTok k).ty ≠ .whitespace := by
  by_cases h : k = .function <;> simp [sepTok, h]

theorem op1_ty (op : BinOp) : (op1 op).ty ≠ .whitespace := by cases op <;> simp [op1]

mutual
  theorem noWs_pre (e : Expr) : NoWs (preE e) := by
    match e with
    | .num _ | .str _ | .bool _ | .name _ | .ref _ | .opaque _ | .array _ => exact noWs_nil
    | .err _ => exact noWs_cons _ _ (by simp) noWs_nil
    | .neg e | .pos e => exact noWs_cons _ _ (by simp) (noWs_pre e)
    | .pct e =>
      exact noWs_append _ _ (noWs_append _ _ (noWs_pre e) (noWs_pend _)) (noWs_cons _ _ (by simp) noWs_nil)
    | .bin op a b =>
      exact noWs_append _ _ (noWs_append _ _ (noWs_pre a) (noWs_pend _)) (noWs_cons _ _ (op1_ty op) (noWs_pre b))
    | .isect a b => exact noWs_append _ _ (noWs_append _ _ (noWs_pre a) (noWs_pend _)) (noWs_pre b)
    | .union es =>
      exact noWs_cons _ _ (by simp) (noWs_append _ _ (noWs_append _ _ (noWs_preA .subexpression es) (noWs_pend _))
        (noWs_cons _ _ (by simp) noWs_nil))
    | .paren e =>
      exact noWs_cons _ _ (by simp) (noWs_append _ _ (noWs_append _ _ (noWs_pre e) (noWs_pend _))
        (noWs_cons _ _ (by simp) noWs_nil))
    | .call f as =>
      exact noWs_cons _ _ (by simp) (noWs_append _ _ (noWs_append _ _ (noWs_preA .function as) (noWs_pend _))
        (noWs_cons _ _ (by simp) noWs_nil))
  theorem noWs_preA (k : TT) (as : Args) : NoWs (preA k as) := by
    match as with
    | .nil => exact noWs_nil
    | .cons e r =>
      by_cases hr : r = .nil
      · subst hr; simpa [preA] using noWs_pre e
      · simp only [preA]
        exact noWs_append _ _ (noWs_append _ _ (noWs_pre e) (noWs_pend _)) (noWs_cons _ _ (sep_ty k) (noWs_preA k r))
    | .skip r =>
      by_cases hr : r = .nil
      · subst hr; exact noWs_nil
      · simp only [preA]; exact noWs_cons _ _ (sep_ty k) (noWs_preA k r)
end

theorem noWs_toks1 (e : Expr) : NoWs (toks1 e) := noWs_append _ _ (noWs_pre e) (noWs_pend _)

theorem pass2Go_noWs (l : List Tok) (h : NoWs l) (prev : Option Tok) (lv : List Char) :
    pass2Go prev lv l = l := by
  induction l generalizing prev with
  | nil => rfl
  | cons t rest ih =>
    have ht := h t (List.mem_cons_self ..)
    simp only [pass2Go, ht, ne_eq, not_false_eq_true, if_true]
    rw [ih (fun x hx => h x (List.mem_cons_of_mem _ hx))]

theorem finish_pend (p : Pend) (T : List Tok) : (finish (p.st T [])).toks = T ++ p.toks := by
  cases p with
  | none => simp [finish, Pend.st, Pend.toks]
  | val v => by_cases hv : v = [] <;> simp [finish, Pend.st, Pend.toks, hv]
  | str v => simp [finish, Pend.st, Pend.toks]

theorem pend_not_dead (p : Pend) (T S : List Tok) : (p.st T S).mode ≠ .dead := by
  cases p <;> simp [Pend.st]

theorem lex1_print (e : Expr) (h : LexOk e) : ∃ lv, lex1 e.print = .ok (toks1 e, lv) := by
  have hl := lex_expr e h {} [] [] (startable_fresh [] [])
  refine ⟨(finish (lexRun e.print)).value, ?_⟩
  have hr : lexRun e.print = (pendE e).st (preE e) [] := by simpa [lexRun] using hl
  rw [lex1_eq _ (hr ▸ pend_not_dead _ _ _), hr, finish_pend]
  rfl

theorem binop_text_ne (op : BinOp) : op.text ≠ [] := by cases op <;> simp [BinOp.text]

theorem print_ne (e : Expr) (h : LexOk e) : e.print ≠ [] := by
  match e, h with
  | .num _, h | .name _, h => exact h.1
  | .bool b, _ => cases b <;> simp [Expr.print]
  | .err e, _ => cases e <;> simp [Expr.print, ErrLit.text]
  | .ref r, h => have := h.1.1; simp [Expr.print, CRef.text, this]
  | .opaque _, h | .array _, h | .isect _ _, h => exact absurd h (by simp [LexOk])
  | .bin op a b, _ => simp [Expr.print, binop_text_ne op]
  | .str _, _ | .neg _, _ | .pos _, _ | .pct _, _ | .paren _, _ | .union _, _ | .call _ _, _ => simp [Expr.print]

theorem parse_print (e : Expr) (h : LexOk e) : parse ('=' :: e.print) = .ok (tokensOf e) := by
  obtain ⟨lv, hl⟩ := lex1_print e h
  obtain ⟨l, _, hp⟩ := p3_expr e h none (by intro p hp; cases hp)
  have hp := hp []
  cases hpr : e.print with
  | nil => exact absurd hpr (print_ne e h)
  | cons c r =>
    rw [hpr] at hl
    simp only [parse, hl, pass2, pass3, pass2Go_noWs _ (noWs_toks1 e)]
    simpa [pass3Go, pre3] using hp

end Umya.Formula
