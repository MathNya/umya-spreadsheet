/-
  Cell level: string items (`stringItem` vs `Spec.Sml.rstText`), the fields of
  `Spec.Sml.decodeCell` one by one, the model's value functions on the texts of the valid grammar.  The grammar of a string
  item (`validRst`) and of the `<v>` texts (`numberOk`, `errorCodes`, `boolOk`) is defined here, that of a whole cell
  (`vOk`, `valueOk`, `validCell`) in `Thm/C03Cell`.
-/
import Umya.Lemmas.Reader
import Umya.Lemmas.ListFacts
namespace Umya.Reader.Lemmas
open Umya.Reader Umya.Spec.Xml Umya.Spec.Sml

/-- a `t` element: character data only; where the reader trims (`trim`, the worksheet part) blanks at
    the ends need `xml:space="preserve"` -/
def validT (trim : Bool) (t : Node) : Bool :=
  plainText (trim && !(t.attr? "xml:space".toList = some "preserve".toList)) t

/-- a rich-text run `r` (CT_RElt: `rPr?`, one `t`): at most one `t`, and it is a valid `t` -/
def validRun (trim : Bool) (r : Node) : Bool :=
  decide ((r.kids "t").length ≤ 1) && (r.kids "t").all (validT trim)

/-- a string item as producers write it (18.4.8): EITHER at most one plain `t` OR one or more runs `r`
    (not both: the library lets the runs replace the plain text, the spec concatenates them);
    phonetic runs `rPh` and `phoneticPr` may follow, they are not part of the value -/
def validRst (trim : Bool) (si : Node) : Bool :=
  if (si.kids "r").isEmpty then decide ((si.kids "t").length ≤ 1) && (si.kids "t").all (validT trim)
  else (si.kids "t").isEmpty && (si.kids "r").all (validRun trim)

theorem tText_valid (trim : Bool) (t : Node) (h : validT trim t = true) : tText trim t = t.ownText :=
  lastText_plain _ t h

theorem run_text (trim : Bool) (r : Node) (h : validRun trim r = true) :
    ((lastKid? r "t").map (tText trim)).getD [] = (r.kids "t").flatMap (·.ownText) := by
  unfold validRun at h
  simp only [Bool.and_eq_true, decide_eq_true_eq] at h
  unfold lastKid?
  match hk : r.kids "t", h with
  | [], _ => rfl
  | [t], ⟨_, h2⟩ =>
    have ht : validT trim t = true := by simpa using h2
    simp [tText_valid trim t ht]
  | _ :: _ :: _, ⟨h1, _⟩ => simp at h1

theorem stringItem_valid (trim : Bool) (si : Node) (h : validRst trim si = true) :
    (stringItem trim si).getD [] = rstText si := by
  unfold validRst at h
  unfold stringItem rstText
  by_cases hr : (si.kids "r").isEmpty = true
  · -- no runs: `si` is judged as a run is; a `t` without children has the empty text on either reading
    rw [if_pos hr] at h
    rw [List.isEmpty_iff.mp hr, ← run_text trim si h]
    simp only [List.isEmpty_nil, Bool.not_true, Bool.false_eq_true, if_false, List.flatMap_nil, List.append_nil]
    cases lastKid? si "t" with
    | none => rfl
    | some t =>
      by_cases hc : t.children = []
      · have : tText trim t = [] := by unfold tText lastText textEvents; rw [hc]; rfl
        simp [hc, this]
      · simp [hc]
  · rw [if_neg hr] at h
    simp only [Bool.and_eq_true] at h
    have ht' : si.kids "t" = [] := List.isEmpty_iff.mp h.1
    have hall : ∀ r ∈ si.kids "r", validRun trim r = true := by simpa using h.2
    simp only [hr, Bool.not_false, if_true, ht', List.flatMap_nil, List.nil_append, Option.getD_some]
    exact flatMap_congr_mem (fun r hr => run_text trim r (hall r hr))

open Umya.Coord

theorem decode_ref (sst : List Text) (c : Node) : (decodeCell sst c).1.ref = (c.attr? "r".toList).getD [] := rfl
theorem decode_formula (sst : List Text) (c : Node) : (decodeCell sst c).1.formula = (c.kid? "f").map (·.ownText) := rfl
theorem decode_style (sst : List Text) (c : Node) : (decodeCell sst c).1.style = ((c.attr? "s".toList).bind natOf).getD 0 := rfl
theorem decode_shared (sst : List Text) (c : Node) : (decodeCell sst c).1.shared = (c.kid? "f").bind fun fe =>
    if fe.attr? "t".toList = some "shared".toList then (fe.attr? "si".toList).bind natOf else none := rfl

def vText (c : Node) : Option Text := (c.kid? "v").map (·.ownText)

/-! The cell type is given as `decodeCell` reads it (`"t".toList`), so that after `rw` its `match` is on a closed string and
    both components reduce by `rfl` (`decode_s`: once the index and the table look-up are split into cases). -/

theorem decode_n (sst : List Text) (c : Node) (h : c.attr? "t".toList = none ∨ c.attr? "t".toList = some "n".toList) :
    (decodeCell sst c).1.kind = (if (vText c).isSome then "n" else "") ∧ (decodeCell sst c).1.value = (vText c).getD [] := by
  unfold decodeCell; rcases h with e | e <;> rw [e] <;> exact ⟨rfl, rfl⟩

theorem decode_e (sst : List Text) (c : Node) (h : c.attr? "t".toList = some "e".toList) :
    (decodeCell sst c).1.kind = (if (vText c).isSome then "e" else "") ∧ (decodeCell sst c).1.value = (vText c).getD [] := by
  unfold decodeCell; rw [h]; exact ⟨rfl, rfl⟩

theorem decode_str (sst : List Text) (c : Node) (h : c.attr? "t".toList = some "str".toList) :
    (decodeCell sst c).1.kind = (if (vText c).isSome then "s" else "") ∧ (decodeCell sst c).1.value = (vText c).getD [] := by
  unfold decodeCell; rw [h]; exact ⟨rfl, rfl⟩

theorem decode_b (sst : List Text) (c : Node) (h : c.attr? "t".toList = some "b".toList) :
    (decodeCell sst c).1.kind = (if (vText c).isSome then "b" else "") ∧
    (decodeCell sst c).1.value = (if vText c = some ['1'] ∨ vText c = some "true".toList then "TRUE".toList
         else if vText c = some ['0'] ∨ vText c = some "false".toList then "FALSE".toList else (vText c).getD []) := by
  unfold decodeCell; rw [h]; exact ⟨rfl, rfl⟩

theorem decode_inline (sst : List Text) (c : Node) (h : c.attr? "t".toList = some "inlineStr".toList) :
    (decodeCell sst c).1.kind = "s" ∧ (decodeCell sst c).1.value = ((c.kid? "is").map rstText).getD [] := by
  unfold decodeCell; rw [h]; exact ⟨rfl, rfl⟩

theorem decode_s (sst : List Text) (c : Node) (h : c.attr? "t".toList = some "s".toList) :
    (decodeCell sst c).1.kind = (match (vText c).bind natOf with | some _ => "s" | none => "") ∧
    (decodeCell sst c).1.value = (match (vText c).bind natOf with | some i => (sst[i]?).getD [] | none => []) := by
  unfold decodeCell vText; rw [h]; dsimp only
  cases ((c.kid? "v").map (·.ownText)).bind natOf with
  | none => exact ⟨rfl, rfl⟩
  | some i => dsimp only; cases sst[i]? <;> exact ⟨rfl, rfl⟩

/-- the `<v>` of a numeric cell: a non-empty text that Rust's f64 parser accepts and that
    `guess_typed_data` does not take for a boolean word or an error code first (`TRUE`, `#N/A`, …; the
    parser also accepts `inf` / `nan`, which `parseF64Ok` models) -/
def numberOk (v : Text) : Bool :=
  v ≠ [] && v.map upcase ≠ ['T', 'R', 'U', 'E'] && v.map upcase ≠ ['F', 'A', 'L', 'S', 'E'] && !(errorLits.contains (v.map upcase)) && Umya.Formula.parseF64Ok v

/-- the error codes of 18.17.3: the reader's `errorLits` without the library's own `#DATA!`, so a `t="e"` cell holding
    `#DATA!` is outside `validCell` -/
def errorCodes : List Text :=
  ["#DIV/0!".toList, "#N/A".toList, "#NAME?".toList, "#NULL!".toList, "#NUM!".toList, "#REF!".toList, "#VALUE!".toList]

/-- the lexical forms of xsd:boolean -/
def boolOk (v : Text) : Bool := v = ['0'] || v = ['1'] || v = ['t', 'r', 'u', 'e'] || v = ['f', 'a', 'l', 's', 'e']

theorem guess_number (v : Text) (hn : numberOk v = true) : guessTyped v = .num v := by
  simp only [numberOk, Bool.and_eq_true, decide_eq_true_eq, Bool.not_eq_true', ne_eq] at hn
  obtain ⟨⟨⟨⟨h1, h2⟩, h3⟩, h4⟩, h5⟩ := hn
  have h4' : v.map upcase ∉ errorLits := by simpa using h4
  simp [guessTyped, h1, h2, h3, h4', h5]

theorem guess_error (v : Text) (h : errorCodes.contains v = true) : guessTyped v = .err v := by
  have all : ∀ w ∈ errorCodes, guessTyped w = .err w := by decide +kernel
  exact all v (List.contains_iff_mem.1 h)

/-- the reader takes the LAST child of a name, the decoder the FIRST: the same where there is at most one -/
theorem lastKid_eq (c : Node) (name : String) (h : (c.kids name).length ≤ 1) : lastKid? c name = c.kid? name := by
  unfold lastKid? Node.kid?; exact getLast_head _ h

theorem rawOf_not_inline (sst : List (Option Text)) (c : Node) (ht : (c.attr? "t".toList).getD [] ≠ "inlineStr".toList) :
    rawOf sst c = afterV sst ((c.attr? "t".toList).getD []) (lastKid? c "v") := by
  unfold rawOf
  -- under the `let t` of `rawOf` the term reads `afterV sst t …`, which `generalize` would not match: `show` puts `t` in
  show Option.map _ (afterV sst ((c.attr? "t".toList).getD []) (lastKid? c "v")) = _
  generalize afterV sst ((c.attr? "t".toList).getD []) (lastKid? c "v") = a
  cases a with
  | none => rfl
  | some r =>
    cases lastKid? c "is" with
    | none => rfl
    | some i => simp only [Option.map_some, if_neg ht]

theorem afterV_inline (sst : List (Option Text)) (v : Option Node) : afterV sst "inlineStr".toList v = some .empty := by
  cases v with
  | none => rfl
  | some v => simp [afterV]

end Umya.Reader.Lemmas
