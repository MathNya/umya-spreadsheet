/-
  What the writer model (`Umya/Model/CellXml.lean`) writes, rendered
  as the element tree an XML 1.0 reader delivers (`Umya/Model/CellNode.lean`), is decoded by the
  independent SpreadsheetML decoder (`Umya/Spec/Sml.lean`: `decodeCell`, `rstText`, `sharedStrings`) to
  the model cell.
-/
import Umya.Model.CellNode
import Umya.Lemmas.XmlChannel
import Umya.Lemmas.CellRoundTrip
namespace Umya.CellNode
open Umya.Xml Umya.CellXml Umya.Dec Umya.InternC01 Umya.Num Umya.Coord
open Umya.Spec.Xml (Node Attr textValue attrValue localName)
open Umya.Spec.Sml (decodeCell rstText natOf sharedStrings CellV)

/-- the children of an element whose character data has the value `s` -/
def txt (s : List Char) : List Node := if s = [] then [] else [Node.text s]

theorem ownText_txt (n : List Char) (as : List Attr) (s : List Char) : (Node.elem n as (txt s)).ownText = s := by
  by_cases h : s = []
  · simp [txt, h, Node.ownText, Node.children]
  · simp [txt, h, Node.ownText, Node.children]

theorem charData_eq (raw : List Char) : charData raw = if '<' ∈ raw then none else (textValue raw).map txt := by
  unfold charData
  by_cases h0 : raw = []
  · subst h0; rfl
  · rw [if_neg h0]
    split
    · rfl
    · cases hv : textValue raw with
      | none => rfl
      | some v => simp [txt, Umya.XmlChannel.textValue_ne_nil raw v h0 hv]

theorem charData_escape (s : List Char) : charData (escape s) = some (txt s) := by
  rw [charData_eq, Umya.XmlChannel.xml_escape_eq, if_neg (Umya.XmlChannel.escape_noLt s), Umya.XmlChannel.textValue_escape]; rfl

theorem charData_partialEscape (s : List Char) : charData (partialEscape s) = some (txt s) := by
  rw [charData_eq, Umya.XmlChannel.xml_partialEscape_eq, if_neg (Umya.XmlChannel.partialEscape_noLt s),
    Umya.XmlChannel.textValue_partialEscape]; rfl

theorem attrOf_eq (name value : List Char) : attrOf name value = some ⟨name, value⟩ := by
  simp [attrOf, Umya.XmlChannel.attrValue_attrEscape]

theorem textElem_written {g : List Char → List Char} (hg : ∀ s, charData (g s) = some (txt s)) (n : List Char) (as : List Attr)
    (s : List Char) : textElem n as (g s) = some (Node.elem n as (txt s)) := by
  simp [textElem, hg]

def preserveAttrs (s : List Char) : List Attr :=
  if needsPreserve s then [⟨['x', 'm', 'l', ':', 's', 'p', 'a', 'c', 'e'], ['p', 'r', 'e', 's', 'e', 'r', 'v', 'e']⟩] else []

/-- the `<t>` written for the text `s`, as read -/
def tElem (s : List Char) : Node := Node.elem ['t'] (preserveAttrs s) (txt s)

theorem tNode_writeText (s : List Char) : tNode (writeText s) = some (tElem s) := by
  unfold tNode writeText tElem preserveAttrs
  by_cases h : needsPreserve s = true
  · simp [h, attrOf_eq, textElem_written charData_escape]
  · simp [h, textElem_written charData_escape]

/-- the `<r>` written for a run, as read -/
def rElem (r : Run) : Node :=
  Node.elem ['r'] [] ((match r.font with | some _ => [Node.elem ['r', 'P', 'r'] [] []] | none => []) ++ [tElem r.text])

theorem runNode_write (r : Run) : runNode { font := r.font, t := writeText r.text } = some (rElem r) := by
  obtain ⟨t, f⟩ := r
  cases f <;> simp [runNode, tNode_writeText, rElem]

/-- the `<si>` written for an item, as read -/
def siElem (it : Item) : Node :=
  Node.elem ['s', 'i'] []
    ((match it.text with | some s => [tElem s] | none => []) ++
     (match it.rich with | some rs => rs.map rElem | none => []) ++ [phoneticPr])

theorem siNode_siOf (it : Item) : siNode (siOf it) = some (siElem it) := by
  obtain ⟨t, r⟩ := it
  cases t <;> cases r <;>
    simp [siNode, siOf, siElem, tNode_writeText, mapOpt_map runNode _ rElem _ fun r _ => runNode_write r, mapOpt]

theorem lit_s : "s".toList = ['s'] := rfl

/-- the library writes SpreadsheetML elements unprefixed -/
theorem localName_plain {n : List Char} (h : ':' ∉ n) : localName n = n := by
  unfold localName
  rw [dropWhile_all (· ≠ ':') n fun c hc => decide_eq_true fun e => h (e ▸ hc)]

/-- the filter of `Node.kids` -/
def isKid (name : List Char) (c : Node) : Bool := c.isElem && decide (localName c.name = name)

theorem kids_eq (n : Node) (name : String) : n.kids name = n.children.filter (isKid name.toList) := rfl

theorem isKid_elem (name n : List Char) (as : List Attr) (cs : List Node) :
    isKid name (Node.elem n as cs) = decide (localName n = name) := rfl

theorem isKid_self (nm : List Char) (as : List Attr) (ks : List Node) (h : localName nm = nm) :
    isKid nm (Node.elem nm as ks) = true := by
  rw [isKid_elem, h]; exact decide_eq_true rfl

theorem isKid_t_tElem (s : List Char) : isKid ['t'] (tElem s) = true := by simp [tElem, isKid_elem, localName_plain]
theorem isKid_r_tElem (s : List Char) : isKid ['r'] (tElem s) = false := by simp [tElem, isKid_elem, localName_plain]
theorem isKid_t_rElem (r : Run) : isKid ['t'] (rElem r) = false := by simp [rElem, isKid_elem, localName_plain]
theorem isKid_r_rElem (r : Run) : isKid ['r'] (rElem r) = true := by simp [rElem, isKid_elem, localName_plain]
theorem isKid_t_ph : isKid ['t'] phoneticPr = false := by simp [phoneticPr, isKid_elem, localName_plain]
theorem isKid_r_ph : isKid ['r'] phoneticPr = false := by simp [phoneticPr, isKid_elem, localName_plain]
theorem isKid_t_rPr : isKid ['t'] (Node.elem ['r', 'P', 'r'] [] []) = false := by simp [isKid_elem, localName_plain]

theorem kids_t_runs (rs : List Run) : (rs.map rElem).filter (isKid ['t']) = [] :=
  List.filter_eq_nil_iff.2 (by simp [isKid_t_rElem])

theorem kids_r_runs (rs : List Run) : (rs.map rElem).filter (isKid ['r']) = rs.map rElem :=
  List.filter_eq_self.2 (by simp [isKid_r_rElem])

theorem runText (r : Run) : ((rElem r).kids "t").flatMap (·.ownText) = r.text := by
  obtain ⟨t, f⟩ := r
  cases f <;> simp [kids_eq, toList_lit, rElem, Node.children, isKid_t_tElem, isKid_t_rPr] <;> simp [tElem, ownText_txt]

theorem runsText (rs : List Run) : (rs.map rElem).flatMap (fun r => (r.kids "t").flatMap (·.ownText)) = richText rs := by
  rw [List.flatMap_map]; simp only [runText]; rfl

theorem rstText_siElem (it : Item) : rstText (siElem it) = itemText it := by
  obtain ⟨t, r⟩ := it
  unfold rstText
  rw [kids_eq, kids_eq, toList_lit, toList_lit]
  cases t <;> cases r <;>
    simp only [siElem, Node.children, List.filter_append, List.filter_cons, List.filter_nil, isKid_t_tElem, isKid_r_tElem,
      isKid_t_ph, isKid_r_ph, kids_t_runs, kids_r_runs, runsText, itemText, List.nil_append, List.append_nil,
      List.flatMap_nil, List.flatMap_cons, if_true, Bool.false_eq_true, if_false]
  all_goals simp [tElem, ownText_txt, richText]

theorem isKid_si_siElem (it : Item) : isKid ['s', 'i'] (siElem it) = true := by simp [siElem, isKid_elem, localName_plain]

theorem kids_si (tbl : Table) : (tbl.map siElem).filter (isKid ['s', 'i']) = tbl.map siElem :=
  List.filter_eq_self.2 (by simp [isKid_si_siElem])

theorem sstNode_texts (tbl : Table) :
    ∃ root, sstNode (tbl.map siOf) = some root ∧ (root.kids "si").map rstText = tbl.map itemText := by
  refine ⟨Node.elem ['s', 's', 't'] [] (tbl.map siElem), by simp [sstNode, mapOpt_map siNode siOf siElem tbl fun it _ => siNode_siOf it], ?_⟩
  rw [kids_eq, toList_lit]
  simp only [Node.children, kids_si, List.map_map]
  apply List.map_congr_left
  intro it _
  exact rstText_siElem it

theorem sharedStrings_written (tbl : Table) :
    ∃ pkg, sstParts (tbl.map siOf) = some pkg ∧ sharedStrings pkg sstPath = tbl.map itemText := by
  by_cases h : tbl = []
  · subst h
    exact ⟨[], by simp [sstParts], by simp [sharedStrings, Umya.Spec.Sml.Package.part?]⟩
  · obtain ⟨root, h1, h2⟩ := sstNode_texts tbl
    refine ⟨[{ name := sstPath, xml := some root, isXml := true }], by simp [sstParts, h, h1], ?_⟩
    simp [sharedStrings, Umya.Spec.Sml.Package.part?, h2]

theorem natOf_decDigits (n : Nat) : natOf (decDigits n) = some n := by
  unfold natOf
  rw [if_pos ⟨decDigits_ne_nil n, decDigits_all_charDigit n⟩, foldl_decDigits]

def fKids (fo : Option (List Char)) : List Node :=
  match fo with | some f => [Node.elem ['f'] [] (txt f)] | none => []

def vKids (ov : Option (List Char)) : List Node :=
  match ov with | some v => [Node.elem ['v'] [] (txt v)] | none => []

/-- closed form of a rendered `<c>`: reference, `t` (absent when empty), style, the VALUE of the formula
    text and of the `<v>` content (`none` = no such child) -/
def cElem (ref t : List Char) (styled : Bool) (xf : Nat) (fo ov : Option (List Char)) : Node :=
  Node.elem ['c']
    (⟨['r'], ref⟩ :: (if t = [] then [] else [⟨['t'], t⟩]) ++ (if styled then [⟨['s'], decDigits xf⟩] else []))
    (fKids fo ++ vKids ov)

theorem vNodes_absent : vNodes .absent = some (vKids none) := rfl
theorem vNodes_emptyTag : vNodes .emptyTag = some (vKids (some [])) := rfl
theorem vNodes_written {g : List Char → List Char} (hg : ∀ s, charData (g s) = some (txt s)) (s : List Char) :
    vNodes (.text (g s)) = some (vKids (some s)) := by
  simp [vNodes, vKids, textElem, hg]
theorem fNodes_write (fo : Option (List Char)) : fNodes (fo.map partialEscape) = some (fKids fo) := by
  cases fo <;> simp [fNodes, fKids, textElem_written charData_partialEscape]

theorem cellNode_written (xf : Nat) {ref t : List Char} {styled : Bool} {fo : Option (List Char)} {vx : VNode}
    {ov : Option (List Char)} (hv : vNodes vx = some (vKids ov)) :
    cellNode xf { ref := ref, t := t, styled := styled, f := fo.map partialEscape, v := vx } = some (cElem ref t styled xf fo ov) := by
  unfold cellNode cellAttrs cElem
  by_cases ht : t = [] <;> cases styled <;> simp [ht, attrOf_eq, fNodes_write, hv, isNodes]

/-- a rendered `<c>` is an element named `c` whose first attribute is `r` -/
def IsC (k : Node) : Prop := ∃ ref as ks, k = Node.elem ['c'] (⟨['r'], ref⟩ :: as) ks

theorem cellNode_isC (xf : Nat) (cx : CellX) (n : Node) (h : cellNode xf cx = some n) : IsC n := by
  simp only [cellNode, cellAttrs, attrOf_eq, Option.bind_some, Option.bind_eq_some_iff] at h
  obtain ⟨as, ⟨t, _, s, _, ha⟩, f, _, v, _, i, _, hn⟩ := h
  cases ha
  cases hn
  exact ⟨cx.ref, t ++ s, _, rfl⟩

theorem attr_r (ref t : List Char) (styled : Bool) (xf : Nat) (fo ov : Option (List Char)) :
    (cElem ref t styled xf fo ov).attr? ['r'] = some ref := by
  simp [cElem, Node.attr?, Node.attrs]

theorem attr_t (ref t : List Char) (styled : Bool) (xf : Nat) (fo ov : Option (List Char)) :
    (cElem ref t styled xf fo ov).attr? ['t'] = if t = [] then none else some t := by
  by_cases ht : t = [] <;> cases styled <;> simp [cElem, Node.attr?, Node.attrs, ht]

theorem attr_s (ref t : List Char) (styled : Bool) (xf : Nat) (fo ov : Option (List Char)) :
    (cElem ref t styled xf fo ov).attr? ['s'] = if styled then some (decDigits xf) else none := by
  by_cases ht : t = [] <;> cases styled <;> simp [cElem, Node.attr?, Node.attrs, ht]

theorem kids_f (ref t : List Char) (styled : Bool) (xf : Nat) (fo ov : Option (List Char)) :
    (cElem ref t styled xf fo ov).kids "f" = fKids fo := by
  rw [kids_eq, toList_lit]
  cases fo <;> cases ov <;> simp [cElem, Node.children, fKids, vKids, isKid_elem, localName_plain]

theorem kids_v (ref t : List Char) (styled : Bool) (xf : Nat) (fo ov : Option (List Char)) :
    (cElem ref t styled xf fo ov).kids "v" = vKids ov := by
  rw [kids_eq, toList_lit]
  cases fo <;> cases ov <;> simp [cElem, Node.children, fKids, vKids, isKid_elem, localName_plain]

theorem kids_is (ref t : List Char) (styled : Bool) (xf : Nat) (fo ov : Option (List Char)) :
    (cElem ref t styled xf fo ov).kids "is" = [] := by
  rw [kids_eq, toList_lit]
  cases fo <;> cases ov <;> simp [cElem, Node.children, fKids, vKids, isKid_elem, localName_plain]

theorem kid_v (ref t : List Char) (styled : Bool) (xf : Nat) (fo ov : Option (List Char)) :
    ((cElem ref t styled xf fo ov).kid? "v").map (·.ownText) = ov := by
  rw [Node.kid?, kids_v]
  cases ov <;> simp [vKids, ownText_txt]

theorem kid_f (ref t : List Char) (styled : Bool) (xf : Nat) (fo ov : Option (List Char)) :
    ((cElem ref t styled xf fo ov).kid? "f").map (·.ownText) = fo := by
  rw [Node.kid?, kids_f]
  cases fo <;> simp [fKids, ownText_txt]

theorem kid_f_shared (ref t : List Char) (styled : Bool) (xf : Nat) (fo ov : Option (List Char)) (g : Node → Option Nat) :
    ((cElem ref t styled xf fo ov).kid? "f").bind
      (fun fe => if fe.attr? ['t'] = some ['s', 'h', 'a', 'r', 'e', 'd'] then g fe else none) = none := by
  rw [Node.kid?, kids_f]
  cases fo <;> simp [fKids, Node.attr?, Node.attrs]

theorem lit_n : "n".toList = ['n'] := rfl
theorem lit_shared : "shared".toList = ['s', 'h', 'a', 'r', 'e', 'd'] := rfl

theorem style_dec (styled : Bool) (xf : Nat) :
    ((if styled = true then some (decDigits xf) else none).bind natOf).getD 0 = if styled = true then xf else 0 := by
  cases styled <;> simp [natOf_decDigits]

/-- the types whose `<v>` content is the value as it stands: none (the default `n`, §18.3.1.4), `str`, `e` -/
theorem decode_cElem_plain {sst : List (List Char)} {ref : List Char} {styled : Bool} {xf : Nat} {fo ov : Option (List Char)}
    {t : List Char} (k : String) (h : (t, k) ∈ [([], "n"), (['s', 't', 'r'], "s"), (['e'], "e")]) :
    decodeCell sst (cElem ref t styled xf fo ov) =
      ({ ref := ref, kind := if ov.isSome then k else "", value := ov.getD [], formula := fo,
         style := if styled then xf else 0, shared := none }, []) := by
  unfold decodeCell
  rw [toList_lit ['r'], toList_lit ['t'], lit_s, lit_shared, attr_r, attr_t, attr_s, kid_v, kid_f, kid_f_shared, style_dec]
  simp only [List.mem_cons, List.not_mem_nil, or_false, Prod.mk.injEq] at h
  rcases h with ⟨rfl, rfl⟩ | ⟨rfl, rfl⟩ | ⟨rfl, rfl⟩ <;> rfl

theorem decode_cElem_s {sst : List (List Char)} {ref : List Char} {styled : Bool} {xf : Nat} {fo : Option (List Char)}
    {i : Nat} {s : List Char} (hi : sst[i]? = some s) :
    decodeCell sst (cElem ref ['s'] styled xf fo (some (decDigits i))) =
      ({ ref := ref, kind := "s", value := s, formula := fo, style := if styled then xf else 0, shared := none }, []) := by
  unfold decodeCell
  rw [toList_lit ['r'], toList_lit ['t'], lit_s, lit_shared, attr_r, attr_t, attr_s, kid_v, kid_f, kid_f_shared, style_dec]
  simp only [Option.bind_some, natOf_decDigits, hi]
  rfl

theorem decode_cElem_b (sst : List (List Char)) (ref : List Char) (styled : Bool) (xf : Nat) (fo : Option (List Char)) (b : Bool) :
    decodeCell sst (cElem ref ['b'] styled xf fo (some (if b then ['1'] else ['0']))) =
      ({ ref := ref, kind := "b", value := if b then ['T', 'R', 'U', 'E'] else ['F', 'A', 'L', 'S', 'E'], formula := fo,
         style := if styled then xf else 0, shared := none }, []) := by
  unfold decodeCell
  rw [toList_lit ['r'], toList_lit ['t'], lit_s, lit_shared, attr_r, attr_t, attr_s, kid_v, kid_f, kid_f_shared, style_dec]
  cases b <;> rfl

theorem tAttrOf_s : tAttrOf tS = ['s'] := by decide
theorem tAttrOf_str : tAttrOf tSTR = ['s', 't', 'r'] := by decide
theorem tAttrOf_b : tAttrOf tB = ['b'] := by decide
theorem tAttrOf_e : tAttrOf tE = ['e'] := by decide
theorem tAttrOf_n : tAttrOf Umya.CellXml.tN = [] := by decide

section
variable (F : NumFmt)

/-- what the decoder must find for a value and a formula -/
def viewAt (ref : List Char) (styled : Bool) (xf : Nat) (raw : RawValue F.Num) (fo : Option (List Char)) : CellV :=
  { ref := ref, kind := fileKind F raw fo, value := valueText F raw, formula := fo, style := if styled then xf else 0 }

theorem itemText_interned (tbl : Table) (it : Item) (sst : Table) (hext : Extends sst (intern tbl it).1) :
    (sst.map itemText)[(intern tbl it).2]? = some (itemText it) := by
  have hs := hext _ _ (intern_spec tbl it).2
  simp [hs]

theorem writeV_decodes (tbl : Table) (raw : RawValue F.Num) (fo : Option (List Char))
    (hnl : raw.isLazy = false) (hne : ¬ (raw.isEmpty = true ∧ fo.isNone = true)) :
    ∃ ov, vNodes (writeV F tbl (dataTypeOf F raw fo) raw).2 = some (vKids ov) ∧
      ∀ (sst : Table) (ref : List Char) (styled : Bool) (xf : Nat),
        Extends sst (writeV F tbl (dataTypeOf F raw fo) raw).1 →
        decodeCell (sst.map itemText) (cElem ref (tAttrOf (dataTypeOf F raw fo)) styled xf fo ov)
          = (viewAt F ref styled xf raw fo, []) := by
  cases raw with
  | empty =>
    cases fo with
    | none => exact absurd ⟨rfl, rfl⟩ hne
    | some f =>
      refine ⟨some [], vNodes_emptyTag, fun sst ref styled xf _ => ?_⟩
      rw [show dataTypeOf F (.empty : RawValue F.Num) (some f) = tSTR from rfl, tAttrOf_str, decode_cElem_plain "s" (by simp)]
      rfl
  | str s =>
    cases fo with
    | none =>
      rw [show dataTypeOf F (.str s : RawValue F.Num) none = tS from rfl, writeV_shared F tbl _ rfl]
      refine ⟨_, vNodes_written charData_escape _, fun sst ref styled xf hext => ?_⟩
      rw [tAttrOf_s, decode_cElem_s (itemText_interned tbl _ sst hext)]
      simp [viewAt, fileKind, valueText, itemText, itemOf, getText, getRich]
    | some f =>
      rw [show dataTypeOf F (.str s : RawValue F.Num) (some f) = tSTR from rfl, writeV_str]
      refine ⟨some s, vNodes_written charData_partialEscape _, fun sst ref styled xf _ => ?_⟩
      rw [tAttrOf_str, decode_cElem_plain "s" (by simp)]
      rfl
  | rich rs =>
    -- with or without a formula: a shared-string item (fix 5)
    rw [dataTypeOf_rich, writeV_shared F tbl _ rfl]
    refine ⟨_, vNodes_written charData_escape _, fun sst ref styled xf hext => ?_⟩
    rw [tAttrOf_s, decode_cElem_s (itemText_interned tbl _ sst hext)]
    cases fo <;> rfl
  | num n =>
    rw [dataTypeOf_num, writeV_num]
    refine ⟨some (F.fmt n), vNodes_written charData_partialEscape _, fun sst ref styled xf _ => ?_⟩
    rw [tAttrOf_n, decode_cElem_plain "n" (by simp)]
    cases fo <;> rfl
  | bool b =>
    rw [dataTypeOf_bool, writeV_bool]
    refine ⟨_, vNodes_written charData_escape _, fun sst ref styled xf _ => ?_⟩
    rw [tAttrOf_b, decode_cElem_b]
    cases b <;> cases fo <;> rfl
  | err e =>
    rw [dataTypeOf_err, writeV_err]
    refine ⟨some e.text, vNodes_written charData_escape _, fun sst ref styled xf _ => ?_⟩
    rw [tAttrOf_e, decode_cElem_plain "e" (by simp)]
    cases fo <;> rfl
  | lazy s => simp [RawValue.isLazy] at hnl

theorem writeCore_decodes (tbl : Table) (c : Cell F.Num) (hnl : c.raw.isLazy = false) (tbl' : Table) (cx : CellX)
    (h : writeCore F tbl c = some (tbl', some cx)) (xf : Nat) :
    1 ≤ c.col ∧ cx.ref = coordinateFromIndexWithLock c.col c.row false false ∧
    ∃ node, cellNode xf cx = some node ∧
      ∀ sst : Table, Extends sst tbl' → decodeCell (sst.map itemText) node = (fileViewCore F xf c, []) := by
  cases hb : blankCore F c with
  | true => rw [writeCore_blank F tbl hb] at h; cases h
  | false =>
    rcases Nat.eq_zero_or_pos c.col with hc | hc
    · rw [writeCore_col0 F tbl hb hc] at h; cases h
    · by_cases he : c.raw.isEmpty = true ∧ c.formula.isNone = true
      · rw [writeCore_bare F tbl hb hc he] at h
        cases h
        obtain ⟨col, row, raw, fo, styled⟩ := c
        obtain ⟨rfl, rfl⟩ := isEmpty_isNone_iff.1 he
        refine ⟨hc, rfl, cElem (coordinateFromIndexWithLock col row false false) [] styled xf none none,
          cellNode_written xf (fo := none) vNodes_absent, fun sst _ => ?_⟩
        rw [decode_cElem_plain "n" (by simp)]
        rfl
      · rw [writeCore_value F tbl hb hc he] at h
        cases h
        obtain ⟨ov, hv, hdec⟩ := writeV_decodes F tbl c.raw c.formula hnl he
        refine ⟨hc, rfl, cElem _ _ c.styled xf c.formula ov, cellNode_written xf hv, fun sst hx => ?_⟩
        rw [dataTypeCrate, hdec sst _ c.styled xf hx]
        rfl

theorem writeTo_decodes (tbl : Table) (c : Cell F.Num) (tbl' : Table) (cx : CellX)
    (h : writeTo F tbl c = some (tbl', some cx)) (xf : Nat) :
    1 ≤ c.col ∧ cx.ref = coordinateFromIndexWithLock c.col c.row false false ∧
    ∃ node, cellNode xf cx = some node ∧
      ∀ sst : Table, Extends sst tbl' → decodeCell (sst.map itemText) node = (fileView F xf c, []) :=
  writeCore_decodes F tbl (Cell.resolved F c) (resolveRaw_not_lazy F c.raw) tbl' cx h xf

theorem writeCore_some (tbl : Table) (c : Cell F.Num) (tbl' : Table) (ox : Option CellX)
    (h : writeCore F tbl c = some (tbl', ox)) :
    (∃ ext, tbl' = tbl ++ ext) ∧ (ox = none ↔ blankCore F c = true) := by
  cases hb : blankCore F c with
  | true =>
    rw [writeCore_blank F tbl hb] at h
    cases h
    exact ⟨⟨[], by simp⟩, by simp⟩
  | false =>
    rcases Nat.eq_zero_or_pos c.col with hc | hc
    · rw [writeCore_col0 F tbl hb hc] at h; cases h
    · by_cases he : c.raw.isEmpty = true ∧ c.formula.isNone = true
      · rw [writeCore_bare F tbl hb hc he] at h
        cases h
        exact ⟨⟨[], by simp⟩, by simp⟩
      · rw [writeCore_value F tbl hb hc he] at h
        cases h
        exact ⟨(writeV_grows F tbl _ c.raw).imp fun _ h => h.1, by simp⟩

theorem writeTo_some (tbl : Table) (c : Cell F.Num) (tbl' : Table) (ox : Option CellX)
    (h : writeTo F tbl c = some (tbl', ox)) :
    (∃ ext, tbl' = tbl ++ ext) ∧ (ox = none ↔ blankUnstyled F c = true) :=
  writeCore_some F tbl (Cell.resolved F c) tbl' ox h

theorem fileView_resolved (xf : Nat) (c : Cell F.Num) : fileView F xf (Cell.resolved F c) = fileView F xf c := by
  unfold fileView; rw [resolved_idem]

theorem viewCells_resolved (xf : List Char → Nat) (cs : List (Cell F.Num)) :
    viewCells F xf (cs.map (Cell.resolved F)) = viewCells F xf cs := by
  simp only [viewCells, List.map_map]
  apply List.map_congr_left
  intro c _
  show (fileView F (xf _) (Cell.resolved F c), _) = _
  rw [fileView_resolved]; rfl

theorem extends_of_append {sst tbl ext : Table} (h : Extends sst (tbl ++ ext)) : Extends sst tbl := h.restrict

theorem writeCells_decodes (xf : List Char → Nat) (cs : List (Cell F.Num)) :
    ∀ (tbl tbl' : Table) (xs : List CellX), writeCells F tbl cs = some (tbl', xs) →
      (∃ ext, tbl' = tbl ++ ext) ∧
      ∃ nodes, renderCells xf xs = some nodes ∧
        ∀ sst : Table, Extends sst tbl' →
          nodes.map (decodeCell (sst.map itemText)) = viewCells F xf (cs.filter (fun c => !blankUnstyled F c)) := by
  induction cs with
  | nil =>
    intro tbl tbl' xs h
    cases h
    exact ⟨⟨[], by simp⟩, [], rfl, fun _ _ => rfl⟩
  | cons c cs ih =>
    intro tbl t2 xs h
    obtain ⟨t1, ox, ys, hw, hws, rfl⟩ := writeCells_cons_some F h
    obtain ⟨⟨e2, he2⟩, nodes, hn, hd⟩ := ih t1 t2 ys hws
    obtain ⟨⟨e1, he1⟩, hblank⟩ := writeTo_some F tbl c t1 ox hw
    refine ⟨⟨e1 ++ e2, by rw [he2, he1, List.append_assoc]⟩, ?_⟩
    cases ox with
    | none =>
      have hb : blankUnstyled F c = true := hblank.1 rfl
      refine ⟨nodes, by simpa [consOpt] using hn, ?_⟩
      intro sst hx
      simp only [List.filter_cons, hb, Bool.not_true, Bool.false_eq_true, if_false]
      exact hd sst hx
    | some cx =>
      have hb : blankUnstyled F c = false := Bool.eq_false_iff.2 fun hbb => nomatch hblank.2 hbb
      obtain ⟨_, href, node, hnode, hdec⟩ := writeTo_decodes F tbl c t1 cx hw (xf cx.ref)
      refine ⟨node :: nodes, ?_, ?_⟩
      · simp only [renderCells, consOpt, mapOpt, hnode]
        simp only [renderCells] at hn
        rw [hn]
      · intro sst hx
        have hx1 : Extends sst t1 := by rw [he2] at hx; exact hx.restrict
        simp only [List.filter_cons, hb, Bool.not_false, if_true, List.map_cons, viewCells]
        rw [hdec sst hx1, ← href]
        have := hd sst hx
        simp only [viewCells] at this
        rw [this]

theorem writeSheets_decodes (xf : Nat → List Char → Nat) (sheets : List (List (Cell F.Num))) :
    ∀ (k : Nat) (tbl tbl' : Table) (xss : List (List CellX)), writeSheets F tbl sheets = some (tbl', xss) →
      (∃ ext, tbl' = tbl ++ ext) ∧
      ∃ nodess, renderSheets xf k xss = some nodess ∧
        ∀ sst : Table, Extends sst tbl' →
          nodess.map (fun ns => ns.map (decodeCell (sst.map itemText))) = viewSheets F xf k (normalize F sheets) := by
  induction sheets with
  | nil =>
    intro k tbl tbl' xss h
    cases h
    exact ⟨⟨[], by simp⟩, [], rfl, fun _ _ => rfl⟩
  | cons s ss ih =>
    intro k tbl t2 xss h
    obtain ⟨t1, xs, yss, hw, hws, rfl⟩ := writeSheets_cons_some F h
    obtain ⟨⟨e1, he1⟩, nodes, hn, hd⟩ := writeCells_decodes F (xf k) s tbl t1 xs hw
    obtain ⟨⟨e2, he2⟩, nodess, hns, hds⟩ := ih (k + 1) t1 t2 yss hws
    refine ⟨⟨e1 ++ e2, by rw [he2, he1, List.append_assoc]⟩, nodes :: nodess, by simp [renderSheets, hn, hns], ?_⟩
    intro sst hx
    have hx1 : Extends sst t1 := by rw [he2] at hx; exact hx.restrict
    simp only [List.map_cons, normalize, viewSheets, viewCells_resolved]
    rw [hd sst hx1]
    have := hds sst hx
    simp only [normalize] at this
    rw [this]

theorem writeBook_decodes (light : Bool) (sheets : List (List (Cell F.Num))) (b : BookX)
    (h : writeBook F light sheets = some b) (xf : Nat → List Char → Nat) :
    ∃ pkg nodess, sstParts b.sst = some pkg ∧ renderSheets xf 0 b.sheets = some nodess ∧
      nodess.map (fun ns => ns.map (decodeCell (sharedStrings pkg sstPath))) = viewSheets F xf 0 (normalize F sheets) := by
  unfold writeBook at h
  cases hw : writeSheets F [] sheets with
  | none => simp [hw] at h
  | some p =>
    obtain ⟨t, xss⟩ := p
    simp only [hw] at h
    injection h with h
    subst h
    obtain ⟨_, nodess, hn, hd⟩ := writeSheets_decodes F xf sheets 0 [] t xss hw
    obtain ⟨pkg, hp, hs⟩ := sharedStrings_written t
    refine ⟨pkg, nodess, hp, hn, ?_⟩
    rw [hs]
    exact hd t (fun _ _ hi => hi)

theorem writeCore_total (tbl : Table) (c : Cell F.Num) (hc : 1 ≤ c.col) : ∃ tbl' ox, writeCore F tbl c = some (tbl', ox) := by
  cases hb : blankCore F c with
  | true => exact ⟨_, _, writeCore_blank F tbl hb⟩
  | false =>
    by_cases he : c.raw.isEmpty = true ∧ c.formula.isNone = true
    · exact ⟨_, _, writeCore_bare F tbl hb hc he⟩
    · exact ⟨_, _, writeCore_value F tbl hb hc he⟩

theorem writeTo_total (tbl : Table) (c : Cell F.Num) (hc : 1 ≤ c.col) : ∃ tbl' ox, writeTo F tbl c = some (tbl', ox) :=
  writeCore_total F tbl (Cell.resolved F c) hc

theorem writeCells_total (cs : List (Cell F.Num)) (hc : ∀ c ∈ cs, 1 ≤ c.col) :
    ∀ tbl : Table, ∃ tbl' xs, writeCells F tbl cs = some (tbl', xs) := by
  induction cs with
  | nil => intro tbl; exact ⟨tbl, [], rfl⟩
  | cons c cs ih =>
    intro tbl
    obtain ⟨t1, ox, hw⟩ := writeTo_total F tbl c (hc c (by simp))
    obtain ⟨t2, xs, hws⟩ := ih (fun d hd => hc d (by simp [hd])) t1
    exact ⟨t2, consOpt ox xs, by simp [writeCells, hw, hws]⟩

theorem writeSheets_total (sheets : List (List (Cell F.Num))) (hc : ∀ s ∈ sheets, ∀ c ∈ s, 1 ≤ c.col) :
    ∀ tbl : Table, ∃ tbl' xss, writeSheets F tbl sheets = some (tbl', xss) := by
  induction sheets with
  | nil => intro tbl; exact ⟨tbl, [], rfl⟩
  | cons s ss ih =>
    intro tbl
    obtain ⟨t1, xs, hw⟩ := writeCells_total F s (hc s (by simp)) tbl
    obtain ⟨t2, xss, hws⟩ := ih (fun s' hs' => hc s' (by simp [hs'])) t1
    exact ⟨t2, xs :: xss, by simp [writeSheets, hw, hws]⟩

theorem writeBook_total (light : Bool) (sheets : List (List (Cell F.Num))) (hc : ∀ s ∈ sheets, ∀ c ∈ s, 1 ≤ c.col) :
    ∃ b, writeBook F light sheets = some b := by
  obtain ⟨t, xss, hw⟩ := writeSheets_total F sheets hc []
  exact ⟨{ sheets := xss, sst := t.map siOf }, by simp [writeBook, hw]⟩

theorem viewSheets_get (xf : Nat → List Char → Nat) (css : List (List (Cell F.Num))) :
    ∀ (k i : Nat), (viewSheets F xf k css)[i]? = (css[i]?).map (viewCells F (xf (k + i))) := by
  induction css with
  | nil => intro k i; simp [viewSheets]
  | cons cs css ih =>
    intro k i
    cases i with
    | zero => simp [viewSheets]
    | succ i =>
      simp only [viewSheets, List.getElem?_cons_succ]
      rw [ih (k + 1) i]
      have : k + 1 + i = k + (i + 1) := by omega
      rw [this]

end

end Umya.CellNode
