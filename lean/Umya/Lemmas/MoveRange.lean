/-
  `move_or_copy_range` in three stages: collect the source cells, clear (move only), paste.
  No coherence is needed for the primitives `removeCell`, `setCell`: `lookup` finds the first entry of a key,
  `replaceKey` rewrites the first entry, `eraseKey` drops all of them.
-/
import Umya.Lemmas.Observers
import Umya.Lemmas.Refine
namespace Umya.Sheet
open Umya.Spec.Grid

theorem lookup_eraseKey (k k' : Key) (l : List (Key × CellM)) :
    lookup k (eraseKey k' l) = if k = k' then none else lookup k l := by
  have h := lookup_filter_key (fun x => decide (x ≠ k')) l k
  unfold eraseKey
  rw [h]
  simp only [decide_not, Bool.not_eq_true', decide_eq_false_iff_not, ite_not]

theorem lookup_append_single_ne (k k' : Key) (c : CellM) (l : List (Key × CellM)) (h : k ≠ k') :
    lookup k (l ++ [(k', c)]) = lookup k l := by
  rw [lookup_eq_find, lookup_eq_find, List.find?_append, List.find?_cons_of_neg (by simpa using Ne.symm h)]
  simp

theorem lookup_replaceKey (k k' : Key) (c : CellM) (l : List (Key × CellM)) :
    lookup k (replaceKey k' c l) = if k = k' ∧ (lookup k l).isSome then some c else lookup k l := by
  induction l with
  | nil => simp [replaceKey, lookup]
  | cons p r ih =>
    obtain ⟨k'', c''⟩ := p
    simp only [replaceKey]
    by_cases e1 : k'' = k'
    · subst e1
      by_cases e2 : k'' = k
      · subst e2; simp [lookup]
      · simp [lookup, e2, Ne.symm e2]
    · rw [if_neg e1]
      by_cases e2 : k'' = k
      · subst e2; simp [lookup, e1]
      · simp only [lookup, e2, if_false, ih]

theorem content_removeCell (s : Sheet) (col row r c : Nat) :
    content (removeCell s col row) r c = if (r, c) = (row, col) then none else content s r c := by
  unfold removeCell
  split
  · simp only [content, lookup_eraseKey, apply_ite (Option.map _), Option.map_none]
  · rename_i hnone
    by_cases e : (r, c) = (row, col)
    · simp only [content, e, if_true, hnone, Option.map_none]
    · simp [e]

theorem getMut_lookup (s : Sheet) (col row : Nat) :
    (lookup (row, col) (getMut s col row).cells).isSome ∧
    ∀ k, k ≠ (row, col) → lookup k (getMut s col row).cells = lookup k s.cells := by
  have e0 : (ensureCol (ensureRow s row) col).cells = s.cells := by
    rw [(ensureCol_eq _ col).1, (ensureRow_eq s row).1]
  unfold getMut
  simp only
  split
  · rename_i c hc
    exact ⟨by rw [hc]; rfl, fun k _ => congrArg (lookup k) e0⟩
  · refine ⟨by rw [lookup_isSome_iff]; simp, fun k h => ?_⟩
    simp only [e0]
    exact lookup_append_single_ne k (row, col) _ s.cells h

theorem content_setCell (s : Sheet) (col row v sty r c : Nat) :
    content (setCell s col row v sty) r c = if (r, c) = (row, col) then some (v, sty) else content s r c := by
  obtain ⟨hhas, hoth⟩ := getMut_lookup s col row
  unfold setCell modify
  generalize getMut s col row = t at hhas hoth
  split
  · rename_i c0 hc0
    simp only [content, lookup_replaceKey]
    by_cases e : (r, c) = (row, col)
    · have : (r, c) = (row, col) ∧ (lookup (r, c) t.cells).isSome = true := ⟨e, by rw [e, hc0]; rfl⟩
      rw [if_pos this, if_pos e]; rfl
    · simp only [e, false_and, if_false, hoth _ e]
  · rename_i hnone
    rw [hnone] at hhas
    simp at hhas

/-- the result at `(r, c)` is the one value `v` on which all the writers agree -/
theorem content_foldl {α} {f : Sheet → α → Sheet} (E : α → Prop) [DecidablePred E] (w : α → Option (Nat × Nat))
    (r c : Nat) (hf : ∀ s x, content (f s x) r c = if E x then w x else content s r c)
    (l : List α) (s : Sheet) (v : Option (Nat × Nat)) (hv : ∀ x ∈ l, E x → w x = v) :
    content (l.foldl f s) r c = if ∃ x ∈ l, E x then v else content s r c := by
  induction l generalizing s with
  | nil => simp
  | cons x xs ih =>
    rw [List.foldl_cons, ih _ fun y hy => hv y (List.mem_cons_of_mem _ hy), hf]
    simp only [List.mem_cons, or_and_right, exists_or, exists_eq_left]
    by_cases hx : E x
    · rw [if_pos hx, if_pos (Or.inl hx), hv x (List.mem_cons_self ..) hx, ite_self]
    · simp only [hx, if_false, false_or]

theorem mem_range (lo hi x : Nat) : x ∈ range lo hi ↔ lo ≤ x ∧ x ≤ hi := by
  simp only [range, List.mem_map, List.mem_range]
  constructor
  · rintro ⟨a, ha, rfl⟩; omega
  · rintro ⟨h1, h2⟩; exact ⟨x - lo, by omega, by omega⟩

theorem mem_rectPositions {rs re cs ce : Nat} {p : Key} :
    p ∈ rectPositions rs re cs ce ↔ rs ≤ p.1 ∧ p.1 ≤ re ∧ cs ≤ p.2 ∧ p.2 ≤ ce := by
  obtain ⟨r, c⟩ := p
  simp only [rectPositions, List.mem_flatMap, List.mem_map, mem_range, Prod.mk.injEq]
  constructor
  · rintro ⟨a, ha, b, hb, rfl, rfl⟩; omega
  · intro h; exact ⟨r, by omega, c, by omega, rfl, rfl⟩

/-- the clean-up pass of a move: every position of the source rectangle and its image -/
def clearRect (s : Sheet) (rs re cs ce : Nat) (dr dc : Int) : Sheet :=
  (rectPositions rs re cs ce).foldl (fun s p =>
    removeCell (removeCell s p.2 p.1) (((p.2 : Int) + dc).toNat) (((p.1 : Int) + dr).toNat)) s

/-- the paste stage; `clearRect`, `paste` and `copiesOf` name the pieces of `moveOrCopy` (`moveOrCopy_eq`, by `rfl`) -/
def paste (s : Sheet) (copies : List CellM) (dr dc : Int) : Sheet :=
  copies.foldl (fun s c => setCell s (((c.col : Int) + dc).toNat) (((c.row : Int) + dr).toNat) c.val c.sty) s

/-- what `collectCells` returns on a coherent store (`collectCells_eq`) -/
def copiesOf (s : Sheet) (coords : List Key) : List CellM := coords.filterMap (fun k => lookup (k.2, k.1) s.cells)

/-- the guard in the model's own literals: 16384 and 1048576 are `maxCol` and `maxRow` of `Spec.Grid` -/
theorem moveOrCopy_eq (s : Sheet) (rs re cs ce : Nat) (dr dc : Int) (mv : Bool) :
    moveOrCopy s rs re cs ce dr dc mv =
      if (cs : Int) + dc < 1 ∨ (rs : Int) + dr < 1 ∨ (ce : Int) + dc > 16384 ∨ (re : Int) + dr > 1048576 then .panic
      else match coordsInRange s rs re cs ce with
        | .panic => .panic
        | .ok coords => match collectCells s rs re cs ce coords with
          | .panic => .panic
          | .ok copies => .ok (paste (if mv then clearRect s rs re cs ce dr dc else s) copies dr dc) := rfl

theorem copiesOf_spec (s : Sheet) (h : Coherent s) (rs re cs ce : Nat) (coords : List Key)
    (hok : coordsInRange s rs re cs ce = .ok coords) :
    (∀ x ∈ copiesOf s coords, lookup (x.row, x.col) s.cells = some x ∧ rs ≤ x.row ∧ x.row ≤ re ∧ cs ≤ x.col ∧ x.col ≤ ce) ∧
    (∀ r c x, lookup (r, c) s.cells = some x → rs ≤ r → r ≤ re → cs ≤ c → c ≤ ce → x ∈ copiesOf s coords) := by
  obtain ⟨_, hmem⟩ := coordsInRange_spec s h rs re cs ce coords hok
  constructor
  · intro x hx
    obtain ⟨k, hk, hl⟩ := List.mem_filterMap.1 hx
    have hk' := (hmem (k.2, k.1)).1 (by simpa [swap] using hk)
    have hco := h.coord _ (lookup_some_mem hl)
    simp only at hco hk'
    rw [hco.1, hco.2]
    exact ⟨hl, hk'.2⟩
  · intro r c x hl h1 h2 h3 h4
    have hin : (r, c) ∈ keysOf s := lookup_isSome_iff.1 (by rw [hl]; rfl)
    have := (hmem (r, c)).2 ⟨hin, h1, h2, h3, h4⟩
    exact List.mem_filterMap.2 ⟨swap (r, c), this, hl⟩

theorem content_clearRect_eq (s : Sheet) (rs re cs ce : Nat) (dr dc : Int) (r c : Nat) :
    content (clearRect s rs re cs ce dr dc) r c =
      if ∃ p ∈ rectPositions rs re cs ce, (r, c) = (((p.1 : Int) + dr).toNat, ((p.2 : Int) + dc).toNat) ∨ (r, c) = (p.1, p.2)
      then none else content s r c :=
  content_foldl _ (fun _ => none) r c
    (fun s p => by
      rw [content_removeCell, content_removeCell]
      by_cases h1 : (r, c) = (((p.1 : Int) + dr).toNat, ((p.2 : Int) + dc).toNat)
      · rw [if_pos h1, if_pos (Or.inl h1)]
      · simp only [h1, if_false, false_or])
    _ s none fun _ _ _ => rfl

theorem content_paste_eq (s1 : Sheet) (copies : List CellM) (dr dc : Int) (r c : Nat) (v : Option (Nat × Nat))
    (hv : ∀ y ∈ copies, (r, c) = (((y.row : Int) + dr).toNat, ((y.col : Int) + dc).toNat) → some (y.val, y.sty) = v) :
    content (paste s1 copies dr dc) r c =
      if ∃ y ∈ copies, (r, c) = (((y.row : Int) + dr).toNat, ((y.col : Int) + dc).toNat) then v
      else content s1 r c :=
  content_foldl (fun y : CellM => (r, c) = (((y.row : Int) + dr).toNat, ((y.col : Int) + dc).toNat))
    (fun y => some (y.val, y.sty)) r c (fun s _ => content_setCell s _ _ _ _ r c) copies s1 v hv

end Umya.Sheet
