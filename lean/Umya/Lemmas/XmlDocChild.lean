/-
  A childless element written (with `write_start_tag(.., true)`) among the children of a part's root element is, for
  the independent XML reader applied to the CHARACTERS of the part, the first child element of that local name —
  whatever other writer calls come before and after it (texts, new lines, elements), as long as no earlier sibling
  element has that local name.
-/
import Umya.Lemmas.XmlWriteParse
namespace Umya.XmlWrite
open Umya.Spec.Xml (Node Attr pushText localName)

theorem normKidsAcc_append : ∀ (a b acc : List Node), normKidsAcc acc (a ++ b) = normKidsAcc (normKidsAcc acc a) b
  | [], b, acc => by simp [normKidsAcc]
  | .text s :: r, b, acc => by simp only [List.cons_append, normKidsAcc]; exact normKidsAcc_append r b _
  | .elem n as ks :: r, b, acc => by simp only [List.cons_append, normKidsAcc]; exact normKidsAcc_append r b _

def isKid (key : List Char) (y : Node) : Bool := y.isElem && localName y.name = key

theorem isKid_pushP (key : List Char) (acc : List Node) (s : List Char) (h : ∀ y ∈ acc, isKid key y = false) :
    ∀ y ∈ pushP acc s, isKid key y = false := by
  unfold pushP
  split
  · exact h
  · unfold pushText
    split
    · intro y hy
      simp only [List.mem_cons] at hy
      rcases hy with rfl | hy
      · rfl
      · exact h y (List.mem_cons_of_mem _ hy)
    · intro y hy
      simp only [List.mem_cons] at hy
      rcases hy with rfl | hy
      · rfl
      · exact h y hy

theorem isKid_normKidsAcc (key : List Char) : ∀ (ks acc : List Node), (∀ y ∈ acc, isKid key y = false) →
    (∀ y ∈ ks, isKid key y = false) → ∀ y ∈ normKidsAcc acc ks, isKid key y = false
  | [], acc, ha, _ => by rw [normKidsAcc]; exact ha
  | .text s :: r, acc, ha, hk => by
    rw [normKidsAcc]
    exact isKid_normKidsAcc key r _ (isKid_pushP key acc s ha) (fun y hy => hk y (List.mem_cons_of_mem _ hy))
  | .elem n as ks :: r, acc, ha, hk => by
    rw [normKidsAcc]
    apply isKid_normKidsAcc key r _ _ (fun y hy => hk y (List.mem_cons_of_mem _ hy))
    intro y hy
    simp only [List.mem_cons] at hy
    rcases hy with rfl | hy
    · have := hk _ (List.mem_cons_self ..)
      exact this
    · exact ha y hy

/-- an element `e` in the accumulator and the list `A` below it stay as they are: text is merged only into the part `X` above -/
theorem pushP_elem_base (e : Node) (he : e.isElem = true) (X A : List Node) (s : List Char) :
    ∃ Y, pushP (X ++ e :: A) s = Y ++ e :: A := by
  unfold pushP
  split
  · exact ⟨X, rfl⟩
  · cases X with
    | nil =>
      cases e with
      | text t => simp [Node.isElem] at he
      | elem n as ks => exact ⟨[.text s], by simp [pushText]⟩
    | cons x X' =>
      cases x with
      | text t => exact ⟨.text (t ++ s) :: X', by simp [pushText]⟩
      | elem n as ks => exact ⟨.text s :: .elem n as ks :: X', by simp [pushText]⟩

theorem normKidsAcc_elem_base (e : Node) (he : e.isElem = true) (A : List Node) : ∀ (ks X : List Node),
    ∃ Y, normKidsAcc (X ++ e :: A) ks = Y ++ e :: A
  | [], X => ⟨X, by rw [normKidsAcc]⟩
  | .text s :: r, X => by
    rw [normKidsAcc]
    obtain ⟨Y, hY⟩ := pushP_elem_base e he X A s
    rw [hY]
    exact normKidsAcc_elem_base e he A r Y
  | .elem n as ks :: r, X => by
    rw [normKidsAcc]
    exact normKidsAcc_elem_base e he A r (_ :: X)

theorem kid_of_doc (rn : List Char) (ras : List Attr) (pre post : List WNode) (n : List Char) (as : List Attr)
    (key : String) (hkey : localName n = key.toList)
    (hwf : WF (.elem rn ras (pre ++ [.empty n as] ++ post)) = true)
    (hpre : ∀ y ∈ eraseKids pre, isKid key.toList y = false) :
    ∃ root, Umya.Spec.Xml.parse (renderDoc (.elem rn ras (pre ++ [.empty n as] ++ post))) = some root ∧
      root.kid? key = some (.elem n as []) := by
  refine ⟨_, Umya.XmlWrite.parse_renderDoc _ rfl hwf, ?_⟩
  -- split the children at the written element: it survives `normKidsAcc` in place (`normKidsAcc_elem_base`), and nothing
  -- delivered before it has the name (`isKid_normKidsAcc`)
  simp only [erase, normNode, normKids, eraseKids_append, eraseKids, List.append_assoc, List.cons_append, List.nil_append]
  rw [normKidsAcc_append, normKidsAcc]
  obtain ⟨Y, hY⟩ := normKidsAcc_elem_base (.elem n as (normKidsAcc [] []).reverse) rfl (normKidsAcc [] (eraseKids pre))
    (eraseKids post) []
  simp only [List.nil_append] at hY
  rw [hY]
  have hA := isKid_normKidsAcc key.toList (eraseKids pre) [] (by intro y hy; cases hy) hpre
  simp only [Node.kid?, Node.kids, Node.children, List.reverse_append, List.reverse_cons, List.append_assoc,
    List.filter_append, List.cons_append, List.nil_append]
  have hf : (normKidsAcc [] (eraseKids pre)).reverse.filter (fun c => c.isElem && decide (localName c.name = key.toList)) = [] := by
    rw [List.filter_eq_nil_iff]
    intro y hy
    have := hA y (List.mem_reverse.mp hy)
    simpa [isKid] using this
  rw [hf]
  simp [normKidsAcc, Node.isElem, Node.name, hkey]

end Umya.XmlWrite
