/-
  The three packages of `Umya/Model/PackageNode*.lean` (plain sheets, sheets with comments, sheets with comments and
  tables) have one shape: four fixed parts, the sheet parts, the parts the sheets bring along (VML, comments, tables),
  the sheet relationship parts, the shared strings, four more fixed parts.  `Pieces` is the record of what varies;
  `Package.part?` on `Pieces.pkg`, per part name, and the list of all its parts, classified.
-/
import Umya.Lemmas.PackageNodeParts
namespace Umya.PackageNode
open Umya.Xml Umya.CellXml Umya.CellNode Umya.SheetNode Umya.WorkbookNode Umya.Dec
open Umya.Spec.Xml (Node Attr)
open Umya.Spec.Sml

theorem find_of_nodup (l : List (List Char × Node)) (h : (l.map (·.1)).Nodup) (p : List Char × Node) (hp : p ∈ l) :
    (l.map fun p => xmlPart p.1 p.2).find? (fun x => x.name = String.ofList p.1) = some (xmlPart p.1 p.2) := by
  have hn : ((l.map fun p => xmlPart p.1 p.2).map Part.name).Nodup := by
    rw [List.map_map]
    exact nodup_map_of_finer h fun _ _ _ _ e => String.ofList_injective e
  exact find?_key_of_nodup Part.name _ hn _ (List.mem_map_of_mem hp)

theorem find_none_of_names (l : List (List Char × Node)) (nm : List Char) (h : nm ∉ l.map (·.1)) :
    (l.map fun p => xmlPart p.1 p.2).find? (fun x => x.name = String.ofList nm) = none := by
  apply List.find?_eq_none.2
  intro x hx
  obtain ⟨p, hp, rfl⟩ := List.mem_map.1 hx
  simp only [xmlPart, name_eq, decide_eq_true_eq]
  exact fun e => h (e ▸ List.mem_map_of_mem hp)

theorem part_isSome_of_mem {pkg : Package} {nm : List Char} (r : Node) (h : xmlPart nm r ∈ pkg) : (pkg.part? (String.ofList nm)).isSome = true := by
  unfold Package.part?
  rw [List.find?_isSome]
  exact ⟨_, h, by simp [xmlPart]⟩

/-- the shared-string part: absent for an empty table, else the rendered `<sst>` -/
def SstShape (tbl : Table) (sst : List Part) : Prop :=
  (tbl = [] ∧ sst = []) ∨ ∃ root, tbl ≠ [] ∧ sstNode (tbl.map siOf) = some root ∧ sst = [xmlPart nSst root]

theorem sstPartsP_shape (tbl : Table) (sst : List Part) (h : sstPartsP tbl = some sst) : SstShape tbl sst := by
  unfold sstPartsP at h
  split at h
  · cases h; exact .inl ⟨‹_›, rfl⟩
  · simp only [Option.map_eq_some_iff] at h
    obtain ⟨root, hr, rfl⟩ := h
    exact .inr ⟨root, ‹_›, hr, rfl⟩

theorem SstShape.mem {tbl : Table} {sst : List Part} (h : SstShape tbl sst) {p : Part} (hp : p ∈ sst) : ∃ root, p = xmlPart nSst root := by
  rcases h with ⟨_, rfl⟩ | ⟨root, _, _, rfl⟩
  · cases hp
  · exact ⟨root, List.mem_singleton.1 hp⟩

theorem sst_find_other (tbl : Table) (sst : List Part) (h : SstShape tbl sst) (nm : List Char) (hne : nSst ≠ nm) :
    sst.find? (fun x => x.name = String.ofList nm) = none :=
  List.find?_eq_none.2 fun p hp => by
    obtain ⟨root, rfl⟩ := h.mem hp
    simpa [xmlPart, name_eq] using hne

theorem ne_sheetPart_of_head {nm : List Char} (c : Char) (r : List Char) (h : nm = c :: r) (hc : c ≠ 'x') : ∀ i, sheetPartL i ≠ nm := by
  intro i e; rw [h] at e; simp only [sheetPartL, List.cons.injEq] at e; exact hc e.1.symm

/-- what varies between the packages: the six trees of the fixed parts that differ (`_rels/.rels` is the same in all, and
    `workbook.xml.rels` is determined by the number of sheets `n` and `hs`: a shared-string part is written), the
    `<worksheet>` trees, the parts the sheets bring along, per sheet its links and the relationships that follow them,
    the shared-string part -/
structure Pieces where
  app : Node
  core : Node
  theme : Node
  styles : Node
  workbook : Node
  contentTypes : Node
  n : Nat
  hs : Bool
  roots : List Node
  extra : List Part
  rels : List (List LinkW × List Node)
  sst : List Part

namespace Pieces
variable (q : Pieces)

def headL : List (List Char × Node) := [(nApp, q.app), (nCore, q.core), (nRootRels, rootRelsNode), (nTheme, q.theme)]
def tailL : List (List Char × Node) :=
  [(nStyles, q.styles), (nWorkbookPart, q.workbook), (nWorkbookRels, workbookRelsNode q.n (wbRelsRest q.n q.hs)), (nContentTypes, q.contentTypes)]

def pkg : Package :=
  (q.headL.map fun p => xmlPart p.1 p.2) ++ sheetParts 1 q.roots ++ q.extra ++ relsPartsG 1 q.rels ++ q.sst ++ (q.tailL.map fun p => xmlPart p.1 p.2)

/-- `tbl` is the FINAL shared-string table (after the last sheet); the parts the sheets bring along have `Foreign` names -/
structure OK (tbl : Table) : Prop where
  sst : SstShape tbl q.sst
  extra : ∀ p ∈ q.extra, ∃ nm r, p = xmlPart nm r ∧ Foreign nm

variable {q} {tbl : Table}

theorem part_eq (nm : List Char) :
    q.pkg.part? (String.ofList nm) =
      ((q.headL.map fun p => xmlPart p.1 p.2).find? (fun x => x.name = String.ofList nm)).or
       (((sheetParts 1 q.roots).find? (fun x => x.name = String.ofList nm)).or
        ((q.extra.find? (fun x => x.name = String.ofList nm)).or
         (((relsPartsG 1 q.rels).find? (fun x => x.name = String.ofList nm)).or
          ((q.sst.find? (fun x => x.name = String.ofList nm)).or
           ((q.tailL.map fun p => xmlPart p.1 p.2).find? (fun x => x.name = String.ofList nm)))))) := by
  simp only [pkg, Package.part?, List.find?_append, Option.or_assoc]

theorem extra_find_other (h : q.OK tbl) (nm : List Char) (hn : ¬ Foreign nm) : q.extra.find? (fun x => x.name = String.ofList nm) = none := by
  apply List.find?_eq_none.2
  intro p hp
  obtain ⟨a, r, rfl, ha⟩ := h.extra p hp
  simp only [xmlPart, name_eq, decide_eq_true_eq]
  exact fun e => hn (e ▸ ha)

theorem fixed_names : (q.headL ++ q.tailL).map (·.1) = fixedNames := rfl

theorem fixed_find_none (nm : List Char) (h : nm ∉ fixedNames) :
    (q.headL.map fun p => xmlPart p.1 p.2).find? (fun x => x.name = String.ofList nm) = none ∧
    (q.tailL.map fun p => xmlPart p.1 p.2).find? (fun x => x.name = String.ofList nm) = none := by
  rw [← q.fixed_names, List.map_append, List.mem_append, not_or] at h
  exact ⟨find_none_of_names _ nm h.1, find_none_of_names _ nm h.2⟩

theorem part_fixed (h : q.OK tbl) (p : List Char × Node) (hp : p ∈ q.headL ++ q.tailL) :
    q.pkg.part? (String.ofList p.1) = some (xmlPart p.1 p.2) := by
  have hnm := (by decide : ∀ nm ∈ fixedNames, nm ∈ closedNames ∧ nSst ≠ nm) _ (q.fixed_names ▸ List.mem_map_of_mem hp)
  rw [part_eq, sheetParts_find_other _ (fun i => sheetPart_ne_closed i _ hnm.1), extra_find_other h _ (fun hf => hf.closed hnm.1),
    relsPartsG_find_other _ (fun i => sheetRels_ne_closed i _ hnm.1), sst_find_other tbl _ h.sst _ hnm.2]
  simp only [Option.none_or]
  rw [← List.find?_append, ← List.map_append]
  exact find_of_nodup _ (by rw [fixed_names]; decide) p hp

theorem part_app (h : q.OK tbl) : q.pkg.part? (String.ofList nApp) = some (xmlPart nApp q.app) :=
  part_fixed h (nApp, q.app) (List.mem_append_left _ (.head _))
theorem part_core (h : q.OK tbl) : q.pkg.part? (String.ofList nCore) = some (xmlPart nCore q.core) :=
  part_fixed h (nCore, q.core) (List.mem_append_left _ (.tail _ (.head _)))
theorem part_rootRels (h : q.OK tbl) : q.pkg.part? (String.ofList nRootRels) = some (xmlPart nRootRels rootRelsNode) :=
  part_fixed h (nRootRels, rootRelsNode) (List.mem_append_left _ (.tail _ (.tail _ (.head _))))
theorem part_theme (h : q.OK tbl) : q.pkg.part? (String.ofList nTheme) = some (xmlPart nTheme q.theme) :=
  part_fixed h (nTheme, q.theme) (List.mem_append_left _ (.tail _ (.tail _ (.tail _ (.head _)))))
theorem part_styles (h : q.OK tbl) : q.pkg.part? (String.ofList nStyles) = some (xmlPart nStyles q.styles) :=
  part_fixed h (nStyles, q.styles) (List.mem_append_right _ (.head _))
theorem part_workbook (h : q.OK tbl) : q.pkg.part? (String.ofList nWorkbookPart) = some (xmlPart nWorkbookPart q.workbook) :=
  part_fixed h (nWorkbookPart, q.workbook) (List.mem_append_right _ (.tail _ (.head _)))
theorem part_workbookRels (h : q.OK tbl) :
    q.pkg.part? (String.ofList nWorkbookRels) = some (xmlPart nWorkbookRels (workbookRelsNode q.n (wbRelsRest q.n q.hs))) :=
  part_fixed h (nWorkbookRels, _) (List.mem_append_right _ (.tail _ (.tail _ (.head _))))
theorem part_contentTypes (h : q.OK tbl) : q.pkg.part? (String.ofList nContentTypes) = some (xmlPart nContentTypes q.contentTypes) :=
  part_fixed h (nContentTypes, q.contentTypes) (List.mem_append_right _ (.tail _ (.tail _ (.tail _ (.head _)))))

theorem part_sst (h : q.OK tbl) : q.pkg.part? (String.ofList nSst) = q.sst.head? := by
  have hf := q.fixed_find_none nSst (by decide)
  rw [part_eq, hf.1, hf.2, sheetParts_find_other _ (fun i => sheetPart_ne_closed i _ (by decide)),
    extra_find_other h _ (fun hf => hf.closed (by decide)), relsPartsG_find_other _ (fun i => sheetRels_ne_closed i _ (by decide))]
  rcases h.sst with ⟨_, hs⟩ | ⟨root, _, _, hs⟩ <;> rw [hs]
  · rfl
  · simp only [Option.none_or, find_cons_eq]; rfl

/-- no `OK` is needed: the sheet parts stand before `extra` and `sst` in `pkg`, so the look-up ends before them -/
theorem part_sheet (k : Nat) (hk : 1 ≤ k) (root : Node) (hr : q.roots[k - 1]? = some root) :
    q.pkg.part? (String.ofList (sheetPartL k)) = some (xmlPart (sheetPartL k) root) := by
  rw [part_eq, (q.fixed_find_none _ (fun hm => sheetPart_ne_closed k _ (fixed_sub_closed _ hm) rfl)).1,
    sheetParts_find q.roots 1 k hk, hr]
  rfl

theorem part_sheetRels (h : q.OK tbl) (k : Nat) (hk : 1 ≤ k) :
    q.pkg.part? (String.ofList (sheetRelsL k)) = (q.rels[k - 1]?).bind (fun p => (relsRoot p.1 p.2).map (xmlPart (sheetRelsL k))) := by
  have hc : ∀ nm ∈ closedNames, sheetRelsL k ≠ nm := sheetRels_ne_closed k
  have hf := q.fixed_find_none (sheetRelsL k) (fun hm => hc _ (fixed_sub_closed _ hm) rfl)
  rw [part_eq, hf.1, hf.2, sheetParts_find_other _ (fun i => sheetPart_ne_sheetRels i k),
    extra_find_other h _ (fun hf => hf.rels k rfl), relsPartsG_find _ 1 k hk, sst_find_other tbl _ h.sst _ (fun e => hc _ (by decide) e.symm)]
  simp

theorem part_extra {nm : List Char} (hf : Foreign nm) {p : Part} (hp : q.extra.find? (fun x => x.name = String.ofList nm) = some p) :
    q.pkg.part? (String.ofList nm) = some p := by
  rw [part_eq, (q.fixed_find_none nm (fun hm => hf.closed (fixed_sub_closed _ hm))).1,
    sheetParts_find_other _ hf.sheet, hp]
  rfl

theorem mem_extra {part : Part} (h : part ∈ q.extra) : part ∈ q.pkg := by
  simp only [pkg, List.mem_append]; exact Or.inl (Or.inl (Or.inl (Or.inr h)))

theorem mem_pkg (h : q.OK tbl) (part : Part) (hp : part ∈ q.pkg) : ∃ nm r, part = xmlPart nm r ∧
    (nm ∈ fixedNames ∨ (∃ j, nm = sheetPartL j) ∨ (part ∈ q.extra ∧ Foreign nm) ∨
     (∃ j p, 1 ≤ j ∧ q.rels[j - 1]? = some p ∧ nm = sheetRelsL j) ∨ nm = nSst) := by
  simp only [pkg, List.mem_append, List.mem_map] at hp
  rcases hp with ((((⟨p, hp, rfl⟩ | hp) | hp) | hp) | hp) | ⟨p, hp, rfl⟩
  · exact ⟨_, _, rfl, .inl (q.fixed_names ▸ List.mem_map_of_mem (List.mem_append_left _ hp))⟩
  · obtain ⟨j, r, _, _, rfl⟩ := sheetParts_names _ 1 part hp
    exact ⟨_, r, rfl, .inr (.inl ⟨j, rfl⟩)⟩
  · obtain ⟨nm, r, rfl, hf⟩ := h.extra part hp
    exact ⟨nm, r, rfl, .inr (.inr (.inl ⟨hp, hf⟩))⟩
  · obtain ⟨j, p, rr, h1, h2, _, rfl⟩ := relsPartsG_names _ 1 part hp
    exact ⟨_, rr, rfl, .inr (.inr (.inr (.inl ⟨j, p, h1, h2, rfl⟩)))⟩
  · obtain ⟨root, rfl⟩ := h.sst.mem hp
    exact ⟨_, root, rfl, .inr (.inr (.inr (.inr rfl)))⟩
  · exact ⟨_, _, rfl, .inl (q.fixed_names ▸ List.mem_map_of_mem (List.mem_append_right _ hp))⟩

end Pieces

/-- the plain package: the sheets bring nothing along and add no relationship to their hyperlinks -/
def piecesP (F : Umya.Num.NumFmt) (b : BookP F.Num) (hs : Bool) (roots : List Node) (sst : List Part) : Pieces :=
  { app := b.app, core := b.core, theme := b.theme, styles := b.styles,
    workbook := workbookNode b.wbFrame (b.sheets.map (·.entry)) b.names,
    contentTypes := contentTypesNode b.sheets.length hs,
    n := b.sheets.length, hs := hs, roots := roots, extra := [], rels := b.sheets.map fun s => (s.sheet.links, []), sst := sst }

theorem assemble_pieces (F : Umya.Num.NumFmt) (b : BookP F.Num) (hs : Bool) (roots : List Node) (sst : List Part) :
    assemble F b hs roots sst = (piecesP F b hs roots sst).pkg := by
  unfold assemble
  rw [sheetRelsParts_eq, ← List.append_nil (sheetParts 1 roots)]
  rfl

theorem piecesP_ok {F : Umya.Num.NumFmt} (b : BookP F.Num) (hs : Bool) (roots : List Node) {tbl : Table} {sst : List Part} (h : SstShape tbl sst) :
    (piecesP F b hs roots sst).OK tbl := ⟨h, fun _ hp => nomatch hp⟩

end Umya.PackageNode
