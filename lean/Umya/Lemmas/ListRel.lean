/-
  `List.mapM` in `Option` as a relation between the results and the items (`mapM_eq_some`); `mapM_forall₂` is the one
  induction behind every list-level "reader agrees with decoder" statement.
  `Forall₂` is the `List.Forall₂` of Batteries and Mathlib, defined here with the facts about it that are used: like
  everything outside the date and number-format modules, the file imports no library.
-/
namespace Umya

/-- two lists of the same length whose items are related by `R`, place by place -/
inductive Forall₂ {α β : Type} (R : α → β → Prop) : List α → List β → Prop
  | nil : Forall₂ R [] []
  | cons {a b as bs} : R a b → Forall₂ R as bs → Forall₂ R (a :: as) (b :: bs)

theorem Forall₂.diag {α : Type} (l : List α) : Forall₂ (· = ·) l l := by
  induction l with
  | nil => exact .nil
  | cons a r ih => exact .cons rfl ih

theorem Forall₂.map_eq {α β γ : Type} {f : α → γ} {g : β → γ} {ys : List α} {l : List β}
    (h : Forall₂ (fun y x => f y = g x) ys l) : ys.map f = l.map g := by
  induction h with
  | nil => rfl
  | cons h _ ih => rw [List.map_cons, List.map_cons, h, ih]

theorem Forall₂.mem_left {α β : Type} {R : α → β → Prop} {as : List α} {bs : List β} (h : Forall₂ R as bs) {a : α}
    (ha : a ∈ as) : ∃ b ∈ bs, R a b := by
  induction h with
  | nil => cases ha
  | cons hR _ ih =>
    rcases List.mem_cons.1 ha with rfl | ha
    · exact ⟨_, List.mem_cons_self, hR⟩
    · obtain ⟨b, hb, hab⟩ := ih ha
      exact ⟨b, List.mem_cons_of_mem _ hb, hab⟩

theorem Forall₂.mem_right {α β : Type} {R : α → β → Prop} {as : List α} {bs : List β} (h : Forall₂ R as bs) {b : β}
    (hb : b ∈ bs) : ∃ a ∈ as, R a b := by
  induction h with
  | nil => cases hb
  | cons hR _ ih =>
    rcases List.mem_cons.1 hb with rfl | hb
    · exact ⟨_, List.mem_cons_self, hR⟩
    · obtain ⟨a, ha, hab⟩ := ih hb
      exact ⟨a, List.mem_cons_of_mem _ ha, hab⟩

/-- `CellXml.mapOpt`, `Lazy.mapOpt` and `Style.mapOpt`, the model's own spellings of this traversal, are proved equal to `mapM` where their lemmas are
    (`mapOpt_eq_mapM`, `mapOpt_some`): what they return is read off through this statement and `Forall₂.mem_left`,
    `mem_right`, an inversion is a `cases` on the relation, and core's `mapM_map`, `mapM_append` apply to them. -/
theorem mapM_eq_some {α β : Type} {f : α → Option β} {l : List α} {ys : List β} :
    l.mapM f = some ys ↔ Forall₂ (fun y x => f x = some y) ys l := by
  constructor
  · intro h
    induction l generalizing ys with
    | nil => cases h; exact .nil
    | cons a l ih =>
      rw [List.mapM_cons] at h
      cases ha : f a with
      | none => rw [ha] at h; cases h
      | some b =>
        cases hl : l.mapM f with
        | none => rw [ha, hl] at h; cases h
        | some bs => rw [ha, hl] at h; cases h; exact .cons ha (ih hl)
  · intro h
    induction h with
    | nil => rfl
    | cons hy _ ih => rw [List.mapM_cons, hy, ih]; rfl

theorem mapM_forall₂ {α β γ : Type} (f : α → Option γ) (R : α → β → Prop) (S : γ → β → Prop)
    {xs : List α} {ns : List β} (hrel : Forall₂ R xs ns)
    (hf : ∀ a b, a ∈ xs → b ∈ ns → R a b → ∃ s, f a = some s ∧ S s b) :
    ∃ ys, xs.mapM f = some ys ∧ Forall₂ S ys ns := by
  induction hrel with
  | nil => exact ⟨[], rfl, .nil⟩
  | cons hR _ ih =>
    obtain ⟨s, hs, hsv⟩ := hf _ _ List.mem_cons_self List.mem_cons_self hR
    obtain ⟨ys, hys, hysv⟩ := ih fun a' b' ha' hb' => hf a' b' (List.mem_cons_of_mem _ ha') (List.mem_cons_of_mem _ hb')
    exact ⟨s :: ys, by simp only [List.mapM_cons, hs, hys]; rfl, .cons hsv hysv⟩

theorem mapM_rel {α β : Type} (f : α → Option β) (R : β → α → Prop) (l : List α)
    (h : ∀ x ∈ l, ∃ y, f x = some y ∧ R y x) : ∃ ys, l.mapM f = some ys ∧ Forall₂ R ys l :=
  mapM_forall₂ f (· = ·) R (Forall₂.diag l) fun a _ ha _ e => e ▸ h a ha

theorem mapM_view {α β γ : Type} (f : α → Option β) (view : β → γ) (spec : α → γ) (l : List α)
    (h : ∀ x ∈ l, ∃ y, f x = some y ∧ view y = spec x) : ∃ ys, l.mapM f = some ys ∧ ys.map view = l.map spec := by
  obtain ⟨ys, h1, h2⟩ := mapM_rel f (fun y x => view y = spec x) l h
  exact ⟨ys, h1, h2.map_eq⟩

theorem mapM_some {α β : Type} (f : α → Option β) (g : α → β) (l : List α) (h : ∀ x ∈ l, f x = some (g x)) :
    l.mapM f = some (l.map g) := by
  obtain ⟨ys, h1, h2⟩ := mapM_view f id g l fun x hx => ⟨g x, h x hx, rfl⟩
  rw [h1, ← h2, List.map_id]

theorem filterMap_of_map_some {α β : Type} (f : α → Option β) (l : List α) (ys : List β) (h : l.map f = ys.map some) :
    l.filterMap f = ys := by
  have : l.filterMap f = (l.map f).filterMap id := by rw [List.filterMap_map]; rfl
  rw [this, h, List.filterMap_map]
  exact List.filterMap_some

theorem Forall₂.zip_map {α β κ γ : Type} {R : α → β → Prop} {as : List α} {bs : List β} (h : Forall₂ R as bs)
    (k : α → κ) (f : β × κ → γ) (g : α → γ) (hp : ∀ a ∈ as, ∀ b, R a b → f (b, k a) = g a) :
    (bs.zip (as.map k)).map f = as.map g := by
  induction h with
  | nil => rfl
  | cons hR _ ih =>
    simp only [List.map_cons, List.zip_cons_cons, hp _ List.mem_cons_self _ hR,
      ih fun a ha => hp a (List.mem_cons_of_mem _ ha)]

theorem Forall₂.map_some {α β : Type} {f : α → Option β} {ys : List β} {l : List α}
    (h : Forall₂ (fun y x => f x = some y) ys l) : ys.map some = l.map f := by
  induction h with
  | nil => rfl
  | cons hy _ ih => rw [List.map_cons, List.map_cons, hy, ih]

theorem Forall₂.get_right {α β : Type} {R : α → β → Prop} {as : List α} {bs : List β} (h : Forall₂ R as bs) {k : Nat} {b : β}
    (hb : bs[k]? = some b) : ∃ a, as[k]? = some a ∧ R a b := by
  induction h generalizing k with
  | nil => cases hb
  | cons hR _ ih =>
    cases k with
    | zero => cases hb; exact ⟨_, rfl, hR⟩
    | succ k => exact ih hb

end Umya
