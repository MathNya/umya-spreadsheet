/-
  `Model/AnnotCf.lean`.  A rule is written against the dxf table as it stands and read against the FINAL table.  What
  makes the list-level round trips go through is `Ext`: the table only grows at the end, so an index handed out
  earlier keeps denoting its style; hence `readRule_written` is stated for any later table `t'`.
-/
import Umya.Model.AnnotCf
import Umya.Model.Interning
import Umya.Lemmas.AnnotDv
import Umya.Lemmas.AnnotNames
import Umya.Lemmas.AnnotCodec
import Umya.Lemmas.Coord
namespace Umya.AnnotCf
open Umya.Coord Umya.Annot Umya.AnnotDv Umya.Dec Umya.Thm.C17
open Umya.Spec.Xml (Node Attr)
open Umya.AnnotCodec (toList_ne)

theorem lookupStr_toStr {α} {toStr : α → Text} {all : List α} (hnd : (all.map toStr).Nodup) {v : α} (hv : v ∈ all) :
    lookupStr toStr all (toStr v) = some v :=
  find?_key_of_nodup toStr all hnd v hv

theorem cfType_table (v : CfType) : CfType.fromStr (CfType.toStr v) = some v :=
  lookupStr_toStr (by unfold CfType.toStr; simp only [toList_lit]; decide +kernel) (by cases v <;> decide)
theorem cfOp_table (v : CfOp) : CfOp.fromStr (CfOp.toStr v) = some v :=
  lookupStr_toStr (by unfold CfOp.toStr; simp only [toList_lit]; decide +kernel) (by cases v <;> decide)
theorem timePeriod_table (v : TimePeriod) : TimePeriod.fromStr (TimePeriod.toStr v) = some v :=
  lookupStr_toStr (by unfold TimePeriod.toStr; simp only [toList_lit]; decide +kernel) (by cases v <;> decide)
theorem cfvoType_table (v : CfvoType) : CfvoType.fromStr (CfvoType.toStr v) = some v :=
  lookupStr_toStr (by unfold CfvoType.toStr; simp only [toList_lit]; decide +kernel) (by cases v <;> decide)

theorem stripPlus_decDigits (n : Nat) : stripPlus (decDigits n) = decDigits n := by
  unfold stripPlus
  split
  · next r he => exact absurd he (decDigits_ne_cons (by decide) n r)
  · rfl

theorem parseDigitsBelow_decDigits {b n : Nat} (h : n < b) : parseDigitsBelow b (decDigits n) = some n := by
  simp [parseDigitsBelow, decDigits_ne_nil, decDigits_all_digit, parseDec_decDigits, h]

theorem parseUsize_decDigits (n : Nat) (h : n < 18446744073709551616) : parseUsize (decDigits n) = some n := by
  simp [parseUsize, stripPlus_decDigits, parseDigitsBelow_decDigits h]

theorem parseU32p_decDigits (n : Nat) (h : n < 4294967296) : parseU32p (decDigits n) = some n := by
  simp [parseU32p, stripPlus_decDigits, parseDigitsBelow_decDigits h]

def I32 (z : Int) : Prop := -2147483648 ≤ z ∧ z < 2147483648

theorem parseI32_i32Str (z : Int) (h : I32 z) : parseI32 (i32Str z) = some z := by
  obtain ⟨h1, h2⟩ := h
  unfold i32Str
  by_cases hz : z < 0
  · simp only [hz, if_true, parseI32]
    rw [parseDigitsBelow_decDigits (by omega)]
    simp only [Option.some.injEq, Int.ofNat_eq_natCast]
    omega
  · simp only [hz, if_false]
    unfold parseI32
    split
    · next d heq => exact absurd heq (decDigits_ne_cons (by decide) _ d)
    · rw [stripPlus_decDigits, parseDigitsBelow_decDigits (by omega)]
      simp only [Option.some.injEq, Int.ofNat_eq_natCast]
      omega

theorem readNum_written {α} (parse : Text → Option α) (toStr : α → Text) (o : Option α)
    (h : ∀ v, o = some v → parse (toStr v) = some v) : readNum parse (o.map toStr) = .ok o := by
  cases o with
  | none => rfl
  | some v => simp [readNum, h v rfl]

theorem cfvoNames_nodup : cfvoNames.Nodup := by decide +kernel

theorem readCfvo_written (x : Cfvo) : readCfvo (render cfvoNames [x.type.map CfvoType.toStr, x.val]) = x := by
  obtain ⟨as, has⟩ : ∃ as, as = render cfvoNames [x.type.map CfvoType.toStr, x.val] := ⟨_, rfl⟩
  have g := getAttr_written has cfvoNames_nodup
  simp only [cfvoNames, List.zip_cons_cons, List.zip_nil_right, List.forall_mem_cons] at g
  obtain ⟨a0, a1, -⟩ := g
  simp only [readCfvo, ← has, a0, a1, readEnum_written cfvoType_table]

/-- what the public setters leave in a colour (`set_argb`, `set_indexed`, `set_theme_index` clear one another),
    within `u32`; a colour without any attribute (`Color::default()`) included -/
structure ColorWF (c : Color) : Prop where
  one : (c.theme = none ∧ c.indexed = none) ∨ (c.theme = none ∧ c.argb = none) ∨ (c.indexed = none ∧ c.argb = none)
  themeB : ∀ n, c.theme = some n → n < 4294967296
  indexedB : ∀ n, c.indexed = some n → n < 4294967296

theorem colorNames_nodup : colorNames.Nodup := by decide +kernel

theorem colorValues_of_WF (c : Color) (h : ColorWF c) :
    colorValues c = [c.theme.map decDigits, c.indexed.map decDigits, c.argb, c.tint] := by
  obtain ⟨th, ix, ar, ti⟩ := c
  rcases h.one with ⟨h1, h2⟩ | ⟨h1, h2⟩ | ⟨h1, h2⟩ <;> simp only at h1 h2 <;> subst h1 h2
  · rfl
  · cases ix <;> rfl
  · cases th <;> rfl

theorem readColor_written (c : Color) (h : ColorWF c) : readColor (render colorNames (colorValues c)) = .ok c := by
  obtain ⟨as, has⟩ : ∃ as, as = render colorNames (colorValues c) := ⟨_, rfl⟩
  have g := getAttr_written has colorNames_nodup
  simp only [colorNames, colorValues_of_WF c h, List.zip_cons_cons, List.zip_nil_right, List.forall_mem_cons] at g
  obtain ⟨a0, a1, a2, a3, -⟩ := g
  simp only [readColor, ← has, a0, a1, a2, a3,
    readNum_written parseU32p decDigits _ (fun n hn => parseU32p_decDigits n (h.themeB n hn)),
    readNum_written parseU32p decDigits _ (fun n hn => parseU32p_decDigits n (h.indexedB n hn))]

structure ScaleWF (s : Scale) : Prop where
  colors : ∀ c ∈ s.colors, ColorWF c

theorem readScaleKids_colors : ∀ (cs : List Color) (s : Scale), (∀ c ∈ cs, ColorWF c) →
    readScaleKids (cs.map writeColor) s = .ok { s with colors := s.colors ++ cs }
  | [], s, _ => by simp [readScaleKids]
  | c :: cs, s, h => by
    have hc := h c (by simp)
    have hcol : (("color".toList : Text) = "cfvo".toList) = False := toList_ne (by decide)
    simp only [List.map_cons, writeColor, readScaleKids, hcol, if_false, if_true,
      readColor_written c hc]
    rw [readScaleKids_colors cs _ (fun x hx => h x (List.mem_cons_of_mem _ hx))]
    simp

theorem readScaleKids_written : ∀ (vs : List Cfvo) (cs : List Color) (s : Scale), (∀ c ∈ cs, ColorWF c) →
    readScaleKids (vs.map writeCfvo ++ cs.map writeColor) s = .ok ⟨s.cfvos ++ vs, s.colors ++ cs⟩
  | [], cs, s, h => by simpa using readScaleKids_colors cs s h
  | v :: vs, cs, s, h => by
    simp only [List.map_cons, List.cons_append, writeCfvo, readScaleKids, if_true, readCfvo_written]
    rw [readScaleKids_written vs cs _ h]
    simp

theorem readScale_kids (s : Scale) (hs : ScaleWF s) :
    readScaleKids (s.cfvos.map writeCfvo ++ s.colors.map writeColor) {} = .ok s := by
  rw [readScaleKids_written s.cfvos s.colors {} hs.colors]
  simp

theorem readScale_written (name : Text) (s : Scale) (h : ScaleWF s) :
    ∃ as, writeScale name s = .elem name as (s.cfvos.map writeCfvo ++ s.colors.map writeColor) ∧
      readScaleKids (s.cfvos.map writeCfvo ++ s.colors.map writeColor) {} = .ok s :=
  ⟨[], rfl, readScale_kids s h⟩

/-- formulas the codec carries exactly: a non-empty text `is_address` rejects (kept verbatim), the empty formula,
    or a cell / cell:cell area, bare or on a legal sheet -/
inductive FmlWF : Fml → Prop where
  | text (t : Text) (hne : t ≠ []) (hna : isAddress t = false) : FmlWF ⟨⟨[], {}⟩, some t⟩
  | empty : FmlWF ⟨⟨[], {}⟩, none⟩
  | bare (ρ : Range) (hs : CellShape ρ) (hb : Range.InBounds ρ) : FmlWF ⟨⟨[], ρ⟩, none⟩
  | area (a : Address) (h : AreaOK a) : FmlWF ⟨a, none⟩

theorem setAddress_default (s : Text) : setAddress ⟨[], {}⟩ s = Address.parse s := by
  unfold setAddress Address.parse Range.parse
  simp only
  cases Range.setRange {} (splitAddress s).2 with
  | panic => rfl
  | ok ρ =>
    by_cases h : (splitAddress s).1 = [] <;> simp [h]

theorem readFml_written (f : Fml) (h : FmlWF f) :
    readFmlKids (if f.text = [] then [] else [Node.text f.text]) {} = .ok f := by
  cases h with
  | text t hne hna =>
    simp only [Fml.text, hne, if_false, readFmlKids, Fml.setAddressStr, hna, Bool.false_eq_true]
  | empty =>
    have : Fml.text ⟨⟨[], {}⟩, none⟩ = [] := by decide
    simp only [this, if_true, readFmlKids]
  | bare ρ hs hb =>
    have ht : Fml.text ⟨⟨[], ρ⟩, none⟩ = ρ.print := by simp [Fml.text, unqual_text]
    have hne := print_ne_nil ρ (isShape_of_cell ρ hs) hb
    have hia : isAddress ρ.print = true := by
      unfold isAddress
      rw [rsplitBang_none _ (bang_free_print ρ)]
      exact matchCellRange_print ρ hs hb
    have hpa := (unqual_parse ρ hb).1
    simp only [ht, hne, if_false, readFmlKids, Fml.setAddressStr, hia, if_true,
      undouble_id _ (apos_free_print ρ), setAddress_default, hpa]
  | area a ha =>
    have ht : Fml.text ⟨a, none⟩ = a.text := rfl
    have hne := (neutral_area a ha.sheet).2
    simp only [ht, hne, if_false, readFmlKids, Fml.setAddressStr, isAddress_area a ha, if_true,
      setAddress_default, parse_printed_area a ha.sheet.1 ha.bounds]

theorem internSty_eq : ∀ (t : List Sty) (s : Sty), internSty t s = Interning.internEq t s
  | [], _ => rfl
  | e :: t, s => by
    unfold internSty
    rw [internSty_eq t s]
    unfold Interning.internEq Interning.internBy
    simp only [Interning.find]
    by_cases he : e = s
    · simp [he]
    · simp only [he, if_false, decide_false, Bool.false_eq_true]
      cases Interning.find (fun e => decide (e = s)) t <;> rfl

theorem internSty_ext (t : List Sty) (s : Sty) : ∃ l, (internSty t s).1 = t ++ l :=
  internSty_eq t s ▸ (Interning.internBy_prefix _ t s).imp fun _ h => h.1

theorem internSty_get (t : List Sty) (s : Sty) : (internSty t s).1[(internSty t s).2]? = some s :=
  internSty_eq t s ▸ Interning.internEq_get t s

def Ext (t t' : List Sty) : Prop := ∃ l, t' = t ++ l

theorem Ext.refl (t : List Sty) : Ext t t := ⟨[], by simp⟩
theorem Ext.trans {a b c : List Sty} (h1 : Ext a b) (h2 : Ext b c) : Ext a c := append_ext_trans h1 h2

theorem Ext.get {t t' : List Sty} (h : Ext t t') {i : Nat} {s : Sty} (hs : t[i]? = some s) : t'[i]? = some s := by
  obtain ⟨l, rfl⟩ := h
  exact Umya.getElem?_append_left' hs

theorem Ext.length_le {t t' : List Sty} (h : Ext t t') : t.length ≤ t'.length := by
  obtain ⟨l, rfl⟩ := h; simp

theorem dxfOf_ext (t : List Sty) (o : Option Sty) : Ext t (dxfOf t o).1 := by
  cases o with
  | none => exact Ext.refl t
  | some s => exact internSty_ext t s

/-- `dxfId` is read as a `usize`; an index that is found in `t'` is below its length, hence `≤ 2^64` and not `<`. -/
theorem readStyle_written (t t' : List Sty) (o : Option Sty) (hx : Ext (dxfOf t o).1 t')
    (hT : t'.length ≤ 18446744073709551616) :
    readStyle t' ((dxfOf t o).2.map decDigits) = .ok o := by
  cases o with
  | none => rfl
  | some s =>
    have hg := hx.get (internSty_get t s)
    have hlt : (internSty t s).2 < t'.length := (List.getElem?_eq_some_iff.1 hg).1
    have hp := parseUsize_decDigits (internSty t s).2 (by omega)
    simp only [dxfOf, Option.map_some, readStyle, hp, hg]

theorem ruleNames_nodup : ruleNames.Nodup := by decide +kernel

structure RuleWF (r : Rule) : Prop where
  priority : ∀ z, r.priority = some z → I32 z
  stdDev : ∀ z, r.stdDev = some z → I32 z
  rank : ∀ n, r.rank = some n → n < 4294967296
  colorScale : ∀ s, r.colorScale = some s → ScaleWF s
  dataBar : ∀ s, r.dataBar = some s → ScaleWF s
  iconSet : ∀ s, r.iconSet = some s → ScaleWF s
  formula : ∀ f, r.formula = some f → FmlWF f

/-- Each optional child of a rule is consumed whatever follows it (`rest`), so the four facts compose by rewriting. -/
theorem readRuleKids_colorScale (o : Option Scale) (h : ∀ s, o = some s → ScaleWF s) (rest : List Node) (st : KidsSt) :
    readRuleKids (optNode (writeScale "colorScale".toList) o ++ rest) st
      = readRuleKids rest { st with colorScale := o.orElse fun _ => st.colorScale } := by
  cases o with
  | none => rfl
  | some s => simp only [optNode, List.singleton_append, writeScale, readRuleKids, if_true, readScale_kids s (h s rfl)]; rfl

theorem readRuleKids_dataBar (o : Option Scale) (h : ∀ s, o = some s → ScaleWF s) (rest : List Node) (st : KidsSt) :
    readRuleKids (optNode (writeScale "dataBar".toList) o ++ rest) st
      = readRuleKids rest { st with dataBar := o.orElse fun _ => st.dataBar } := by
  have n1 : (("dataBar".toList : Text) = "colorScale".toList) = False := toList_ne (by decide)
  cases o with
  | none => rfl
  | some s =>
    simp only [optNode, List.singleton_append, writeScale, readRuleKids, n1, if_false, if_true, readScale_kids s (h s rfl)]; rfl

theorem readRuleKids_iconSet (o : Option Scale) (h : ∀ s, o = some s → ScaleWF s) (rest : List Node) (st : KidsSt) :
    readRuleKids (optNode (writeScale "iconSet".toList) o ++ rest) st
      = readRuleKids rest { st with iconSet := o.orElse fun _ => st.iconSet } := by
  have n2 : (("iconSet".toList : Text) = "colorScale".toList) = False := toList_ne (by decide)
  have n3 : (("iconSet".toList : Text) = "dataBar".toList) = False := toList_ne (by decide)
  cases o with
  | none => rfl
  | some s =>
    simp only [optNode, List.singleton_append, writeScale, readRuleKids, n2, n3, if_false, if_true,
      readScale_kids s (h s rfl)]; rfl

theorem readRuleKids_formula (o : Option Fml) (h : ∀ f, o = some f → FmlWF f) (rest : List Node) (st : KidsSt) :
    readRuleKids (optNode writeFml o ++ rest) st = readRuleKids rest { st with formula := o.orElse fun _ => st.formula } := by
  have n4 : (("formula".toList : Text) = "colorScale".toList) = False := toList_ne (by decide)
  have n5 : (("formula".toList : Text) = "dataBar".toList) = False := toList_ne (by decide)
  have n6 : (("formula".toList : Text) = "iconSet".toList) = False := toList_ne (by decide)
  cases o with
  | none => rfl
  | some f =>
    simp only [optNode, List.singleton_append, writeFml, textElem, readRuleKids, n4, n5, n6, if_false, if_true,
      readFml_written f (h f rfl)]; rfl

theorem readRuleKids_written (cs db ic : Option Scale) (fm : Option Fml)
    (h1 : ∀ s, cs = some s → ScaleWF s) (h2 : ∀ s, db = some s → ScaleWF s) (h3 : ∀ s, ic = some s → ScaleWF s)
    (h4 : ∀ f, fm = some f → FmlWF f) :
    readRuleKids (optNode (writeScale "colorScale".toList) cs ++ optNode (writeScale "dataBar".toList) db ++
      optNode (writeScale "iconSet".toList) ic ++ optNode writeFml fm) {} = .ok ⟨cs, db, ic, fm⟩ := by
  rw [List.append_assoc, List.append_assoc, readRuleKids_colorScale cs h1, readRuleKids_dataBar db h2,
    readRuleKids_iconSet ic h3, ← List.append_nil (optNode writeFml fm), readRuleKids_formula fm h4]
  cases cs <;> cases db <;> cases ic <;> cases fm <;> rfl

theorem readRule_written (t t' : List Sty) (r : Rule) (h : RuleWF r) (hx : Ext (writeRule t r).1 t')
    (hT : t'.length ≤ 18446744073709551616) : readRule t' (writeRule t r).2 = .ok r := by
  obtain ⟨ty, op, tx, st, pr, pc, bt, rk, si, sd, tp, aa, ea, cs, db, ic, fm⟩ := r
  obtain ⟨hpr, hsd, hrk, hcs, hdb, hic, hfm⟩ := h
  simp only at hpr hsd hrk hcs hdb hic hfm
  simp only [writeRule] at hx ⊢
  obtain ⟨as, has⟩ : ∃ as, as = render ruleNames
      (ruleValues ⟨ty, op, tx, st, pr, pc, bt, rk, si, sd, tp, aa, ea, cs, db, ic, fm⟩ (dxfOf t st).2) := ⟨_, rfl⟩
  have g := getAttr_written has ruleNames_nodup
  simp only [ruleNames, ruleValues, List.zip_cons_cons, List.zip_nil_right, List.forall_mem_cons] at g
  obtain ⟨a0, a1, a2, a3, a4, a5, a6, a7, a8, a9, a10, a11, a12, -⟩ := g
  simp only [readRule, ← has, ruleKids, a0, a1, a2, a3, a4, a5, a6, a7, a8, a9, a10, a11, a12,
    readStyle_written t t' st hx hT,
    readNum_written parseI32 i32Str pr (fun z hz => parseI32_i32Str z (hpr z hz)),
    readNum_written parseI32 i32Str sd (fun z hz => parseI32_i32Str z (hsd z hz)),
    readNum_written parseU32p decDigits rk (fun n hn => parseU32p_decDigits n (hrk n hn)),
    readRuleKids_written cs db ic fm hcs hdb hic hfm,
    readEnum_written cfType_table, readEnum_written cfOp_table, readEnum_written timePeriod_table,
    map_boolOf_boolStr]

theorem writeRule_ext (t : List Sty) (r : Rule) : Ext t (writeRule t r).1 := dxfOf_ext t r.style

theorem writeRules_ext : ∀ (rs : List Rule) (t : List Sty), Ext t (writeRules t rs).1
  | [], t => Ext.refl t
  | r :: rs, t => (writeRule_ext t r).trans (writeRules_ext rs _)

theorem readRules_written : ∀ (rs : List Rule) (t t' : List Sty), (∀ r ∈ rs, RuleWF r) →
    Ext (writeRules t rs).1 t' → t'.length ≤ 18446744073709551616 → readRules t' (writeRules t rs).2 = .ok rs
  | [], _, _, _, _, _ => rfl
  | r :: rs, t, t', h, hx, hT => by
    have hx1 : Ext (writeRule t r).1 t' := (writeRules_ext rs _).trans hx
    have h1 := readRule_written t t' r (h r (by simp)) hx1 hT
    have h2 := readRules_written rs (writeRule t r).1 t' (fun x hx => h x (List.mem_cons_of_mem _ hx)) hx hT
    simp only [writeRules]
    have hw : (writeRule t r).2 = .elem "cfRule".toList (render ruleNames (ruleValues r (dxfOf t r.style).2)) (ruleKids r) := rfl
    rw [hw] at h1 ⊢
    simp only [readRules, if_true, h1, h2]

/-- a block the codecs carry: ranges of the four shapes within the grid (none included), rules well formed (none
    included) -/
structure BlockOK (b : Block) : Prop where
  ranges : RangesOK b.sqref
  rules : ∀ r ∈ b.rules, RuleWF r

/-- a block that is written: `BlockOK` with at least one rule -/
structure BlockWF (b : Block) : Prop where
  ranges : RangesOK b.sqref
  hasRule : b.rules ≠ []
  rules : ∀ r ∈ b.rules, RuleWF r

theorem BlockWF.ok {b : Block} (h : BlockWF b) : BlockOK b := ⟨h.ranges, h.rules⟩

theorem writeBlock_ext (t : List Sty) (b : Block) : Ext t (writeBlock t b).1 := writeRules_ext b.rules t

theorem readBlock_written (t t' : List Sty) (b : Block) (h : BlockOK b) (hx : Ext (writeBlock t b).1 t')
    (hT : t'.length ≤ 18446744073709551616) : readBlock t' (blockElem t b) = .ok b := by
  have hs : readSqref (some (sqrefText b.sqref)) = .ok b.sqref := by
    simpa [readSqref] using setSqref_text b.sqref h.ranges
  have hr := readRules_written b.rules t t' h.rules hx hT
  simp only [blockElem, readBlock, getAttr_cons_self, hs, hr]

theorem writeBlocks_ext : ∀ (bs : List Block) (t : List Sty), Ext t (writeBlocks t bs).1
  | [], t => Ext.refl t
  | b :: bs, t => (writeBlock_ext t b).trans (writeBlocks_ext bs _)

theorem readBlocks_written_norm : ∀ (bs : List Block) (t t' : List Sty), (∀ b ∈ bs, BlockOK b) →
    Ext (writeBlocks t bs).1 t' → t'.length ≤ 18446744073709551616 →
    readBlocks t' (writeBlocks t bs).2 = .ok (writtenBlocks bs)
  | [], _, _, _, _, _ => rfl
  | b :: bs, t, t', h, hx, hT => by
    have hx1 : Ext (writeBlock t b).1 t' := (writeBlocks_ext bs _).trans hx
    have h2 := readBlocks_written_norm bs (writeBlock t b).1 t' (fun x hx => h x (List.mem_cons_of_mem _ hx)) hx hT
    cases hrs : b.rules with
    | nil =>
      simp only [writeBlocks, writeBlock, hrs, List.isEmpty_nil, if_true, List.nil_append, writtenBlocks, List.filter_cons,
        Bool.not_true]
      simpa [writeBlock, hrs, writtenBlocks] using h2
    | cons r0 rs0 =>
      have h1 := readBlock_written t t' b (h b (by simp)) hx1 hT
      have hw : ∃ k ks, blockElem t b = .elem "conditionalFormatting".toList [⟨"sqref".toList, sqrefText b.sqref⟩] (k :: ks) := by
        simp only [blockElem, hrs, writeRules]
        exact ⟨_, _, rfl⟩
      obtain ⟨k, ks, hw⟩ := hw
      have he : (writeBlock t b).2 = [blockElem t b] := by simp [writeBlock, hrs]
      rw [hw] at h1 he
      simp only [writeBlocks, he, List.singleton_append, readBlocks, h1, h2, writtenBlocks, List.filter_cons, hrs,
        List.isEmpty_cons, Bool.not_false, if_true]

theorem writtenBlocks_self (bs : List Block) (h : ∀ b ∈ bs, b.rules ≠ []) : writtenBlocks bs = bs := by
  apply List.filter_eq_self.2
  intro b hb
  cases hr : b.rules with
  | nil => exact absurd hr (h b hb)
  | cons r rs => rfl

theorem readBlocks_written (bs : List Block) (t t' : List Sty) (h : ∀ b ∈ bs, BlockWF b)
    (hx : Ext (writeBlocks t bs).1 t') (hT : t'.length ≤ 18446744073709551616) :
    readBlocks t' (writeBlocks t bs).2 = .ok bs := by
  rw [readBlocks_written_norm bs t t' (fun b hb => (h b hb).ok) hx hT, writtenBlocks_self bs (fun b hb => (h b hb).hasRule)]

end Umya.AnnotCf
