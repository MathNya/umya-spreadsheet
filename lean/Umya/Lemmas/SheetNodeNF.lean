/-
  The `<worksheet>` and `<Relationships>` trees of `Umya/Model/SheetNode.lean` are in the XML reader's normal
  form as soon as the opaque frame is (`Frame.nf`, decidable): `renderSheet_isNF`, `relsRoot_isNF`.
-/
import Umya.Lemmas.CellNodeNF
import Umya.Lemmas.SheetNodeDecode
namespace Umya.SheetNode
open Umya.Xml Umya.CellXml Umya.CellNode Umya.XmlWrite
open Umya.Spec.Xml (Node Attr)

/-- the opaque children of `<worksheet>` contain no empty text node and no two adjacent text nodes (what an
    XML reader delivers anyway) -/
def Frame.nf (fr : Frame) : Bool := isNFKids fr.pre && isNFKids fr.mid1 && isNFKids fr.mid2 && isNFKids fr.post

theorem sheetDataNode_nf {N} (xf : List Char → Nat) (ws : List (RowX N)) (sd : Node) (h : sheetDataNode xf ws = some sd) :
    sd.isElem = true ∧ isNF sd = true := by
  simp only [sheetDataNode, Option.map_eq_some_iff] at h
  obtain ⟨rows, hr, rfl⟩ := h
  refine ElemsNF.elem (mapOpt_nf (rowNode xf) (fun w b hb => ?_) ws rows hr) _ _
  simp only [rowNode, Option.map_eq_some_iff] at hb
  obtain ⟨cs, hc, rfl⟩ := hb
  exact (renderCells_nf xf w.xs cs hc).elem _ _

theorem mergeNodes_nf (ms : List (List Char)) : ElemsNF (mergeNodes ms) := by
  unfold mergeNodes
  split
  · exact .nil
  · refine .single (ElemsNF.elem (fun x hx => ?_) _ _)
    obtain ⟨m, _, rfl⟩ := List.mem_map.1 hx
    exact ElemsNF.nil.elem _ _

theorem hlWalk_nf (ls : List LinkW) (k : Nat) : ElemsNF (hlWalk k ls) := by
  intro x hx
  obtain ⟨as, rfl⟩ := hlWalk_shape ls k x hx
  exact ElemsNF.nil.elem _ _

theorem hyperlinkNodes_nf (ls : List LinkW) : ElemsNF (hyperlinkNodes ls) := by
  unfold hyperlinkNodes
  split
  · exact .nil
  · exact .single ((hlWalk_nf ls 1).elem _ _)

theorem relWalk_nf (ls : List LinkW) : ∀ k, ElemsNF (relWalk k ls) := by
  induction ls with
  | nil => intro k; exact .nil
  | cons l ls ih =>
    intro k
    simp only [relWalk]
    split
    · exact ih _
    · exact (ElemsNF.single (ElemsNF.nil.elem _ _)).append (ih _)

theorem isNFKids_all_elems (l : List Node) (h : isNFKids l = true) (he : ∀ k ∈ l, k.isElem = true) : ElemsNF l := by
  induction l with
  | nil => exact .nil
  | cons a r ih =>
    rw [isNFKids_elem_cons a r (he a (by simp)), Bool.and_eq_true] at h
    exact (ElemsNF.single ⟨he _ (by simp), h.1⟩).append (ih h.2 (fun x hx => he x (by simp [hx])))

theorem worksheetNode_isNF (fr : Frame) (sd : Node) (merges : List (List Char)) (links : List LinkW)
    (hfr : fr.ok = true) (hnf : fr.nf = true) (hsd : sd.isElem = true ∧ isNF sd = true) :
    isNF (worksheetNode fr sd merges links) = true := by
  obtain ⟨s1, s2, s3, s4, _⟩ := frame_segs fr hfr
  have e1 : ∀ k ∈ fr.pre, k.isElem = true := fun k hk => (s1.1 k hk).1.1
  have e2 : ∀ k ∈ fr.mid1, k.isElem = true := fun k hk => (s2.1 k hk).1.1
  have e3 : ∀ k ∈ fr.mid2, k.isElem = true := fun k hk => (s3.1 k hk).1.1
  have e4 : ∀ k ∈ fr.post, k.isElem = true := fun k hk => (s4.1 k hk).1.1
  unfold Frame.nf at hnf
  simp only [Bool.and_eq_true] at hnf
  obtain ⟨⟨⟨n1, n2⟩, n3⟩, n4⟩ := hnf
  have h := (isNFKids_all_elems _ n1 e1).append (.single hsd) |>.append (isNFKids_all_elems _ n2 e2)
    |>.append (mergeNodes_nf merges) |>.append (.single phoneticPr_nf) |>.append (isNFKids_all_elems _ n3 e3)
    |>.append (hyperlinkNodes_nf links) |>.append (isNFKids_all_elems _ n4 e4)
  exact (h.elem _ _).2

section
variable (F : Umya.Num.NumFmt)

theorem renderSheet_shape (xf : List Char → Nat) (fr : Frame) (tbl : Table) (s : SheetW F.Num) (tbl' : Table) (root : Node)
    (h : renderSheet F xf fr tbl s = some (tbl', root)) :
    ∃ sd, sd.isElem = true ∧ isNF sd = true ∧ root = worksheetNode fr sd s.merges s.links := by
  obtain ⟨ws, sd, _, hsd, hroot⟩ := renderSheet_inv F xf fr tbl s tbl' root h
  obtain ⟨h1, h2⟩ := sheetDataNode_nf xf ws sd hsd
  exact ⟨sd, h1, h2, hroot⟩

theorem renderSheet_isNF (xf : List Char → Nat) (fr : Frame) (tbl : Table) (s : SheetW F.Num) (tbl' : Table) (root : Node)
    (h : renderSheet F xf fr tbl s = some (tbl', root)) (hfr : fr.ok = true) (hnf : fr.nf = true) : isNF root = true := by
  obtain ⟨sd, h1, h2, rfl⟩ := renderSheet_shape F xf fr tbl s tbl' root h
  exact worksheetNode_isNF fr sd _ _ hfr hnf ⟨h1, h2⟩

end

theorem relsRoot_isNF (links : List LinkW) (rest : List Node) (rr : Node) (h : relsRoot links rest = some rr)
    (hrest : isNFKids rest = true) : isNF rr = true := by
  cases relsRoot_some h
  show isNFKids (relWalk 1 links ++ rest) = true
  rw [isNFKids_append _ _ (fun k hk => (relWalk_nf links 1 k hk).1), isNFKids_of_all _ (relWalk_nf links 1), hrest]; rfl

end Umya.SheetNode
