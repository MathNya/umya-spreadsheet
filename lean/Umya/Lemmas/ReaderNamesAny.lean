/-
  Defined names whose text is an area list in ANY canonical spelling (quoted or unquoted qualifiers, `$` or not).
-/
import Umya.Lemmas.ReaderNames
import Umya.Lemmas.CoordParseAddr
namespace Umya.Reader.Lemmas
open Umya.Reader Umya.Spec.Xml Umya.Spec.Sml Umya.Coord
open Umya.Annot (DefName Address splitStr isAddress AreaOK canonText canonNameTextB nameTextAnyB canonAreaB joinComma)

/-- what `set_address` makes of a name text of the wider grammar, what `get_address` then prints, and that the printed text is
    read as the same name and printed as itself -/
theorem setAddress_any (v : Text) (h : nameTextAnyB v = true) :
    ∃ b, DefName.setAddress {} v = .ok b ∧ b.text = canonText v ∧
      DefName.setAddress {} (canonText v) = .ok b ∧ canonText (canonText v) = canonText v := by
  simp only [nameTextAnyB, Bool.or_eq_true, beq_iff_eq] at h
  by_cases h0 : (splitStr v).all isAddress = false
  · have hc : canonText v = v := by simp [canonText, h0]
    obtain ⟨h1, h2⟩ := Umya.Annot.setAddress_kept v h0
    exact ⟨_, h1, by rw [hc]; exact h2, by rw [hc]; exact h1, by rw [hc, hc]⟩
  · have h1 : canonNameTextB v = true := by
      rcases h with h | h
      · exact absurd h h0
      · exact h
    obtain ⟨ts, hts, rfl⟩ := Umya.Annot.canonNameText_spec v h1
    cases ts with
    -- no area at all: `v` is the empty text
    | nil => exact ⟨{ areas := [] }, by decide +kernel, by decide +kernel, by decide +kernel, by decide +kernel⟩
    | cons t r =>
      obtain ⟨as, has, hset, htext, _, _⟩ := Umya.Annot.setAddress_canon (t :: r) (by simp) hts
      have hc := Umya.Annot.canonText_join (t :: r) (by simp) hts
      refine ⟨{ areas := as }, hset, by rw [hc]; exact htext, ?_, ?_⟩
      · rw [hc, ← htext]
        exact Umya.Annot.setAddress_text as has
      · rw [hc, ← htext]
        exact Umya.Annot.canonText_text as has

theorem definedNameB_agrees_any (d : Node) (h : validDefinedName d = true) (ht : nameTextAnyB d.ownText = true) :
    ∃ n, readDefinedNameB d = some n ∧ n.name = (specName d).name ∧ n.localSheetId = (specName d).scope ∧
      n.body.text = canonText (specName d).text := by
  obtain ⟨b, hb, hbt, _, _⟩ := setAddress_any _ ht
  exact ⟨_, readDefinedNameB_of_setAddress d h b hb, rfl, rfl, hbt⟩

end Umya.Reader.Lemmas
