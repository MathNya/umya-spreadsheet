/-
  (T) translator: the method of the ties `gen_f = hand_f` between the definitions compiled from the Rust source on every run
  (`Model/Gen/`) and the hand model.  The ties themselves stand one file per area, so that a broken obligation only affects
  the properties that rest on it.

  A compiled function and its hand model are two decision trees over the same arithmetic.  The tie never follows the shape of the
  generated term.  Both sides are unfolded and brought to ONE normal form by the simp set `gen_nf`:
    * Boolean tests become propositions (`decide`, `&&`, `||`, `!`, `==`, `!=`);
    * `bind` / `map` of `Option` (and `Res.bind`) are right-nested, pushed through every conditional, and applied to `some` / `none`;
    * every checked operation of the run-time library (`i32c`, `usub`, a slice, …) becomes a guard `guardO P x`, kept folded, and guards
      are merged (`guardO_guardO`): a straight-line run of checked operations is ONE guard whose condition is the conjunction of the checks;
    * the run-time library of the compiled code is rewritten to the model's (`rt_* = …`: each area file adds its own).
  Then `gen_eq` splits EVERY conditional and every bind of an opaque option of either side (so the order of independent statements,
  swapped branches, De Morgan forms, early returns do not matter) and compares the leaves (`gen_leaf`): equivalent guard
  conditions and equal values by `omega`, excluded paths by `omega` on the path conditions.
  What a tie says beyond `unfold …; gen_eq` is what is special about it: an arithmetic identity, a loop invariant.
-/
import Umya.Model.Gen.Fns
import Umya.Model.Gen.Kernels
import Umya.Lemmas.GenTactics
namespace Umya.Gen
open Umya.Coord (Res)

/-- `if P then x else none`, kept folded so that `split` only sees the program's own conditionals -/
def guardO {α} (P : Prop) [Decidable P] (x : Option α) : Option α := if P then x else none

theorem guardO_congr {α} {P Q : Prop} [Decidable P] [Decidable Q] {x y : Option α}
    (hpq : P ↔ Q) (hxy : P → x = y) : guardO P x = guardO Q y := by
  unfold guardO
  by_cases hp : P
  · have hq : Q := hpq.1 hp
    simp [hp, hq, hxy hp]
  · have hq : ¬ Q := fun h => hp (hpq.2 h)
    simp [hp, hq]

theorem guardO_guardO {α} (P Q : Prop) [Decidable P] [Decidable Q] (x : Option α) :
    guardO P (guardO Q x) = guardO (P ∧ Q) x := by
  unfold guardO; by_cases hp : P <;> by_cases hq : Q <;> simp [hp, hq]

theorem guardO_bind {α β} (P : Prop) [Decidable P] (x : Option α) (f : α → Option β) :
    (guardO P x).bind f = guardO P (x.bind f) := by
  unfold guardO; by_cases hp : P <;> simp [hp]

theorem guardO_map {α β} (P : Prop) [Decidable P] (x : Option α) (f : α → β) :
    (guardO P x).map f = guardO P (x.map f) := by
  unfold guardO; by_cases hp : P <;> simp [hp]

theorem guardO_true {α} (P : Prop) [Decidable P] (x : Option α) (h : P) : guardO P x = x := by
  simp [guardO, h]

theorem guardO_false {α} (P : Prop) [Decidable P] (x : Option α) (h : ¬ P) : guardO P x = none := by
  simp [guardO, h]

-- a checked operation has two rules in `gen_nf`, here and in the area files: `x_eq` turns it into a guard; `x_bind` is `x_eq` followed by
-- `guardO_bind` and `Option.bind_some`, one step of `simp` for three, with the same normal form
theorem i32c_bind {β} (x : Int) (f : Int → Option β) :
    (i32c x).bind f = guardO (-2147483648 ≤ x ∧ x ≤ 2147483647) (f x) := by
  unfold i32c guardO; split <;> simp

theorem i32c_eq (x : Int) : i32c x = guardO (-2147483648 ≤ x ∧ x ≤ 2147483647) (some x) := rfl

theorem usub_bind {β} (a b : Nat) (f : Nat → Option β) : (usub a b).bind f = guardO (b ≤ a) (f (a - b)) := by
  unfold usub guardO; split <;> simp

theorem usub_eq (a b : Nat) : usub a b = guardO (b ≤ a) (some (a - b)) := rfl

theorem bind_congr' {α β} {o : Option α} {f g : α → Option β} (h : ∀ a, f a = g a) : o.bind f = o.bind g := by
  cases o <;> simp [h]

theorem some_congr' {α} {a b : α} (h : a = b) : some a = some b := by rw [h]

/-- `i32 / k` for a positive literal `k`, in the terms `omega` understands.  The equation does not need `_hk`: it is there so that
    `simp (disch := decide)` in `arith` rewrites the divisions by positive literals and no other -/
theorem tdiv_pos_lit (a k : Int) (_hk : 0 < k) : a.tdiv k = if 0 ≤ a then a / k else -((-a) / k) := by
  split
  · exact Int.tdiv_eq_ediv_of_nonneg ‹_›
  · have : a = -(-a) := by omega
    rw [this, Int.neg_tdiv, Int.tdiv_eq_ediv_of_nonneg (by omega)]; simp

theorem guardO_none {α} (P : Prop) [Decidable P] : guardO P (none : Option α) = none := by
  unfold guardO; split <;> rfl

theorem guardO_eq_some_iff {α} (P : Prop) [Decidable P] (a b : α) : guardO P (some a) = some b ↔ P ∧ a = b := by
  unfold guardO; by_cases h : P <;> simp [h]

theorem guardO_eq_none_iff {α} (P : Prop) [Decidable P] (a : α) : guardO P (some a) = none ↔ ¬ P := by
  unfold guardO; by_cases h : P <;> simp [h]

/-- a bind of an opaque option (an extern, a parse) as a `match`, so that `split` can take it apart wherever it stands -/
theorem bind_as_match {α β} (o : Option α) (f : α → Option β) :
    o.bind f = match o with | none => none | some a => f a := by cases o <;> rfl

theorem ite_bind' {α β} (c : Prop) [Decidable c] (a b : Option α) (f : α → Option β) :
    (if c then a else b).bind f = if c then a.bind f else b.bind f := by split <;> rfl

theorem ite_map' {α β} (c : Prop) [Decidable c] (a b : Option α) (f : α → β) :
    (if c then a else b).map f = if c then a.map f else b.map f := by split <;> rfl

/-- linear integer arithmetic with truncating division by positive literals: `omega` with the divisions as atoms;
    if that fails, with the literals of products and sums moved to canonical places (`Lemmas/GenTactics.lean`) (so that `a * 3` and `3 * a` under a
    division are one atom; terminating, no AC rewriting); if that fails too, with the truncating divisions expanded into
    floor divisions by cases on the sign -/
macro "arith" : tactic => `(tactic| first
  | omega
  | (simp only [mulLitLeft, addLitRight] at *; omega)
  | (simp (disch := decide) only [tdiv_pos_lit] at *; omega)
  | (simp only [mulLitLeft, addLitRight] at *; simp (disch := decide) only [tdiv_pos_lit] at *; omega))

syntax "arith_congr" : tactic
macro_rules | `(tactic| arith_congr) => `(tactic| first | rfl | arith | (congr 1 <;> arith_congr))

theorem bind_ok' {α β} (a : α) (f : α → Res β) : Res.bind (.ok a) f = f a := rfl
theorem bind_panic' {α β} (f : α → Res β) : Res.bind (.panic : Res α) f = .panic := rfl
theorem bind_ite' {α β} (c : Prop) [Decidable c] (a b : Res α) (f : α → Res β) :
    Res.bind (if c then a else b) f = if c then Res.bind a f else Res.bind b f := by
  split <;> rfl

attribute [gen_nf] Bool.or_eq_true Bool.and_eq_true Bool.or_eq_false_iff Bool.and_eq_false_iff Bool.not_eq_true' Bool.not_eq_false'
  Bool.not_eq_true Bool.not_eq_false Bool.not_not Bool.not_true Bool.not_false decide_eq_true_eq decide_eq_false_iff_not
  beq_iff_eq bne_iff_ne beq_eq_false_iff_ne bne_eq_false_iff_eq ne_eq Bool.true_eq_false Bool.false_eq_true
  Bool.or_false Bool.or_true Bool.false_or Bool.true_or Bool.and_false Bool.and_true Bool.false_and Bool.true_and
  eq_self not_true_eq_false not_false_eq_true if_true if_false ite_true ite_false

-- `rIte … rSub` are the operators lifted to `Res` (`Model/GenPrelude.lean`) in which the shift kernels of `Model/Gen/Kernels.lean` are compiled
attribute [gen_nf] Option.bind_eq_bind Option.pure_def Option.bind_assoc Option.bind_some Option.bind_none Option.map_bind
  Option.map_some Option.map_none Function.comp_def ite_bind' ite_map'
  bind_ok' bind_panic' bind_ite' rIte rAnd rOr rNot rGe rGt rLe rLt rEq rNe rAdd rSub

attribute [gen_nf] i32c_bind i32c_eq usub_bind usub_eq guardO_bind guardO_map guardO_guardO guardO_none guardO_eq_some_iff
  guardO_eq_none_iff

/-! loops: a `for` loop is compiled to a left fold of its lifted body (`rt_foldlM` when the body can fail); a loop that appends is a `flatMap` -/

theorem rt_foldlM_some {σ α} (g : σ → α → σ) (s : σ) (l : List α) :
    rt_foldlM (fun s a => some (g s a)) s l = some (List.foldl g s l) := by
  induction l generalizing s with
  | nil => rfl
  | cons a l ih => simp [rt_foldlM, ih]

theorem foldl_append_flatMap {α β} (h : α → List β) (init : List β) (l : List α) :
    List.foldl (fun s a => s ++ h a) init l = init ++ l.flatMap h := by
  induction l generalizing init with
  | nil => simp
  | cons a l ih => simp [ih, List.flatMap_cons]

theorem foldl_append_flatten {β} (init : List β) (l : List (List β)) :
    List.foldl (fun s a => s ++ a) init l = init ++ l.flatten := by
  simpa using foldl_append_flatMap id init l

theorem foldl_push {α β} (f : α → β) (l : List α) (init : List β) :
    List.foldl (fun st x => st ++ [f x]) init l = init ++ l.map f := by
  induction l generalizing init with
  | nil => simp
  | cons a l ih => simp [ih]

/-- both sides to normal form, the path conditions with them -/
macro "gen_norm" : tactic => `(tactic| simp only [gen_nf, ↓reduceIte, *] at *)

/-- a leaf, after every split: `guardO P (some v)`, `some v` or `none` on either side.  Equivalent guards and equal values (first by
    looking every condition of one guard up among those of the other: `simp only [hg]` uses each conjunct of the assumed guard `hg` as a
    rewrite rule, so the order of the checks is irrelevant and no arithmetic is needed; else by `omega` on the equivalence), or a
    guard / a path that the path conditions exclude -/
macro "gen_leaf" : tactic => `(tactic| first
  | rfl
  | omega
  | (exfalso; omega)
  | (refine guardO_congr ?_ ?_
     · constructor <;> (intro hg; simp only [hg, and_self])
     · intro _; first | rfl | (apply some_congr'; arith_congr))
  | (apply guardO_congr (by arith); intro _; first | rfl | (apply some_congr'; arith_congr))
  | (apply some_congr'; arith_congr)
  | (rw [guardO_false _ _ (by omega)])
  | (symm; rw [guardO_false _ _ (by omega)])
  | (unfold guardO; split <;> first | rfl | (exfalso; arith) | (apply some_congr'; arith_congr) | (split <;> first | rfl | (exfalso; arith) | (apply some_congr'; arith_congr)))
  | (simp only [Option.some.injEq, Prod.mk.injEq, and_true, true_and, reduceCtorEq] at * <;> omega)
  | (simp_all <;> omega)
  | simp_all)

/-- split every conditional of both sides, then every bind of an opaque option (as a `match`), normalising on the way; compare the leaves -/
macro "gen_eq" : tactic => `(tactic|
  ((try gen_norm)
   repeat' (split <;> (try gen_norm))
   all_goals (try simp only [bind_as_match] at *)
   repeat' (split <;> (try gen_norm))
   all_goals gen_leaf))

end Umya.Gen
