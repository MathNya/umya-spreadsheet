/-
  Tie to the source (T) — `src/helper/crypt.rs`: `convert_password_to_hash` and the three `encrypt_*_protection` setters as compiled
  from the source on this run are the hand model's (`Umya/Model/PwHash.lean`), for all arguments.

  The compiled `hash` (externs: the `Sha512` hasher as the bytes fed so far, `finalize` = `P.sha512`) is `sha512Of P` by
  `gen_hash` (SHA-512 of the concatenation for the two accepted algorithm names, `Err` otherwise; every caller unwraps, so `Err` =
  `none` = panic); base64 is `P.b64`; the k-th `gen_random_16()` of a function is
  `draw k`; the protection object is `rt_Obj` (its `StringValue` / `UInt32Value` fields by name; which field a setter writes is read by
  the translator from `src/structs/sheet_protection.rs` / `workbook_protection.rs`); `sheetView` / `workbookView` read the model's
  records out of it.
-/
import Umya.Lemmas.FnsGenCryptBuf
import Umya.Model.PwHash
namespace Umya.Gen
open Umya.Crypto Umya.PwHash
set_option linter.unusedSimpArgs false

/-- `convert_password_to_hash(password, algorithm, salt, spin)` for ALL arguments: the model's hash for the two algorithm names `hash`
    accepts, a panic (`unwrap` of `Err`) for any other -/
theorem gen_convert_password_to_hash (P : Prims) (pw alg : List Char) (salt : Bytes) (spin : Nat) :
    crypt_convert_password_to_hash P.sha512 [] shaUpd pw alg salt spin =
      if algOk alg then some (convertPasswordToHash P pw salt spin) else none := by
  gen_unfold_crypt_convert_password_to_hash
  simp only [gen_hash]
  by_cases h : algOk alg
  · simp only [sha512Of_ok P alg h, if_pos h]
    simp only [gen_nf]
    simp only [convertPasswordToHash, spinLoop_eq_foldl]
  · simp only [sha512Of_bad P alg h, if_neg h]
    simp only [gen_nf]

/-- the model's five password fields of one kind, read out of the object by field name -/
def pwView (o : rt_Obj) (alg hash salt spin pw : String) : PwFields :=
  { algorithmName := o.str alg, hashValue := o.str hash, saltValue := o.str salt, spinCount := o.u32 spin, password := o.str pw }

def sheetView (o : rt_Obj) : SheetProtection :=
  { pw := pwView o "algorithm_name" "hash_value" "salt_value" "spin_count" "password" }

def workbookView (o : rt_Obj) : WorkbookProtection :=
  { workbook := pwView o "workbook_algorithm_name" "workbook_hash_value" "workbook_salt_value" "workbook_spin_count" "workbook_password"
    revisions := pwView o "revisions_algorithm_name" "revisions_hash_value" "revisions_salt_value" "revisions_spin_count" "revisions_password" }

/-- the fields of the object outside a set of names are unchanged -/
def sameOutside (names : List String) (o o' : rt_Obj) : Prop :=
  (∀ f, f ∉ names → o'.str f = o.str f) ∧ (∀ f, f ∉ names → o'.u32 f = o.u32 f)

theorem rt_Obj.str_setStr (o : rt_Obj) (f : String) (v : List Char) (g : String) :
    (o.setStr f v).str g = if g = f then some v else o.str g := rfl
theorem rt_Obj.u32_setStr (o : rt_Obj) (f : String) (v : List Char) : (o.setStr f v).u32 = o.u32 := rfl
theorem rt_Obj.str_removeStr (o : rt_Obj) (f g : String) : (o.removeStr f).str g = if g = f then none else o.str g := rfl
theorem rt_Obj.u32_removeStr (o : rt_Obj) (f : String) : (o.removeStr f).u32 = o.u32 := rfl
theorem rt_Obj.u32_setU32 (o : rt_Obj) (f : String) (v : Nat) (g : String) :
    (o.setU32 f v).u32 g = if g = f then some v else o.u32 g := rfl
theorem rt_Obj.str_setU32 (o : rt_Obj) (f : String) (v : Nat) : (o.setU32 f v).str = o.str := rfl
theorem rt_Obj.u32_removeU32 (o : rt_Obj) (f g : String) : (o.removeU32 f).u32 g = if g = f then none else o.u32 g := rfl
theorem rt_Obj.str_removeU32 (o : rt_Obj) (f : String) : (o.removeU32 f).str = o.str := rfl

attribute [gen_nf] rt_Obj.str_setStr rt_Obj.u32_setStr rt_Obj.str_removeStr rt_Obj.u32_removeStr rt_Obj.u32_setU32 rt_Obj.str_setU32
  rt_Obj.u32_removeU32 rt_Obj.str_removeU32

/-- after the hash call has been rewritten to the model's: the object returned is the chain of field updates; its view is computed field by
    field, and a field outside the listed names passes every update unchanged -/
macro "setter_proof" : tactic => `(tactic| (
  simp only [gen_convert_password_to_hash, if_pos algOk_sha_512, Option.bind_eq_bind, Option.bind_some]
  refine ⟨_, rfl, ?_, ?_⟩
  · simp [sheetView, workbookView, pwView, gen_nf, setSheetPassword, setWorkbookPassword, setRevisionsPassword, setPasswordFields, algName,
      spinCountConst]
  · constructor <;> intro f hf <;> simp only [List.mem_cons, List.not_mem_nil, or_false, not_or] at hf <;> simp only [gen_nf, hf, if_false]))

theorem gen_encrypt_sheet_protection (P : Prims) (draw : Nat → Bytes) (pw : List Char) (o : rt_Obj) :
    ∃ o', crypt_encrypt_sheet_protection P.b64 draw P.sha512 [] shaUpd pw o = some o' ∧
      sheetView o' = setSheetPassword P pw (draw 0) (sheetView o) ∧
      sameOutside ["algorithm_name", "hash_value", "salt_value", "spin_count", "password"] o o' := by
  gen_unfold_crypt_encrypt_sheet_protection
  setter_proof

theorem gen_encrypt_workbook_protection (P : Prims) (draw : Nat → Bytes) (pw : List Char) (o : rt_Obj) :
    ∃ o', crypt_encrypt_workbook_protection P.b64 draw P.sha512 [] shaUpd pw o = some o' ∧
      workbookView o' = setWorkbookPassword P pw (draw 0) (workbookView o) ∧
      sameOutside ["workbook_algorithm_name", "workbook_hash_value", "workbook_salt_value", "workbook_spin_count", "workbook_password"] o o' := by
  gen_unfold_crypt_encrypt_workbook_protection
  setter_proof

theorem gen_encrypt_revisions_protection (P : Prims) (draw : Nat → Bytes) (pw : List Char) (o : rt_Obj) :
    ∃ o', crypt_encrypt_revisions_protection P.b64 draw P.sha512 [] shaUpd pw o = some o' ∧
      workbookView o' = setRevisionsPassword P pw (draw 0) (workbookView o) ∧
      sameOutside ["revisions_algorithm_name", "revisions_hash_value", "revisions_salt_value", "revisions_spin_count", "revisions_password"] o o' := by
  gen_unfold_crypt_encrypt_revisions_protection
  setter_proof

end Umya.Gen
