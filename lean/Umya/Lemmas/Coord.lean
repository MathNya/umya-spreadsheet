/-
  Column letters are the bijective base-26 numerals: `valRev` is the value of a little-endian numeral, `alphaRev` its
  inverse, and both column parsers (`alphaVal`, which is `alphaToIndexGen` by definition, and the three-letter
  `alphaToIndex`) compute `valRev` of the reversed text.  After the numerals: what the two regex groups of
  `index_from_coordinate` match on printed references, which characters a printed range is made of
  (`Range.print_chars`), and un-doubling after doubling of apostrophes for any function with the two step equations.
-/
import Umya.Model.Coord
import Umya.Lemmas.ListFacts
namespace Umya.Coord
open Umya.Dec

theorem letter_toNat (d : Nat) : (letter d).toNat = 65 + d % 26 := by
  have : ∀ k : Fin 26, (Char.ofNat (65 + k.val)).toNat = 65 + k.val := by decide
  exact this ⟨d % 26, Nat.mod_lt _ (by decide)⟩

theorem isUpperAZ_letter (d : Nat) : isUpperAZ (letter d) = true := by
  have h := letter_toNat d
  have : d % 26 < 26 := Nat.mod_lt _ (by decide)
  simp [isUpperAZ, h]; omega

theorem isUpperAZ_iff (c : Char) : isUpperAZ c = true ↔ 65 ≤ c.toNat ∧ c.toNat ≤ 90 := by
  simp [isUpperAZ]

theorem letter_of_upper (c : Char) (h : isUpperAZ c = true) {k : Nat}
    (hk : k % 26 = c.toNat - 65) : letter k = c := by
  have h' := (isUpperAZ_iff c).1 h
  apply Char.toNat_inj.1
  rw [letter_toNat, hk]; omega

theorem upcase_upper (c : Char) (h : isUpperAZ c = true) : upcase c = c := by
  have h' := (isUpperAZ_iff c).1 h
  have : isLowerAZ c = false := by simp [isLowerAZ]; omega
  simp [upcase, this]

theorem alphaRev_cons (v : Nat) : alphaRev v = letter v :: (if v / 26 = 0 then [] else alphaRev (v / 26 - 1)) := by
  rw [alphaRev]; split <;> rfl

/-- value of a little-endian bijective base-26 numeral -/
def valRev : List Char → Nat
  | [] => 0
  | c :: r => (c.toNat - 65 + 1) + 26 * valRev r

theorem valRev_alphaRev (v : Nat) : valRev (alphaRev v) = v + 1 := by
  induction v using Nat.strongRecOn with
  | _ v ih =>
    rw [alphaRev_cons, valRev, letter_toNat]
    by_cases h : v / 26 = 0
    · rw [if_pos h, valRev]; omega
    · rw [if_neg h, ih (v / 26 - 1) (by omega)]; omega

theorem alphaRev_all_upper (v : Nat) : (alphaRev v).all isUpperAZ = true := by
  induction v using Nat.strongRecOn with
  | _ v ih =>
    rw [alphaRev_cons, List.all_cons, isUpperAZ_letter, Bool.true_and]
    split
    · rfl
    · exact ih _ (by omega)

/-- 18278 = 26 + 26² + 26³ is the column `ZZZ`, the last one of three letters (`valRev_le3`) -/
theorem indexToAlpha_length_le3 (n : Nat) (h : n ≤ 18278) : (indexToAlpha n).length ≤ 3 := by
  simp only [indexToAlpha, List.length_reverse]
  rw [alphaRev_cons]; split
  · simp
  · rw [alphaRev_cons]; split
    · simp
    · rw [alphaRev_cons]; split
      · simp
      · omega

theorem indexToAlpha_length_pos (n : Nat) : 1 ≤ (indexToAlpha n).length := by
  simp only [indexToAlpha, List.length_reverse]; rw [alphaRev_cons]; simp

theorem alphaToIndexGen_reverse (s : List Char) :
    alphaToIndexGen s.reverse = valRev s := by
  induction s with
  | nil => rfl
  | cons c r ih =>
    simp only [alphaToIndexGen, List.reverse_cons, List.foldl_append, List.foldl_cons,
      List.foldl_nil, valRev]
    simp only [alphaToIndexGen] at ih
    rw [ih]; omega

theorem valRev_pos (s : List Char) (h : s ≠ []) : 1 ≤ valRev s := by
  cases s with
  | nil => exact absurd rfl h
  | cons c r => simp [valRev]; omega

theorem alphaRev_valRev (s : List Char) (hu : s.all isUpperAZ = true) (hne : s ≠ []) :
    alphaRev (valRev s - 1) = s := by
  induction s with
  | nil => exact absurd rfl hne
  | cons c r ih =>
    simp only [List.all_cons, Bool.and_eq_true] at hu
    have hc := (isUpperAZ_iff c).1 hu.1
    -- the last digit of `valRev (c :: r) - 1` is `c`, what is left of it is `valRev r`
    have hv : valRev (c :: r) - 1 = (c.toNat - 65) + 26 * valRev r := by simp only [valRev]; omega
    have hq : (c.toNat - 65 + 26 * valRev r) / 26 = valRev r := by omega
    rw [hv, alphaRev_cons, letter_of_upper c hu.1 (by omega), hq]
    by_cases hr : r = []
    · subst hr; rfl
    · rw [if_neg (by have := valRev_pos r hr; omega), ih hu.2 hr]

theorem alphaToIndex_go_eq (cs : List Char) (i acc : Nat) :
    alphaToIndex.go cs i acc = acc + 26 ^ i * valRev cs := by
  induction cs generalizing i acc with
  | nil => simp [alphaToIndex.go, valRev]
  | cons c r ih =>
    simp only [alphaToIndex.go, valRev, ih]
    rw [Nat.pow_succ]
    generalize 26 ^ i = p
    generalize valRev r = q
    generalize c.toNat - 65 + 1 = d
    -- `acc + p * d + p * 26 * q = acc + p * (d + 26 * q)`: only distributivity and commutativity of the product are left
    rw [Nat.mul_add, Nat.add_assoc]
    congr 1
    rw [Nat.mul_assoc, Nat.mul_comm 26 q, ← Nat.mul_assoc]

theorem map_upcase_upper (s : List Char) (h : s.all isUpperAZ = true) : s.map upcase = s := by
  induction s with
  | nil => rfl
  | cons c r ih =>
    simp only [List.all_cons, Bool.and_eq_true] at h
    simp [upcase_upper c h.1, ih h.2]

theorem alphaVal_eq_valRev (s : List Char) : alphaVal s = valRev s.reverse := by
  rw [alphaVal, ← alphaToIndexGen_reverse, List.reverse_reverse]

/-- `index_from_coordinate` is modelled through `alphaVal` (the positional value, any length, no panic) although the Rust
    calls the three-letter `alpha_to_index`: on what the regex hands over, `[A-Z]{1,3}`, the two agree. -/
theorem alphaToIndex_upper (s : List Char) (hu : s.all isUpperAZ = true) (hl : s.length ≤ 3) :
    alphaToIndex s = .ok (alphaVal s) := by
  rw [alphaVal_eq_valRev]
  unfold alphaToIndex
  simp only [map_upcase_upper s hu]
  have h1 : ¬ s.length > 3 := by omega
  have h2 : s.any (fun c => decide (c.toNat < 65)) = false := by
    rw [List.any_eq_false]
    intro c hc
    have := (isUpperAZ_iff c).1 (List.all_eq_true.1 hu c hc)
    simp; omega
  simp [h1, h2, alphaToIndex_go_eq]

/-- the largest value of a numeral of `n` letters -/
def maxVal : Nat → Nat
  | 0 => 0
  | n + 1 => 26 + 26 * maxVal n

theorem valRev_le (s : List Char) (hu : s.all isUpperAZ = true) : ∀ n, s.length ≤ n → valRev s ≤ maxVal n := by
  induction s with
  | nil => intro n _; exact Nat.zero_le _
  | cons c r ih =>
    intro n hn
    simp only [List.all_cons, Bool.and_eq_true] at hu
    have hc := (isUpperAZ_iff c).1 hu.1
    match n, hn with
    | m + 1, hn =>
      have := ih hu.2 m (by simpa using hn)
      simp only [valRev, maxVal]; omega

/-- `maxVal 3` evaluates to 18278 = ZZZ -/
theorem valRev_le3 (s : List Char) (hu : s.all isUpperAZ = true) (hl : s.length ≤ 3) : valRev s ≤ 18278 :=
  valRev_le s hu 3 hl

theorem letters_parse_print (s : List Char) (hu : s.all isUpperAZ = true) (hl : 1 ≤ s.length ∧ s.length ≤ 3) :
    columnIndexFromString s = .ok (alphaVal s) ∧ (1 ≤ alphaVal s ∧ alphaVal s ≤ 18278) ∧
      indexToAlpha (alphaVal s) = s := by
  have hcol : columnIndexFromString s = .ok (alphaVal s) := by
    have h0 : s ≠ ['0'] := by intro h0; subst h0; simp [isUpperAZ] at hu
    unfold columnIndexFromString
    rw [if_neg h0, alphaToIndex_upper s hu hl.2]
  rw [alphaVal_eq_valRev] at hcol ⊢
  have hne : s.reverse ≠ [] := by
    intro h; rw [List.reverse_eq_nil_iff] at h; subst h; simp at hl
  have hur : s.reverse.all isUpperAZ = true := by simpa [List.all_reverse] using hu
  refine ⟨hcol, ⟨valRev_pos _ hne, valRev_le3 _ hur (by simpa using hl.2)⟩, ?_⟩
  · simp only [indexToAlpha]
    rw [alphaRev_valRev s.reverse hur hne, List.reverse_reverse]

theorem takeUpper_append (n : Nat) {ls rest : List Char} (hu : ls.all isUpperAZ = true)
    (hl : ls.length ≤ n)
    (hr : ls.length = n ∨ rest = [] ∨ ∃ c r, rest = c :: r ∧ isUpperAZ c = false) :
    takeUpper n (ls ++ rest) = (ls, rest) := by
  induction ls generalizing n with
  | nil =>
    cases n with
    | zero => simp [takeUpper]
    | succ n =>
      rcases hr with h | h | ⟨c, r, h, hc⟩
      · simp at h
      · simp [h, takeUpper]
      · simp [h, takeUpper, hc]
  | cons c r ih =>
    cases n with
    | zero => simp at hl
    | succ n =>
      simp only [List.all_cons, Bool.and_eq_true] at hu
      simp only [List.cons_append, takeUpper, hu.1, if_true]
      have := ih n hu.2 (by simpa using hl) (by
        rcases hr with h | h | h
        · left; simpa using h
        · right; left; exact h
        · right; right; exact h)
      rw [this]

theorem upper_isAlpha (c : Char) (h : isUpperAZ c = true) : c.isAlpha = true := by
  simp [isUpperAZ] at h
  simp [Char.isAlpha, Char.isUpper, UInt32.le_iff_toNat_le, h]

theorem digit_not_alpha (c : Char) (h : isDigit c = true) : c.isAlpha = false := by
  simp [isDigit] at h
  simp [Char.isAlpha, Char.isUpper, Char.isLower, UInt32.le_iff_toNat_le]
  omega

theorem upper_toUpper (c : Char) (h : isUpperAZ c = true) : c.toUpper = c := by
  simp [isUpperAZ] at h
  simp [Char.toUpper, UInt32.le_iff_toNat_le]
  omega

theorem isDigit_not_upper (c : Char) (h : isDigit c = true) : isUpperAZ c = false := by
  simp [isDigit] at h
  simp [isUpperAZ]; omega

theorem indexToAlpha_upper (n : Nat) : (indexToAlpha n).all isUpperAZ = true := by
  simp [indexToAlpha, List.all_reverse, alphaRev_all_upper]

theorem indexToAlpha_head (n : Nat) : ∃ c r, indexToAlpha n = c :: r ∧ isUpperAZ c = true := by
  have hall := indexToAlpha_upper n
  cases h : indexToAlpha n with
  | nil =>
    exact absurd (h ▸ indexToAlpha_length_pos n) (by simp)
  | cons c r =>
    rw [h] at hall
    simp only [List.all_cons, Bool.and_eq_true] at hall
    exact ⟨c, r, rfl, hall.1⟩

theorem alphaVal_indexToAlpha (n : Nat) (h : 1 ≤ n) : alphaVal (indexToAlpha n) = n := by
  simp only [alphaVal, indexToAlpha, alphaToIndexGen_reverse, valRev_alphaRev]; omega

theorem matchColGroup_nil : matchColGroup [] = none := by
  simp [matchColGroup, takeUpTo3Upper, takeUpper]

theorem matchRowGroup_nil : matchRowGroup [] = none := by
  simp [matchRowGroup]

theorem indexFromCoordinate_nil : indexFromCoordinate [] = (none, none, none, none) := by
  simp [indexFromCoordinate, matchColGroup_nil, matchRowGroup_nil]

theorem matchColGroup_bare {c : Char} (r : List Char) (hd : c ≠ '$') :
    matchColGroup (c :: r) =
      if (takeUpTo3Upper (c :: r)).1.isEmpty then none else some (false, takeUpTo3Upper (c :: r)) := by
  unfold matchColGroup
  split
  · rename_i heq; injection heq with h1 _; exact absurd h1 hd
  · rfl

theorem matchRowGroup_bare {c : Char} (r : List Char) (hd : c ≠ '$') :
    matchRowGroup (c :: r) =
      if ((c :: r).takeWhile isDigit).isEmpty then none else some (false, (c :: r).takeWhile isDigit) := by
  unfold matchRowGroup
  split
  · rename_i heq; injection heq with h1 _; exact absurd h1 hd
  · rfl

theorem isUpperAZ_ne_dollar {c : Char} (h : isUpperAZ c = true) : c ≠ '$' := by
  rintro rfl; simp [isUpperAZ] at h

theorem isDigit_ne_dollar {c : Char} (h : isDigit c = true) : c ≠ '$' := by
  rintro rfl; simp [isDigit] at h

theorem matchColGroup_upper (c : Char) (r : List Char) (hu : isUpperAZ c = true) :
    ∃ x, matchColGroup (c :: r) = some x := by
  simp [matchColGroup_bare r (isUpperAZ_ne_dollar hu), takeUpTo3Upper, takeUpper, hu]

theorem matchColGroup_not_upper (c : Char) (r : List Char) (hu : isUpperAZ c = false) (hd : c ≠ '$') :
    matchColGroup (c :: r) = none := by
  simp [matchColGroup_bare r hd, takeUpTo3Upper, takeUpper, hu]

theorem matchRowGroup_not_digit (c : Char) (r : List Char) (hg : isDigit c = false) (hd : c ≠ '$') :
    matchRowGroup (c :: r) = none := by
  simp [matchRowGroup_bare r hd, List.takeWhile, hg]

theorem matchRowGroup_digit (c : Char) (r : List Char) (hg : isDigit c = true) :
    matchRowGroup (c :: r) = some (false, (c :: r).takeWhile isDigit) := by
  simp [matchRowGroup_bare r (isDigit_ne_dollar hg), List.takeWhile, hg]

theorem rowRefText_head (x : Ref) (rest : List Char) : ∃ ch rs, rowRefText x ++ rest = ch :: rs ∧ isUpperAZ ch = false := by
  obtain ⟨d, ds, hd, hdig⟩ := decDigits_head x.num
  cases hl : x.lock
  · exact ⟨d, ds ++ rest, by simp [rowRefText, hl, hd], isDigit_not_upper d hdig⟩
  · exact ⟨'$', decDigits x.num ++ rest, by simp [rowRefText, hl], by decide⟩

theorem matchRowGroup_digits {ds rest : List Char} (hd : ds.all isDigit = true) (hne : ds ≠ [])
    (hr : rest = [] ∨ ∃ c r, rest = c :: r ∧ isDigit c = false) :
    matchRowGroup (ds ++ rest) = some (false, ds) := by
  have htw := (takeWhile_dropWhile_run isDigit ds rest hd hr).1
  obtain ⟨d, dr, rfl⟩ := List.exists_cons_of_ne_nil hne
  rw [List.all_cons, Bool.and_eq_true] at hd
  rw [List.cons_append] at htw ⊢
  simp [matchRowGroup_bare _ (isDigit_ne_dollar hd.1), htw]

theorem matchRowGroup_rowText_rest (x : Ref) (rest : List Char)
    (hr : rest = [] ∨ ∃ c r, rest = c :: r ∧ isDigit c = false) :
    matchRowGroup (rowRefText x ++ rest) = some (x.lock, decDigits x.num) := by
  cases hl : x.lock
  · have e : rowRefText x ++ rest = decDigits x.num ++ rest := by simp [rowRefText, hl]
    rw [e, matchRowGroup_digits (decDigits_all_digit _) (decDigits_ne_nil _) hr]
  · have e : rowRefText x ++ rest = '$' :: (decDigits x.num ++ rest) := by simp [rowRefText, hl]
    rw [e]
    unfold matchRowGroup
    simp [(takeWhile_dropWhile_run isDigit _ rest (decDigits_all_digit _) hr).1, decDigits_isEmpty]

theorem matchRowGroup_rowText (x : Ref) : matchRowGroup (rowRefText x) = some (x.lock, decDigits x.num) := by
  simpa using matchRowGroup_rowText_rest x [] (Or.inl rfl)

theorem matchColGroup_rowText (x : Ref) : matchColGroup (rowRefText x) = none := by
  obtain ⟨d, ds, hd, hdig⟩ := decDigits_head x.num
  have hnu := isDigit_not_upper d hdig
  cases hl : x.lock
  · simp only [rowRefText, hl, Bool.false_eq_true, if_false, List.nil_append, hd]
    exact matchColGroup_not_upper d ds hnu (isDigit_ne_dollar hdig)
  · simp only [rowRefText, hl, if_true, List.cons_append, List.nil_append, hd]
    unfold matchColGroup
    simp [takeUpTo3Upper, takeUpper, hnu]

theorem matchColGroup_colText (y : Ref) (rest : List Char) (hy : y.num ≤ 18278)
    (hrest : rest = [] ∨ ∃ ch rs, rest = ch :: rs ∧ isUpperAZ ch = false) :
    matchColGroup (colRefText y ++ rest) = some (y.lock, indexToAlpha y.num, rest) := by
  have hup := indexToAlpha_upper y.num
  have hlen : (indexToAlpha y.num).length ≤ 3 := indexToAlpha_length_le3 _ hy
  have htake : takeUpTo3Upper (indexToAlpha y.num ++ rest) = (indexToAlpha y.num, rest) :=
    takeUpper_append 3 hup hlen (Or.inr hrest)
  obtain ⟨a, as, has, haup⟩ := indexToAlpha_head y.num
  have hne : (indexToAlpha y.num).isEmpty = false := by rw [has]; rfl
  cases hl : y.lock
  · simp only [colRefText, hl, Bool.false_eq_true, if_false, List.nil_append]
    rw [has, List.cons_append] at htake ⊢
    simp [matchColGroup_bare _ (isUpperAZ_ne_dollar haup), htake]
  · simp only [colRefText, hl, if_true, List.cons_append, List.nil_append]
    unfold matchColGroup
    simp [htake, hne]

theorem indexFromCoordinate_suffix (c r : Ref) (rest : List Char) (hc : 1 ≤ c.num ∧ c.num ≤ 18278)
    (hr : r.num < 4294967296) (hrest : rest = [] ∨ ∃ ch rs, rest = ch :: rs ∧ isDigit ch = false) :
    indexFromCoordinate (colRefText c ++ rowRefText r ++ rest) = (some c.num, some r.num, some c.lock, some r.lock) := by
  have h1 := matchColGroup_colText c (rowRefText r ++ rest) hc.2 (Or.inr (rowRefText_head r rest))
  have h2 := matchRowGroup_rowText_rest r rest hrest
  rw [List.append_assoc]
  simp [indexFromCoordinate, h1, h2, parseU32_decDigits r.num hr, alphaVal_indexToAlpha c.num hc.1]

theorem cornerText_chars {P : Char → Prop} (hd : P '$') (ha : ∀ c, isUpperAZ c = true ∨ isDigit c = true → P c)
    (c r : Option Ref) : ∀ ch ∈ optText colRefText c ++ optText rowRefText r, P ch := by
  have lock : ∀ l : Bool, ∀ ch ∈ (if l then ['$'] else []), P ch := by
    intro l ch h
    cases l <;> simp at h
    exact h ▸ hd
  intro ch h
  rcases List.mem_append.1 h with h | h
  · cases c with
    | none => cases h
    | some x =>
      rcases List.mem_append.1 h with h | h
      · exact lock _ ch h
      · exact ha ch (.inl (List.all_eq_true.1 (indexToAlpha_upper x.num) ch h))
  · cases r with
    | none => cases h
    | some x =>
      rcases List.mem_append.1 h with h | h
      · exact lock _ ch h
      · exact ha ch (.inr (isDigit_of_mem_decDigits h))

theorem Range.print_chars {P : Char → Prop} (hd : P '$') (hc : P ':') (ha : ∀ c, isUpperAZ c = true ∨ isDigit c = true → P c)
    (ρ : Range) : ∀ ch ∈ ρ.print, P ch := by
  intro ch h
  unfold Range.print at h
  split at h
  · simp only [List.mem_append, List.mem_singleton] at h
    rcases h with (h | h) | h
    · exact cornerText_chars hd ha _ _ ch (List.mem_append.2 h)
    · exact h ▸ hc
    · exact cornerText_chars hd ha _ _ ch (List.mem_append.2 h)
  · exact cornerText_chars hd ha _ _ ch h

theorem upperDigit_ne {c x : Char} (h : isUpperAZ c = true ∨ isDigit c = true) (hx : isUpperAZ x = false ∧ isDigit x = false) :
    c ≠ x := by
  rintro rfl
  rcases h with h | h
  · rw [hx.1] at h; cases h
  · rw [hx.2] at h; cases h

/-- no other character occurs in a printed range: not the blank, `!` or apostrophe of the texts it stands in -/
theorem Range.not_mem_print {x : Char} (hx : isUpperAZ x = false ∧ isDigit x = false) (hd : '$' ≠ x) (hc : ':' ≠ x)
    (ρ : Range) : x ∉ ρ.print :=
  fun h => Range.print_chars (P := (· ≠ x)) hd hc (fun _ h => upperDigit_ne h hx) ρ x h rfl

/-! `str::replace("''", "'")` after `replace("'", "''")`: the model writes the un-doubling twice (`Annot.undouble`,
  `Formula.undouble`); what is used of either function `u` is how it steps over a doubled apostrophe and over any other
  character. -/

theorem replaceApos_cons (c : Char) (r : List Char) :
    replaceApos (c :: r) = (if c = '\'' then ['\'', '\''] else [c]) ++ replaceApos r := by
  unfold replaceApos; rw [List.flatMap_cons]

theorem undoubling_replaceApos {u : List Char → List Char} (hq : ∀ r, u ('\'' :: '\'' :: r) = '\'' :: u r)
    (hne : ∀ c r, c ≠ '\'' → u (c :: r) = c :: u r) (s t : List Char) : u (replaceApos s ++ t) = s ++ u t := by
  induction s with
  | nil => rfl
  | cons c r ih =>
    rw [replaceApos_cons]
    by_cases hc : c = '\''
    · rw [if_pos hc, hc]
      exact (hq _).trans (congrArg _ ih)
    · rw [if_neg hc]
      exact (hne c _ hc).trans (congrArg _ ih)

theorem undoubling_id {u : List Char → List Char} (hnil : u [] = []) (hne : ∀ c r, c ≠ '\'' → u (c :: r) = c :: u r)
    (t : List Char) (h : '\'' ∉ t) : u t = t := by
  induction t with
  | nil => exact hnil
  | cons c r ih =>
    rw [hne c r (fun e => h (e ▸ List.mem_cons_self)), ih (fun e => h (List.mem_cons_of_mem _ e))]

end Umya.Coord
