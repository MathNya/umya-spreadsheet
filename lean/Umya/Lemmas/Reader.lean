/-
  The reader's small parsers on the inputs of the valid grammar: the last text of an element that holds character data only
  (`plainText`) is its own text, and an unsigned decimal below the bound (`uintOk`) is parsed as the number it denotes.
  Before them, what an equation `X.map f = Y.map g` between the views of two partial results gives (`map_eq_map_cases`).
-/
import Umya.Model.Reader
import Umya.Spec.Sml
namespace Umya.Reader.Lemmas
open Umya.Spec.Xml
open Umya.Reader Umya.Spec.Sml

theorem map_eq_map_cases {α β γ : Type} {X : Option α} {Y : Option β} {f : α → γ} {g : β → γ} (E : X.map f = Y.map g) :
    (X = none ∧ Y = none) ∨ ∃ x y, X = some x ∧ Y = some y ∧ f x = g y := by
  cases X <;> cases Y <;> simp_all

theorem map_eq_map_of {α β γ δ : Type} {X : Option α} {Y : Option β} {f : α → γ} {g : β → γ} (E : X.map f = Y.map g)
    {F : α → δ} {G : β → δ} (h : ∀ x y, f x = g y → F x = G y) : X.map F = Y.map G := by
  rcases map_eq_map_cases E with ⟨rfl, rfl⟩ | ⟨x, y, rfl, rfl, e⟩
  · rfl
  · exact congrArg some (h x y e)

/-- an element that holds character data only: nothing, or one text node; where the reader trims
    (`trim`), a text without blanks at its ends -/
def plainText (trim : Bool) (n : Node) : Bool :=
  match n.children with
  | [] => true
  | [.text s] => !trim || trimWs s == s
  | _ => false

theorem lastText_plain (trim : Bool) (n : Node) (h : plainText trim n = true) : lastText trim n = n.ownText := by
  unfold plainText at h
  unfold lastText textEvents Node.ownText
  split at h
  · rename_i hc; simp [hc]
  · rename_i s hc
    have e : (if trim = true then trimWs s else s) = s := by
      cases trim with
      | false => rfl
      | true => simpa using h
    by_cases hs : s = []
    · subst hs; simp [hc, e]
    · simp [hc, e, hs]
  · simp at h

theorem stripPlus_digits (t : Text) (h2 : t.all Char.isDigit = true) : stripPlus t = t := by
  rw [Umya.Dec.charIsDigit_eq] at h2
  unfold stripPlus
  split
  · exact absurd rfl (Umya.Dec.ne_cons_of_all_isDigit (c := '+') (by decide) h2 _)
  · rfl

/-- an unsigned decimal below `bound` -/
def uintOk (bound : Nat) (s : Text) : Bool :=
  match natOf s with
  | some n => decide (n < bound)
  | none => false

-- the fold is written out: the decoder's `natOf` and the model's `parseUInt` contain it literally, so the one rewrites the other
theorem natOf_some (s : Text) (n : Nat) (h : natOf s = some n) :
    s ≠ [] ∧ s.all Char.isDigit = true ∧ s.foldl (fun a c => 10 * a + (c.toNat - 48)) 0 = n := by
  unfold natOf at h
  split at h
  · rename_i hc; injection h with h; exact ⟨hc.1, hc.2, h⟩
  · cases h

theorem parseUInt_of_natOf {bound : Nat} {s : Text} {n : Nat} (h : natOf s = some n) (hb : n < bound) :
    parseUInt bound s = some n := by
  obtain ⟨h1, h2, h3⟩ := natOf_some s n h
  unfold parseUInt
  simp only [stripPlus_digits s h2, h1, h2, h3, hb, ne_eq, not_false_eq_true, and_self, if_true]

theorem uintOk_parse {bound : Nat} {s : Text} (h : uintOk bound s = true) :
    ∃ n, natOf s = some n ∧ parseUInt bound s = some n := by
  unfold uintOk at h
  split at h
  · rename_i n hn
    exact ⟨n, hn, parseUInt_of_natOf hn (by simpa using h)⟩
  · cases h

end Umya.Reader.Lemmas
