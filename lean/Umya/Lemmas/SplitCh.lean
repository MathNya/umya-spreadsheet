/-
  `str::split(d)` and `join(d)` on characters.  The model writes them several times, once per call site; the facts are
  proved for `AnnotCodec.splitCh` / `joinCh`, which take the separator as an argument, and the splitters that are loops
  with an accumulator (`AnnotDv.splitSp`, `Coord.splitColon`) are equal to it by `splitCh_of_loop`.
-/
import Umya.Model.AnnotCodec
namespace Umya.AnnotCodec

theorem splitCh_ne_nil (d : Char) (s : List Char) : splitCh d s ≠ [] := by
  induction s with
  | nil => simp [splitCh]
  | cons c r ih =>
    unfold splitCh
    split
    · simp
    · split <;> simp

theorem splitCh_free (d : Char) (a : List Char) (h : d ∉ a) : splitCh d a = [a] := by
  induction a with
  | nil => rfl
  | cons c r ih =>
    simp only [List.mem_cons, not_or] at h
    have hc : ¬ (c = d) := fun e => h.1 e.symm
    simp [splitCh, hc, ih h.2]

theorem splitCh_append (d : Char) (a rest : List Char) (h : d ∉ a) :
    splitCh d (a ++ d :: rest) = a :: splitCh d rest := by
  induction a with
  | nil => simp [splitCh]
  | cons c r ih =>
    simp only [List.mem_cons, not_or] at h
    have hc : ¬ (c = d) := fun e => h.1 e.symm
    simp [splitCh, hc, ih h.2]

theorem splitCh_joinCh (d : Char) (ps : List (List Char)) (hne : ps ≠ []) (h : ∀ p ∈ ps, d ∉ p) :
    splitCh d (joinCh d ps) = ps := by
  induction ps with
  | nil => exact absurd rfl hne
  | cons a r ih =>
    cases r with
    | nil => simpa [joinCh] using splitCh_free d a (h a (by simp))
    | cons b r' =>
      have := ih (by simp) (fun p hp => h p (List.mem_cons_of_mem _ hp))
      simp only [joinCh]
      rw [splitCh_append d a _ (h a (by simp)), this]

theorem joinCh_splitCh (d : Char) (s : List Char) : joinCh d (splitCh d s) = s := by
  induction s with
  | nil => rfl
  | cons c r ih =>
    cases hs : splitCh d r with
    | nil => exact absurd hs (splitCh_ne_nil d r)
    | cons h t =>
      rw [hs] at ih
      have hch : joinCh d ((c :: h) :: t) = c :: joinCh d (h :: t) := by cases t <;> rfl
      by_cases hc : c = d
      · simp [splitCh, hc, hs, joinCh, ih]
      · simp [splitCh, hc, hs, hch, ih]

/-- `cur` is the piece read so far, reversed: a text without `d` in front of the rest is what the loop has in `cur`. -/
theorem splitCh_of_loop (d : Char) (go : List Char → List Char → List (List Char)) (hnil : ∀ cur, go [] cur = [cur.reverse])
    (hcons : ∀ c r cur, go (c :: r) cur = if c = d then cur.reverse :: go r [] else go r (c :: cur)) (s : List Char) :
    go s [] = splitCh d s := by
  have key : ∀ s cur, d ∉ cur → go s cur = splitCh d (cur.reverse ++ s) := by
    intro s
    induction s with
    | nil =>
      intro cur h
      rw [hnil, List.append_nil, splitCh_free d _ (by simpa using h)]
    | cons c r ih =>
      intro cur h
      rw [hcons]
      split
      · rename_i hc
        rw [hc, ih [] (by simp), splitCh_append d _ _ (by simpa using h)]
        rfl
      · rename_i hc
        rw [ih (c :: cur) (by simp [h, Ne.symm hc])]
        simp
  simpa using key s [] (by simp)

theorem joinCh_ne_nil (d : Char) {a : List Char} {r : List (List Char)} (h : a ≠ []) : joinCh d (a :: r) ≠ [] := by
  cases r with
  | nil => simpa [joinCh] using h
  | cons b r' => simp [joinCh, h]

end Umya.AnnotCodec
