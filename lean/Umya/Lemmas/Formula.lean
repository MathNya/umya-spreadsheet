/-
  The adjust functions of `Umya.Model.Formula` against the reference semantics `Umya.Spec.Refs`.  The model works
  on the TEXTS of the corners of a reference (parsed: on `Part`s, a number with its `$` flag), the Spec on parsed
  corners; `toPart` / `toCorner` embed the Spec's parts and corners in the model's and are the only bridge between
  the two.  Every piece below has one form: the model's function on `k.text` (on `toPart x`) returns what the
  Spec's function returns on `k` (on `x`), mapped by `text` (by `toPart`).
-/
import Umya.Model.Formula
import Umya.Spec.Refs
import Umya.Lemmas.CoordRange
import Umya.Lemmas.CleanAst
namespace Umya.Formula
open Umya.Coord Umya.Dec Umya.Thm.C17

/-- the grid store has a `mapRes` of its own: `Sheet.mapRes_eq_ok` -/
theorem mapRes_ok_iff {α β} {f : α → Res β} {l : List α} {l' : List β} :
    mapRes f l = .ok l' ↔ l.map f = l'.map .ok := by
  induction l generalizing l' with
  | nil => cases l' <;> simp [mapRes]
  | cons a r ih =>
    cases l' with
    | nil => simp only [mapRes]; cases f a <;> cases mapRes f r <;> simp
    | cons b t => simp only [mapRes, List.map_cons, List.cons.injEq, ← ih]; cases f a <;> cases mapRes f r <;> simp

theorem mapRes_map_ok {α β γ} (f : β → Res γ) (t : α → β) (g : α → γ) (l : List α)
    (h : ∀ a ∈ l, f (t a) = .ok (g a)) : mapRes f (l.map t) = .ok (l.map g) := by
  rw [mapRes_ok_iff, List.map_map, List.map_map]
  exact List.map_congr_left h

theorem mapRes_cons_ok {α β} {g : α → Res β} {t : α} {t' : β} {l : List α} {l' : List β}
    (h1 : g t = .ok t') (h2 : mapRes g l = .ok l') : mapRes g (t :: l) = .ok (t' :: l') := by
  simp [mapRes, h1, h2]

theorem mapRes_append_ok {α β} {g : α → Res β} {a b : List α} {a' b' : List β}
    (h1 : mapRes g a = .ok a') (h2 : mapRes g b = .ok b') : mapRes g (a ++ b) = .ok (a' ++ b') := by
  rw [mapRes_ok_iff] at *
  rw [List.map_append, List.map_append, h1, h2]

theorem mapRes_pointwise {α β} (f : α → Res β) (g : α → β) (l : List α)
    (h : ∀ a ∈ l, f a = .ok (g a)) : mapRes f l = .ok (l.map g) := by
  simpa using mapRes_map_ok f id g l h

theorem mapRes_untouched {f : Tok → Res Tok} (hf : ∀ t, isRangeOperand t = false → f t = .ok t)
    (toks toks' : List Tok) (h : mapRes f toks = .ok toks') :
    toks'.length = toks.length ∧
    ∀ i (h1 : i < toks.length) (h2 : i < toks'.length), isRangeOperand toks[i] = false → toks'[i] = toks[i] := by
  rw [mapRes_ok_iff] at h
  refine ⟨by simpa using (congrArg List.length h).symm, fun i h1 h2 hnr => ?_⟩
  have := congrArg (·[i]?) h
  simpa [h1, h2, hf _ hnr] using this.symm

theorem mapRes_filter_isSome {α β} (f : α → Res β) (g : α → Option β) (l : List α)
    (h : ∀ a ∈ l, ∀ b, g a = some b → f a = .ok b) :
    mapRes f (l.filter (fun a => (g a).isSome)) = .ok (l.filterMap g) := by
  induction l with
  | nil => rfl
  | cons a rest ih =>
    have ih' := ih (fun x hx => h x (List.mem_cons_of_mem _ hx))
    cases hg : g a with
    | none => simp [List.filter, List.filterMap, hg, ih']
    | some b => simp [List.filter, List.filterMap, hg, mapRes, h a (List.mem_cons_self ..) b hg, ih']

theorem filter_isSome_isEmpty {α β} (g : α → Option β) (l : List α) :
    (l.filter (fun a => (g a).isSome)).isEmpty = (l.filterMap g).isEmpty := by
  rw [Bool.eq_iff_iff]
  simp only [List.isEmpty_iff, List.filter_eq_nil_iff, List.filterMap_eq_nil_iff, Bool.not_eq_true,
    Option.isSome_eq_false_iff, Option.isNone_iff_eq_none]

def toPart (r : Ref) : Part := (r.num, r.lock)
def toCorner (k : Spec.Corner) : Corner := (k.col.map toPart, k.row.map toPart)

theorem indexToAlpha?_pos (n : Nat) (h : 1 ≤ n) : indexToAlpha? n = some (indexToAlpha n) := by
  simp [indexToAlpha?, indexToAlpha, h]

theorem renderCorner_text (k : Spec.Corner) (hc : ∀ x, k.col = some x → 1 ≤ x.num) :
    renderCorner (toCorner k) = .ok k.text := by
  obtain ⟨c, r⟩ := k
  cases c with
  | none =>
    cases r with
    | none => simp [renderCorner, toCorner, Spec.Corner.text, optText]
    | some y => simp [renderCorner, toCorner, Spec.Corner.text, optText, toPart, rowRefText]
  | some x =>
    have hx := hc x rfl
    cases r with
    | none =>
      simp [renderCorner, toCorner, Spec.Corner.text, optText, toPart, colRefText, indexToAlpha?_pos _ hx]
    | some y =>
      simp [renderCorner, toCorner, Spec.Corner.text, optText, toPart, colRefText, rowRefText,
        indexToAlpha?_pos _ hx]

theorem optZip_map (p : Option Ref) : optZip (p.map (·.num)) (p.map (·.lock)) = p.map toPart := by
  cases p <;> rfl

theorem parseCorner_text (k : Spec.Corner) (hg : k.InGrid) (hne : k.col.isSome ∨ k.row.isSome) :
    parseCorner k.text = some (toCorner k) := by
  -- the bounds `indexFromCoordinate_print` asks for; the grid's (`Spec.maxCol`, `Spec.maxRow`) lie inside them
  have hc : ∀ x, k.col = some x → 1 ≤ x.num ∧ x.num ≤ 18278 := by
    intro x hx; have := hg.1 x hx; simp [Spec.maxCol] at this; omega
  have hr : ∀ x, k.row = some x → x.num < 4294967296 := by
    intro x hx; have := hg.2 x hx; simp [Spec.maxRow] at this; omega
  have hp := indexFromCoordinate_print k.col k.row hc hr
  have hrc := renderCorner_text k (fun x hx => (hc x hx).1)
  have hsome : ((k.col.map (·.num)).isSome || (k.row.map (·.num)).isSome) = true := by
    rcases hne with h | h <;> simp [h]
  have e : ((Option.map toPart k.col, Option.map toPart k.row) : Corner) = toCorner k := rfl
  simp only [Spec.Corner.text] at hrc
  simp only [parseCorner, Spec.Corner.text, hp, optZip_map, e, hrc, hsome]
  simp

theorem undouble_cons_ne (c : Char) (r : List Char) (h : c ≠ '\'') : undouble (c :: r) = c :: undouble r :=
  undouble.eq_2 c r (fun _ e _ => h e)

theorem undouble_no_apos (s : List Char) (h : '\'' ∉ s) : undouble s = s := undoubling_id rfl undouble_cons_ne s h

theorem undouble_replaceApos (s : List Char) : undouble (replaceApos s) = s := by
  simpa [undouble] using undoubling_replaceApos (fun _ => rfl) undouble_cons_ne s []

theorem bang_free_area (a : Spec.Area) : '!' ∉ a.text := by
  have h := Spec.all_area_text (fun c => c != '!') rfl rfl
    (fun c hc => by simpa using upperDigit_ne (x := '!') hc (by decide)) a
  intro hm
  simpa using List.all_eq_true.1 h _ hm

def qualText (r : Spec.CRef) : List Char := match r.sheet with | some q => q.text | none => []
def qualName (r : Spec.CRef) : List Char := match r.sheet with | some q => q.name | none => []

/-- the `take` by which `splitSheetQualifier` gets the qualifier as written: the text less the area at its end -/
theorem take_len_sub (a b : List Char) : (a ++ b).take ((a ++ b).length - b.length) = a := by
  have : (a ++ b).length - b.length = a.length := by simp
  rw [this]; simp

theorem splitSheetQualifier_bare (n : List Char) (h : '!' ∉ n) : splitSheetQualifier n = ([], [], n) := by
  simp [splitSheetQualifier, splitAddress, rsplitBang_none n h, undouble]

theorem splitSheetQualifier_qual (q a : List Char) (ha : '!' ∉ a) :
    splitSheetQualifier (q ++ '!' :: a) = (q ++ ['!'], undouble (stripSheetQuote q), a) := by
  have e : q ++ '!' :: a = (q ++ ['!']) ++ a := by simp
  simp only [splitSheetQualifier, splitAddress_qual q a ha]
  rw [e, take_len_sub]

/-- `split_sheet_qualifier` on a printed reference: the qualifier as written, the sheet name it
    designates (apostrophes removed and un-doubled), the area text -/
theorem splitSheetQualifier_text (r : Spec.CRef) (hq : ∀ q, r.sheet = some q → q.WF) :
    splitSheetQualifier r.text = (qualText r, qualName r, r.area.text) := by
  have hb := bang_free_area r.area
  obtain ⟨sheet, area⟩ := r
  cases sheet with
  | none => exact splitSheetQualifier_bare _ hb
  | some q =>
    have hw := hq q rfl
    obtain ⟨name, quoted⟩ := q
    cases quoted with
    | false =>
      have hap : '\'' ∉ name := hw.2 rfl
      have hlegal : LegalSheetName name := by
        refine ⟨hw.1, ?_⟩
        cases name with
        | nil => simp
        | cons c _ => simp; intro e; subst e; simp at hap
      simpa [Spec.CRef.text, Spec.Qual.text, qualText, qualName, stripSheetQuote_legal name hlegal,
        undouble_no_apos name hap] using splitSheetQualifier_qual name area.text hb
    | true =>
      simpa [Spec.CRef.text, Spec.Qual.text, qualText, qualName, stripSheetQuote_quoted, undouble_replaceApos]
        using splitSheetQualifier_qual ('\'' :: (replaceApos name ++ ['\''])) area.text hb

def cornerTexts : Spec.Area → List (List Char)
  | .one k => [k.text]
  | .two a b => [a.text, b.text]

theorem splitColon_area (a : Spec.Area) : splitColon a.text = cornerTexts a := by
  cases a with
  | one k => exact splitColon_one _ (colon_free_text k.col k.row)
  | two a b => exact splitColon_two _ _ (colon_free_text a.col a.row) (colon_free_text b.col b.row)

theorem translatePart_spec (x : Ref) (d : Int) (max : Nat) :
    translatePart (toPart x) d max = (Spec.trPart x d max).map toPart := by
  obtain ⟨n, l⟩ := x
  cases l with
  | true => simp [translatePart, Spec.trPart, toPart]
  | false =>
    simp only [translatePart, Spec.trPart, toPart]
    by_cases h1 : (n : Int) + d < 1
    · have : ¬ (1 ≤ (n : Int) + d ∧ (n : Int) + d ≤ (max : Int)) := by omega
      simp [h1, this]
    · by_cases h2 : (n : Int) + d > (max : Int)
      · have : ¬ (1 ≤ (n : Int) + d ∧ (n : Int) + d ≤ (max : Int)) := by omega
        simp [h2, this]
      · have : (1 ≤ (n : Int) + d ∧ (n : Int) + d ≤ (max : Int)) := by omega
        simp [h1, h2, this, toPart]

theorem trPart_pos (x x' : Ref) (d : Int) (max : Nat) (h : Spec.trPart x d max = some x')
    (hx : 1 ≤ x.num) : 1 ≤ x'.num := by
  simp only [Spec.trPart] at h
  split at h
  · injection h with h; subst h; exact hx
  · split at h
    · injection h with h; subst h; simp; omega
    · cases h

/-- the common body of `translateCoord` and `insertCoord`: both parts of a parsed corner go through a part
    function (`none` = the part is lost), then the corner is rendered.  The model writes this body out in both, so
    `translateCoord_text` and `insertCoord_text` meet `shiftCorner` only by unfolding, after `parseCorner_text`. -/
def shiftCorner (f g : Part → Option Part) (k : Corner) : Res (Option (List Char)) :=
  let col' := k.1.map f
  let row' := k.2.map g
  if col' = some none || row' = some none then .ok none
  else
    match renderCorner (col'.join, row'.join) with
    | .ok t => .ok (some t)
    | .panic => .panic

/-- `F` on a part that may be absent: `some none` = no such part, `none` = the part is lost -/
def shiftOpt (F : Ref → Option Ref) : Option Ref → Option (Option Ref)
  | none => some none
  | some x => (F x).map some

/-- `shiftCorner` on the Spec's corners (suffix `S`: on the Spec's types): a lost part loses the corner -/
def shiftCornerS (F G : Ref → Option Ref) (k : Spec.Corner) : Option Spec.Corner :=
  match shiftOpt F k.col, shiftOpt G k.row with
  | some c, some r => some ⟨c, r⟩
  | _, _ => none

theorem shiftCorner_text (f g : Part → Option Part) (F G : Ref → Option Ref) (k : Spec.Corner)
    (hf : ∀ x, k.col = some x → f (toPart x) = (F x).map toPart ∧ ∀ x', F x = some x' → 1 ≤ x'.num)
    (hg : ∀ y, k.row = some y → g (toPart y) = (G y).map toPart) :
    shiftCorner f g (toCorner k) = .ok ((shiftCornerS F G k).map (·.text)) := by
  obtain ⟨c, r⟩ := k
  have ren := fun (k' : Spec.Corner) h => renderCorner_text k' h
  simp only [toCorner, Option.map] at ren
  cases c with
  | none =>
    cases r with
    | none => simp [shiftCorner, toCorner, shiftCornerS, shiftOpt, ren ⟨none, none⟩ (by simp)]
    | some y =>
      cases hG : G y with
      | none => simp [shiftCorner, toCorner, shiftCornerS, shiftOpt, hg y rfl, hG]
      | some y' => simp [shiftCorner, toCorner, shiftCornerS, shiftOpt, hg y rfl, hG, ren ⟨none, some y'⟩ (by simp)]
  | some x =>
    cases hF : F x with
    | none => cases r <;> simp [shiftCorner, toCorner, shiftCornerS, shiftOpt, (hf x rfl).1, hF]
    | some x' =>
      have hx' : ∀ z, (some x' : Option Ref) = some z → 1 ≤ z.num := by
        intro z hz; injection hz with hz; subst hz; exact (hf x rfl).2 x' hF
      cases r with
      | none => simp [shiftCorner, toCorner, shiftCornerS, shiftOpt, (hf x rfl).1, hF, ren ⟨some x', none⟩ hx']
      | some y =>
        cases hG : G y with
        | none => simp [shiftCorner, toCorner, shiftCornerS, shiftOpt, (hf x rfl).1, hF, hg y rfl, hG]
        | some y' =>
          simp [shiftCorner, toCorner, shiftCornerS, shiftOpt, (hf x rfl).1, hF, hg y rfl, hG,
            ren ⟨some x', some y'⟩ hx']

theorem trCorner_eq (k : Spec.Corner) (dc dr : Int) :
    Spec.trCorner k dc dr
      = shiftCornerS (fun x => Spec.trPart x dc Spec.maxCol) (fun y => Spec.trPart y dr Spec.maxRow) k := by
  obtain ⟨c, r⟩ := k
  cases c <;> cases r <;> rfl

theorem translateCoord_text (k : Spec.Corner) (hg : k.InGrid) (hne : k.col.isSome ∨ k.row.isSome)
    (dc dr : Int) :
    translateCoord k.text dc dr = .ok ((Spec.trCorner k dc dr).map (·.text)) := by
  unfold translateCoord
  rw [parseCorner_text k hg hne, trCorner_eq]
  exact shiftCorner_text _ _ _ _ k
    (fun x hx => ⟨translatePart_spec x dc _, fun x' h => trPart_pos x x' dc _ h (hg.1 x hx).1⟩)
    (fun y _ => translatePart_spec y dr _)

def refTok (r : Spec.CRef) : Tok := ⟨r.text, .operand, .range, .none⟩
def refErrTok : Tok := ⟨['#', 'R', 'E', 'F', '!'], .operand, .error, .none⟩

theorem corner_of_wf_one (k : Spec.Corner) (h : (Spec.Area.one k).WF) :
    k.InGrid ∧ (k.col.isSome ∨ k.row.isSome) := ⟨h.2.2, Or.inl h.1⟩

theorem corners_of_wf_two (a b : Spec.Corner) (h : (Spec.Area.two a b).WF) :
    a.InGrid ∧ b.InGrid ∧ (a.col.isSome ∨ a.row.isSome) ∧ (b.col.isSome ∨ b.row.isSome) := by
  obtain ⟨hs, ha, hb, _, _⟩ := h
  refine ⟨ha, hb, ?_, ?_⟩
  · rcases hs with h | h | h
    · exact Or.inl h.1
    · exact Or.inl h.1
    · exact Or.inr h.2.1
  · rcases hs with h | h | h
    · exact Or.inl h.2.2.1
    · exact Or.inl h.2.2.1
    · exact Or.inr h.2.2.2

/-- what the three adjusters do with the corner texts they have rewritten: back behind the qualifier as
    written, or the `#REF!` error literal -/
def rewriteRef (t : Tok) (q : List Char) : Res (Option (List (List Char))) → Res Tok
  | .panic => .panic
  | .ok none => .ok (refErrorTok t)
  | .ok (some l) => .ok { t with val := q ++ joinColon l }

/-- the token of the expression a shifted reference becomes (`Spec.refOr`), a `.ref` or an `.err`; on any other
    expression the value is junk -/
def exprTok : Spec.Expr → Tok
  | .ref r => refTok r
  | .err e => ⟨e.text, .operand, .error, .none⟩
  | _ => ⟨[], .unknown, .nothing, .none⟩

theorem rewriteRef_texts (r : Spec.CRef) (o : Option Spec.Area) :
    rewriteRef (refTok r) (qualText r) (.ok (o.map cornerTexts)) = .ok (exprTok (Spec.refOr r o)) := by
  obtain ⟨sh, ar⟩ := r
  cases o with
  | none => rfl
  | some a => cases sh <;> cases a <;> simp [rewriteRef, cornerTexts, joinColon, Spec.Area.text, exprTok, Spec.refOr,
      refTok, qualText, Spec.CRef.text]

theorem translateList_area (a : Spec.Area) (hw : a.WF) (dc dr : Int) :
    translateList dc dr (cornerTexts a) = .ok ((Spec.trArea a dc dr).map cornerTexts) := by
  cases a with
  | one k =>
    obtain ⟨hg, hne⟩ := corner_of_wf_one k hw
    simp only [cornerTexts, translateList, translateCoord_text k hg hne, Spec.trArea]
    cases Spec.trCorner k dc dr <;> rfl
  | two a b =>
    obtain ⟨hga, hgb, hna, hnb⟩ := corners_of_wf_two a b hw
    simp only [cornerTexts, translateList, translateCoord_text a hga hna, translateCoord_text b hgb hnb, Spec.trArea]
    cases Spec.trCorner a dc dr <;> cases Spec.trCorner b dc dr <;> rfl

/-- the `(root_col, offset_col, root_row, offset_row)` arguments an edit on one axis produces -/
def axisArgs (ax : Spec.Axis) (at_ n : Nat) : Nat × Nat × Nat × Nat :=
  match ax with
  | .col => (at_, n, 0, 0)
  | .row => (0, 0, at_, n)

/-- `ignore = false` here and in `tokMap_insert`, `tokMap_remove`: with the flag set `concerns` is constantly true
    (every reference is adjusted, whatever its sheet), which is no case of `Spec.concernsRef` -/
theorem concerns_spec (r : Spec.CRef) (hq : ∀ q, r.sheet = some q → q.WF) (ws selfWs : List Char)
    (hws : ws ≠ []) :
    concerns false (qualName r) ws selfWs = Spec.concernsRef r selfWs ws := by
  obtain ⟨sheet, area⟩ := r
  cases sheet with
  | none =>
    have : ¬ ([] = ws) := fun e => hws e.symm
    simp only [concerns, qualName, Spec.concernsRef]
    by_cases h : ws = selfWs
    · subst h; simp
    · have h' : ¬ selfWs = ws := fun e => h e.symm
      simp [h, h', this]
  | some q =>
    have hne : q.name ≠ [] := (hq q rfl).1
    by_cases h : q.name = ws <;> simp [concerns, qualName, Spec.concernsRef, hne, h]

/-- what the Spec makes of one part on the edited axis: moved behind the insertion point; beyond
    `max` it is cut off at `max` when it ends a range and gone otherwise -/
def insPartS (x : Ref) (at_ n max : Nat) (isEnd : Bool) : Option Ref :=
  if Spec.insNum x.num at_ n ≤ max then some ⟨Spec.insNum x.num at_ n, x.lock⟩
  else if isEnd then some ⟨max, x.lock⟩ else none

theorem insertPart_spec (x : Ref) (at_ n max : Nat) (isEnd : Bool) (hn : n ≠ 0) (hx : x.num ≤ max) :
    insertPart (toPart x) at_ n max isEnd = (insPartS x at_ n max isEnd).map toPart := by
  by_cases h1 : x.num < at_
  · have h1' : ¬ at_ ≤ x.num := by omega
    simp [insertPart, insPartS, toPart, Spec.insNum, h1, h1', hx]
  · have h1' : at_ ≤ x.num := by omega
    by_cases h2 : x.num + n ≤ max
    · simp [insertPart, insPartS, toPart, Spec.insNum, h1, h1', hn, h2]
    · cases isEnd <;> simp [insertPart, insPartS, toPart, Spec.insNum, h1, h1', hn, h2]

theorem insertPart_unused (p : Part) (max : Nat) (e : Bool) : insertPart p 0 0 max e = some p := by
  simp [insertPart]

theorem insNum_ge (x at_ n : Nat) : x ≤ Spec.insNum x at_ n := by
  simp only [Spec.insNum]; split <;> omega

theorem insNum_mono (x y at_ n : Nat) (h : x ≤ y) : Spec.insNum x at_ n ≤ Spec.insNum y at_ n := by
  simp only [Spec.insNum]; split <;> split <;> omega

theorem insPartS_pos (x x' : Ref) (at_ n max : Nat) (e : Bool) (h : insPartS x at_ n max e = some x')
    (hx : 1 ≤ x.num) (hm : 1 ≤ max) : 1 ≤ x'.num := by
  have := insNum_ge x.num at_ n
  unfold insPartS at h
  split at h
  · injection h with h; subst h; simp; omega
  · split at h
    · injection h with h; subst h; exact hm
    · cases h

def insCornerS (k : Spec.Corner) (ax : Spec.Axis) (at_ n : Nat) (isEnd : Bool) : Option Spec.Corner :=
  match ax with
  | .col => shiftCornerS (fun x => insPartS x at_ n Spec.maxCol isEnd) some k
  | .row => shiftCornerS some (fun y => insPartS y at_ n Spec.maxRow isEnd) k

theorem maxCol_eq : maxCol = Spec.maxCol := rfl
theorem maxRow_eq : maxRow = Spec.maxRow := rfl

theorem insertCoord_text (k : Spec.Corner) (hg : k.InGrid) (hne : k.col.isSome ∨ k.row.isSome)
    (ax : Spec.Axis) (at_ n : Nat) (hn : n ≠ 0) (isEnd : Bool) {rc oc rr orr : Nat}
    (hA : axisArgs ax at_ n = (rc, oc, rr, orr)) :
    insertCoord rc oc rr orr isEnd k.text = .ok ((insCornerS k ax at_ n isEnd).map (·.text)) := by
  unfold insertCoord
  rw [parseCorner_text k hg hne]
  cases ax with
  | col =>
    cases hA
    exact shiftCorner_text _ _ _ _ k
      (fun x hx => ⟨insertPart_spec x at_ n _ isEnd hn (hg.1 x hx).2,
        fun x' h => insPartS_pos x x' at_ n _ isEnd h (hg.1 x hx).1 (by simp [Spec.maxCol])⟩)
      (fun y _ => insertPart_unused _ _ _)
  | row =>
    cases hA
    exact shiftCorner_text _ _ _ _ k
      (fun x hx => ⟨insertPart_unused _ _ _, fun x' h => by injection h with h; subst h; exact (hg.1 x hx).1⟩)
      (fun y hy => insertPart_spec y at_ n _ isEnd hn (hg.2 y hy).2)

theorem insPartS_end (y : Ref) (at_ n max : Nat) :
    insPartS y at_ n max true = some ⟨min (Spec.insNum y.num at_ n) max, y.lock⟩ := by
  unfold insPartS
  split
  · rename_i h; rw [Nat.min_eq_left h]
  · rename_i h; simp [Nat.min_eq_right (Nat.le_of_not_le h)]

theorem insPartS_start (x : Ref) (at_ n max : Nat) :
    insPartS x at_ n max false
      = if Spec.insNum x.num at_ n > max then none else some ⟨Spec.insNum x.num at_ n, x.lock⟩ := by
  unfold insPartS
  split
  · rename_i h; simp [Nat.not_lt.2 h]
  · rename_i h; simp [Nat.lt_of_not_le h]

/-- the area a reference designates after the insert, corner by corner as the code computes it:
    the start corner (or the single cell) pushed off the grid = nothing left; the end corner is
    cut off at the edge (suffix `M`: the model's way; `insAreaM_spec` equates it with `Spec.insArea`) -/
def insAreaM (a : Spec.Area) (ax : Spec.Axis) (at_ n : Nat) : Option Spec.Area :=
  match a with
  | .one k => (insCornerS k ax at_ n false).map .one
  | .two k1 k2 =>
    match insCornerS k1 ax at_ n false, insCornerS k2 ax at_ n true with
    | some a, some b => some (.two a b)
    | _, _ => none

theorem insertList_area (a : Spec.Area) (hw : a.WF) (ax : Spec.Axis) (at_ n : Nat) (hn : n ≠ 0) {rc oc rr orr : Nat}
    (hA : axisArgs ax at_ n = (rc, oc, rr, orr)) :
    insertList rc oc rr orr false (cornerTexts a) = .ok ((insAreaM a ax at_ n).map cornerTexts) := by
  cases a with
  | one k =>
    obtain ⟨hg, hne⟩ := corner_of_wf_one k hw
    simp only [cornerTexts, insertList, insertCoord_text k hg hne ax at_ n hn false hA, insAreaM]
    cases insCornerS k ax at_ n false <;> rfl
  | two a b =>
    obtain ⟨hga, hgb, hna, hnb⟩ := corners_of_wf_two a b hw
    simp only [cornerTexts, insertList, insertCoord_text a hga hna ax at_ n hn false hA,
      insertCoord_text b hgb hnb ax at_ n hn true hA, insAreaM]
    cases insCornerS a ax at_ n false <;> cases insCornerS b ax at_ n true <;> rfl

theorem shiftOpt_some (p : Option Ref) : shiftOpt some p = some p := by cases p <;> rfl

theorem insAxis_parts (a b : Option Ref) (at_ n max : Nat) (h : b.isSome → a.isSome) :
    Spec.insAxis a b at_ n max
      = match shiftOpt (fun x => insPartS x at_ n max false) a, shiftOpt (fun y => insPartS y at_ n max true) b with
        | some a', some b' => some (a', b')
        | _, _ => none := by
  cases a with
  | none =>
    cases b with
    | none => rfl
    | some y => simp at h
  | some x =>
    cases b with
    | none => simp only [shiftOpt, insPartS_start, Spec.insAxis]; split <;> rfl
    | some y => simp only [shiftOpt, insPartS_start, insPartS_end, Spec.insAxis]; split <;> rfl

theorem insAreaM_spec (a : Spec.Area) (hw : a.WF) (ax : Spec.Axis) (at_ n : Nat) :
    insAreaM a ax at_ n = Spec.insArea a ax at_ n := by
  cases a with
  | one k =>
    cases ax <;>
      simp only [Spec.insArea, Spec.startOf, Spec.endOf, insAxis_parts _ none _ _ _ (fun h => nomatch h),
        insAreaM, insCornerS, shiftCornerS, shiftOpt_some]
    · cases shiftOpt (fun y => insPartS y at_ n Spec.maxRow false) k.row <;> rfl
    · cases shiftOpt (fun x => insPartS x at_ n Spec.maxCol false) k.col <;> rfl
  | two k1 k2 =>
    obtain ⟨hs, _⟩ := hw
    have hse : (k2.col.isSome → k1.col.isSome) ∧ (k2.row.isSome → k1.row.isSome) := by
      rcases hs with h | h | h
      · exact ⟨fun _ => h.1, fun _ => h.2.1⟩
      · exact ⟨fun _ => h.1, by simp [Option.isNone_iff_eq_none.1 h.2.2.2]⟩
      · exact ⟨by simp [Option.isNone_iff_eq_none.1 h.2.2.1], fun _ => h.2.1⟩
    cases ax <;>
      simp only [Spec.insArea, Spec.startOf, Spec.endOf, insAxis_parts _ _ _ _ _ hse.1, insAxis_parts _ _ _ _ _ hse.2,
        insAreaM, insCornerS, shiftCornerS, shiftOpt_some]
    · cases shiftOpt (fun y => insPartS y at_ n Spec.maxRow false) k1.row <;>
        cases shiftOpt (fun y => insPartS y at_ n Spec.maxRow true) k2.row <;> rfl
    · cases shiftOpt (fun x => insPartS x at_ n Spec.maxCol false) k1.col <;>
        cases shiftOpt (fun x => insPartS x at_ n Spec.maxCol true) k2.col <;> rfl

theorem removeParts_nil (root off : Nat) : removeParts [] root off = .ok (some []) := by
  simp [removeParts, mapRes, removePartsGo]

theorem isRemove_spec (x at_ n : Nat) (h1 : 1 ≤ at_) (hn : n ≠ 0) (ho : at_ + n ≤ u32Max) :
    isRemoveCoordinate x at_ n = .ok (Spec.inBand x at_ n) := by
  have h0 : at_ ≠ 0 := by omega
  have h3 : ¬ (at_ + n > u32Max) := by omega
  by_cases hx : at_ ≤ x
  · by_cases hy : x < at_ + n <;> simp [isRemoveCoordinate, Spec.inBand, h0, hn, h3, hx, hy]
  · simp [isRemoveCoordinate, Spec.inBand, h0, hn, hx]

theorem removeCoord_spec (x at_ n : Nat) (hn : n ≠ 0) (hb : Spec.inBand x at_ n = false) :
    removeCoordinate x at_ n = .ok (Spec.remNum x at_ n) := by
  simp only [Spec.inBand, Bool.and_eq_false_iff, decide_eq_false_iff_not] at hb
  by_cases hx : at_ ≤ x
  · have h2 : at_ + n ≤ x := by rcases hb with h | h <;> omega
    have h3 : ¬ (n > x) := by omega
    simp [removeCoordinate, Spec.remNum, hx, hn, h2, h3]
  · have h2 : ¬ (at_ + n ≤ x) := by omega
    simp [removeCoordinate, Spec.remNum, hx, h2]

theorem remNum_pos (x at_ n : Nat) (hx : 1 ≤ x) (h1 : 1 ≤ at_) : 1 ≤ Spec.remNum x at_ n := by
  simp only [Spec.remNum]; split <;> omega

/-- an end clamped to `at_ - 1` stays on the grid: the start before it lies outside the band, so `1 ≤ x < at_` -/
theorem clampedEnd_pos (x y at_ n : Nat) (hx : 1 ≤ x) (hxy : x ≤ y)
    (hbx : Spec.inBand x at_ n = false) (hby : Spec.inBand y at_ n = true) : 1 ≤ at_ - 1 := by
  simp only [Spec.inBand, Bool.and_eq_false_iff, Bool.and_eq_true, decide_eq_false_iff_not,
    decide_eq_true_eq] at hbx hby
  omega

/-- one part of the edited axis after a removal that leaves something: moved up, or, inside the band, clamped
    to its edge (a start to `at_`, an end to `at_ - 1`); formulas and defined names alike -/
def remPart (isStart : Bool) (r : Ref) (at_ n : Nat) : Ref :=
  ⟨if Spec.inBand r.num at_ n then (if isStart then at_ else at_ - 1) else Spec.remNum r.num at_ n, r.lock⟩

theorem remAxis_eq (a b : Option Ref) (at_ n : Nat) :
    Spec.remAxis a b at_ n
      = if (a.isSome || b.isSome) && (a.toList ++ b.toList).all (fun x => Spec.inBand x.num at_ n) then none
        else some (a.map (remPart true · at_ n), b.map (remPart false · at_ n)) := by
  cases a with
  | none =>
    cases b with
    | none => rfl
    | some y => cases hy : Spec.inBand y.num at_ n <;> simp [Spec.remAxis, remPart, hy]
  | some x =>
    cases b with
    | none => cases hx : Spec.inBand x.num at_ n <;> simp [Spec.remAxis, remPart, hx]
    | some y =>
      cases hx : Spec.inBand x.num at_ n <;> cases hy : Spec.inBand y.num at_ n <;>
        simp [Spec.remAxis, remPart, hx, hy]

theorem remAxis_some {a b : Option Ref} {at_ n : Nat} {c : Option Ref × Option Ref} (h : Spec.remAxis a b at_ n = some c) :
    c = (a.map (remPart true · at_ n), b.map (remPart false · at_ n)) ∧
      ((a.isSome || b.isSome) && (a.toList ++ b.toList).all (fun x => Spec.inBand x.num at_ n)) = false := by
  rw [remAxis_eq] at h
  split at h
  · cases h
  · cases h; exact ⟨rfl, Bool.eq_false_iff.2 ‹_›⟩

/-- the assignment loop behind the first part: every flagged part is an end -/
theorem removePartsGo_tail (at_ n : Nat) (hn : n ≠ 0) (l : List Ref) (i : Nat) (hi : i ≠ 0) :
    removePartsGo at_ n i (l.map toPart) (l.map fun x => Spec.inBand x.num at_ n)
      = .ok (l.map fun x => toPart (remPart false x at_ n)) := by
  induction l generalizing i with
  | nil => rfl
  | cons x r ih =>
    cases hb : Spec.inBand x.num at_ n <;>
      simp [removePartsGo, hb, hi, ih (i + 1) (by omega), remPart, toPart, removeCoord_spec _ _ _ hn]

theorem removeParts_spec (at_ n : Nat) (h1 : 1 ≤ at_) (hn : n ≠ 0) (ho : at_ + n ≤ u32Max) (l : List Ref) :
    removeParts (l.map toPart) at_ n
      = .ok (if !l.isEmpty && l.all (fun x => Spec.inBand x.num at_ n) then none
             else some (match l with
                        | [] => []
                        | x :: r => toPart (remPart true x at_ n) :: r.map fun y => toPart (remPart false y at_ n))) := by
  have hf : mapRes (fun (p : Part) => isRemoveCoordinate p.1 at_ n) (l.map toPart)
      = .ok (l.map fun x => Spec.inBand x.num at_ n) :=
    mapRes_map_ok _ _ _ l fun x _ => isRemove_spec x.num at_ n h1 hn ho
  cases l with
  | nil => rfl
  | cons x r =>
    simp only [removeParts, hf]
    cases hb : Spec.inBand x.num at_ n <;>
      simp [removePartsGo, hb, removePartsGo_tail at_ n hn r 1 (by omega), remPart, toPart,
        removeCoord_spec _ _ _ hn]
    split <;> simp_all

theorem corners_inGrid (a : Spec.Area) (hw : a.WF) (k : Spec.Corner)
    (hk : k = Spec.startOf a ∨ k = Spec.endOf a) : k.InGrid := by
  cases a with
  | one k0 =>
    rcases hk with h | h
    · subst h; exact hw.2.2
    · subst h; exact ⟨(by intro x hx; cases hx), (by intro x hx; cases hx)⟩
  | two a b =>
    rcases hk with h | h
    · subst h; exact hw.2.1
    · subst h; exact hw.2.2.1

end Umya.Formula
