/-
  The shared-string registration of a save (`Umya/Model/SharedStrings.lean`: `intern`, `internAll`): it IS the
  equality-based find-or-append of `Umya/Model/Interning.lean`, whose facts are cited, for one registration and
  (`internAll_*`) for a whole registration sequence.
-/
import Umya.Model.SharedStrings
import Umya.Model.Interning
import Umya.Lemmas.ListFacts
namespace Umya.Sst

theorem indexOf?_eq_find (x : Text) : ∀ t : Table, indexOf? x t = Interning.find (fun e => decide (e = x)) t
  | [] => rfl
  | y :: ys => by simp only [indexOf?, Interning.find, indexOf?_eq_find x ys, decide_eq_true_eq]

theorem intern_eq_internEq (t : Table) (x : Text) : intern t x = Interning.internEq t x := by
  unfold intern Interning.internEq Interning.internBy
  rw [indexOf?_eq_find]; rfl

theorem indexOf?_some {x : Text} {t : Table} {i : Nat} (h : indexOf? x t = some i) : t[i]? = some x :=
  Interning.find_eq_some (indexOf?_eq_find x t ▸ h)

theorem indexOf?_none {x : Text} {t : Table} : indexOf? x t = none ↔ x ∉ t :=
  indexOf?_eq_find x t ▸ Interning.find_eq_none

theorem intern_spec (t : Table) (x : Text) :
    (∃ ext, (intern t x).1 = t ++ ext ∧ (∀ y ∈ ext, y = x ∧ x ∉ t)) ∧ (intern t x).1[(intern t x).2]? = some x :=
  intern_eq_internEq t x ▸ ⟨Interning.internEq_ext t x, Interning.internEq_get t x⟩

theorem intern_nodup (t : Table) (x : Text) (h : t.Nodup) : (intern t x).1.Nodup :=
  intern_eq_internEq t x ▸ Interning.internEq_nodup t x h

theorem intern_mem (t : Table) (x y : Text) : y ∈ (intern t x).1 ↔ y ∈ t ∨ y = x :=
  intern_eq_internEq t x ▸ Interning.internEq_mem t x y

theorem internAll_eq : ∀ (xs : List Text) (t : Table), internAll t xs = Interning.internAllEq t xs
  | [], _ => rfl
  | x :: xs, t => by
    simp only [internAll, internAll_eq xs, intern_eq_internEq]; rfl

theorem internAll_ext (t : Table) (xs : List Text) : ∃ ext, (internAll t xs).1 = t ++ ext ∧ (∀ y ∈ ext, y ∈ xs ∧ y ∉ t) :=
  internAll_eq xs t ▸ Interning.internAllEq_ext xs t

theorem internAll_get_old (t : Table) (xs : List Text) {i : Nat} {x : Text} (h : t[i]? = some x) :
    (internAll t xs).1[i]? = some x := by
  obtain ⟨ext, he, _⟩ := internAll_ext t xs
  rw [he]; exact getElem?_append_left' h

theorem internAll_nodup (t : Table) (xs : List Text) (h : t.Nodup) : (internAll t xs).1.Nodup :=
  internAll_eq xs t ▸ Interning.internAllEq_nodup xs t h

theorem internAll_mem (t : Table) (xs : List Text) (y : Text) : y ∈ (internAll t xs).1 ↔ y ∈ t ∨ y ∈ xs :=
  internAll_eq xs t ▸ Interning.internAllEq_mem xs t y

theorem internAll_length (t : Table) (xs : List Text) : (internAll t xs).2.length = xs.length := by
  rw [internAll_eq]; exact Interning.internAll_length _ xs t

theorem internAll_get (t : Table) (xs : List Text) (j : Nat) (x : Text) (h : xs[j]? = some x) :
    ∃ i : Nat, (internAll t xs).2[j]? = some i ∧ (internAll t xs).1[i]? = some x :=
  internAll_eq xs t ▸ Interning.internAllEq_get xs t j x h

end Umya.Sst
