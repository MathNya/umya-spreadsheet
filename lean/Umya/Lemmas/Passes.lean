/-
  Pass 2 and pass 3 of `parse_to_tokens` with respect to rendering and panic-freedom.
-/
import Umya.Lemmas.Clean
namespace Umya.Formula
open Umya.Coord Umya.Dec

theorem render_cons (t : Tok) (l : List Tok) : render (t :: l) = renderTok t ++ render l := by
  simp [render]

theorem render_append (a b : List Tok) : render (a ++ b) = render a ++ render b := by
  simp [render, List.flatMap_append]

theorem render_nil : render [] = [] := rfl

/-- pass 2 only deletes blanks: intersections are rendered as the one blank they were -/
theorem pass2_erasure (l : List Tok) (prev : Option Tok) (lv : List Char) :
    BlankErasure (render1 l) (render (pass2Go prev lv l)) := by
  induction l generalizing prev lv with
  | nil => exact .nil
  | cons t rest ih =>
    rw [render1_cons]
    unfold pass2Go
    by_cases hw : t.ty = .whitespace
    · have hr : render1Tok t = [' '] := by simp [render1Tok, hw]
      rw [hr]
      simp only [hw, ne_eq, not_true_eq_false, if_false]
      cases prev with
      | none => exact .drop (ih _ _)
      | some p =>
        cases rest with
        | nil => exact .drop (ih _ _)
        | cons n rest' =>
          simp only
          split
          · rw [render_cons]
            have : renderTok ⟨lv, .opInfix, .intersection, .none⟩ = [' '] := by simp [renderTok]
            rw [this]
            exact .keep ' ' (ih _ _)
          · exact .drop (ih _ _)
    · have : render1Tok t = renderTok t := by simp [render1Tok, hw]
      rw [this]
      simp only [ne_eq, hw, not_false_eq_true, if_true, render_cons]
      exact (BlankErasure.refl _).append (ih _ _)

/-- pass 3 leaves the rendering of such a token alone. The middle clause: pass 3 retypes every infix token whose text
    is `-` or `+`, whatever its subtype, and an intersection so retyped would render as that text instead of a blank -/
def renderStable (t : Tok) : Prop :=
  (t.ty = .function → t.val.head? ≠ some '@') ∧
  (t.ty = .opInfix → t.sub = .intersection → t.val ≠ ['-'] ∧ t.val ≠ ['+']) ∧
  ((t.ty = .opInfix ∨ t.ty = .operand) → t.arr = .none)

/-- what pass 3 needs: no plain infix token with an empty text -/
def infixNonempty (t : Tok) : Prop := t.ty = .opInfix → t.sub = .nothing → t.val ≠ []

/-- The two values of `t.val`: `pass2Go` puts the left-over text `lv` into the first intersection token it makes
    and passes `[]` on from there. -/
theorem pass2_mem (l : List Tok) (prev : Option Tok) (lv : List Char) (t : Tok)
    (h : t ∈ pass2Go prev lv l) :
    t ∈ l ∨ (t.ty = .opInfix ∧ t.sub = .intersection ∧ t.arr = .none ∧ (t.val = lv ∨ t.val = [])) := by
  induction l generalizing prev lv with
  | nil => simp [pass2Go] at h
  | cons a rest ih =>
    have lift : ∀ lv' prev', t ∈ pass2Go prev' lv' rest →
        (t.val = lv' ∨ t.val = [] → t.val = lv ∨ t.val = []) →
        t ∈ a :: rest ∨ (t.ty = .opInfix ∧ t.sub = .intersection ∧ t.arr = .none ∧ (t.val = lv ∨ t.val = [])) := by
      intro lv' prev' hx hconv
      rcases ih prev' lv' hx with h1 | ⟨h1, h2, h2', h3⟩
      · exact Or.inl (List.mem_cons_of_mem _ h1)
      · exact Or.inr ⟨h1, h2, h2', hconv h3⟩
    unfold pass2Go at h
    split at h
    · simp at h
      rcases h with h | h
      · subst h; left; simp
      · exact lift _ _ h id
    · cases prev with
      | none => exact lift _ _ h id
      | some p =>
        cases rest with
        | nil => exact lift _ _ h id
        | cons n rest' =>
          simp only at h
          split at h
          · simp at h
            rcases h with h | h
            · subst h; right; exact ⟨rfl, rfl, rfl, Or.inl rfl⟩
            · exact lift [] _ h (by intro h3; right; rcases h3 with h3 | h3 <;> exact h3)
          · exact lift _ _ h id

theorem pass2_ok1 (l : List Tok) (prev : Option Tok) (lv : List Char) (h : AllOk l) :
    ∀ t ∈ pass2Go prev lv l, infixNonempty t := by
  intro t ht
  rcases pass2_mem l prev lv t ht with h1 | ⟨_, h2, _, _⟩
  · intro hty _; exact ((h t h1).1 hty).1
  · intro _ hs; rw [h2] at hs; cases hs

theorem pass3Tok_ok (prev : Option Tok) (t : Tok) (h : infixNonempty t) : ∃ t', pass3Tok prev t = .ok t' := by
  unfold pass3Tok
  split
  · cases prev with
    | none => exact ⟨_, rfl⟩
    | some p => simp only; split <;> exact ⟨_, rfl⟩
  · split
    · rename_i h2
      simp only [Bool.and_eq_true, decide_eq_true_eq] at h2
      cases hv : t.val with
      | nil => exact absurd hv (h h2.1 h2.2)
      | cons c r =>
        simp only
        split
        · exact ⟨_, rfl⟩
        · split <;> exact ⟨_, rfl⟩
    · split
      · split
        · split <;> exact ⟨_, rfl⟩
        · exact ⟨_, rfl⟩
      · split
        · split <;> exact ⟨_, rfl⟩
        · exact ⟨_, rfl⟩

theorem pass3Go_ok (l : List Tok) (prev : Option Tok) (h : ∀ t ∈ l, infixNonempty t) :
    ∃ r, pass3Go prev l = .ok r := by
  induction l generalizing prev with
  | nil => exact ⟨[], rfl⟩
  | cons t rest ih =>
    obtain ⟨t', ht'⟩ := pass3Tok_ok prev t (h t (List.mem_cons_self ..))
    obtain ⟨r, hr⟩ := ih (some t) (fun x hx => h x (List.mem_cons_of_mem _ hx))
    exact ⟨t' :: r, by simp [pass3Go, ht', hr]⟩

theorem pass2_stable {l : List Tok} {lv : List Char} (h : AllOk l)
    (hat : ∀ t ∈ l, t.ty = .function → t.val.head? ≠ some '@')
    (hlv : lv ≠ ['-'] ∧ lv ≠ ['+']) :
    ∀ t ∈ pass2Go none lv l, renderStable t := by
  intro t ht
  rcases pass2_mem l none lv t ht with h1 | ⟨h1, h2, h2', h3⟩
  · exact ⟨hat t h1, fun hty hs => absurd hs ((h t h1).1 hty).2, (h t h1).2⟩
  · refine ⟨(by intro hf; rw [h1] at hf; cases hf), ?_, fun _ => h2'⟩
    intro _ _
    rcases h3 with h3 | h3
    · rw [h3]; exact hlv
    · rw [h3]; simp

/-- pass 3 on a function token: it only strips a leading `@` -/
theorem pass3Tok_function (prev : Option Tok) (v : List Char) (sub : ST) (arr : Arr) (h : v.head? ≠ some '@') :
    pass3Tok prev ⟨v, .function, sub, arr⟩ = .ok ⟨v, .function, sub, arr⟩ := by
  cases v with
  | nil => simp [pass3Tok]
  | cons c r =>
    simp only [pass3Tok, reduceCtorEq, decide_false, Bool.false_and, Bool.false_eq_true, if_false, if_true]
    split
    · rename_i r' heq; injection heq with h1 _; subst h1; simp at h
    · rfl

theorem pass3Tok_render (prev : Option Tok) (t t' : Tok) (hs : renderStable t)
    (h : pass3Tok prev t = .ok t') : renderTok t' = renderTok t := by
  obtain ⟨v, ty, sub, arr⟩ := t
  cases ty with
  | opInfix =>
    have ha : arr = .none := hs.2.2 (Or.inl rfl)
    subst ha
    by_cases hv : v = ['-'] ∨ v = ['+']
    · have hni : sub ≠ .intersection := by
        intro hi
        have := hs.2.1 rfl hi
        rcases hv with h1 | h1
        · exact this.1 h1
        · exact this.2 h1
      have hb : (decide (v = ['-']) || decide (v = ['+'])) = true := by simpa using hv
      cases prev with
      | none =>
        simp [pass3Tok, hb] at h; subst h
        simp [renderTok, hni]
      | some p =>
        simp only [pass3Tok, hb, decide_true, Bool.and_true, if_true] at h
        split at h <;> (injection h with h; subst h) <;> simp [renderTok, hni]
    · have hb : (decide (v = ['-']) || decide (v = ['+'])) = false := by simpa using hv
      by_cases hsub : sub = .nothing
      · subst hsub
        cases v with
        | nil => simp [pass3Tok] at h
        | cons c r =>
          simp only [pass3Tok, hb, decide_true, Bool.and_false, Bool.false_eq_true, if_false,
            Bool.and_true, if_true] at h
          split at h
          · injection h with h; subst h; simp [renderTok]
          · split at h <;> (injection h with h; subst h) <;> simp [renderTok]
      · have hb2 : decide (sub = ST.nothing) = false := by simpa using hsub
        simp [pass3Tok, hb, hb2] at h
        subst h; rfl
  | operand =>
    have ha : arr = .none := hs.2.2 (Or.inr rfl)
    subst ha
    by_cases hsub : sub = .nothing
    · subst hsub
      simp only [pass3Tok, reduceCtorEq, decide_false, Bool.false_and, Bool.false_eq_true, if_false,
        decide_true, Bool.and_true, if_true] at h
      split at h
      · split at h <;> (injection h with h; subst h) <;> simp [renderTok]
      · injection h with h; subst h; simp [renderTok]
    · have hb2 : decide (sub = ST.nothing) = false := by simpa using hsub
      simp [pass3Tok, hb2] at h
      subst h; rfl
  | function =>
    rw [pass3Tok_function _ _ _ _ (hs.1 rfl)] at h
    injection h with h; subst h; rfl
  | _ => simp [pass3Tok] at h; subst h; rfl

theorem pass3Go_render {l r : List Tok} (prev : Option Tok) (hs : ∀ t ∈ l, renderStable t)
    (h : pass3Go prev l = .ok r) : render r = render l := by
  induction l generalizing prev r with
  | nil => simp [pass3Go] at h; subst h; rfl
  | cons t rest ih =>
    simp only [pass3Go] at h
    cases ht : pass3Tok prev t with
    | panic => simp [ht] at h
    | ok t' =>
      cases hr : pass3Go (some t) rest with
      | panic => simp [ht, hr] at h
      | ok r' =>
        simp [ht, hr] at h
        subst h
        rw [render_cons, render_cons, pass3Tok_render prev t t' (hs t (List.mem_cons_self ..)) ht,
          ih (some t) (fun x hx => hs x (List.mem_cons_of_mem _ hx)) hr]

end Umya.Formula
