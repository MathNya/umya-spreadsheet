/-
  The reader's path functions (`Umya.Reader.joinPaths` = reader/driver.rs `join_paths` + `normalize_path`, `stripXl` =
  workbook_rels.rs) against the decoder's `Spec.Sml.resolveTargetL` (OPC Part 2 §8.3 on `List Char`).  The name of a
  relationships part (`relsPartOf` against `relsNameOf`) is not compared here: it is a per-file hypothesis of `SheetValid`.
-/
import Umya.Model.ReaderSheet
import Umya.Spec.Sml
namespace Umya.Reader.Lemmas
open Umya.Reader Umya.Spec.Sml

theorem splitSlash_cons (c : Char) (r : List Char) :
    splitSlash (c :: r) = if c = '/' then [] :: splitSlash r else
      match splitSlash r with
      | [] => [[c]]
      | h :: r' => (c :: h) :: r' := rfl

theorem splitSlash_eq (t : List Char) : splitSlash t = splitOnChar '/' t := by
  induction t with
  | nil => rfl
  | cons c r ih =>
    rw [splitSlash_cons, ih]
    by_cases h : c = '/'
    · simp [h, splitOnChar, splitGo]
    · simp [h, splitOnChar, splitGo]

theorem joinSlash_eq : ∀ segs : List (List Char), joinSlash segs = joinSegs segs
  | [] => rfl
  | [a] => by simp [joinSlash, joinSegs, List.intercalate, List.intersperse]
  | a :: b :: r => by
    have ih := joinSlash_eq (b :: r)
    simp only [joinSegs, List.intercalate] at ih ⊢
    simp only [joinSlash, ih, List.intersperse, List.flatten_cons, List.singleton_append]

theorem normSegs_eq : ∀ (l acc : List (List Char)), normSegs acc l = resolveSegs acc (l.filter (· ≠ [])) := by
  intro l
  induction l with
  | nil => intro acc; rfl
  | cons s rest ih =>
    intro acc
    unfold normSegs
    by_cases h0 : s = []
    · subst h0
      simp [ih]
    · have hf : (s :: rest).filter (· ≠ []) = s :: rest.filter (· ≠ []) := by simp [h0]
      rw [hf]
      by_cases h1 : s = ['.']
      · subst h1
        simp only [or_true, if_true, ih]
        rw [resolveSegs]
        simp
      · by_cases h2 : s = ['.', '.']
        · subst h2
          simp only [ih]
          rw [resolveSegs]
          simp
        · simp only [h0, h1, h2, or_self, if_false, ih]
          rw [resolveSegs]
          simp [h1, h2]

theorem splitOnChar_cons_eq (c : Char) (r : List Char) : splitOnChar c (c :: r) = [] :: splitOnChar c r := by
  simp [splitOnChar, splitGo]

theorem splitOnChar_xl (r : List Char) : splitOnChar '/' ('x' :: 'l' :: '/' :: r) = ['x', 'l'] :: splitOnChar '/' r := by
  simp [splitOnChar, splitGo]

/-- a segment of an absolute target: not empty, not `.`, not `..` -/
def cleanSeg (s : List Char) : Bool := decide (s ≠ []) && decide (s ≠ ['.']) && decide (s ≠ ['.', '.'])

/-- the targets for which `join_paths("xl", target)` (after workbook_rels.rs took `/xl/` off) is the part the
    standard's resolution names.  A RELATIVE target — `worksheets/sheet1.xml`, `../xl/worksheets/sheet1.xml`,
    `./worksheets//sheet1.xml`, anything that does not start with `/` — is always fine: both sides drop empty segments and
    `.` and let `..` pop.  An ABSOLUTE target (`/xl/worksheets/sheet1.xml`) must be in normal form: the standard does
    not resolve dot segments of an absolute part name (they are not allowed there, Part 2 §6.2.2.2), the library does, and
    the library's `/xl/` stripping sees the characters, not the segments (`/xl//a` would be re-read as absolute). -/
def targetOk (t : List Char) : Bool :=
  match t with
  | '/' :: r => (splitOnChar '/' r).all cleanSeg
  | _ => true

theorem stripXl_rel (t : List Char) (h : t.head? ≠ some '/') : stripXl t = t := by
  unfold stripXl
  split
  · exact absurd rfl h
  · rfl

/-- the base is the literal `"xl"`: the library hard-codes it (`join_paths("xl", …)`), so the workbook part is taken at
    `xl/workbook.xml` -/
theorem segsOf_workbook_dropLast : (segsOf "xl/workbook.xml".toList).dropLast = [['x', 'l']] := by decide +kernel

theorem joinPaths_rel (t : List Char) (h : t.head? ≠ some '/') :
    joinPaths "xl".toList t = joinSegs (resolveSegs [['x', 'l']] (segsOf t)) := by
  have e : joinPaths "xl".toList t = joinSlash (normSegs [] (splitSlash ("xl".toList ++ '/' :: t))) := by
    unfold joinPaths
    split
    · exact absurd rfl h
    · rfl
  rw [e, joinSlash_eq, normSegs_eq, splitSlash_eq]
  rw [show "xl".toList ++ '/' :: t = 'x' :: 'l' :: '/' :: t from rfl, splitOnChar_xl]
  have e3 : (['x', 'l'] :: splitOnChar '/' t).filter (· ≠ []) = ['x', 'l'] :: segsOf t := by
    simp [segsOf]
  rw [e3, resolveSegs]
  simp

theorem joinPaths_rel_nil : joinPaths "xl".toList [] = joinSegs (resolveSegs [['x', 'l']] (segsOf [])) :=
  joinPaths_rel [] (by simp)

theorem resolveSegs_clean : ∀ {l acc : List (List Char)}, l.all cleanSeg = true → resolveSegs acc l = acc ++ l := by
  intro l
  induction l with
  | nil => intro acc _; simp [resolveSegs]
  | cons s rest ih =>
    intro acc h
    simp only [List.all_cons, Bool.and_eq_true, cleanSeg, decide_eq_true_eq] at h
    rw [resolveSegs, if_neg h.1.2, if_neg h.1.1.2, ih h.2]
    simp

theorem all_clean_filter {l : List (List Char)} (h : l.all cleanSeg = true) : l.filter (· ≠ []) = l := by
  rw [List.filter_eq_self]
  intro s hs
  have := List.all_eq_true.mp h s hs
  simp only [cleanSeg, Bool.and_eq_true, decide_eq_true_eq] at this
  simpa using this.1.1

theorem joinPaths_resolve (t : List Char) (h : targetOk t = true) :
    joinPaths "xl".toList (stripXl t) = resolveTargetL "xl/workbook.xml".toList t := by
  by_cases ha : t.head? = some '/'
  · obtain ⟨r, rfl⟩ : ∃ r, t = '/' :: r := by
      cases t with
      | nil => cases ha
      | cons c r => exact ⟨r, by simpa using ha⟩
    have hcl : (splitOnChar '/' r).all cleanSeg = true := h
    have spec : resolveTargetL "xl/workbook.xml".toList ('/' :: r) = joinSegs (splitOnChar '/' r) := by
      unfold resolveTargetL
      simp only [List.head?_cons, if_true, segsOf, splitOnChar_cons_eq]
      have : ([] :: splitOnChar '/' r).filter (· ≠ []) = (splitOnChar '/' r).filter (· ≠ []) := by simp
      rw [this, all_clean_filter hcl]
    rw [spec]
    unfold stripXl
    split
    · -- `/xl/r'`
      rename_i r' heq
      injection heq with _ heq
      subst heq
      rw [splitOnChar_xl] at hcl ⊢
      simp only [List.all_cons, Bool.and_eq_true] at hcl
      have hcl' := hcl.2
      have hd : r'.head? ≠ some '/' := by
        intro e
        cases r' with
        | nil => cases e
        | cons d r'' =>
          simp only [List.head?_cons, Option.some.injEq] at e
          subst e
          rw [splitOnChar_cons_eq] at hcl'
          simp [cleanSeg] at hcl'
      rw [joinPaths_rel r' hd, segsOf, all_clean_filter hcl', resolveSegs_clean hcl']
      rfl
    · -- any other absolute target stands for itself
      have e : joinPaths "xl".toList ('/' :: r) = joinSlash (normSegs [] (splitSlash r)) := rfl
      rw [e, joinSlash_eq, normSegs_eq, splitSlash_eq, all_clean_filter hcl, resolveSegs_clean hcl]
      rfl
  · rw [stripXl_rel t ha, joinPaths_rel t ha]
    unfold resolveTargetL
    simp only [ha, if_false, segsOf_workbook_dropLast]
end Umya.Reader.Lemmas
