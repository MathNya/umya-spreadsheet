/-
  The collection stage of `move_or_copy_range` (`iter_all_cells_by_range_sorted_by_row`): on a
  coherent store the merge of the rectangle's positions with the index scan yields exactly the
  scan's coordinates, and every `map.get(..).unwrap()` succeeds.
-/
import Umya.Lemmas.MoveRange
namespace Umya.Sheet

theorem sorted_range (lo hi : Nat) : (range lo hi).Pairwise (· < ·) := by
  unfold range
  rw [List.pairwise_map]
  exact List.Pairwise.imp (fun h => by omega) List.pairwise_lt_range

theorem sorted_rectPositions (rs re cs ce : Nat) : SSorted (rectPositions rs re cs ce) := by
  unfold rectPositions
  apply List.pairwise_flatMap.2
  constructor
  · intro r _
    rw [List.pairwise_map]
    refine List.Pairwise.imp ?_ (sorted_range cs ce)
    intro a b hab
    rw [keyLt_iff]; right; exact ⟨rfl, hab⟩
  · refine List.Pairwise.imp ?_ (sorted_range rs re)
    intro a b hab x hx y hy
    obtain ⟨_, _, rfl⟩ := List.mem_map.1 hx
    obtain ⟨_, _, rfl⟩ := List.mem_map.1 hy
    rw [keyLt_iff]; left; exact hab

theorem scanAll_filterMap {P : List Key} (hP : SSorted P) (coords : List Key)
    (hs : SSorted (coords.map swap)) (hsub : ∀ k ∈ coords, swap k ∈ P) :
    (scanAll P coords).filterMap id = coords := by
  -- `hsub` is the invariant of the merge: what is left of the scan lies among what is left of the positions
  induction P generalizing coords with
  | nil =>
    cases coords with
    | nil => rfl
    | cons k ks => exact absurd (hsub k (List.mem_cons_self ..)) (by simp)
  | cons x xs ih =>
    have hPx := List.pairwise_cons.1 hP
    -- a coordinate beyond `x` is one of the later positions
    have hxs : ∀ k, swap k ∈ x :: xs → keyLt x (swap k) = true → swap k ∈ xs := fun k hk hlt =>
      (List.mem_cons.1 hk).resolve_left fun e => by rw [e, keyLt_irrefl] at hlt; cases hlt
    cases coords with
    | nil => exact ih hPx.2 [] List.Pairwise.nil nofun
    | cons cur it =>
      have hsc := List.pairwise_cons.1 (show SSorted (swap cur :: it.map swap) from hs)
      show List.filterMap id (if keyLt x (swap cur) = true then _ else _) = _
      by_cases hlt : keyLt x (swap cur) = true
      · rw [if_pos hlt]
        refine ih hPx.2 (cur :: it) hs fun k hk => hxs k (hsub k hk) ?_
        rcases List.mem_cons.1 hk with rfl | hk
        · exact hlt
        · exact keyLt_trans hlt (hsc.1 _ (List.mem_map.2 ⟨k, hk, rfl⟩))
      · rw [if_neg hlt]
        -- `x` is not before the scan's coordinate, which is a position: they are equal
        obtain rfl : swap cur = x := (List.mem_cons.1 (hsub cur List.mem_cons_self)).elim id
          fun hin => absurd (hPx.1 _ hin) hlt
        refine congrArg (cur :: ·) (ih hPx.2 it hsc.2 fun k hk => ?_)
        exact hxs k (hsub k (List.mem_cons_of_mem _ hk)) (hsc.1 _ (List.mem_map.2 ⟨k, hk, rfl⟩))

theorem collectCells_eq (s : Sheet) (h : Coherent s) (rs re cs ce : Nat) (coords : List Key)
    (hok : coordsInRange s rs re cs ce = .ok coords) :
    collectCells s rs re cs ce coords = .ok (copiesOf s coords) := by
  obtain ⟨hs, hmem⟩ := coordsInRange_spec s h rs re cs ce coords hok
  have hin : ∀ k ∈ coords, (k.2, k.1) ∈ keysOf s ∧ rs ≤ k.2 ∧ k.2 ≤ re ∧ cs ≤ k.1 ∧ k.1 ≤ ce := by
    intro k hk
    exact (hmem (k.2, k.1)).1 (by simpa [swap] using hk)
  unfold collectCells
  rw [scanAll_filterMap (sorted_rectPositions rs re cs ce) coords hs]
  · refine mapRes_eq_ok_filterMap fun k hk => ?_
    obtain ⟨c, hc⟩ := Option.isSome_iff_exists.1 (lookup_isSome_iff.2 (hin k hk).1)
    exact ⟨c, hc, by rw [hc]⟩
  · intro k hk
    exact mem_rectPositions.2 (hin k hk).2

end Umya.Sheet
