/-
  What the readers make of what the writers emit: the authors table and the comments that index it, the hyperlinks in
  the order of the sheet walk (`reloadLinks_self`; `walkOrder` only permutes), doubled apostrophes (`undouble`).  Then
  `split_str`: it keeps a piece whole when the piece leaves its quote / parenthesis state alone (`Neutral`); the printed
  text of an area does, because a printed range has none of the characters `split_str` looks for (`plain_print`) and
  a quoted sheet name has its apostrophes doubled.
-/
import Umya.Model.Annot
import Umya.Lemmas.XmlAgree
import Umya.Lemmas.Coord
namespace Umya.Annot
open Umya.Coord Umya.Dec Umya.XmlEsc

theorem readAuthorsGo_author (a v : Text) (acc : List Text) (rest : List Ev) :
    readAuthorsGo true v acc (authorEvents a ++ rest) = readAuthorsGo true a (acc ++ [a]) rest := by
  unfold authorEvents
  cases a with
  | nil => simp [readAuthorsGo]
  | cons c s =>
    simp only [List.isEmpty_cons, Bool.false_eq_true, if_false, List.cons_append, List.nil_append, readAuthorsGo]
    rw [unescape_escape (c :: s)]

theorem readAuthorsGo_written (tbl : List Text) (v : Text) (acc : List Text) :
    readAuthorsGo true v acc (tbl.flatMap authorEvents) = .ok (acc ++ tbl) := by
  induction tbl generalizing v acc with
  | nil => simp [readAuthorsGo]
  | cons a r ih =>
    rw [List.flatMap_cons, readAuthorsGo_author, ih]; simp

theorem readAuthors_written (tbl : List Text) : readAuthors true tbl = .ok tbl := by
  simp [readAuthors, readAuthorsGo_written]

theorem position_get (a : Text) (tbl : List Text) (h : a ∈ tbl) :
    ∃ i, position a tbl = some i ∧ tbl[i]? = some a := by
  induction tbl with
  | nil => simp at h
  | cons x r ih =>
    by_cases hx : a = x
    · exact ⟨0, by simp [position, hx], by simp [hx]⟩
    · have hr : a ∈ r := by
        rcases List.mem_cons.1 h with e | e
        · exact absurd e hx
        · exact e
      obtain ⟨i, h1, h2⟩ := ih hr
      exact ⟨i + 1, by simp [position, hx, h1], by simpa using h2⟩

theorem readCmts_written (tbl : List Text) (cs : List Cmt) (h : ∀ c ∈ cs, c.author ∈ tbl) :
    readCmts tbl (cs.map (writeCmt tbl)) = .ok cs := by
  induction cs with
  | nil => rfl
  | cons c r ih =>
    obtain ⟨i, h1, h2⟩ := position_get c.author tbl (h c (by simp))
    have ihr := ih (fun c' hc' => h c' (List.mem_cons_of_mem _ hc'))
    simp only [List.map_cons, readCmts, ihr]
    simp [readCmt, writeCmt, h1, h2, attrRead_attrWrite]

/-- A relationship whose id is below the walk's counter is never looked up: the walk numbers its external links from `k` upwards. -/
theorem readElems_skip (xs : List Link) (k j : Nat) (t : Text) (R : List (Nat × Text)) (hj : j < k) :
    readElems ((j, t) :: R) (sheetWalk xs k) = readElems R (sheetWalk xs k) := by
  induction xs generalizing k with
  | nil => rfl
  | cons x xs ih =>
    simp only [sheetWalk]
    split
    · simp only [readElems, readElem, lookupRel]
      rw [if_neg (by omega), ih (k + 1) (by omega)]
    · simp only [readElems, readElem]
      rw [ih k hj]

theorem reloadLinks_self (ls : List Link) (k0 : Nat) : reloadLinks ls k0 = .ok ls := by
  unfold reloadLinks
  induction ls generalizing k0 with
  | nil => rfl
  | cons x xs ih =>
    obtain ⟨coord, ext, target, tip⟩ := x
    cases ext with
    | true =>
      simp only [sheetWalk, relsWalk, if_true, readElems]
      rw [readElems_skip xs (k0 + 1) k0 _ _ (by omega), ih (k0 + 1)]
      cases tip with
      | nil => simp [readElem, lookupRel, attrRead_attrWrite]
      | cons c r => simp [readElem, lookupRel, attrRead_attrWrite]
    | false =>
      simp only [sheetWalk, relsWalk, Bool.false_eq_true, if_false, readElems]
      rw [ih k0]
      cases tip with
      | nil => simp [readElem, attrRead_attrWrite]
      | cons c r => simp [readElem, attrRead_attrWrite]

theorem insertLink_perm (x : Link) (l : List Link) : (insertLink x l).Perm (x :: l) := by
  induction l with
  | nil => exact List.Perm.refl _
  | cons y ys ih =>
    simp only [insertLink]
    split
    · exact List.Perm.refl _
    · exact ((List.Perm.cons y ih).trans (List.Perm.swap x y ys))

theorem walkOrder_perm (ls : List Link) : (walkOrder ls).Perm ls := by
  induction ls with
  | nil => exact List.Perm.refl _
  | cons x xs ih =>
    simp only [walkOrder, List.foldr_cons]
    exact (insertLink_perm x _).trans (List.Perm.cons x ih)

theorem undouble_cons_ne (c : Char) (X : Text) (h : c ≠ '\'') : undouble (c :: X) = c :: undouble X := by
  cases X with
  | nil => simp [undouble]
  | cons d r => simp [undouble, h]

theorem undouble_apos_single {X : Text} (h : X.head? ≠ some '\'') :
    undouble ('\'' :: X) = '\'' :: undouble X := by
  cases X with
  | nil => simp [undouble]
  | cons d r =>
    have : d ≠ '\'' := by simpa using h
    simp [undouble, this]

theorem undouble_append_cons (c : Char) (hc : c ≠ '\'') :
    ∀ q r : Text, undouble (q ++ c :: r) = undouble q ++ c :: undouble r
  | [], r => undouble_cons_ne c r hc
  | [a], r => by simp [undouble, hc, undouble_cons_ne c r hc]
  | a :: b :: q, r => by
    have h1 := undouble_append_cons c hc q r
    have h2 := undouble_append_cons c hc (b :: q) r
    simp only [List.cons_append] at h2 ⊢
    simp only [undouble, h1, h2]
    split <;> rfl

/-- `str::replace("''", "'")` after `replace("'", "''")` -/
theorem undouble_double (s t : Text) : undouble (replaceApos s ++ t) = s ++ undouble t :=
  undoubling_replaceApos (by simp [undouble]) undouble_cons_ne s t

theorem undouble_id (t : Text) (h : '\'' ∉ t) : undouble t = t := undoubling_id rfl undouble_cons_ne t h

/-- the characters `split_str` treats as ordinary: not one of its five special ones -/
def Plain (c : Char) : Prop := c ≠ '\'' ∧ c ≠ '(' ∧ c ≠ ')' ∧ c ≠ '"' ∧ c ≠ ','

theorem splitStep_plain {st : SplitSt} {c : Char} (h : Plain c) :
    splitStep st c = ⟨st.s, st.d, st.b, c :: st.cur, st.res⟩ := by
  obtain ⟨h1, h2, h3, h4, h5⟩ := h
  cases hs : st.s <;> simp [splitStep, h1, h2, h3, h4, h5, hs]

theorem splitStep_inq {st : SplitSt} {c : Char} (hs : st.s = true) (hc : c ≠ '\'') :
    splitStep st c = ⟨true, st.d, st.b, c :: st.cur, st.res⟩ := by
  simp [splitStep, hc, hs]

theorem splitStep_apos (st : SplitSt) :
    splitStep st '\'' = ⟨!st.s, st.d, st.b, '\'' :: st.cur, st.res⟩ := by
  simp [splitStep]

theorem fold_plain (l : Text) (st : SplitSt) (h : ∀ c ∈ l, Plain c) :
    l.foldl splitStep st = ⟨st.s, st.d, st.b, l.reverse ++ st.cur, st.res⟩ := by
  induction l generalizing st with
  | nil => simp
  | cons c r ih =>
    rw [List.foldl_cons, splitStep_plain (h c (by simp)), ih _ (fun c hc => h c (List.mem_cons_of_mem _ hc))]
    simp

theorem fold_quoted (n : Text) (st : SplitSt) (hs : st.s = true) :
    (replaceApos n).foldl splitStep st = ⟨true, st.d, st.b, (replaceApos n).reverse ++ st.cur, st.res⟩ := by
  induction n generalizing st with
  | nil => simp [replaceApos, ← hs]
  | cons c r ih =>
    rw [replaceApos_cons, List.foldl_append]
    by_cases hc : c = '\''
    · subst hc
      simp only [if_true, List.foldl_cons, List.foldl_nil, splitStep_apos, hs, Bool.not_true, Bool.not_false]
      rw [ih _ rfl]; simp
    · simp only [hc, if_false, List.foldl_cons, List.foldl_nil]
      rw [splitStep_inq hs hc, ih _ rfl]; simp

/-- a piece of text that leaves the quote / parenthesis state alone and is kept whole -/
def Neutral (t : Text) : Prop :=
  ∀ st : SplitSt, st.s = false → t.foldl splitStep st = ⟨false, st.d, st.b, t.reverse ++ st.cur, st.res⟩

theorem neutral_plain {l : Text} (h : ∀ c ∈ l, Plain c) : Neutral l := by
  intro st hs; rw [fold_plain l st h, hs]

theorem neutral_append {a b : Text} (ha : Neutral a) (hb : Neutral b) : Neutral (a ++ b) := by
  intro st hs
  rw [List.foldl_append, ha st hs, hb _ rfl]; simp

theorem neutral_quoted (n : Text) : Neutral ('\'' :: (replaceApos n ++ ['\''])) := by
  intro st hs
  rw [List.foldl_cons, splitStep_apos, List.foldl_append, fold_quoted n _ (by simp [hs])]
  simp [splitStep_apos]

theorem splitStr_join_acc (ts : List Text) (hne : ts ≠ []) (hN : ∀ t ∈ ts, Neutral t ∧ t ≠ []) (res : List Text) :
    splitFinish ((joinComma ts).foldl splitStep ⟨false, false, 0, [], res⟩) = res.reverse ++ ts := by
  induction ts generalizing res with
  | nil => exact absurd rfl hne
  | cons a r ih =>
    obtain ⟨hNa, hane⟩ := hN a (by simp)
    cases r with
    | nil =>
      simp only [joinComma]
      rw [hNa _ rfl]
      simp [splitFinish, hane]
    | cons b r' =>
      simp only [joinComma]
      rw [List.foldl_append, hNa _ rfl, List.foldl_cons]
      have hstep : splitStep ⟨false, false, 0, a.reverse ++ [], res⟩ ',' = ⟨false, false, 0, [], a :: res⟩ := by
        simp [splitStep]
      rw [hstep, ih (by simp) (fun t ht => hN t (List.mem_cons_of_mem _ ht)) (a :: res)]
      simp

theorem splitStr_join (ts : List Text) (hne : ts ≠ []) (hN : ∀ t ∈ ts, Neutral t ∧ t ≠ []) :
    splitStr (joinComma ts) = ts := by
  have := splitStr_join_acc ts hne hN []
  simpa [splitStr] using this

theorem alnum_plain (c : Char) (h : isAlnumAscii c = true) : Plain c := by
  refine ⟨?_, ?_, ?_, ?_, ?_⟩ <;> (intro e; subst e; simp [isAlnumAscii, isDigit, isUpperAZ, isLowerAZ] at h)

theorem plain_print (ρ : Range) : ∀ c ∈ ρ.print, Plain c :=
  Range.print_chars (by unfold Plain; decide) (by unfold Plain; decide)
    (fun c h => alnum_plain c (by rcases h with h | h <;> simp [isAlnumAscii, h])) ρ

theorem replaceApos_noApos (s : Text) (h : s.contains '\'' = false) : replaceApos s = s :=
  flatMap_eq_self fun c hc => if_neg fun e => by simp at h; exact h (e ▸ hc)

end Umya.Annot
