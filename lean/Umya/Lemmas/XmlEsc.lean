/-
  The writers' escape functions (`Umya.XmlEsc`; `Umya.Xml.escape`, `partialEscape` are the same functions as modelled
  for C01): each sends a character to its entity, or to itself when it is none of the escaped ones (`Escapes`).  What
  holds of every character of every entity and of the characters left alone holds of all that is written
  (`Escapes.all`); the facts on the entity table are one finite check (`entities_chars`).
-/
import Umya.Model.XmlEsc
import Umya.Spec.XmlLex
namespace Umya.XmlEsc
open Umya.Spec.Xml (isXmlChar)

/-- the escaped characters with the reference that stands for each, in the order `attrEscChar` tests them -/
def refs : List (Char × List Char) :=
  [('\t', "#9".toList), ('\n', "#10".toList), ('\r', "#13".toList), ('<', "lt".toList), ('>', "gt".toList),
   ('&', "amp".toList), ('\'', "apos".toList), ('"', "quot".toList)]

/-- the escaped characters with the text `&ref;` written for each -/
def entities : List (Char × List Char) := refs.map fun p => (p.1, '&' :: p.2 ++ [';'])

/-- `f` escapes by cases: the entity of the character, or the character itself when it is not in `sp` -/
def Escapes (f : Char → List Char) (sp : List Char) : Prop :=
  ∀ c, (c, f c) ∈ entities ∨ (f c = [c] ∧ c ∉ sp)

theorem Escapes.nothing : Escapes (fun c => [c]) [] := fun _ => .inr ⟨rfl, List.not_mem_nil⟩

/-- one more character escaped, tested before the others: every escape function is a chain of these -/
theorem Escapes.test {f : Char → List Char} {sp : List Char} (h : Escapes f sp) {a : Char} {e : List Char}
    (he : (a, e) ∈ entities) : Escapes (fun c => if c = a then e else f c) (a :: sp) := by
  intro c
  by_cases hc : c = a
  · exact .inl (by simpa [hc] using he)
  · simpa [hc] using h c

-- In the four chains below the innermost `else` comes first; the `a` and `e` of each `test` are read off the expected
-- type, in which the escape function unfolds to its `if`s.
theorem escCharOld_cases : Escapes escCharOld ['<', '>', '&', '\'', '"'] :=
  ((((Escapes.nothing.test (by decide +kernel)).test (by decide +kernel)).test (by decide +kernel)).test
    (by decide +kernel)).test (by decide +kernel)

theorem escChar_cases : Escapes escChar ['\r', '<', '>', '&', '\'', '"'] := escCharOld_cases.test (by decide +kernel)

theorem attrEscChar_cases : Escapes attrEscChar ['\t', '\n', '\r', '<', '>', '&', '\'', '"'] :=
  (escChar_cases.test (by decide +kernel)).test (by decide +kernel)

theorem pescChar_cases : Escapes pescChar ['<', '>', '&', '\r'] :=
  (((Escapes.nothing.test (by decide +kernel)).test (by decide +kernel)).test (by decide +kernel)).test (by decide +kernel)

/-- an entity is not empty and consists of XML characters that neither end nor break an attribute value or a text
    node and that no reader normalises or trims -/
theorem entities_chars : ∀ p ∈ entities, p.2 ≠ [] ∧ ∀ x ∈ p.2,
    x ≠ '<' ∧ x ≠ '"' ∧ x ≠ '\'' ∧ x ≠ '>' ∧ x ≠ '\r' ∧ x ≠ '\n' ∧ x ≠ '\t' ∧ x ≠ ' ' ∧ isXmlChar x = true := by
  decide +kernel

namespace Escapes
variable {f : Char → List Char} {sp : List Char} (h : Escapes f sp)
include h

theorem ne_nil (c : Char) : f c ≠ [] := by
  rcases h c with he | ⟨he, _⟩
  · exact (entities_chars _ he).1
  · rw [he]; exact List.cons_ne_nil _ _

theorem flatMap_eq_nil {s : List Char} : s.flatMap f = [] ↔ s = [] := by
  cases s with
  | nil => simp
  | cons c r => simp [h.ne_nil c]

theorem all (P : Char → Prop) (hent : ∀ p ∈ entities, ∀ x ∈ p.2, P x) (s : List Char) (hs : ∀ c ∈ s, c ∉ sp → P c) :
    ∀ d ∈ s.flatMap f, P d := by
  intro d hd
  obtain ⟨c, hc, hdc⟩ := List.mem_flatMap.1 hd
  rcases h c with he | ⟨he, hn⟩
  · exact hent _ he d hdc
  · rw [he, List.mem_singleton] at hdc
    exact hdc ▸ hs c hc hn

theorem no_lt_cr (hlt : '<' ∈ sp) (hcr : '\r' ∈ sp) (s : List Char) : ∀ c ∈ s.flatMap f, c ≠ '<' ∧ c ≠ '\r' :=
  h.all _ (fun p hp x hx => have := (entities_chars p hp).2 x hx; ⟨this.1, this.2.2.2.2.1⟩) s
    (fun _ _ hn => ⟨fun e => hn (e ▸ hlt), fun e => hn (e ▸ hcr)⟩)

end Escapes

theorem attrEscape_safe (s : List Char) :
    ∀ c ∈ attrEscape s, c ≠ '<' ∧ c ≠ '"' ∧ c ≠ '\'' ∧ c ≠ '>' ∧ c ≠ '\r' ∧ c ≠ '\n' ∧ c ≠ '\t' :=
  attrEscChar_cases.all _
    (fun p hp x hx => by
      have := (entities_chars p hp).2 x hx
      simp only [this, ne_eq, not_false_eq_true, and_self])
    s
    (fun c _ hn => by
      simp only [List.mem_cons, List.not_mem_nil, or_false, not_or] at hn
      simp only [hn, ne_eq, not_false_eq_true, and_self])

end Umya.XmlEsc
