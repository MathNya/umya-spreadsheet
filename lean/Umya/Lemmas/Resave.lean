/-
  A *codec* is one save followed by one load of some family of values, seen as a partial function
  `rs : X → Option X` (`none` = a Rust panic on the way), together with an explicit normal form `norm`
  and a well-formedness predicate `WF` ("the value is one a Rust struct can hold / the setters build").
  `closed` is what makes the SECOND generation fall under `rt` again; with `idem` it gives the fixed point
  (`Codec.fixpoint`; `Codec.gens_succ` for every later generation).  The codec of a record is built from those of its
  fields: `ofId` (normal form `id`), `list`, `opt`, `prod`, `transport`, `restrict`.
-/
namespace Umya.Resave

structure Codec (X : Type) where
  rs : X → Option X
  norm : X → X
  WF : X → Prop
  rt : ∀ x, WF x → rs x = some (norm x)
  idem : ∀ x, WF x → norm (norm x) = norm x
  closed : ∀ x, WF x → WF (norm x)

variable {X : Type}

def Codec.gens (c : Codec X) : Nat → X → Option X
  | 0, x => some x
  | n + 1, x => (c.rs x).bind (c.gens n)

theorem Codec.rs_norm (c : Codec X) (x : X) (h : c.WF x) : c.rs (c.norm x) = some (c.norm x) := by
  rw [c.rt _ (c.closed x h), c.idem x h]

/-- **Generic fixed point.**  For a well-formed `x`: generation 1 exists and is `norm x`; generation 2 exists and
    IS generation 1; generation 1 is well-formed; and every observation that does not see `norm` gives the same
    answer on generation 1 as on the original. -/
theorem Codec.fixpoint (c : Codec X) (x : X) (h : c.WF x) :
    ∃ g1, c.rs x = some g1 ∧ g1 = c.norm x ∧ c.rs g1 = some g1 ∧ c.WF g1 ∧
      ∀ {O : Type} (P : X → O), (∀ y, c.WF y → P (c.norm y) = P y) → P g1 = P x :=
  ⟨c.norm x, c.rt x h, rfl, c.rs_norm x h, c.closed x h, fun _ hP => hP x h⟩

/-- the fixed point read on the fields of a codec given as a record.  `hc` is `rfl` at every use and fixes `rs`, `norm`
    and `WF` by unfolding the codec.  A trap otherwise: asked to match `c.rs x` with the model's reader, the unifier
    unfolds the reader before the record. -/
theorem Codec.fixpoint_fields (c : Codec X) {rs : X → Option X} {norm : X → X} {WF : X → Prop} {rt idem closed}
    (hc : c = ⟨rs, norm, WF, rt, idem, closed⟩) (x : X) (h : WF x) :
    rs x = some (norm x) ∧ rs (norm x) = some (norm x) ∧ WF (norm x) := by
  obtain ⟨_, e1, rfl, e2, hwf, _⟩ := c.fixpoint x (hc ▸ h)
  subst hc
  exact ⟨e1, e2, hwf⟩

theorem Codec.gens_succ (c : Codec X) (x : X) (h : c.WF x) : ∀ n, c.gens (n + 1) x = some (c.norm x)
  | 0 => by simp [Codec.gens, c.rt x h]
  | n + 1 => by
    have ih := Codec.gens_succ c (c.norm x) (c.closed x h) n
    rw [c.idem x h] at ih
    show (c.rs x).bind (c.gens (n + 1)) = _
    rw [c.rt x h]; exact ih

theorem Codec.rs_edit (c : Codec X) (ed ed' : X → X) (x : X) (h : c.WF x) (h' : c.WF (ed x))
    (hn : c.norm (ed x) = ed' (c.norm x)) : c.rs (ed x) = (c.rs x).map ed' := by
  rw [c.rt _ h', c.rt x h, hn]; rfl

def Codec.ofId (rs : X → Option X) (WF : X → Prop) (h : ∀ x, WF x → rs x = some x) : Codec X :=
  { rs := rs, norm := id, WF := WF, rt := h, idem := fun _ _ => rfl, closed := fun _ hx => hx }

/-- `CellXml.mapOpt` again: this file imports nothing -/
def mapO {A B : Type} (f : A → Option B) : List A → Option (List B)
  | [] => some []
  | a :: r => (f a).bind fun b => (mapO f r).map (b :: ·)

theorem mapO_eq_map {A B : Type} (f : A → Option B) (g : A → B) :
    ∀ l : List A, (∀ a ∈ l, f a = some (g a)) → mapO f l = some (l.map g)
  | [], _ => rfl
  | a :: r, h => by
    simp only [mapO, h a (List.mem_cons_self ..), Option.bind_some,
      mapO_eq_map f g r (fun b hb => h b (List.mem_cons_of_mem _ hb)), Option.map_some, List.map_cons]

def Codec.list (c : Codec X) : Codec (List X) :=
  { rs := mapO c.rs
    norm := List.map c.norm
    WF := fun l => ∀ x ∈ l, c.WF x
    rt := fun l h => mapO_eq_map c.rs c.norm l (fun x hx => c.rt x (h x hx))
    idem := fun l h => by
      rw [List.map_map]
      exact List.map_congr_left (fun x hx => c.idem x (h x hx))
    closed := fun l h y hy => by
      obtain ⟨x, hx, rfl⟩ := List.mem_map.1 hy
      exact c.closed x (h x hx) }

def Codec.opt (c : Codec X) : Codec (Option X) :=
  { rs := fun o => match o with | some x => (c.rs x).map some | none => some none
    norm := Option.map c.norm
    WF := fun o => ∀ x, o = some x → c.WF x
    rt := fun o h => by
      cases o with
      | none => rfl
      | some x => simp [c.rt x (h x rfl)]
    idem := fun o h => by
      cases o with
      | none => rfl
      | some x => simp [c.idem x (h x rfl)]
    closed := fun o h y hy => by
      cases o with
      | none => simp at hy
      | some x =>
        simp only [Option.map_some, Option.some.injEq] at hy
        subst hy
        exact c.closed x (h x rfl) }

def Codec.prod {Y : Type} (c : Codec X) (d : Codec Y) : Codec (X × Y) :=
  { rs := fun p => (c.rs p.1).bind fun a => (d.rs p.2).map fun b => (a, b)
    norm := fun p => (c.norm p.1, d.norm p.2)
    WF := fun p => c.WF p.1 ∧ d.WF p.2
    rt := fun p h => by simp [c.rt _ h.1, d.rt _ h.2]
    idem := fun p h => by simp [c.idem _ h.1, d.idem _ h.2]
    closed := fun p h => ⟨c.closed _ h.1, d.closed _ h.2⟩ }

theorem map_obs {O : Type} {n : X → X} {P : X → O} (l : List X) (h : ∀ x ∈ l, P (n x) = P x) :
    (l.map n).map P = l.map P := by
  rw [List.map_map]; exact List.map_congr_left h

theorem Codec.list_obs {O : Type} (c : Codec X) (P : X → O) (hP : ∀ y, c.WF y → P (c.norm y) = P y)
    (l : List X) (h : c.list.WF l) : (c.list.norm l).map P = l.map P :=
  map_obs l fun x hx => hP x (h x hx)

/-- the same codec on an isomorphic carrier (a record ↔ the tuple of its fields); of the two halves of the
    isomorphism the fields use `h2` only -/
def Codec.transport {Y : Type} (c : Codec X) (to : Y → X) (back : X → Y) (h1 : ∀ y, back (to y) = y)
    (h2 : ∀ x, to (back x) = x) : Codec Y :=
  { rs := fun y => (c.rs (to y)).map back
    norm := fun y => back (c.norm (to y))
    WF := fun y => c.WF (to y)
    rt := fun y h => by simp [c.rt _ h]
    idem := fun y h => by simp [h2, c.idem _ h]
    closed := fun y h => by simpa [h2] using c.closed _ h }

/-- a codec on fewer values: `Q` is an extra invariant that the normal form keeps -/
def Codec.restrict (c : Codec X) (Q : X → Prop) (hQ : ∀ x, c.WF x → Q x → Q (c.norm x)) : Codec X :=
  { rs := c.rs, norm := c.norm, WF := fun x => c.WF x ∧ Q x
    rt := fun x h => c.rt x h.1, idem := fun x h => c.idem x h.1
    closed := fun x h => ⟨c.closed x h.1, hQ x h.1 h.2⟩ }

theorem Codec.opt_obs {O : Type} (c : Codec X) (P : X → O) (hP : ∀ y, c.WF y → P (c.norm y) = P y)
    (o : Option X) (h : c.opt.WF o) : (c.opt.norm o).map P = o.map P := by
  cases o with
  | none => rfl
  | some x => simp [Codec.opt, hP x (h x rfl)]

end Umya.Resave
