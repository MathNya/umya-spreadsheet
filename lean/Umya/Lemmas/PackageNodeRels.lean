/-
  The relationships of a package of the shape `Pieces.pkg` as the decoder reads them (`relsOf`), their ids and
  their targets.
-/
import Umya.Lemmas.PackageNodeLookup
import Umya.Lemmas.WorkbookNode
namespace Umya.PackageNode
open Umya.Xml Umya.CellXml Umya.CellNode Umya.SheetNode Umya.WorkbookNode Umya.Dec
open Umya.Spec.Xml (Node Attr localName)
open Umya.Spec.Sml

def relRec (k : Nat) (type target : List Char) : Rel := { id := str (rIdText k), type := str type, target := str target, external := false }

theorem isKid_relEl (k : Nat) (t g : List Char) : isKid nRelationship (relEl k t g) = true := by
  unfold relEl; rw [isKid_elem]; decide

theorem relOf_relEl (k : Nat) (t g : List Char) : relOf (relEl k t g) = relRec k t g := by
  simp [relOf, relEl, relRec, Node.attr?, Node.attrs]

/-- the `Target`s that `wbRelsRest` (`Model/PackageNode.lean`) writes as literals -/
def tStylesTarget : List Char := ['s', 't', 'y', 'l', 'e', 's', '.', 'x', 'm', 'l']
def tThemeTarget : List Char := ['t', 'h', 'e', 'm', 'e', '/', 't', 'h', 'e', 'm', 'e', '1', '.', 'x', 'm', 'l']
def tSstTarget : List Char := ['s', 'h', 'a', 'r', 'e', 'd', 'S', 't', 'r', 'i', 'n', 'g', 's', '.', 'x', 'm', 'l']

/-- the records of `wbRelsRest` -/
def wbRestRecs (n : Nat) (hs : Bool) : List Rel :=
  [relRec (n + 1) tStyles tStylesTarget, relRec (n + 2) tTheme tThemeTarget] ++ (if hs then [relRec (n + 3) tSharedStrings tSstTarget] else [])

theorem wbRelsRest_recs (n : Nat) (hs : Bool) : ((wbRelsRest n hs).filter (isKid nRelationship)).map relOf = wbRestRecs n hs := by
  cases hs <;> simp [wbRelsRest, wbRestRecs, isKid_relEl, relOf_relEl, tStylesTarget, tThemeTarget, tSstTarget]

theorem relsName_root : relsNameOf "" = String.ofList nRootRels := by
  have : "".toList = [] := rfl
  rw [relsNameOf, this]; exact congrArg _ (by decide)

theorem relsName_workbook : relsNameOf (String.ofList nWorkbookPart) = String.ofList nWorkbookRels := by
  rw [relsNameOf, String.toList_ofList]; exact congrArg _ (by decide)

theorem relsName_sheet (k : Nat) : relsNameOf (String.ofList (sheetPartL k)) = String.ofList (sheetRelsL k) := by
  rw [relsNameOf, String.toList_ofList, relsName_sheetPart]

theorem rids_unique {k m : Nat} {ids : List String} (h : ids = (List.range' k m).map (fun i => str (rIdText i))) :
    ids.eraseDups.length = ids.length := by
  rw [h, eraseDups_nodup _ (rids_nodup _ (List.nodup_range' (step := 1)))]

theorem hlNext_eq (ls : List LinkW) : ∀ k, hlNext k ls = k + (ls.filter (!·.location)).length := by
  induction ls with
  | nil => intro k; rfl
  | cons l ls ih =>
    intro k
    cases hl : l.location <;> simp only [hlNext, hl, ih, List.filter_cons, Bool.not_false, Bool.not_true, if_true, Bool.false_eq_true, if_false, List.length_cons]
    omega

theorem relRecs_eq (ls : List LinkW) : ∀ k, relRecs k ls = ((ls.filter (!·.location)).zipIdx k).map fun p =>
    { id := str (rIdText p.2), type := str hyperlinkType, target := str p.1.url, external := true } := by
  induction ls with
  | nil => intro k; rfl
  | cons l ls ih =>
    intro k
    cases hl : l.location <;> simp only [relRecs, hl, ih, List.filter_cons, Bool.not_false, Bool.not_true, if_true, Bool.false_eq_true, if_false, List.zipIdx_cons, List.map_cons]

/-- the counter of worksheet_rels.rs after its hyperlink loop is the counter of worksheet.rs after its hyperlink loop -/
theorem relRecs_ids_next (ls : List LinkW) (k : Nat) : (relRecs k ls).map (·.id) = (List.range' k (hlNext k ls - k)).map (fun i => str (rIdText i)) := by
  rw [relRecs_eq, hlNext_eq, Nat.add_sub_cancel_left, ← List.zipIdx_map_snd k, List.map_map, List.map_map]
  rfl

theorem ids_append {a b : List Rel} {k m m' : Nat} (ha : a.map (·.id) = (List.range' k m).map (fun i => str (rIdText i)))
    (hb : b.map (·.id) = (List.range' (k + m) m').map (fun i => str (rIdText i))) :
    (a ++ b).map (·.id) = (List.range' k (m + m')).map (fun i => str (rIdText i)) := by
  rw [List.map_append, ha, hb, ← List.range'_append_1, List.map_append]

theorem ids_after_links (ls : List LinkW) (rest : List Rel) (m : Nat)
    (h : rest.map (·.id) = (List.range' (hlNext 1 ls) m).map (fun i => str (rIdText i))) :
    (relRecs 1 ls ++ rest).map (·.id) = (List.range' 1 (hlNext 1 ls - 1 + m)).map (fun i => str (rIdText i)) := by
  refine ids_append (relRecs_ids_next ls 1) ?_
  rw [show 1 + (hlNext 1 ls - 1) = hlNext 1 ls by rw [hlNext_eq]; omega]
  exact h

theorem relRecs_external (ls : List LinkW) (k : Nat) : ∀ r ∈ relRecs k ls, r.external = true := by
  rw [relRecs_eq]
  intro r hr
  obtain ⟨_, _, rfl⟩ := List.mem_map.1 hr
  rfl

theorem wb_ids (n : Nat) (hs : Bool) : ∃ m, (wsRecs 1 n ++ wbRestRecs n hs).map (·.id) = (List.range' 1 m).map (fun i => str (rIdText i)) := by
  refine ⟨n + if hs then 3 else 2, ids_append (wsRecs_ids n 1) ?_⟩
  rw [Nat.add_comm 1 n]
  cases hs <;> rfl

namespace Pieces
variable {q : Pieces} {tbl : Table} (h : q.OK tbl)
include h

theorem relsOf_root : relsOf q.pkg "" = [relRec 3 tXprops nApp, relRec 2 tCoreprops nCore, relRec 1 tOfficeDoc nWorkbookPart] := by
  rw [relsOf_some _ _ rootRelsNode (by rw [relsName_root, part_rootRels h]; rfl)]
  simp only [rootRelsNode, Node.children, List.filter_cons, isKid_relEl, if_true, List.filter_nil,
    List.map_cons, List.map_nil, relOf_relEl]

theorem relsOf_wb : relsOf q.pkg (String.ofList nWorkbookPart) = wsRecs 1 q.n ++ wbRestRecs q.n q.hs := by
  rw [relsOf_workbook _ _ q.n (wbRelsRest q.n q.hs)
    (by rw [relsName_workbook, part_workbookRels h]; rfl), wbRelsRest_recs]

theorem relsOf_sheet (k : Nat) (hk : 1 ≤ k) (links : List LinkW) (rest : List Node) (hsk : q.rels[k - 1]? = some (links, rest)) :
    (q.pkg.part? (relsNameOf (String.ofList (sheetPartL k)))).bind (·.xml) = relsRoot links rest ∧
    relsOf q.pkg (String.ofList (sheetPartL k)) = relRecs 1 links ++ (rest.filter (isKid nRelationship)).map relOf := by
  have h1 : (q.pkg.part? (relsNameOf (String.ofList (sheetPartL k)))).bind (·.xml) = relsRoot links rest := by
    rw [relsName_sheet, part_sheetRels h k hk, hsk]
    cases hrr : relsRoot links rest <;> simp [xmlPart, hrr]
  exact ⟨h1, by rw [relsOf_rendered _ _ links _ h1, relsView_eq]⟩

theorem relsOK_root : RelsOK q.pkg "" := by
  unfold RelsOK
  rw [relsOf_root h]
  refine ⟨congrArg List.length (eraseDups_nodup _ (rids_nodup [3, 2, 1] (by decide))), fun r hr _ => ?_⟩
  simp only [List.mem_cons, List.not_mem_nil, or_false] at hr
  rcases hr with rfl | rfl | rfl
  · exact target_present (src := []) (by decide) (Option.isSome_of_eq_some (part_app h))
  · exact target_present (src := []) (by decide) (Option.isSome_of_eq_some (part_core h))
  · exact target_present (src := []) (by decide) (Option.isSome_of_eq_some (part_workbook h))

theorem relsOK_wb (hhs : q.hs = !tbl.isEmpty) (hlen : q.roots.length = q.n) : RelsOK q.pkg (String.ofList nWorkbookPart) := by
  unfold RelsOK
  rw [relsOf_wb h]
  refine ⟨(wb_ids q.n q.hs).elim fun _ hm => rids_unique hm, fun r hr _ => ?_⟩
  simp only [wbRestRecs, List.mem_append, List.mem_cons, List.not_mem_nil, or_false] at hr
  rcases hr with hr | (rfl | rfl) | hr
  · obtain ⟨j, j1, j2, rfl⟩ := wsRecs_mem hr
    exact target_present (resolve_sheetTarget j) (Option.isSome_of_eq_some (part_sheet j j1 _ (List.getElem?_eq_getElem (by omega))))
  · exact target_present (src := nWorkbookPart) (by decide) (Option.isSome_of_eq_some (part_styles h))
  · exact target_present (src := nWorkbookPart) (by decide) (Option.isSome_of_eq_some (part_theme h))
  · rw [hhs] at hr
    rcases h.sst with ⟨rfl, _⟩ | ⟨root, hne, _, hs⟩
    · cases hr
    · rw [List.isEmpty_eq_false_iff.2 hne] at hr
      cases List.mem_singleton.1 hr
      exact target_present (src := nWorkbookPart) (nm := nSst) (by decide) (by rw [part_sst h, hs]; rfl)

theorem relsOK_sheet (k : Nat) (hk : 1 ≤ k) (links : List LinkW) (rest : List Node) (hsk : q.rels[k - 1]? = some (links, rest)) {m : Nat}
    (hids : ((rest.filter (isKid nRelationship)).map relOf).map (·.id) = (List.range' (hlNext 1 links) m).map (fun i => str (rIdText i)))
    (htg : ∀ r ∈ (rest.filter (isKid nRelationship)).map relOf, r.external = false →
      (q.pkg.part? (resolveTarget (String.ofList (sheetPartL k)) r.target)).isSome = true) :
    RelsOK q.pkg (String.ofList (sheetPartL k)) := by
  unfold RelsOK
  rw [(relsOf_sheet h k hk links rest hsk).2]
  refine ⟨rids_unique (ids_after_links links _ m hids), fun r hr he => ?_⟩
  rcases List.mem_append.1 hr with hr | hr
  · rw [relRecs_external links 1 r hr] at he; cases he
  · exact htg r hr he

end Pieces

end Umya.PackageNode
