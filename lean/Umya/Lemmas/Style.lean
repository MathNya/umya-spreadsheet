/-
  The invariant of the style sheet model and its preservation by `setStyle`:
  every index handed out so far, read back after save + reload, shows the effective formatting of
  the style it was handed out for (`RT`), and later insertions only append to the tables (`Ext`).
-/
import Umya.Lemmas.StyleNf
import Umya.Lemmas.ListRel
namespace Umya.Style
open Umya.Interning

/-- index `i` of `ss`, read back after save + reload, shows the effective formatting of `s`.  That the number-format id resolves is
    said apart: `Ext.nf` speaks only of ids that resolve, and `rebuild` is carried along an extension through it (`rebuild_ext`). -/
def RT (cs : Codecs) (ss : Sheet) (i : Nat) (s : Style) : Prop :=
  ∃ x st e, ss.xfs[i]? = some x ∧
    (nfAt cs ss.numFmts x.numFmtId).isSome = true ∧
    rebuild (reloadTables cs ss) (Xf.norm cs x) = some st ∧ eff cs ss st = some e ∧ eff cs ss s = some e

/-- `ss'` is `ss` with entries appended to the tables; number-format ids keep their meaning -/
structure Ext (cs : Codecs) (ss ss' : Sheet) : Prop where
  fonts : ∃ l, ss'.fonts = ss.fonts ++ l
  fills : ∃ l, ss'.fills = ss.fills ++ l
  borders : ∃ l, ss'.borders = ss.borders ++ l
  xfs : ∃ l, ss'.xfs = ss.xfs ++ l
  made : ∃ l, ss'.made = ss.made ++ l
  nf : ∀ id v, nfAt cs ss.numFmts id = some v → nfAt cs ss'.numFmts id = some v

theorem Ext.refl (cs : Codecs) (ss : Sheet) : Ext cs ss ss :=
  ⟨⟨[], by simp⟩, ⟨[], by simp⟩, ⟨[], by simp⟩, ⟨[], by simp⟩, ⟨[], by simp⟩, fun _ _ h => h⟩

theorem length_pos_of_ext {α : Type} {a b : List α} : (∃ l, b = a ++ l) → 0 < a.length → 0 < b.length
  | ⟨l, e⟩, h => by rw [e, List.length_append]; omega

theorem Ext.trans {cs : Codecs} {a b c : Sheet} (h1 : Ext cs a b) (h2 : Ext cs b c) : Ext cs a c :=
  ⟨append_ext_trans h1.fonts h2.fonts, append_ext_trans h1.fills h2.fills, append_ext_trans h1.borders h2.borders,
   append_ext_trans h1.xfs h2.xfs, append_ext_trans h1.made h2.made, fun id v h => h2.nf id v (h1.nf id v h)⟩

/-- `len`: `made` and `xfs` run in parallel (`setStyle` appends to both), so the index `made.length` it returns is the index of
    the new `<xf>`.  `rt0` is separate from `rt`: `setStyle` answers 0 for the empty style without looking at `made`, while
    `made[0]` is `defaultStyle`; index 0 has to read back as both. -/
structure Inv (cs : Codecs) (ss : Sheet) : Prop where
  len : ss.made.length = ss.xfs.length
  f0 : 0 < ss.fonts.length
  fi0 : 0 < ss.fills.length
  b0 : 0 < ss.borders.length
  nf : NfInv ss.numFmts
  rt : ∀ i s, ss.made[i]? = some s → RT cs ss i s
  rt0 : RT cs ss 0 {}

theorem pick_ext {α : Type} {a : Option Bool} {t : List α} {id : Nat} {r : Option α} (l : List α)
    (h : pick a t id = some r) : pick a (t ++ l) id = some r := by
  unfold pick at h ⊢
  split at h
  · obtain ⟨v, hv, rfl⟩ := Option.map_eq_some_iff.mp h
    simp [*, getElem?_append_left' hv]
  · simp [*]

theorem eff_ext {cs : Codecs} {ss ss' : Sheet} (h : Inv cs ss) (he : Ext cs ss ss') (s : Style) : eff cs ss' s = eff cs ss s := by
  obtain ⟨l1, e1⟩ := he.fonts; obtain ⟨l2, e2⟩ := he.fills; obtain ⟨l3, e3⟩ := he.borders
  unfold eff
  rw [e1, e2, e3, List.getElem?_append_left h.f0, List.getElem?_append_left h.fi0, List.getElem?_append_left h.b0]

theorem rebuild_ext {cs : Codecs} {ss ss' : Sheet} (he : Ext cs ss ss') {x : Xf} {st : Style}
    (hres : (nfAt cs ss.numFmts x.numFmtId).isSome = true)
    (h : rebuild (reloadTables cs ss) x = some st) : rebuild (reloadTables cs ss') x = some st := by
  obtain ⟨l1, e1⟩ := he.fonts; obtain ⟨l2, e2⟩ := he.fills; obtain ⟨l3, e3⟩ := he.borders
  unfold rebuild at h ⊢
  simp only [reloadTables] at h ⊢
  split at h
  · rename_i fo fi bo hfo hfi hbo
    rw [e1, e2, e3, List.map_append, List.map_append, List.map_append, pick_ext _ hfo, pick_ext _ hfi, pick_ext _ hbo, ← h]
    obtain ⟨v, hv⟩ := Option.isSome_iff_exists.mp hres
    simp only [assoc_reload, hv, he.nf _ _ hv]
  · cases h

theorem RT_ext {cs : Codecs} {ss ss' : Sheet} (h : Inv cs ss) (he : Ext cs ss ss') {i : Nat} {s : Style}
    (hr : RT cs ss i s) : RT cs ss' i s := by
  obtain ⟨x, st, e, hx, hres, hr, h1, h2⟩ := hr
  obtain ⟨l, el⟩ := he.xfs
  refine ⟨x, st, e, el ▸ getElem?_append_left' hx, ?_, rebuild_ext he hres hr, ?_, ?_⟩
  · obtain ⟨v, hv⟩ := Option.isSome_iff_exists.mp hres
    rw [he.nf _ _ hv]; rfl
  · rw [eff_ext h he]; exact h1
  · rw [eff_ext h he]; exact h2

theorem flag_getD (b : Bool) : (flag b).getD true = true := by
  cases b <;> simp [flag]

theorem internOpt_prefix {α : Type} [DecidableEq α] (t : List α) (o : Option α) : ∃ l, (internOpt t o).1 = t ++ l := by
  cases o with
  | none => exact ⟨[], (List.append_nil t).symm⟩
  | some v => exact (internEq_ext t v).imp fun _ h => h.1

theorem internOpt_pick {α : Type} [DecidableEq α] (t : List α) (o : Option α) (ht : 0 < t.length) (f : α → α) :
    ∃ a0, (internOpt t o).1[0]? = some a0 ∧
      pick (flag o.isSome) ((internOpt t o).1.map f) (internOpt t o).2 = some (some (f (o.getD a0))) := by
  obtain ⟨a0, t', rfl⟩ := List.exists_cons_of_ne_nil (List.ne_nil_of_length_pos ht)
  obtain ⟨l, hl⟩ := internOpt_prefix (a0 :: t') o
  refine ⟨a0, by rw [hl]; rfl, ?_⟩
  cases o with
  | none => simp [internOpt, pick, flag]
  | some v =>
    simp only [internOpt, pick, flag, Option.isSome_some, if_true, Option.getD_some]
    rw [List.getElem?_map, internEq_get (a0 :: t') v]
    rfl

theorem nfSetStyle_builtin (key : Tok → Tok) (t : List (Nat × NumFmt)) (v : NumFmt) (hb : v.builtIn = true) :
    nfSetStyle key t (some v) = (t, v.id) := by
  simp [nfSetStyle, hb]

theorem nfSetStyle_found (key : Tok → Tok) (t : List (Nat × NumFmt)) (v : NumFmt) (hb : v.builtIn = false)
    (p : Nat × NumFmt) (hf : t.find? (fun p => key p.2.code == key v.code) = some p) :
    nfSetStyle key t (some v) = (t, p.1) := by
  simp [nfSetStyle, hb, hf]

theorem nfSetStyle_new (key : Tok → Tok) (t : List (Nat × NumFmt)) (v : NumFmt) (hb : v.builtIn = false)
    (hf : t.find? (fun p => key p.2.code == key v.code) = none) :
    nfSetStyle key t (some v) = (t ++ [(maxId t + 1, { v with id := maxId t + 1 })], maxId t + 1) := by
  simp [nfSetStyle, hb, hf]

theorem builtin_zero : builtin 0 = some general := by decide

theorem nfSetStyle_spec {cs : Codecs} {key : Tok → Tok} (hkey : ∀ a b, key a = key b → a = b)
    {t : List (Nat × NumFmt)} (h : NfInv t) (o : Option NumFmt) (hwf : ∀ v, o = some v → v.WF) :
    NfInv (nfSetStyle key t o).1 ∧
    (∀ id v, nfAt cs t id = some v → nfAt cs (nfSetStyle key t o).1 id = some v) ∧
    ∃ v', nfAt cs (nfSetStyle key t o).1 (nfSetStyle key t o).2 = some v' ∧
      cs.code.norm v'.code = cs.code.norm ((o.map (·.code)).getD general) := by
  cases o with
  | none => exact ⟨h, fun _ _ hh => hh, _, nfAt_builtin cs h builtin_zero, rfl⟩
  | some v =>
    by_cases hbi : v.builtIn = true
    · rw [nfSetStyle_builtin key t v hbi]
      exact ⟨h, fun _ _ hh => hh, _, nfAt_builtin cs h (hwf v rfl hbi), rfl⟩
    · have hbf : v.builtIn = false := by simpa using hbi
      cases hf : t.find? (fun p => key p.2.code == key v.code) with
      | some p =>
        rw [nfSetStyle_found key t v hbf p hf]
        refine ⟨h, fun _ _ hh => hh, ?_⟩
        have hp := List.mem_of_find?_eq_some hf
        have hc : p.2.code = v.code := hkey _ _ (by simpa using List.find?_some hf)
        by_cases hpb : p.2.builtIn = true
        · refine ⟨_, nfAt_builtin cs h (h.bi p hp hpb), ?_⟩
          simp [hc]
        · have hpf : p.2.builtIn = false := by simpa using hpb
          refine ⟨_, nfAt_custom cs h hp hpf, ?_⟩
          simp [hc, cs.code.idem]
      | none =>
        rw [nfSetStyle_new key t v hbf hf]
        refine ⟨NfInv_append h v hbf, ?_, ?_⟩
        · intro id w hw
          show nfAt cs (t ++ [(maxId t + 1, { v with id := maxId t + 1 })]) id = some w
          rw [nfAt_append cs t v hbf id]
          by_cases hid : id = maxId t + 1
          · rw [hid, nfAt_fresh] at hw
            cases hw
          · simp [hid, hw]
        · refine ⟨{ id := maxId t + 1, code := cs.code.norm v.code, builtIn := false }, ?_, ?_⟩
          · show nfAt cs (t ++ [(maxId t + 1, { v with id := maxId t + 1 })]) (maxId t + 1) = _
            rw [nfAt_append cs t v hbf]; simp
          · simp [cs.code.idem]

/-- the effective formatting, given the three entries 0 -/
def effWith (cs : Codecs) (f0 : Font) (fi0 : Fill) (b0 : Borders) (s : Style) : Eff :=
  { font := cs.font.norm (s.font.getD f0),
    fill := cs.fill.norm (s.fill.getD fi0),
    borders := cs.borders.norm (s.borders.getD b0),
    alignment := s.alignment.map cs.alignment.norm,
    code := cs.code.norm ((s.numFmt.map (·.code)).getD general),
    protection := s.protection.map cs.protection.norm }

theorem eff_of_heads {cs : Codecs} {ss : Sheet} {f0 : Font} {fi0 : Fill} {b0 : Borders}
    (h1 : ss.fonts[0]? = some f0) (h2 : ss.fills[0]? = some fi0) (h3 : ss.borders[0]? = some b0) (s : Style) :
    eff cs ss s = some (effWith cs f0 fi0 b0 s) := by
  simp [eff, effWith, h1, h2, h3]

/-- the `<xf>` built by the append branch of `setStyle` -/
def newXf (key : Tok → Tok) (ss : Sheet) (s : Style) : Xf :=
  { numFmtId := (nfSetStyle key ss.numFmts s.numFmt).2, fontId := (internOpt ss.fonts s.font).2,
    fillId := (internOpt ss.fills s.fill).2, borderId := (internOpt ss.borders s.borders).2,
    applyNumFmt := flag s.numFmt.isSome, applyFont := flag s.font.isSome,
    applyFill := flag s.fill.isSome, applyBorder := flag s.borders.isSome,
    applyAlignment := flag s.alignment.isSome, applyProtection := flag s.protection.isSome,
    alignment := s.alignment, protection := s.protection }

/-- the sheet produced by the append branch of `setStyle` -/
def pushed (key : Tok → Tok) (ss : Sheet) (s : Style) : Sheet :=
  { numFmts := (nfSetStyle key ss.numFmts s.numFmt).1, fonts := (internOpt ss.fonts s.font).1,
    fills := (internOpt ss.fills s.fill).1, borders := (internOpt ss.borders s.borders).1,
    xfs := ss.xfs ++ [newXf key ss s], made := ss.made ++ [s] }

/-- what the new `<xf>` reads back as (`formatId := some 0`: `Stylesheet::set_style` gives every xf it appends `format_id = 0`) -/
def newSt (cs : Codecs) (f0 : Font) (fi0 : Fill) (b0 : Borders) (v' : NumFmt) (s : Style) : Style :=
  { font := some (cs.font.norm (s.font.getD f0)),
    fill := some (cs.fill.norm (s.fill.getD fi0)),
    borders := some (cs.borders.norm (s.borders.getD b0)),
    alignment := s.alignment.map cs.alignment.norm,
    numFmt := some v', formatId := some 0,
    protection := s.protection.map cs.protection.norm }

theorem setStyle_cases (key : Tok → Tok) (ss : Sheet) (s : Style) :
    (s = {} ∧ setStyle key ss s = (ss, 0)) ∨
    (∃ i, find (fun m => decide (s = m)) ss.made = some i ∧ setStyle key ss s = (ss, i)) ∨
    (s ≠ {} ∧ find (fun m => decide (s = m)) ss.made = none ∧ setStyle key ss s = (pushed key ss s, ss.made.length)) := by
  unfold setStyle
  by_cases h0 : s = {}
  · left; exact ⟨h0, by simp [h0]⟩
  · right
    cases hf : find (fun m => decide (s = m)) ss.made with
    | some i => left; exact ⟨i, rfl, by simp [h0]⟩
    | none => right; exact ⟨h0, rfl, by simp [h0, pushed, newXf]⟩

theorem pushed_ext {cs : Codecs} {key : Tok → Tok} (hkey : ∀ a b, key a = key b → a = b)
    {ss : Sheet} (h : Inv cs ss) {s : Style} (hs : s.WF) : Ext cs ss (pushed key ss s) :=
  ⟨internOpt_prefix _ _, internOpt_prefix _ _, internOpt_prefix _ _, ⟨_, rfl⟩, ⟨_, rfl⟩,
    (nfSetStyle_spec (cs := cs) hkey h.nf s.numFmt hs).2.1⟩

theorem pushed_rt {cs : Codecs} {key : Tok → Tok} (hkey : ∀ a b, key a = key b → a = b)
    {ss : Sheet} (h : Inv cs ss) {s : Style} (hs : s.WF) : RT cs (pushed key ss s) ss.xfs.length s := by
  obtain ⟨f0, g1, p1⟩ := internOpt_pick ss.fonts s.font h.f0 cs.font.norm
  obtain ⟨fi0, g2, p2⟩ := internOpt_pick ss.fills s.fill h.fi0 cs.fill.norm
  obtain ⟨b0, g3, p3⟩ := internOpt_pick ss.borders s.borders h.b0 cs.borders.norm
  obtain ⟨_, _, v', hv', hcode⟩ := nfSetStyle_spec (cs := cs) hkey h.nf s.numFmt hs
  have he : ∀ t, eff cs (pushed key ss s) t = some (effWith cs f0 fi0 b0 t) := eff_of_heads g1 g2 g3
  refine ⟨newXf key ss s, newSt cs f0 fi0 b0 v' s, effWith cs f0 fi0 b0 s, by simp [pushed], ?_, ?_, ?_, he s⟩
  · show (nfAt cs (nfSetStyle key ss.numFmts s.numFmt).1 (nfSetStyle key ss.numFmts s.numFmt).2).isSome = true
    rw [hv']; rfl
  · unfold rebuild
    simp only [reloadTables, Xf.norm, pushed, newXf, p1, p2, p3, flag_getD, if_true, assoc_reload, hv', newSt]
  · rw [he]
    simp only [effWith, newSt, Option.getD_some, Option.map_some, Option.some.injEq, Eff.mk.injEq]
    refine ⟨cs.font.idem _, cs.fill.idem _, cs.borders.idem _, ?_, hcode, ?_⟩
    · cases s.alignment <;> simp [cs.alignment.idem]
    · cases s.protection <;> simp [cs.protection.idem]

theorem pushed_inv {cs : Codecs} {key : Tok → Tok} (hkey : ∀ a b, key a = key b → a = b)
    {ss : Sheet} (h : Inv cs ss) {s : Style} (hs : s.WF) : Inv cs (pushed key ss s) := by
  have he := pushed_ext hkey h hs
  refine ⟨by simp [pushed, h.len], length_pos_of_ext he.fonts h.f0, length_pos_of_ext he.fills h.fi0,
    length_pos_of_ext he.borders h.b0, (nfSetStyle_spec (cs := cs) hkey h.nf s.numFmt hs).1, ?_, RT_ext h he h.rt0⟩
  intro i t hi
  change (ss.made ++ [s])[i]? = some t at hi
  rcases Nat.lt_or_ge i ss.made.length with hlt | hge
  · rw [List.getElem?_append_left hlt] at hi
    exact RT_ext h he (h.rt i t hi)
  · rw [List.getElem?_append_right hge, List.getElem?_singleton] at hi
    split at hi
    · cases hi
      rw [show i = ss.xfs.length by rw [← h.len]; omega]
      exact pushed_rt hkey h hs
    · cases hi

theorem setStyle_step {cs : Codecs} {key : Tok → Tok} (hkey : ∀ a b, key a = key b → a = b)
    {ss : Sheet} (h : Inv cs ss) {s : Style} (hs : s.WF) :
    Inv cs (setStyle key ss s).1 ∧ Ext cs ss (setStyle key ss s).1 ∧
    RT cs (setStyle key ss s).1 (setStyle key ss s).2 s := by
  rcases setStyle_cases key ss s with ⟨h0, e⟩ | ⟨i, hf, e⟩ | ⟨_, _, e⟩
  · rw [e]; subst h0; exact ⟨h, Ext.refl cs ss, h.rt0⟩
  · rw [e]
    obtain ⟨a, ha, hp⟩ := find_some hf
    have : s = a := by simpa using hp
    subst this
    exact ⟨h, Ext.refl cs ss, h.rt i s ha⟩
  · rw [e]
    refine ⟨pushed_inv hkey h hs, pushed_ext hkey h hs, ?_⟩
    rw [h.len]
    exact pushed_rt hkey h hs

/-! `initSheet key` is the literal sheet below for every `key` (no custom number format is involved); the invariant is checked on
    the literal. -/
def xfA : Xf := { applyFont := some true, applyFill := some true, applyBorder := some true }
def xfB : Xf := { fillId := 1, applyFont := some true, applyFill := some true, applyBorder := some true }
def initExplicit : Sheet :=
  { numFmts := [], fonts := [defaultFont], fills := [defaultFill, defaultFill2], borders := [{}],
    xfs := [xfA, xfB], made := [defaultStyle, defaultStyle2] }

theorem init_explicit (key : Tok → Tok) : initSheet key = initExplicit := rfl

theorem nfAt_nil_zero (cs : Codecs) : nfAt cs [] 0 = some { id := 0, code := general, builtIn := true } :=
  nfAt_builtin cs NfInv_nil builtin_zero

theorem init_rt (cs : Codecs) (i : Nat) (x : Xf) (s : Style)
    (h : (i = 0 ∧ x = xfA ∧ (s = {} ∨ s = defaultStyle)) ∨ (i = 1 ∧ x = xfB ∧ s = defaultStyle2)) : RT cs initExplicit i s := by
  have h0 := nfAt_nil_zero cs
  have hx : initExplicit.xfs[i]? = some x ∧ x.numFmtId = 0 := by
    rcases h with ⟨rfl, rfl, _⟩ | ⟨rfl, rfl, _⟩ <;> exact ⟨rfl, rfl⟩
  refine ⟨x, newSt cs defaultFont defaultFill {} { id := 0, code := general, builtIn := true } s,
    effWith cs defaultFont defaultFill {} s, hx.1, ?_, ?_, ?_, eff_of_heads rfl rfl rfl s⟩
  · show (nfAt cs [] x.numFmtId).isSome = true
    rw [hx.2, h0]; rfl
  · unfold rebuild
    rcases h with ⟨_, rfl, rfl | rfl⟩ | ⟨_, rfl, rfl⟩ <;>
      simp [reloadTables, Xf.norm, initExplicit, xfA, xfB, pick, assoc_reload, h0, newSt, defaultStyle, defaultStyle2]
  · rw [eff_of_heads (f0 := defaultFont) (fi0 := defaultFill) (b0 := {}) rfl rfl rfl]
    rcases h with ⟨_, _, rfl | rfl⟩ | ⟨_, _, rfl⟩ <;>
      simp [effWith, newSt, cs.font.idem, cs.fill.idem, cs.borders.idem, defaultStyle, defaultStyle2]

theorem init_inv (cs : Codecs) (key : Tok → Tok) : Inv cs (initSheet key) := by
  rw [init_explicit]
  refine ⟨rfl, by decide, by decide, by decide, NfInv_nil, ?_, init_rt cs 0 xfA {} (.inl ⟨rfl, rfl, .inl rfl⟩)⟩
  intro i s hi
  -- `rcases`, not `match i, hi with`: the dependent match is slow to compile
  rcases i with _ | _ | n
  · exact init_rt cs 0 xfA s (.inl ⟨rfl, rfl, .inr (Option.some.inj hi).symm⟩)
  · exact init_rt cs 1 xfB s (.inr ⟨rfl, rfl, (Option.some.inj hi).symm⟩)
  · cases hi

theorem setAll_spec {cs : Codecs} {key : Tok → Tok} (hkey : ∀ a b, key a = key b → a = b) :
    ∀ (l : List Style) (ss : Sheet), Inv cs ss → (∀ s ∈ l, s.WF) →
      Inv cs (setAll key ss l).1 ∧ Ext cs ss (setAll key ss l).1 ∧
      Forall₂ (RT cs (setAll key ss l).1) (setAll key ss l).2 l
  | [], ss, h, _ => ⟨h, Ext.refl cs ss, .nil⟩
  | a :: l, ss, h, hwf => by
    obtain ⟨h1, e1, r1⟩ := setStyle_step hkey h (hwf a (by simp))
    obtain ⟨h2, e2, r2⟩ := setAll_spec hkey l (setStyle key ss a).1 h1 (fun s hs => hwf s (by simp [hs]))
    exact ⟨h2, Ext.trans e1 e2, .cons (RT_ext h1 e2 r1) r2⟩

theorem RT_unique {cs : Codecs} {ss : Sheet} {i : Nat} {s t : Style} (h1 : RT cs ss i s) (h2 : RT cs ss i t) :
    eff cs ss s = eff cs ss t := by
  obtain ⟨x, st, e, hx, _, hr, he, hs⟩ := h1
  obtain ⟨x', st', e', hx', _, hr', he', ht⟩ := h2
  rw [hx] at hx'; cases hx'
  rw [hr] at hr'; cases hr'
  rw [hs, ht, ← he, ← he']

theorem RT_styleAt {cs : Codecs} {ss : Sheet} {i : Nat} {s : Style} (h : RT cs ss i s) :
    ∃ st e, styleAt cs ss i = some st ∧ eff cs ss st = some e ∧ eff cs ss s = some e := by
  obtain ⟨x, st, e, hx, _, hr, he, hs⟩ := h
  exact ⟨st, e, by simp [styleAt, hx, hr], he, hs⟩

theorem setStyle_idem (key : Tok → Tok) (ss : Sheet) (s : Style) :
    setStyle key (setStyle key ss s).1 s = setStyle key ss s := by
  rcases setStyle_cases key ss s with ⟨_, e⟩ | ⟨i, _, e⟩ | ⟨h0, hf, e⟩
  · rw [e]; exact e
  · rw [e]; exact e
  · rw [e]
    have hf2 : find (fun m => decide (s = m)) (pushed key ss s).made = some ss.made.length :=
      find_append_of_none (p := fun m => decide (s = m)) s hf (by simp)
    unfold setStyle
    simp [h0, hf2]

theorem setStyle_of_mem (key : Tok → Tok) (ss : Sheet) (s : Style) (hm : s ∈ ss.made) :
    (setStyle key ss s).1 = ss := by
  rcases setStyle_cases key ss s with ⟨_, e⟩ | ⟨i, _, e⟩ | ⟨_, hf, _⟩
  · rw [e]
  · rw [e]
  · have := find_none hf s hm
    simp at this

end Umya.Style
