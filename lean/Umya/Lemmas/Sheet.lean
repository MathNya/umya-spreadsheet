import Umya.Model.Sheet
import Umya.Lemmas.ListFacts
namespace Umya.Sheet
open Umya.Coord (Res)

theorem keyLt_iff (a b : Key) : keyLt a b = true ↔ a.1 < b.1 ∨ (a.1 = b.1 ∧ a.2 < b.2) := by
  simp [keyLt]

theorem keyLt_irrefl (a : Key) : keyLt a a = false := by
  simp [keyLt]

theorem keyLt_trans {a b c : Key} (h1 : keyLt a b = true) (h2 : keyLt b c = true) : keyLt a c = true := by
  rw [keyLt_iff] at *; omega

theorem keyLt_asymm {a b : Key} (h : keyLt a b = true) : keyLt b a = false := by
  have : ¬ (keyLt b a = true) := by rw [keyLt_iff] at *; omega
  simpa using this

theorem keyLt_trichotomy (a b : Key) : keyLt a b = true ∨ a = b ∨ keyLt b a = true := by
  rw [keyLt_iff, keyLt_iff]
  rcases a with ⟨a1, a2⟩; rcases b with ⟨b1, b2⟩
  simp only [Prod.mk.injEq]
  omega

abbrev SSorted (l : List Key) : Prop := l.Pairwise (fun a b => keyLt a b = true)

theorem mem_setInsert (k x : Key) (l : List Key) : x ∈ setInsert k l ↔ x = k ∨ x ∈ l := by
  induction l with
  | nil => simp [setInsert]
  | cons y ys ih =>
    simp only [setInsert]
    split
    · simp
    · split
      · rename_i h; subst h; simp
      · simp only [List.mem_cons, ih]; exact or_left_comm

theorem sorted_setInsert (k : Key) (l : List Key) (h : SSorted l) : SSorted (setInsert k l) := by
  induction l with
  | nil => simp [setInsert, SSorted]
  | cons y ys ih =>
    simp only [setInsert]
    have hy := List.pairwise_cons.1 h
    split
    · rename_i hlt
      apply List.pairwise_cons.2
      refine ⟨?_, h⟩
      intro z hz
      rcases List.mem_cons.1 hz with rfl | hz
      · exact hlt
      · exact keyLt_trans hlt (hy.1 z hz)
    · split
      · exact h
      · rename_i hnlt hne
        apply List.pairwise_cons.2
        refine ⟨?_, ih hy.2⟩
        intro z hz
        rcases (mem_setInsert k z ys).1 hz with rfl | hz
        · rcases keyLt_trichotomy z y with h1 | h1 | h1
          · exact absurd h1 hnlt
          · exact absurd h1 hne
          · exact h1
        · exact hy.1 z hz

theorem mem_setErase (k x : Key) (l : List Key) : x ∈ setErase k l ↔ x ≠ k ∧ x ∈ l := by
  simp [setErase, List.mem_filter]; exact And.comm

theorem sorted_setErase (k : Key) (l : List Key) (h : SSorted l) : SSorted (setErase k l) :=
  List.Pairwise.filter _ h

theorem setOfList_foldl (l : List Key) (acc : List Key) (hacc : SSorted acc) :
    SSorted (l.foldl (fun acc k => setInsert k acc) acc) ∧
    ∀ x, x ∈ l.foldl (fun acc k => setInsert k acc) acc ↔ x ∈ l ∨ x ∈ acc := by
  induction l generalizing acc with
  | nil => simp [hacc]
  | cons y ys ih =>
    simp only [List.foldl_cons]
    have := ih (setInsert y acc) (sorted_setInsert y acc hacc)
    refine ⟨this.1, ?_⟩
    intro x
    rw [this.2 x, mem_setInsert]
    simp only [List.mem_cons]
    exact or_left_comm.trans or_assoc.symm

theorem sorted_setOfList (l : List Key) : SSorted (setOfList l) :=
  (setOfList_foldl l [] List.Pairwise.nil).1

theorem mem_setOfList (l : List Key) (x : Key) : x ∈ setOfList l ↔ x ∈ l := by
  have := (setOfList_foldl l [] List.Pairwise.nil).2 x
  simpa [setOfList] using this

theorem sorted_ext (l1 l2 : List Key) (h1 : SSorted l1) (h2 : SSorted l2)
    (h : ∀ x, x ∈ l1 ↔ x ∈ l2) : l1 = l2 :=
  eq_of_pairwise_of_mem_iff (fun _ _ hab hba => by rw [keyLt_asymm hab] at hba; cases hba) h1 h2 h

/-- what core says of `find?` serves for `lookup` -/
theorem lookup_eq_find (k : Key) (l : List (Key × CellM)) : lookup k l = (l.find? (·.1 = k)).map (·.2) := by
  induction l with
  | nil => rfl
  | cons p r ih =>
    rw [lookup, List.find?_cons]
    by_cases e : p.1 = k <;> simp [e, ih]

theorem lookup_some_mem {k : Key} {c : CellM} {l : List (Key × CellM)} (h : lookup k l = some c) :
    (k, c) ∈ l := by
  rw [lookup_eq_find] at h
  obtain ⟨p, hp, rfl⟩ := Option.map_eq_some_iff.1 h
  have e : p.1 = k := by simpa using List.find?_some hp
  exact e ▸ List.mem_of_find?_eq_some hp

theorem lookup_isSome_iff {k : Key} {l : List (Key × CellM)} : (lookup k l).isSome ↔ k ∈ l.map (·.1) := by
  rw [lookup_eq_find, Option.isSome_map, List.find?_isSome]
  simp only [decide_eq_true_eq, List.mem_map]

theorem lookup_none_iff {k : Key} {l : List (Key × CellM)} : lookup k l = none ↔ k ∉ l.map (·.1) := by
  rw [← lookup_isSome_iff, Bool.not_eq_true, Option.isSome_eq_false_iff, Option.isNone_iff_eq_none]

theorem lookup_of_mem_nodup {k : Key} {c : CellM} {l : List (Key × CellM)}
    (hn : (l.map (·.1)).Nodup) (h : (k, c) ∈ l) : lookup k l = some c := by
  rw [lookup_eq_find, find?_key_of_nodup (·.1) l hn _ h]; rfl

theorem map_fst_replaceKey (k : Key) (c : CellM) (l : List (Key × CellM)) :
    (replaceKey k c l).map (·.1) = l.map (·.1) := by
  induction l with
  | nil => rfl
  | cons p r ih =>
    obtain ⟨k', c'⟩ := p
    simp only [replaceKey]
    split <;> simp [ih]

theorem mem_replaceKey {k : Key} {c : CellM} {l : List (Key × CellM)} {p : Key × CellM}
    (h : p ∈ replaceKey k c l) : p ∈ l ∨ p = (k, c) := by
  induction l with
  | nil => simp [replaceKey] at h
  | cons q r ih =>
    obtain ⟨k', c'⟩ := q
    simp only [replaceKey] at h
    split at h
    · rename_i e; subst e
      rcases List.mem_cons.1 h with e | h
      · right; exact e
      · left; exact List.mem_cons_of_mem _ h
    · rcases List.mem_cons.1 h with e | h
      · left; rw [e]; simp
      · rcases ih h with h | h
        · left; exact List.mem_cons_of_mem _ h
        · right; exact h

theorem lookupRow_isSome_iff {n : Nat} {l : List (Nat × RowM)} : (lookupRow n l).isSome ↔ n ∈ l.map (·.1) := by
  induction l with
  | nil => simp [lookupRow]
  | cons p r ih =>
    obtain ⟨k, x⟩ := p
    simp only [lookupRow, List.map_cons, List.mem_cons]
    split
    · rename_i e; subst e; simp
    · rename_i e; rw [ih]; constructor
      · intro h; exact Or.inr h
      · rintro (h | h)
        · exact absurd h.symm e
        · exact h

/-- Of `Umya.Sheet.mapRes`; `Model/Formula.lean` defines a `mapRes` of its own, whose lemmas are in `Lemmas/Formula.lean`. -/
theorem mapRes_eq_ok_filterMap {α β} {f : α → Res β} {g : α → Option β} {l : List α}
    (h : ∀ x ∈ l, ∃ y, g x = some y ∧ f x = .ok y) : mapRes f l = .ok (l.filterMap g) := by
  induction l with
  | nil => rfl
  | cons x xs ih =>
    obtain ⟨y, hg, hf⟩ := h x List.mem_cons_self
    simp only [mapRes, hf, ih fun z hz => h z (List.mem_cons_of_mem _ hz), List.filterMap_cons_some hg]

theorem mapRes_eq_ok {α β} {f : α → Res β} {g : α → β} {l : List α} (h : ∀ x ∈ l, f x = .ok (g x)) :
    mapRes f l = .ok (l.map g) :=
  List.filterMap_eq_map' ▸ mapRes_eq_ok_filterMap fun x hx => ⟨g x, rfl, h x hx⟩

theorem mapRes_panic_iff {α β} (f : α → Res β) (l : List α) :
    mapRes f l = .panic ↔ ∃ x ∈ l, f x = .panic := by
  induction l with
  | nil => exact ⟨nofun, fun ⟨_, h, _⟩ => nomatch h⟩
  | cons x xs ih =>
    simp only [List.mem_cons, exists_eq_or_imp]
    rw [← ih]
    simp only [mapRes]
    cases f x with
    | panic => exact ⟨fun _ => Or.inl rfl, fun _ => rfl⟩
    | ok y =>
      cases mapRes f xs with
      | panic => exact ⟨fun _ => Or.inr rfl, fun _ => rfl⟩
      | ok ys => exact ⟨nofun, fun h => h.elim nofun nofun⟩

theorem mapRes_ok_mem {α β} {f : α → Res β} {l : List α} {l' : List β} (h : mapRes f l = .ok l')
    {x : α} (hx : x ∈ l) : ∃ y, f x = .ok y := by
  cases hfx : f x with
  | ok y => exact ⟨y, rfl⟩
  | panic => rw [(mapRes_panic_iff f l).2 ⟨x, hx, hfx⟩] at h; cases h

theorem mapRes_ok_eq {α β} {f : α → Res β} {g : α → β} {l : List α} {l' : List β}
    (h : mapRes f l = .ok l') (hg : ∀ x ∈ l, ∀ y, f x = .ok y → y = g x) : l' = l.map g := by
  have e : mapRes f l = .ok (l.map g) := mapRes_eq_ok fun x hx => by
    obtain ⟨y, hy⟩ := mapRes_ok_mem h hx
    rw [hy, hg x hx y hy]
  rw [e] at h; injection h with h; exact h.symm

/-- The hypothesis says that `a` is the key `f` sends to `k` if there is one (then it is the only one in `l`)
    and `none` otherwise; `f` need not be injective elsewhere. -/
theorem lookup_map_keys (f : Key → Key) (g : CellM → CellM) (l : List (Key × CellM)) (k : Key) (a : Option Key)
    (h : ∀ p ∈ l, f p.1 = k ↔ a = some p.1) :
    lookup k (l.map fun p => (f p.1, g p.2)) = (a.bind (lookup · l)).map g := by
  induction l with
  | nil => cases a <;> rfl
  | cons p r ih =>
    obtain ⟨k', c'⟩ := p
    have ih := ih fun p hp => h p (List.mem_cons_of_mem _ hp)
    have hk := h (k', c') (List.mem_cons_self ..)
    simp only [List.map_cons, lookup]
    by_cases e : f k' = k
    · rw [if_pos e, hk.1 e]; simp
    · rw [if_neg e, ih]
      cases a with
      | none => rfl
      | some a' =>
        have : k' ≠ a' := fun e' => e (hk.2 (by rw [e']))
        simp [this]

theorem lookup_filter_key (P : Key → Bool) (l : List (Key × CellM)) (k : Key) :
    lookup k (l.filter (fun p => P p.1)) = if P k then lookup k l else none := by
  induction l with
  | nil => simp [lookup]
  | cons p r ih =>
    obtain ⟨k', c'⟩ := p
    by_cases e : k' = k
    · subst e; cases hp : P k' <;> simp [hp, lookup, ih]
    · cases hp : P k' <;> simp [hp, lookup, e, ih]

end Umya.Sheet
