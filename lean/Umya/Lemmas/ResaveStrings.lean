/-
  The shared-string table a save writes, as a function of the cells: the items registered by the cells in writing
  order, interned one after the other (first occurrence wins).
-/
import Umya.Lemmas.CellXml
import Umya.Lemmas.InternC01
import Umya.Model.Interning
namespace Umya.CellXml
open Umya.Num Umya.InternC01

/-- the fold of C01's own `intern` (`Umya.InternC01`), in which `writeBook_sst` is stated -/
def internList {α : Type} [DecidableEq α] (t : List α) (l : List α) : List α := l.foldl (fun t x => (intern t x).1) t

/-- the sequence registration of `Umya/Model/Interning.lean`, where its facts are -/
theorem internList_eq {α : Type} [DecidableEq α] : ∀ (l t : List α), internList t l = (Interning.internAllEq t l).1
  | [], _ => rfl
  | x :: l, t => by
    rw [Interning.internAllEq_cons, ← intern_eq_internEq, ← internList_eq l]; rfl

theorem internList_append {α : Type} [DecidableEq α] (t a b : List α) : internList t (a ++ b) = internList (internList t a) b := by
  simp only [internList_eq, Interning.internAllEq_append]

theorem internList_mem {α : Type} [DecidableEq α] (l t : List α) (y : α) : y ∈ internList t l ↔ y ∈ t ∨ y ∈ l :=
  internList_eq l t ▸ Interning.internAllEq_mem l t y

theorem internList_prefix {α : Type} [DecidableEq α] (l t : List α) : ∃ e, internList t l = t ++ e :=
  internList_eq l t ▸ Interning.internAll_prefix _ l t

theorem internList_nodup {α : Type} [DecidableEq α] {l t : List α} (h : t.Nodup) : (internList t l).Nodup :=
  internList_eq l t ▸ Interning.internAllEq_nodup l t h

section
variable (F : NumFmt)

/-- the item `Cell::write_to` registers in the shared-string table for a (resolved) cell, if any: a written cell with
    a non-empty value of data type `s`.  The tests are those of `writeCore` and then `writeV`, in their order (so the
    third makes the second redundant). -/
def regCore (c : Cell F.Num) : Option Item :=
  if blankCore F c then none
  else if c.raw.isEmpty ∧ c.formula.isNone then none
  else if c.raw.isEmpty then none
  else if dataTypeCrate F c = tS then some (itemOf F c.raw) else none

def regOf (c : Cell F.Num) : Option Item := regCore F (Cell.resolved F c)

def regStep (t : Table) : Option Item → Table
  | some it => (intern t it).1
  | none => t

theorem writeV_table (tbl : Table) (dt : Umya.Xml.Text) (raw : RawValue F.Num) :
    (writeV F tbl dt raw).1 = if raw.isEmpty then tbl else if dt = tS then (intern tbl (itemOf F raw)).1 else tbl := by
  simp only [writeV, apply_ite Prod.fst, ite_self]

theorem writeCore_table (tbl t' : Table) (c : Cell F.Num) (ox : Option CellX) (h : writeCore F tbl c = some (t', ox)) :
    t' = regStep tbl (regCore F c) := by
  unfold writeCore at h
  unfold regCore
  split at h
  · next hb => cases h; rw [if_pos hb]; rfl
  · next hb =>
    rw [if_neg hb]
    split at h
    · cases h
    · split at h
      · next he => cases h; rw [if_pos he]; rfl
      · next he =>
        cases h
        rw [if_neg he, writeV_table]
        by_cases hr : c.raw.isEmpty = true <;> by_cases hd : dataTypeCrate F c = tS <;> simp [hr, hd, regStep]

theorem writeCells_table : ∀ (cs : List (Cell F.Num)) (tbl t' : Table) (xs : List CellX),
    writeCells F tbl cs = some (t', xs) → t' = internList tbl (cs.filterMap (regOf F))
  | [], tbl, t', xs, h => by cases h; rfl
  | c :: cs, tbl, t', xs, h => by
    obtain ⟨t1, ox, ys, hw, hc, _⟩ := writeCells_cons_some F h
    have e1 : t1 = regStep tbl (regOf F c) := writeCore_table F tbl t1 _ ox hw
    rw [writeCells_table cs t1 _ ys hc, e1]
    cases hr : regOf F c <;> simp [hr, regStep, internList]

theorem writeSheets_table : ∀ (ss : List (List (Cell F.Num))) (tbl t' : Table) (xss : List (List CellX)),
    writeSheets F tbl ss = some (t', xss) → t' = internList tbl (ss.flatten.filterMap (regOf F))
  | [], tbl, t', xss, h => by cases h; rfl
  | s :: ss, tbl, t', xss, h => by
    obtain ⟨t1, xs, yss, hw, hc, _⟩ := writeSheets_cons_some F h
    rw [writeSheets_table ss t1 _ yss hc, writeCells_table F s tbl t1 xs hw, List.flatten_cons, List.filterMap_append,
      internList_append]

/-- the items of the table a save writes: those registered by the cells, in writing order, first occurrence wins -/
def itemsOf (cells : List (List (Cell F.Num))) : List Item := cells.flatten.filterMap (regOf F)

theorem writeBook_sst (light : Bool) (cells : List (List (Cell F.Num))) (b : BookX) (h : writeBook F light cells = some b) :
    b.sst = (internList [] (itemsOf F cells)).map siOf := by
  unfold writeBook at h
  split at h
  · cases h
  · next t xs hw =>
    cases h
    rw [writeSheets_table F cells [] t xs hw]; rfl

end
end Umya.CellXml
