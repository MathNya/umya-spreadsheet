/-
  `canonArea_piece` / `canonArea_text` of `CoordParseAddr.lean` for the wider grammar `canonAreaB'` (any of the four range
  shapes behind the qualifier): what `Address::set_address`, which has no `is_address` filter, reads and
  `get_address_ptn2` prints.
-/
import Umya.Lemmas.CoordParseAddr
import Umya.Model.CoordCanonMore
namespace Umya.Annot
open Umya.Coord Umya.Dec Umya.Thm.C17

theorem canonArea'_piece (t : Text) (h : canonAreaB' t = true) :
    ∃ a : Address, LegalSheet a.sheet ∧ Range.IsShape a.range ∧ Range.InBounds a.range ∧
      Address.parse (undouble t) = .ok a ∧ a.text = canonArea t := by
  unfold canonAreaB' at h
  split at h
  · rename_i q r hsp
    simp only [Bool.and_eq_true] at h
    obtain ⟨ρ, hs, hb, rfl⟩ := canonRange_spec r h.2
    obtain ⟨_, hl, hp, htx⟩ := area_piece t q ρ hsp h.1 hb
    exact ⟨⟨nameOfQual q, ρ⟩, hl, hs, hb, hp, htx⟩
  · cases h

theorem canonArea'_text (a : Address) (hleg : LegalSheet a.sheet) (hs : Range.IsShape a.range)
    (hb : Range.InBounds a.range) : canonAreaB' a.text = true ∧ canonArea a.text = a.text := by
  obtain ⟨hsp, hfix⟩ := canonArea_text_of_legal a hleg.1
  refine ⟨?_, hfix⟩
  simp [canonAreaB', hsp, canonQual_quoteName a.sheet hleg, canonRange_print a.range hs hb]

theorem canonAddr_of_area {t : Text} (h : canonAreaB' t = true) : canonAddrB t = true := by
  unfold canonAreaB' at h; unfold canonAddrB
  split at h
  · exact h
  · cases h

end Umya.Annot
