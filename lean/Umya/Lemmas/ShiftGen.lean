/-
  The kernels regenerated from the current Rust source by tools/extract.py (`Umya.Gen.*`) compute
  exactly what the hand-written sheet model uses (`Umya.Sheet.adjIns/adjRem/isRem/…`).
  These proofs run against whatever the translator produced on this run: an equivalent rewrite of a
  kernel still proves (swapped branches under a negated condition, early returns, reordered or regrouped
  comparisons, hoisted locals), a changed comparison or operator does not.

  Method: `Lemmas/FnsGen.lean`.
-/
import Umya.Lemmas.FnsGen
import Umya.Model.Sheet
namespace Umya.Gen
open Umya.Coord (Res)
open Umya.Sheet

/-- (T) so every theorem that mentions `adjIns / adjRem / isRem / adjInsV / adjRemV / isRemV` is a theorem about the
    current source's kernels -/
theorem kernels_match_source (n r o : Nat) :
    adjustment_insert_coordinate n r o = .ok (adjIns n r o) ∧
    adjustment_remove_coordinate n r o = adjRem n r o ∧
    is_remove_coordinate n r o = .ok (isRem n r o) ∧
    row_adjustment_insert_value n r o = .ok (adjInsV n r o) ∧
    row_adjustment_remove_value n r o = adjRemV n r o ∧
    row_is_remove_value n r o = isRemV n r o ∧
    column_adjustment_insert_value n r o = .ok (adjInsV n r o) ∧
    column_adjustment_remove_value n r o = adjRemV n r o ∧
    column_is_remove_value n r o = isRemV n r o := by
  unfold adjustment_insert_coordinate adjustment_remove_coordinate is_remove_coordinate
    row_adjustment_insert_value row_adjustment_remove_value row_is_remove_value
    column_adjustment_insert_value column_adjustment_remove_value column_is_remove_value
    adjIns adjRem isRem adjInsV adjRemV isRemV
  gen_norm
  refine ⟨?_, ?_, ?_, ?_, ?_, ?_, ?_, ?_, ?_⟩ <;> gen_eq

end Umya.Gen
