/-
  What `decode` needs from a package of the shape `Pieces.pkg` besides the sheets: the main relationship, the
  shared-string table and the style sizes it finds through workbook.xml.rels, `activeTab`.
-/
import Umya.Lemmas.PackageNodeRels
namespace Umya.PackageNode
open Umya.Xml Umya.CellXml Umya.CellNode Umya.SheetNode Umya.WorkbookNode Umya.Dec
open Umya.Spec.Xml (Node Attr localName)
open Umya.Spec.Sml

/-- the sizes the decoder reads from the (opaque) styles part -/
def nXfOf (styles : Node) : Nat := ((styles.kid? "cellXfs").map (fun x => (x.kids "xf").length)).getD 1
def nDxfOf (styles : Node) : Nat := ((styles.kid? "dxfs").map (fun x => (x.kids "dxf").length)).getD 0

/-- `activeTab` as the decoder reads it from the opaque children of `<workbook>` (`bookViews` is one of them) -/
def _root_.Umya.WorkbookNode.WbFrame.active (fr : WbFrame) : Nat := dActive (Node.elem nWorkbook fr.attrs (fr.pre ++ fr.post))

/-- the relationship types of workbook.xml.rels against the endings `decode` searches for, grouped by type: (worksheet) and
    (styles) against both, theme and sharedStrings against `/sharedStrings`, which is all the searches reach -/
theorem ends_wb :
    ((str worksheetType).endsWith "/sharedStrings" = false ∧ (str worksheetType).endsWith "/styles" = false) ∧
    ((str tStyles).endsWith "/sharedStrings" = false ∧ (str tStyles).endsWith "/styles" = true) ∧
    (str tTheme).endsWith "/sharedStrings" = false ∧ (str tSharedStrings).endsWith "/sharedStrings" = true := by decide +kernel

theorem ends_root : (str tXprops).endsWith "/officeDocument" = false ∧ (str tCoreprops).endsWith "/officeDocument" = false ∧
    (str tOfficeDoc).endsWith "/officeDocument" = true := by decide +kernel

theorem wbRestRecs_styles (n : Nat) (hs : Bool) :
    (wbRestRecs n hs).find? (fun r => r.type.endsWith "/styles") = some (relRec (n + 1) tStyles tStylesTarget) :=
  List.find?_cons_of_pos (by exact ends_wb.2.1.2)

theorem wbRestRecs_sst (n : Nat) (hs : Bool) :
    (wbRestRecs n hs).find? (fun r => r.type.endsWith "/sharedStrings") = if hs then some (relRec (n + 3) tSharedStrings tSstTarget) else none := by
  unfold wbRestRecs
  rw [List.cons_append, List.cons_append, List.nil_append, List.find?_cons_of_neg (by exact Bool.eq_false_iff.1 ends_wb.2.1.1),
    List.find?_cons_of_neg (by exact Bool.eq_false_iff.1 ends_wb.2.2.1)]
  cases hs
  · rfl
  · exact List.find?_cons_of_pos (by exact ends_wb.2.2.2)

namespace Pieces
variable {q : Pieces} {tbl : Table} (h : q.OK tbl)
include h

theorem mainRel :
    (relsOf q.pkg "").find? (fun r => r.type.endsWith "/officeDocument") = some (relRec 1 tOfficeDoc nWorkbookPart) := by
  rw [relsOf_root h, List.find?_cons_of_neg (by exact Bool.eq_false_iff.1 ends_root.1), List.find?_cons_of_neg (by exact Bool.eq_false_iff.1 ends_root.2.1),
    List.find?_cons_of_pos (by exact ends_root.2.2)]

theorem dStylesRoot_eq : dStylesRoot q.pkg (String.ofList nWorkbookPart) = some q.styles := by
  unfold dStylesRoot
  rw [relsOf_wb h, List.find?_append, wsRecs_find_none _ (fun k => ends_wb.1.2) _ 1, Option.none_or, wbRestRecs_styles,
    Option.map_some, Option.bind_some]
  show (q.pkg.part? (resolveTarget (String.ofList nWorkbookPart) (str tStylesTarget))).bind (·.xml) = _
  rw [resolve_from nWorkbookPart tStylesTarget nStyles (by decide +kernel), part_styles h]; rfl

theorem dNXf_dNDxf_eq :
    dNXf q.pkg (String.ofList nWorkbookPart) = nXfOf q.styles ∧ dNDxf q.pkg (String.ofList nWorkbookPart) = nDxfOf q.styles := by
  unfold dNXf dNDxf
  rw [dStylesRoot_eq h]
  exact ⟨rfl, rfl⟩

theorem dSst_eq (hhs : q.hs = !tbl.isEmpty) : dSst q.pkg (String.ofList nWorkbookPart) = tbl.map itemText := by
  unfold dSst
  rw [relsOf_wb h, List.find?_append, wsRecs_find_none _ (fun k => ends_wb.1.1) _ 1, Option.none_or, wbRestRecs_sst, hhs]
  have hp := part_sst h
  rcases h.sst with ⟨ht, _⟩ | ⟨root, hne, hroot, hs⟩
  · subst ht; rfl
  · rw [hs] at hp
    rw [List.isEmpty_eq_false_iff.2 hne, Bool.not_false, if_pos rfl, Option.map_some]
    show sharedStrings q.pkg (resolveTarget (String.ofList nWorkbookPart) (str tSstTarget)) = _
    rw [resolve_from nWorkbookPart tSstTarget nSst (by decide +kernel)]
    unfold sharedStrings
    rw [hp]
    obtain ⟨root', h1, h2⟩ := sstNode_texts tbl
    rw [hroot] at h1
    cases h1
    simpa [xmlPart] using h2

end Pieces

theorem kidsL_workbook_other (fr : WbFrame) (ss : List SheetE) (ds : List NameE) (nm : List Char) (h1 : nm ≠ nSheets) (h2 : nm ≠ nDefinedNames) :
    kidsL (workbookNode fr ss ds) nm = kidsL (Node.elem nWorkbook fr.attrs (fr.pre ++ fr.post)) nm := by
  rw [kidsL_workbook, if_neg (Ne.symm h1), if_neg (Ne.symm h2), List.append_nil, List.append_nil, ← List.filter_append]
  rfl

theorem dActive_workbook (fr : WbFrame) (ss : List SheetE) (ds : List NameE) : dActive (workbookNode fr ss ds) = fr.active := by
  have e : "bookViews".toList = ['b', 'o', 'o', 'k', 'V', 'i', 'e', 'w', 's'] := rfl
  have : (workbookNode fr ss ds).kid? "bookViews" = (Node.elem nWorkbook fr.attrs (fr.pre ++ fr.post)).kid? "bookViews" := by
    unfold Node.kid?
    rw [kids_eq, kids_eq, e]
    exact congrArg List.head? (kidsL_workbook_other fr ss ds _ (by decide) (by decide))
  unfold WbFrame.active dActive
  rw [this]

end Umya.PackageNode
