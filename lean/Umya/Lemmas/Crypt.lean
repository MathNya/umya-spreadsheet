/-
  The model's `encrypt` (`Umya/Model/Crypt.lean`) against the decryptor of the specification (`Umya/Spec/Agile.lean`):
  with lawful primitives `encrypt` returns `(encInfo, encPackage)` (`encryptWith_eq`), and on that descriptor and stream
  every stage of the decryptor (§2.3.4.11 – 15) succeeds and gives back what was put in.
-/
import Umya.Model.Crypt
import Umya.Spec.Agile
import Umya.Lemmas.PwHash
namespace Umya.Crypt
open Umya.Crypto Umya.Agile
open Umya.Spec.Agile (fitTo deriveHn deriveKey ivOf leValue segments decryptSegments)

theorem fit_eq_fitTo (n : Nat) (x : Bytes) : fit n x = fitTo n x := by
  unfold fit fitTo
  split
  · rename_i h
    rw [List.take_of_length_le (by omega)]
  · rename_i h
    have : n - x.length = 0 := by omega
    simp [this]

theorem fit_length (n : Nat) (x : Bytes) : (fit n x).length = n := by
  unfold fit
  split
  · simp; omega
  · simp; omega

theorem createIv_length {P : Prims} {salt : Bytes} {n : Nat} {bk : Bytes} : (createIv P salt n bk).length = n :=
  fit_length _ _

theorem createIv_eq_ivOf (P : Prims) (salt : Bytes) (n : Nat) (bk : Bytes) :
    createIv P salt n bk = ivOf P salt bk n := by
  unfold createIv ivOf
  exact fit_eq_fitTo _ _

/-- key derivation: the model's loop is §2.3.4.11 -/
theorem kdf_eq (P : Prims) (pw : List Char) (salt : Bytes) (spin bits : Nat) (bk : Bytes) :
    convertPasswordToKey P pw salt spin bits bk = deriveKey P (deriveHn P pw salt spin) bk bits := by
  unfold convertPasswordToKey deriveKey deriveHn
  rw [fit_eq_fitTo, spinLoop_eq_spinUp, spinUp_eq_foldl, Umya.PwHash.utf16le_eq]
  congr 4
  funext h i
  rw [Umya.PwHash.le32_eq_leBytes]

theorem kdf_length {P : Prims} {pw : List Char} {salt : Bytes} {spin bits : Nat} {bk : Bytes} :
    (convertPasswordToKey P pw salt spin bits bk).length = bits / 8 := by
  unfold convertPasswordToKey
  exact fit_length _ _

/-- the four checks of `crypt` that would panic: buffer of at most 4096 bytes, AES-256 key, 16-byte IV, whole blocks -/
theorem crypt_some (P : Prims) {key iv m : Bytes} (hk : key.length = 32) (hiv : iv.length = 16)
    (hm : m.length % 16 = 0) (hl : m.length ≤ 4096) : crypt P key iv m = some (P.aesCbcEnc key iv m) := by
  unfold crypt
  have h1 : ¬ m.length > 4096 := by omega
  have h2 : ¬ key.length * 8 ≠ 256 := by omega
  have h3 : ¬ iv.length ≠ 16 := by omega
  have h4 : ¬ m.length % 16 ≠ 0 := by omega
  simp only [h1, h2, h3, h4, if_false]

/-- the way every stage of the decryptor reads a field back -/
theorem dec_enc_take (P : Prims) (hP : P.Lawful) {k iv m : Bytes} {n : Nat} (hk : k.length = 32) (hiv : iv.length = 16)
    (hm : m.length % 16 = 0) (hn : m.length = n) : (P.aesCbcDec k iv (P.aesCbcEnc k iv m)).take n = m := by
  rw [hP.dec_enc k iv m hk hiv hm, ← hn, List.take_length]

theorem toNat_ofNat_mod (n : Nat) : (UInt8.ofNat (n % 256)).toNat = n % 256 := by
  simp [UInt8.toNat_ofNat']

theorem leValue_le32_zeros (n : Nat) : leValue (le32 n ++ [0, 0, 0, 0]) = n % 4294967296 := by
  simp only [le32, List.cons_append, List.nil_append, leValue, toNat_ofNat_mod]
  simp
  omega

theorem padChunk_length (c : Bytes) : (padChunk c).length = (c.length + 15) / 16 * 16 := by
  unfold padChunk
  split
  · simp; omega
  · omega

theorem padChunk_mod (c : Bytes) : (padChunk c).length % 16 = 0 := by
  rw [padChunk_length]; omega

theorem padChunk_le (c : Bytes) (h : c.length ≤ 4096) : (padChunk c).length ≤ 4096 := by
  rw [padChunk_length]; omega

theorem padChunk_full (c : Bytes) (h : c.length % 16 = 0) : padChunk c = c := by
  unfold padChunk
  simp [h]

theorem padChunk_take (c : Bytes) : (padChunk c).take c.length = c := by
  unfold padChunk
  split
  · simp
  · simp

theorem padChunk_append (a b : Bytes) (h : a.length % 16 = 0) : padChunk (a ++ b) = a ++ padChunk b := by
  unfold padChunk
  rw [List.length_append, show (a.length + b.length) % 16 = b.length % 16 by omega]
  split
  · exact List.append_assoc ..
  · rfl

theorem chunks_nil : chunks [] = [] := by
  rw [chunks]; simp

theorem chunks_cons (xs : Bytes) (h : xs.length ≠ 0) :
    chunks xs = xs.take chunkSize :: chunks (xs.drop chunkSize) := by
  rw [chunks]; simp [h]

/-- `chunks_cons` with the chunk size as the literal it is: the buffer of `crypt` and the segments of the specification
    are 4096 bytes, written so -/
theorem chunks_cons_lit (xs : Bytes) (h : xs.length ≠ 0) : chunks xs = xs.take 4096 :: chunks (xs.drop 4096) :=
  chunks_cons xs h

theorem chunks_last (d : Bytes) (h0 : d.length ≠ 0) (hl : d.length ≤ 4096) : chunks d = [d] := by
  rw [chunks_cons_lit d h0, List.take_of_length_le hl, List.drop_eq_nil_of_le hl, chunks_nil]

theorem chunks_append_full (c xs : Bytes) (h : c.length = 4096) : chunks (c ++ xs) = c :: chunks xs := by
  rw [chunks_cons_lit _ (by rw [List.length_append]; omega), List.take_left' h, List.drop_left' h]

theorem chunks_ind {motive : Bytes → Prop} (nil : motive [])
    (last : ∀ d : Bytes, d.length ≠ 0 → d.length ≤ 4096 → motive d)
    (full : ∀ d : Bytes, 4096 < d.length → (d.take 4096).length = 4096 → motive (d.drop 4096) → motive d)
    (d : Bytes) : motive d := by
  induction hn : d.length using Nat.strongRecOn generalizing d with
  | _ n ih =>
    by_cases h0 : d.length = 0
    · rw [List.eq_nil_of_length_eq_zero h0]; exact nil
    · by_cases hl : d.length ≤ 4096
      · exact last d h0 hl
      · exact full d (by omega) (by simp; omega) (ih _ (by subst hn; simp; omega) _ rfl)

theorem chunks_le (data : Bytes) : ∀ c ∈ chunks data, c.length ≤ 4096 := by
  induction data using chunks_ind with
  | nil => rw [chunks_nil]; simp
  | last d h0 hl => rw [chunks_last d h0 hl]; simpa using hl
  | full d hl hlen ih =>
    rw [chunks_cons_lit d (by omega)]
    intro c hc
    rcases List.mem_cons.mp hc with rfl | hc
    · omega
    · exact ih c hc

/-- chunk-wise zero padding is padding of the whole (4096 is a multiple of 16) -/
theorem chunks_pad_flatten (data : Bytes) : ((chunks data).map padChunk).flatten = padChunk data := by
  induction data using chunks_ind with
  | nil => rw [chunks_nil]; simp [padChunk]
  | last d h0 hl => rw [chunks_last d h0 hl]; simp
  | full d hl hlen ih =>
    rw [chunks_cons_lit d (by omega)]
    simp only [List.map_cons, List.flatten_cons]
    rw [ih, padChunk_full _ (by omega), ← padChunk_append _ _ (by omega), List.take_append_drop]

/-- what `cryptChunks` returns when nothing panics -/
def encChunks (P : Prims) (salt key : Bytes) : Nat → List Bytes → List Bytes
  | _, [] => []
  | i, c :: cs => P.aesCbcEnc key (createIv P salt 16 (le32 i)) (padChunk c) :: encChunks P salt key (i + 1) cs

theorem cryptChunks_eq (P : Prims) (salt key : Bytes) (hk : key.length = 32) (i : Nat) (cs : List Bytes)
    (hcs : ∀ c ∈ cs, c.length ≤ 4096) :
    cryptChunks P salt key i cs = some (encChunks P salt key i cs) := by
  induction cs generalizing i with
  | nil => rfl
  | cons c cs ih =>
    have hc := hcs c (by simp)
    simp only [cryptChunks, encChunks]
    rw [crypt_some P hk createIv_length (padChunk_mod c) (padChunk_le c hc),
      ih (i + 1) (fun c' h => hcs c' (by simp [h]))]

theorem cryptPackage_eq (P : Prims) (salt key data : Bytes) (hk : key.length = 32) :
    cryptPackage P salt key data =
      some (le32 data.length ++ [0, 0, 0, 0] ++ (encChunks P salt key 0 (chunks data)).flatten) := by
  unfold cryptPackage
  rw [cryptChunks_eq P salt key hk 0 _ (chunks_le data)]

theorem encChunks_flatten_length (P : Prims) (hP : P.Lawful) (salt key : Bytes) (i : Nat) (cs : List Bytes) :
    (encChunks P salt key i cs).flatten.length = (cs.map padChunk).flatten.length := by
  induction cs generalizing i with
  | nil => rfl
  | cons c cs ih =>
    simp only [encChunks, List.flatten_cons, List.length_append, List.map_cons, hP.enc_len, ih]

theorem segments_eq_chunks (xs : Bytes) : segments xs = chunks xs := by
  induction xs using chunks.induct with
  | case1 xs h => rw [segments, chunks, if_pos h, if_pos h]
  | case2 xs h ih => rw [segments, chunks, if_neg h, if_neg h]; exact congrArg _ ih

/-- §2.3.4.15 read back: cutting the concatenated ciphertext into 4096-byte segments recovers the
    per-chunk ciphertexts (every chunk but the last is exactly 4096 bytes, the last is non-empty) -/
theorem segments_encChunks (P : Prims) (hP : P.Lawful) (salt key : Bytes) (i : Nat) (data : Bytes) :
    segments (encChunks P salt key i (chunks data)).flatten = encChunks P salt key i (chunks data) := by
  rw [segments_eq_chunks]
  induction data using chunks_ind generalizing i with
  | nil => rw [chunks_nil]; exact chunks_nil
  | last d h0 hl =>
    rw [chunks_last d h0 hl]
    simp only [encChunks, List.flatten_cons, List.flatten_nil, List.append_nil]
    have hlen := (hP.enc_len key (createIv P salt 16 (le32 i)) (padChunk d)).trans (padChunk_length d)
    exact chunks_last _ (by omega) (by omega)
  | full d hl hlen ih =>
    rw [chunks_cons_lit d (by omega)]
    simp only [encChunks, List.flatten_cons]
    rw [chunks_append_full _ _ (by rw [hP.enc_len, padChunk_full _ (by omega), hlen]), ih]

theorem decryptSegments_encChunks (P : Prims) (hP : P.Lawful) (salt key : Bytes) (hk : key.length = 32)
    (i : Nat) (cs : List Bytes) :
    decryptSegments P key salt 16 i (encChunks P salt key i cs) = cs.map padChunk := by
  induction cs generalizing i with
  | nil => rfl
  | cons c cs ih =>
    simp only [encChunks, decryptSegments, List.map_cons]
    rw [← Umya.PwHash.le32_eq_leBytes, ← createIv_eq_ivOf,
      hP.dec_enc _ _ _ hk createIv_length (padChunk_mod c), ih]

/-- the `EncryptedPackage` stream `encrypt` produces -/
def encPackage (P : Prims) (ρ : Randoms) (data : Bytes) : Bytes :=
  le32 data.length ++ [0, 0, 0, 0] ++ (encChunks P ρ.packageSalt ρ.packageKey 0 (chunks data)).flatten

/-- the descriptor `encrypt` produces: the record at the end of `encryptWith` (`Model/Crypt.lean`) with the six ciphertexts
    written out; `encryptWith_eq` closes by `rfl` against that record -/
def encInfo (P : Prims) (spin : Nat) (data : Bytes) (pw : List Char) (ρ : Randoms) : Info :=
  { keyData := { saltSize := ρ.packageSalt.length, blockSize := 16, keyBits := ρ.packageKey.length * 8,
                 hashSize := 64, cipherAlgorithm := aes, cipherChaining := cbc,
                 hashAlgorithm := sha512Name, saltValue := P.b64 ρ.packageSalt }
    encryptedHmacKey := P.b64 (P.aesCbcEnc ρ.packageKey (createIv P ρ.packageSalt 16 blkHmacKey) ρ.hmacKey)
    encryptedHmacValue := P.b64 (P.aesCbcEnc ρ.packageKey (createIv P ρ.packageSalt 16 blkHmacValue)
      (P.hmac ρ.hmacKey (encPackage P ρ data)))
    spinCount := spin
    key := { saltSize := ρ.keySalt.length, blockSize := 16, keyBits := 256, hashSize := 64,
             cipherAlgorithm := aes, cipherChaining := cbc, hashAlgorithm := sha512Name,
             saltValue := P.b64 ρ.keySalt }
    encryptedVerifierHashInput :=
      P.b64 (P.aesCbcEnc (convertPasswordToKey P pw ρ.keySalt spin 256 blkVerifierInput) ρ.keySalt ρ.verifierInput)
    encryptedVerifierHashValue :=
      P.b64 (P.aesCbcEnc (convertPasswordToKey P pw ρ.keySalt spin 256 blkVerifierValue) ρ.keySalt
        (P.sha512 ρ.verifierInput))
    encryptedKeyValue :=
      P.b64 (P.aesCbcEnc (convertPasswordToKey P pw ρ.keySalt spin 256 blkKey) ρ.keySalt ρ.packageKey) }

/-- no panic: with lawful primitives and random material of the sizes `gen_random_*` draws, `encrypt` returns -/
theorem encryptWith_eq (P : Prims) (hP : P.Lawful) (spin : Nat) (data : Bytes) (pw : List Char) (ρ : Randoms)
    (hρ : ρ.wellFormed) :
    encryptWith P spin data pw ρ = some (encInfo P spin data pw ρ, encPackage P ρ data) := by
  obtain ⟨h1, -, h3, h4, h5⟩ := hρ
  unfold encryptWith
  rw [cryptPackage_eq P _ _ data h1]
  -- (reduces the `match` of `encryptWith` on the `some …` just rewritten in; so after each `rw` below)
  simp only []
  rw [crypt_some P h1 createIv_length (by omega) (by omega)]
  simp only []
  rw [crypt_some P h1 createIv_length (by rw [hP.hmac_len]) (by rw [hP.hmac_len]; omega)]
  simp only []
  rw [crypt_some P kdf_length h3 (by omega) (by omega)]
  simp only []
  rw [crypt_some P kdf_length h3 (by omega) (by omega)]
  simp only []
  rw [crypt_some P kdf_length h3 (by rw [hP.sha_len]) (by rw [hP.sha_len]; omega)]
  rfl

open Umya.Spec.Agile (verifyPassword packageKey integrityOk declaredSize decryptData paramsOk)

theorem blk_eq : Umya.Spec.Agile.blkVerifierInput = blkVerifierInput ∧
    Umya.Spec.Agile.blkVerifierValue = blkVerifierValue ∧ Umya.Spec.Agile.blkKeyValue = blkKey ∧
    Umya.Spec.Agile.blkHmacKey = blkHmacKey ∧ Umya.Spec.Agile.blkHmacValue = blkHmacValue :=
  ⟨rfl, rfl, rfl, rfl, rfl⟩

theorem paramsOk_key (P : Prims) (spin : Nat) (data : Bytes) (pw : List Char) (ρ : Randoms) :
    paramsOk (encInfo P spin data pw ρ).key = true := rfl

theorem paramsOk_keyData {P : Prims} {spin : Nat} {data : Bytes} {pw : List Char} {ρ : Randoms}
    (h1 : ρ.packageKey.length = 32) : paramsOk (encInfo P spin data pw ρ).keyData = true := by
  have : (encInfo P spin data pw ρ).keyData =
      ⟨ρ.packageSalt.length, 16, 256, 64, aes, cbc, sha512Name, P.b64 ρ.packageSalt⟩ := by
    simp [encInfo, h1]
  rw [this]; rfl

/-- §2.3.4.13 on the descriptor `encrypt` makes, for ANY candidate password `pw'`: what is left is the comparison of the two
    decrypted verifier fields under the keys of `pw'`.  The condition is, term for term, the one `Thm.C14.VerifierRejects`
    negates: `C14_wrong_password` closes by `if_neg`. -/
theorem verifyPassword_encInfo (P : Prims) (hP : P.Lawful) (spin : Nat) (data : Bytes) (pw pw' : List Char) (ρ : Randoms)
    (hρ : ρ.wellFormed) :
    verifyPassword P (encInfo P spin data pw ρ) pw' =
      if P.sha512 ((P.aesCbcDec (convertPasswordToKey P pw' ρ.keySalt spin 256 blkVerifierInput) ρ.keySalt
            (P.aesCbcEnc (convertPasswordToKey P pw ρ.keySalt spin 256 blkVerifierInput) ρ.keySalt ρ.verifierInput)).take 16) =
          (P.aesCbcDec (convertPasswordToKey P pw' ρ.keySalt spin 256 blkVerifierValue) ρ.keySalt
            (P.aesCbcEnc (convertPasswordToKey P pw ρ.keySalt spin 256 blkVerifierValue) ρ.keySalt
              (P.sha512 ρ.verifierInput))).take 64
      then some (deriveHn P pw' ρ.keySalt spin) else none := by
  obtain ⟨h1, -, h3, h4, h5⟩ := hρ
  unfold verifyPassword
  rw [paramsOk_key, paramsOk_keyData h1]
  simp only [encInfo, hP.unb64_b64, Bool.and_self, Bool.not_true, Bool.false_eq_true, if_false, ne_eq, not_true_eq_false,
    blk_eq, ← kdf_eq, h3]

/-- §2.3.4.13: the verifier matches for the password the file was written with -/
theorem verify_ok (P : Prims) (hP : P.Lawful) (spin : Nat) (data : Bytes) (pw : List Char) (ρ : Randoms)
    (hρ : ρ.wellFormed) :
    verifyPassword P (encInfo P spin data pw ρ) pw = some (deriveHn P pw ρ.keySalt spin) := by
  rw [verifyPassword_encInfo P hP spin data pw pw ρ hρ]
  obtain ⟨h1, -, h3, h4, h5⟩ := hρ
  rw [dec_enc_take P hP kdf_length h3 (by omega) h5,
    dec_enc_take P hP kdf_length h3 (by rw [hP.sha_len]) (hP.sha_len _), if_pos rfl]

/-- §2.3.4.13: the package key unwraps -/
theorem packageKey_ok (P : Prims) (hP : P.Lawful) (spin : Nat) (data : Bytes) (pw : List Char) (ρ : Randoms)
    (hρ : ρ.wellFormed) :
    packageKey P (encInfo P spin data pw ρ) (deriveHn P pw ρ.keySalt spin) = some ρ.packageKey := by
  obtain ⟨h1, -, h3, h4, h5⟩ := hρ
  simp only [packageKey, encInfo, hP.unb64_b64, blk_eq]
  rw [← kdf_eq, dec_enc_take P hP kdf_length h3 (by omega) (by omega)]

/-- §2.3.4.14: the HMAC over the whole `EncryptedPackage` stream verifies -/
theorem integrity_ok (P : Prims) (hP : P.Lawful) (spin : Nat) (data : Bytes) (pw : List Char) (ρ : Randoms)
    (hρ : ρ.wellFormed) :
    integrityOk P (encInfo P spin data pw ρ) ρ.packageKey (encPackage P ρ data) = true := by
  obtain ⟨h1, -, h3, h4, h5⟩ := hρ
  simp only [integrityOk, encInfo, hP.unb64_b64, blk_eq]
  rw [← createIv_eq_ivOf, ← createIv_eq_ivOf]
  rw [dec_enc_take P hP h1 createIv_length (by omega) h4,
    dec_enc_take P hP h1 createIv_length (by rw [hP.hmac_len]) (hP.hmac_len _ _)]
  simp

theorem encPackage_take8 (P : Prims) (ρ : Randoms) (data : Bytes) :
    (encPackage P ρ data).take 8 = le32 data.length ++ [0, 0, 0, 0] := rfl

theorem encPackage_drop8 (P : Prims) (ρ : Randoms) (data : Bytes) :
    (encPackage P ρ data).drop 8 = (encChunks P ρ.packageSalt ρ.packageKey 0 (chunks data)).flatten := rfl

/-- §2.3.4.15: StreamSize is the package length (as long as it fits the 32 bits the code writes) -/
theorem declaredSize_ok (P : Prims) (ρ : Randoms) (data : Bytes) :
    declaredSize (encPackage P ρ data) = data.length % 4294967296 := by
  unfold declaredSize
  rw [encPackage_take8, leValue_le32_zeros]

theorem encPackage_length (P : Prims) (hP : P.Lawful) (ρ : Randoms) (data : Bytes) :
    (encPackage P ρ data).length = 8 + (data.length + 15) / 16 * 16 := by
  unfold encPackage
  rw [List.length_append, encChunks_flatten_length P hP, chunks_pad_flatten, padChunk_length]
  simp [le32]

/-- §2.3.4.15: the segments decrypt and, cut to StreamSize, give back the package -/
theorem decryptData_ok (P : Prims) (hP : P.Lawful) (spin : Nat) (data : Bytes) (pw : List Char) (ρ : Randoms)
    (hρ : ρ.wellFormed) (hn : data.length < 4294967296) :
    decryptData P (encInfo P spin data pw ρ) ρ.packageKey (encPackage P ρ data) = some data := by
  obtain ⟨h1, -, h3, h4, h5⟩ := hρ
  simp only [decryptData, encInfo, hP.unb64_b64]
  have hlen := encPackage_length P hP ρ data
  have hd : ((encPackage P ρ data).drop 8).length % 16 = 0 := by
    rw [List.length_drop, hlen]; omega
  have h8 : ¬ (encPackage P ρ data).length < 8 := by omega
  simp only [h8, if_false, hd, ne_eq, not_true_eq_false]
  have : ¬ data.length > (padChunk data).length := by rw [padChunk_length]; omega
  simp only [encPackage_drop8, segments_encChunks P hP, decryptSegments_encChunks P hP _ _ h1, chunks_pad_flatten,
    declaredSize_ok, Nat.mod_eq_of_lt hn, padChunk_take, this, if_false]

end Umya.Crypt
