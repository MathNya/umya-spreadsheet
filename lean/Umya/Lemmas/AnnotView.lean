/-
  `Model/AnnotView.lean`: attributes by `getAttr_written` over the literal field list; the children of a
  `<sheetView>` (at most one pane, then the selections) read back by induction over the written children, the
  accumulator of `readKids` generalised.
-/
import Umya.Model.AnnotView
import Umya.Lemmas.AnnotCodec
import Umya.Lemmas.SplitCh
import Umya.Lemmas.AnnotDv
import Umya.Lemmas.ListRel
namespace Umya.AnnotView
open Umya.Spec.Xml (Node Attr)
open Umya.Dec Umya.AnnotCodec Umya.Coord
open Umya.Thm.C17 (Range.IsShape Range.InBounds)

theorem PaneV.fromStr_toStr (v : PaneV) : PaneV.fromStr v.toStr = some v := by cases v <;> decide +kernel
theorem PaneState.fromStr_toStr (v : PaneState) : PaneState.fromStr v.toStr = some v := by cases v <;> decide +kernel
theorem ViewV.fromStr_toStr (v : ViewV) : ViewV.fromStr v.toStr = some v := by cases v <;> decide +kernel

theorem Coord.text_parse (c : Coord) (h : c.WF) :
    c.text? = some (coordinateFromIndexWithLock c.col c.row c.lockCol c.lockRow) ∧
    Coord.parse? (coordinateFromIndexWithLock c.col c.row c.lockCol c.lockRow) = some c := by
  obtain ⟨h1, h2, h3⟩ := h
  have := Umya.Thm.C17.coord_print_parse c.col c.row c.lockCol c.lockRow ⟨h1, h2⟩ h3
  refine ⟨this.1, ?_⟩
  simp [Coord.parse?, this.2]

theorem coordText_ne_nil (c r : Nat) (lc lr : Bool) : coordinateFromIndexWithLock c r lc lr ≠ [] := by
  intro h
  have h2 := congrArg List.length h
  simp only [coordinateFromIndexWithLock, List.length_append, List.length_nil] at h2
  have := List.length_pos_iff.2 (decDigits_ne_nil r)
  omega

theorem Pane.fields_nodup {Z} (p : Pane Z) (tl : Text) : ((p.fields tl).map (·.1)).Nodup := by
  simp only [Pane.fields, List.map_cons, List.map_nil]; decide +kernel

theorem Pane.read_write {Z : NumZ} (hs : Z.F.Sound) (p : Pane Z) (h : p.WF) :
    ∃ n, p.write = some n ∧ Pane.read n = some p.norm := by
  obtain ⟨ht, hp⟩ := Coord.text_parse p.topLeft h
  generalize coordinateFromIndexWithLock p.topLeft.col p.topLeft.row p.topLeft.lockCol p.topLeft.lockRow = tl at ht hp
  refine ⟨elem "pane" (render (p.fields tl)) [], by simp [Pane.write, ht], ?_⟩
  obtain ⟨as, has⟩ : ∃ as, as = render (p.fields tl) := ⟨_, rfl⟩
  have g := getAttr_written has (p.fields_nodup tl)
  simp only [Pane.fields, List.forall_mem_cons] at g
  obtain ⟨e1, e2, e3, e4, e5, -⟩ := g
  have n1 : ∀ o : Option Z.F.Num, (o.map Z.F.fmt).map (numRead Z) = o := by
    intro o; cases o <;> simp [numRead_fmt Z hs]
  simp only [Pane.read, elem, Node.attrs, ← has, e1, e2, e3, e4, e5, paneTl?, hp, n1, enumRead, PaneV.fromStr_toStr,
    PaneState.fromStr_toStr, Option.map_some, Pane.norm]

theorem sqrefRead_sqrefText (rs : List Range) (h : Umya.AnnotDv.RangesOK rs) : sqrefRead (sqrefText rs) = some rs := by
  by_cases hne : rs = []
  · subst hne; rfl
  unfold sqrefRead sqrefText
  rw [splitCh_joinCh ' ' (rs.map Range.print) (by simpa using hne)
    (by intro p hp; obtain ⟨ρ, _, rfl⟩ := List.mem_map.mp hp; exact Umya.AnnotDv.blank_free_print ρ)]
  rw [Umya.AnnotDv.filter_print rs h, List.mapM_map, mapM_some _ id rs, List.map_id]
  intro ρ hρ
  simp [Umya.Thm.C17.Range.parse_print ρ (h ρ hρ).2]

/-- storable and meaningful: the active cell is on the grid the codecs cover, the ranges have one of the
    four shapes of C17 within the same bounds -/
def Selection.WF (s : Selection) : Prop :=
  (∀ c, s.activeCell = some c → c.WF) ∧ (∀ ρ ∈ s.sqref, Range.IsShape ρ ∧ Range.InBounds ρ)

theorem Selection.fields_nodup (s : Selection) (cell : Option Text) : ((s.fields cell).map (·.1)).Nodup := by
  simp only [Selection.fields, List.map_cons, List.map_nil]; decide +kernel

theorem Selection.read_write (s : Selection) (h : s.WF) : ∃ n, s.write = some n ∧ Selection.read n = some s := by
  obtain ⟨pn, ac, sq⟩ := s
  obtain ⟨h1, h2⟩ := h
  simp only at h1 h2
  have hcell : ∃ cell : Option Text, optCoordText? ac = some cell ∧ optCoordParse? (cellAttr cell) = some ac := by
    cases ac with
    | none => exact ⟨none, rfl, rfl⟩
    | some c =>
      obtain ⟨ht, hp⟩ := Coord.text_parse c (h1 c rfl)
      refine ⟨some (coordinateFromIndexWithLock c.col c.row c.lockCol c.lockRow), by simp [optCoordText?, ht], ?_⟩
      simp [cellAttr, optCoordParse?, coordText_ne_nil, hp]
  obtain ⟨cell, hw, hr⟩ := hcell
  refine ⟨elem "selection" (render (Selection.fields ⟨pn, ac, sq⟩ cell)) [], by simp [Selection.write, hw], ?_⟩
  obtain ⟨as, has⟩ : ∃ as, as = render (Selection.fields ⟨pn, ac, sq⟩ cell) := ⟨_, rfl⟩
  have g := getAttr_written has (Selection.fields_nodup ⟨pn, ac, sq⟩ cell)
  simp only [Selection.fields, List.forall_mem_cons] at g
  obtain ⟨e1, e2, -, e3, -⟩ := g
  have hsq : optSqrefRead (if sqrefText sq = [] then none else some (sqrefText sq)) = some sq := by
    cases sq with
    | nil => simp [sqrefText, joinCh, optSqrefRead]
    | cons ρ r =>
      -- `h2` is `AnnotDv.RangesOK (ρ :: r)` unfolded
      have : sqrefText (ρ :: r) ≠ [] :=
        joinCh_ne_nil ' ' (Umya.AnnotDv.print_ne_nil ρ (h2 ρ (by simp)).1 (h2 ρ (by simp)).2)
      simp only [this, if_false, optSqrefRead]
      exact sqrefRead_sqrefText (ρ :: r) h2
  simp only [Selection.read, elem, Node.attrs, ← has, e1, e2, e3, hr, hsq, enumRead_written PaneV.fromStr_toStr,
    Option.bind_some, Option.map_some]

theorem elemKids_elem {name : String} {as : List Attr} {ks : List Node} (h : ∀ k ∈ ks, k.isElem = true) :
    elemKids (elem name as ks) = ks := by
  simp only [elemKids, elem, Node.children]
  exact List.filter_eq_self.mpr h

theorem Selection.write_isElem (s : Selection) (n : Node) (h : s.write = some n) :
    n.isElem = true ∧ n.name = "selection".toList := by
  unfold Selection.write at h
  cases hc : optCoordText? s.activeCell with
  | none => simp [hc] at h
  | some cell => simp [hc] at h; subst h; simp [elem, Node.isElem, Node.name]

theorem readKids_selections {Z : NumZ} (ss : List Selection) (h : ∀ s ∈ ss, s.WF) :
    ∃ ns, ss.mapM Selection.write = some ns ∧ (∀ k ∈ ns, k.isElem = true) ∧
      ∀ (p : Option (Pane Z)) (acc : List Selection), readKids ns (p, acc) = some (p, acc ++ ss) := by
  induction ss with
  | nil => exact ⟨[], rfl, by simp, by simp [readKids]⟩
  | cons s r ih =>
    obtain ⟨n, hw, hr⟩ := Selection.read_write s (h s (by simp))
    obtain ⟨ns, hws, hel, hrs⟩ := ih (fun x hx => h x (List.mem_cons_of_mem _ hx))
    obtain ⟨he, hn⟩ := Selection.write_isElem s n hw
    refine ⟨n :: ns, by simp [List.mapM_cons, hw, hws], List.forall_mem_cons.2 ⟨he, hel⟩, fun p acc => ?_⟩
    simp only [readKids, hn, if_true, hr, Option.bind_some]
    simpa [List.append_assoc] using hrs p (acc ++ [s])

/-- every selection is well-formed, the pane too, the numbers are `u32` -/
def SheetView.WF {Z} (v : SheetView Z) : Prop :=
  (∀ p, v.pane = some p → p.WF) ∧ (∀ s ∈ v.selections, s.WF) ∧
  (∀ n, v.workbookViewId = some n → n < 4294967296) ∧ (∀ n, v.zoomScale = some n → n < 4294967296) ∧
  (∀ n, v.zoomScaleNormal = some n → n < 4294967296) ∧ (∀ n, v.zoomScalePageLayoutView = some n → n < 4294967296) ∧
  (∀ n, v.zoomScaleSheetLayoutView = some n → n < 4294967296)

theorem SheetView.fields_nodup {Z} (v : SheetView Z) : (v.fields.map (·.1)).Nodup := by
  simp only [SheetView.fields, List.map_cons, List.map_nil]; decide +kernel

theorem Pane.write_isElem {Z} (p : Pane Z) (n : Node) (h : p.write = some n) :
    n.isElem = true ∧ n.name = "pane".toList := by
  unfold Pane.write at h
  cases hc : p.topLeft.text? with
  | none => simp [hc] at h
  | some tl => simp [hc] at h; subst h; simp [elem, Node.isElem, Node.name]

theorem readKids_pane {Z : NumZ} (hs : Z.F.Sound) (o : Option (Pane Z)) (h : ∀ p, o = some p → p.WF) :
    ∃ pn, paneKids o = some pn ∧ (∀ k ∈ pn, k.isElem = true) ∧
      ∀ (ns : List Node) (ss : List Selection), readKids (pn ++ ns) (none, ss) = readKids ns (o.map Pane.norm, ss) := by
  cases o with
  | none => exact ⟨[], rfl, by simp, fun _ _ => rfl⟩
  | some p =>
    obtain ⟨n, hw, hr⟩ := Pane.read_write hs p (h p rfl)
    obtain ⟨he, hn⟩ := Pane.write_isElem p n hw
    exact ⟨[n], by simp [paneKids, hw], by simpa using he, fun ns ss => by
      simp only [List.singleton_append, readKids, hn, if_true, hr, Option.bind_some, Option.map_some]⟩

theorem SheetView.read_write {Z : NumZ} (hs : Z.F.Sound) (v : SheetView Z) (h : v.WF) :
    ∃ n, v.write = some n ∧ n.isElem = true ∧ n.name = "sheetView".toList ∧ SheetView.read n = some v.norm := by
  obtain ⟨hp, hsel, h1, h2, h3, h4, h5⟩ := h
  obtain ⟨pn, hpw, hpe, hpr⟩ := readKids_pane hs v.pane hp
  obtain ⟨ns, hws, hel, hrs⟩ := readKids_selections (Z := Z) v.selections hsel
  refine ⟨elem "sheetView" (render v.fields) (pn ++ ns), by simp [SheetView.write, hpw, hws],
    by simp [elem, Node.isElem], by simp [elem, Node.name], ?_⟩
  have hkids : elemKids (elem "sheetView" (render v.fields) (pn ++ ns)) = pn ++ ns :=
    elemKids_elem (by
      intro k hk
      rcases List.mem_append.mp hk with hk | hk
      · exact hpe k hk
      · exact hel k hk)
  obtain ⟨as, has⟩ : ∃ as, as = render v.fields := ⟨_, rfl⟩
  have g := getAttr_written has v.fields_nodup
  simp only [SheetView.fields, List.forall_mem_cons] at g
  obtain ⟨e1, e2, e3, e4, e5, e6, e7, e8, e9, -⟩ := g
  have hwid : optU32 (some (u32Str v.workbookViewId)) = some (some (v.workbookViewId.getD 0)) := by
    have : v.workbookViewId.getD 0 < 4294967296 := by
      cases hv : v.workbookViewId with
      | none => simp
      | some n => simpa using h1 n hv
    simp [optU32, u32Str, u32Attr_decDigits _ this]
  have htab : optBool (if v.tabSelected.getD false then some (boolStr true) else none)
      = (if v.tabSelected.getD false then some true else none) := by
    split <;> simp [optBool, boolRead_boolStr]
  rw [SheetView.read, hkids]
  simp only [elem, Node.attrs, ← has, e1, e2, e3, e4, e5, e6, e7, e8, e9, hwid, htab,
    optU32_map_decDigits h2, optU32_map_decDigits h3, optU32_map_decDigits h4, optU32_map_decDigits h5,
    optBool_map_boolStr, enumRead_written ViewV.fromStr_toStr, hpr, hrs, List.nil_append, Option.bind_some, Option.map_some, SheetView.norm]

theorem writeViews_readViews {Z : NumZ} (hs : Z.F.Sound) (vs : List (SheetView Z)) (hne : vs ≠ [])
    (h : ∀ v ∈ vs, v.WF) :
    ∃ n, writeViews vs = some [n] ∧ readViews n = some (vs.map SheetView.norm) := by
  have key : ∃ ks, vs.mapM SheetView.write = some ks ∧ (∀ k ∈ ks, k.isElem = true ∧ k.name = "sheetView".toList) ∧
      ks.mapM (SheetView.read (Z := Z)) = some (vs.map SheetView.norm) := by
    clear hne
    induction vs with
    | nil => exact ⟨[], rfl, by simp, rfl⟩
    | cons v r ih =>
      obtain ⟨n, hw, he, hn, hr⟩ := SheetView.read_write hs v (h v (by simp))
      obtain ⟨ks, hws, hes, hrs⟩ := ih (fun x hx => h x (List.mem_cons_of_mem _ hx))
      exact ⟨n :: ks, by simp [List.mapM_cons, hw, hws], List.forall_mem_cons.2 ⟨⟨he, hn⟩, hes⟩, by simp [List.mapM_cons, hr, hrs]⟩
  obtain ⟨ks, hws, hes, hrs⟩ := key
  refine ⟨elem "sheetViews" [] ks, ?_, ?_⟩
  · have : vs.isEmpty = false := by cases vs <;> simp_all
    simp [writeViews, this, hws]
  · unfold readViews
    rw [elemKids_elem (fun k hk => (hes k hk).1)]
    rw [List.filter_eq_self.mpr (fun k hk => decide_eq_true (hes k hk).2)]
    exact hrs

theorem Pane.norm_idem {Z} (p : Pane Z) : p.norm.norm = p.norm := by simp [Pane.norm]

theorem SheetView.norm_idem {Z} (v : SheetView Z) : v.norm.norm = v.norm := by
  cases hp : v.pane <;> cases ht : v.tabSelected.getD false <;> simp [SheetView.norm, hp, ht, Pane.norm]

end Umya.AnnotView
