/-
  C11: the second loop of the writer through ONE relation.  The second loop's requests depend on the state
  (`firstFree`), so there is no write log that is a function of the workbook; what there is, is the list of the kinds
  of request it can make in a state `w` (`Req2`): a generated part under a fresh family index or under a fixed name a
  profile asks for, and a relationships part next to a part `m` that is there, where `m` is new since the first loop or
  a sheet position, and every target is there (or is one the serialiser never writes).  `loop2_req`: an invariant that
  survives every such request survives the loop.  "Only adds names that satisfy `P`" is the instance `keeps_ext`.
-/
import Umya.Lemmas.Lazy
namespace Umya.Lazy

variable {C : Type}

/-- What the second loop of `make_buffer` may ask of the writer manager in the state `w`: a numbered part of a family
    (drawing, chart, comments, table, …) at the index `add_file_at_*` picks; a fixed name (media) a serialiser asks for;
    the relationships part of a family part; for a DESERIALIZED sheet its own `_rels/sheet{p}.xml.rels`.  A raw sheet
    asks for nothing in that loop.  `base` = the package after the first loop, `L` = what is known of the profiles'
    leaves, `R` = what is known of the positions of deserialized sheets.  A target `t` of a relationships part is there, or
    `L (.missing t)`: the profile lists it as one the serialiser never writes (an `L` that holds of no `.missing` leaf, such
    as `LeafOk`, leaves "is there"). -/
inductive Req2 (base : WM C) (L : Leaf → Prop) (R : PName → Prop) (w : WM C) : PName → Content C → Prop where
  | fam (f : Fam) : Req2 base L R w (.fam f (w.firstFree f)) .gen
  | fixed (n : PName) : L (.fixed n) → Req2 base L R w n .gen
  | famRels (f : Fam) (i : Nat) (ts : List (Option PName)) : w.has (.fam f i) = true → base.has (.fam f i) = false →
      (∀ t, some t ∈ ts → w.has t = true ∨ L (.missing t)) → Req2 base L R w (.rels (.fam f i)) (.relsOf ts)
  | sheetRels (m : PName) (ts : List (Option PName)) : R m →
      (∀ t, some t ∈ ts → w.has t = true ∨ L (.missing t)) → Req2 base L R w (.rels m) (.relsOf ts)

/-- `I` survives every request of the second loop (in a state that extends `base`) -/
def Keeps (base : WM C) (L : Leaf → Prop) (R : PName → Prop) (I : WM C → Prop) : Prop :=
  ∀ w n c, Ext (fun _ => True) base w → I w → Req2 base L R w n c → I (w.add n c)

/-- the invariant as it is carried through the loop: with "extends `base`" -/
def After (base : WM C) (I : WM C → Prop) (w : WM C) : Prop := Ext (fun _ => True) base w ∧ I w

theorem After.add {base : WM C} {L R I} (hI : Keeps base L R I) {w : WM C} (h : After base I w) {n c} (hr : Req2 base L R w n c) :
    After base I (w.add n c) :=
  ⟨Ext.add _ _ trivial h.1, hI w n c h.1 h.2 hr⟩

theorem keeps_true (base : WM C) (L R) : Keeps base L R (fun _ => True) := fun _ _ _ _ _ _ => trivial

theorem emitLeaf_req {base : WM C} {L R I} (hI : Keeps base L R I) (w : WM C) (l : Leaf) (hl : L l) (h : After base I w) :
    After base I (emitLeaf w l).1 ∧ ∀ t, (emitLeaf w l).2 = some t → (emitLeaf w l).1.has t = true ∨ L (.missing t) := by
  cases l with
  | alloc f => exact ⟨h.add hI (.fam f), fun t ht => Or.inl (Option.some.inj ht ▸ add_has_self)⟩
  | fixed n => exact ⟨h.add hI (.fixed n hl), fun t ht => Or.inl (Option.some.inj ht ▸ add_has_self)⟩
  | ext => exact ⟨h, nofun⟩
  | missing n => exact ⟨h, fun t ht => Or.inr (Option.some.inj ht ▸ hl)⟩

/-- `emitLeaves` and `emitItems` are one loop, over `emitLeaf` and over `emitItem`: `run` threads the state through `step`
    and collects the targets (the two equations hold by `rfl` for either).  `hstep` is asked for every `base` and `I`: the proof
    uses the lemma a second time, from the state after a step and for the trivial invariant. -/
theorem emitList_req {α} {L : Leaf → Prop} {R : PName → Prop} {Q : α → Prop} {step : WM C → α → WM C × Option PName}
    {run : WM C → List α → WM C × List (Option PName)} (hnil : ∀ w, run w [] = (w, []))
    (hcons : ∀ w x xs, run w (x :: xs) = ((run (step w x).1 xs).1, (step w x).2 :: (run (step w x).1 xs).2))
    (hstep : ∀ {base : WM C} {I : WM C → Prop}, Keeps base L R I → ∀ w x, Q x → After base I w →
      After base I (step w x).1 ∧ ∀ t, (step w x).2 = some t → (step w x).1.has t = true ∨ L (.missing t)) :
    ∀ (xs : List α) {base : WM C} {I : WM C → Prop} (_ : Keeps base L R I) (w : WM C), (∀ x ∈ xs, Q x) → After base I w →
    After base I (run w xs).1 ∧ ∀ t, some t ∈ (run w xs).2 → (run w xs).1.has t = true ∨ L (.missing t)
  | [], _, _, _, w, _, h => by rw [hnil]; exact ⟨h, by simp⟩
  | x :: xs, base, I, hI, w, hl, h => by
    rw [hcons]
    have hl' : ∀ x' ∈ xs, Q x' := fun x' h' => hl x' (List.mem_cons_of_mem _ h')
    obtain ⟨a, b⟩ := hstep hI w x (hl x (List.mem_cons_self ..)) h
    obtain ⟨c, d⟩ := emitList_req hnil hcons hstep xs hI (step w x).1 hl' a
    refine ⟨c, fun t ht => ?_⟩
    rcases List.mem_cons.mp ht with e | e
    · -- the rest of the run only adds: the lemma itself, from the state after the first step, for the trivial invariant
      exact (b t e.symm).imp_left
        ((emitList_req hnil hcons hstep xs (keeps_true (step w x).1 L R) _ hl' ⟨Ext.refl _, trivial⟩).1.1.has_mono t)
    · exact d t e

theorem emitItem_req {base : WM C} {L R I} (hI : Keeps base L R I) (w : WM C) (x : Item) (hl : ∀ l ∈ Item.leaves x, L l)
    (h : After base I w) :
    After base I (emitItem w x).1 ∧ ∀ t, (emitItem w x).2 = some t → (emitItem w x).1.has t = true ∨ L (.missing t) := by
  cases x with
  | leaf l => exact emitLeaf_req hI w l (hl l (List.mem_singleton.mpr rfl)) h
  | node f kids =>
    obtain ⟨a, b⟩ := emitList_req (run := emitLeaves) (fun _ => rfl) (fun _ _ _ => rfl) (fun hI w l => emitLeaf_req hI w l) kids hI w hl h
    simp only [emitItem]
    have a2 := a.add hI (.fam f)
    split
    · exact ⟨a2, fun t ht => Or.inl (Option.some.inj ht ▸ add_has_self)⟩
    · refine ⟨a2.add hI (.famRels _ _ _ add_has_self ?_ fun t ht => (b t ht).imp_left add_has_mono),
        fun t ht => Or.inl (Option.some.inj ht ▸ add_has_mono add_has_self)⟩
      -- the index is free in a state that extends `base`
      exact eq_false_of_ne_true fun hb => by
        have := a.1.has_mono _ hb
        rw [firstFree_free] at this; cases this

theorem loop2_req {base : WM C} {L R I} (hI : Keeps base L R I) (ss : List (Sheet C)) (p : Nat) (w : WM C)
    (hs : ∀ j s l, ss[j]? = some s → s.body = .loaded l → R (.sheet (p + j)))
    (hl : ∀ s ∈ ss, ∀ l, s.body = .loaded l → ∀ x ∈ l.prof, ∀ lf ∈ Item.leaves x, L lf) (h : After base I w) :
    After base I (loop2 w p ss) := by
  induction ss generalizing p w with
  | nil => exact h
  | cons s ss ih =>
    simp only [loop2]
    refine ih _ _ (fun j s' l hj hb => ?_) (fun s' hs' => hl s' (List.mem_cons_of_mem _ hs')) ?_
    · rw [Nat.add_right_comm, Nat.add_assoc]
      exact hs (j + 1) s' l hj hb
    · unfold objStep
      cases hb : s.body with
      | raw r => exact h
      | loaded l =>
        obtain ⟨a, b⟩ := emitList_req (run := emitItems) (fun _ => rfl) (fun _ _ _ => rfl) (fun hI w x => emitItem_req hI w x)
          l.prof hI w (hl s (List.mem_cons_self ..) l hb) h
        unfold emitSheet
        simp only
        split
        · exact a
        · exact a.add hI (.sheetRels _ _ (hs 0 s l rfl hb) b)

/-- what a hypothesis `N` on the fixed names of a profile (`profNames`) says of a leaf -/
def FixedIn (N : PName → Prop) (lf : Leaf) : Prop := ∀ n, lf = .fixed n → N n

theorem loop2_req_names {base : WM C} {N R I} (hI : Keeps base (FixedIn N) R I) (ss : List (Sheet C)) (p : Nat)
    (hs : ∀ j s l, ss[j]? = some s → s.body = .loaded l → R (.sheet (p + j)))
    (hl : ∀ s ∈ ss, ∀ l, s.body = .loaded l → ∀ n ∈ profNames l.prof, N n) (h : I base) : I (loop2 base p ss) :=
  (loop2_req hI ss p base hs
    (fun s hs' l hb x hx _ hlf n e => hl s hs' l hb n (mem_profNames.mpr ⟨x, hx, e ▸ hlf⟩)) ⟨Ext.refl base, h⟩).2

theorem keeps_ext (base : WM C) {L : Leaf → Prop} {R : PName → Prop} (P : PName → Prop) (hf : ∀ f i, P (.fam f i))
    (hn : ∀ n, L (.fixed n) → P n) (hfr : ∀ f i, base.has (.fam f i) = false → P (.rels (.fam f i))) (hr : ∀ m, R m → P (.rels m)) :
    Keeps base L R (Ext P base) := by
  rintro w _ _ _ h (f | ⟨n, hl⟩ | ⟨f, i, ts, _, hb, _⟩ | ⟨m, ts, hm, _⟩)
  · exact Ext.add _ _ (hf f _) h
  · exact Ext.add _ _ (hn _ hl) h
  · exact Ext.add _ _ (hfr f i hb) h
  · exact Ext.add _ _ (hr m hm) h

/-- `hfr` needs only the family parts that `w` did not have: a family part gets its relationships part when it is allocated,
    at a free index -/
theorem loop2_extP (P : PName → Prop) (w : WM C) (hf : ∀ f i, P (.fam f i)) (hfr : ∀ f i, w.has (.fam f i) = false → P (.rels (.fam f i)))
    (ss : List (Sheet C)) (p : Nat) (hs : ∀ j s l, ss[j]? = some s → s.body = .loaded l → P (.rels (.sheet (p + j))))
    (hl : ∀ s ∈ ss, ∀ l, s.body = .loaded l → ∀ n ∈ profNames l.prof, P n) : Ext P w (loop2 w p ss) :=
  loop2_req_names (R := fun m => P (.rels m)) (keeps_ext w P hf (fun n h => h n rfl) hfr (fun _ h => h)) ss p hs hl (Ext.refl w)

theorem loop2_ext (ss : List (Sheet C)) (p : Nat) (w : WM C) : Ext (fun _ => True) w (loop2 w p ss) :=
  loop2_extP _ w (fun _ _ => trivial) (fun _ _ _ => trivial) ss p (fun _ _ _ _ _ => trivial) (fun _ _ _ _ _ _ => trivial)

end Umya.Lazy
