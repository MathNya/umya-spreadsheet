/-
  Pass 1 on text the independent scanner `Spec.scan` accepts.  The tokenizer simulates the scanner (`Sim`: the
  modes correspond and the stack has the shape of the scanner's open brackets, so it is never popped when
  empty), every token is one that passes 2 and 3 accept (`AllOk`), and the accumulator is never a lone sign
  outside string literals (`VInv`).  With `Inv` the three make up `Run`; `clean_lex1` is the result for a
  whole text.
-/
import Umya.Lemmas.Lex
import Umya.Spec.Refs
namespace Umya.Formula
open Umya.Coord Umya.Dec

/-- the scanner's mode for each mode of the tokenizer: the three modes without an open literal are the
    scanner's `normal`; in an error literal the scanner carries the accumulator itself -/
def SimMode (m : Spec.SMode) (st : LexSt) : Prop :=
  match st.mode with
  | .normal | .skipBlank | .cmp _ => m = .normal
  | .str => m = .str
  | .strQ => m = .strQ
  | .path => m = .path
  | .pathQ => m = .pathQ
  | .range => m = .bracket
  | .error => m = .err st.value
  | .dead => False

/-- the scanner's open brackets against the tokenizer's stack: a parenthesis is one unmarked
    function / subexpression token, a brace is an `ARRAYROW` token on top of an `ARRAY` token -/
inductive StackSim : List Spec.Br → List Tok → Prop where
  | nil : StackSim [] []
  | paren {bs : List Spec.Br} {ts : List Tok} (t : Tok) : t.arr = .none →
      (t.ty = .function ∨ t.ty = .subexpression) → StackSim bs ts → StackSim (.paren :: bs) (t :: ts)
  | brace {bs : List Spec.Br} {ts : List Tok} (r a : Tok) : r.arr = .row → r.ty = .function →
      a.arr = .array → a.ty = .function → StackSim bs ts → StackSim (.brace :: bs) (r :: a :: ts)

def Sim (sc : Spec.Scan) (st : LexSt) : Prop := SimMode sc.mode st ∧ StackSim sc.stack st.stack

theorem errors_eq : errors = Spec.errTexts := rfl

/-- the `,` handler replaces the top of the stack by a token of the same type and mark -/
theorem stackSim_retop {d : List Spec.Br} {t : Tok} {rest : List Tok} (h : StackSim d (t :: rest)) :
    StackSim d ((⟨[], t.ty, .stop, t.arr⟩ : Tok) :: rest) := by
  cases h with
  | paren _ h1 h2 h3 => exact .paren _ h1 h2 h3
  | brace _ a h1 h2 h3 h4 h5 => exact .brace _ a h1 h2 h3 h4 h5

theorem stackSim_brace_inv {bs : List Spec.Br} {l : List Tok} (h : StackSim (.brace :: bs) l) :
    ∃ r a ts, l = r :: a :: ts ∧ r.arr = .row ∧ r.ty = .function ∧ a.arr = .array ∧ a.ty = .function ∧
      StackSim bs ts := by
  cases h with
  | brace r a h1 h2 h3 h4 h5 => exact ⟨r, a, _, rfl, h1, h2, h3, h4, h5⟩

theorem stackSim_paren_inv {bs : List Spec.Br} {l : List Tok} (h : StackSim (.paren :: bs) l) :
    ∃ t ts, l = t :: ts ∧ t.arr = .none ∧ (t.ty = .function ∨ t.ty = .subexpression) ∧ StackSim bs ts := by
  cases h with
  | paren t h1 h2 h3 => exact ⟨t, _, rfl, h1, h2, h3⟩

theorem sim_not_dead {sc : Spec.Scan} {st : LexSt} (h : Sim sc st) : st.mode ≠ .dead := by
  intro hd
  simpa [SimMode, hd] using h.1

theorem simMode_str {m : Spec.SMode} {st : LexSt} (h : SimMode m st) (hm : st.mode = .str) : m = .str := by
  simpa [SimMode, hm] using h

theorem scanStep_resumes (m : Spec.SMode) (d : List Spec.Br) (st : LexSt) (c : Char) (hm : SimMode m st)
    (hr : Resumes st c) : Spec.scanStep ⟨m, d⟩ c = Spec.scanNormal d c := by
  cases hmode : st.mode <;> simp [Resumes, hmode] at hr <;> simp [SimMode, hmode] at hm <;> subst hm <;>
    simp [Spec.scanStep, hr]

/-- an infix token has a non-empty text and is not an intersection (so pass 3 does not panic on it and does
    not take the text pass 2 stores in an intersection for a sign); infix tokens and operands carry no array
    mark: only the pseudo-function tokens and the row separator of an array constant do -/
def okTok (t : Tok) : Prop :=
  (t.ty = .opInfix → t.val ≠ [] ∧ t.sub ≠ .intersection) ∧ ((t.ty = .opInfix ∨ t.ty = .operand) → t.arr = .none)
def AllOk (l : List Tok) : Prop := ∀ t ∈ l, okTok t

theorem allOk_append {l : List Tok} {t : Tok} (h : AllOk l) (ht : okTok t) : AllOk (l ++ [t]) := by
  intro x hx
  rcases List.mem_append.1 hx with hx | hx
  · exact h x hx
  · rw [List.mem_singleton.1 hx]; exact ht

theorem allOk_flush (st : LexSt) (ty : TT) (hty : ty = .unknown ∨ ty = .operand) (h : AllOk st.toks) :
    AllOk (st.flush ty).toks := by
  unfold LexSt.flush
  split
  · exact h
  · exact allOk_append h (by rcases hty with e | e <;> simp [okTok, e])

theorem okTok_stop (t : Tok) (h : t.ty = .function ∨ t.ty = .subexpression) : okTok ⟨[], t.ty, .stop, t.arr⟩ := by
  rcases h with h | h <;> simp [okTok, h]

theorem okTok_comma (k : TT) : okTok (sepTok k) := by
  unfold sepTok; split <;> simp [okTok]

theorem allOk_resume (st : LexSt) (h : AllOk st.toks) : AllOk (resume st).toks := by
  unfold resume
  split <;> first | exact h | exact allOk_append h (by simp [okTok])

theorem finish_allOk {st : LexSt} (h : AllOk st.toks) : AllOk (finish st).toks := by
  rw [(finish_eq st).1]
  exact allOk_flush _ _ (Or.inr rfl) (allOk_resume st h)

theorem closeText_row (r : Tok) (h1 : r.arr = .row) (h2 : r.ty = .function) : closeText r = [] := by
  simp [closeText, renderTok, h1, h2]

theorem closeText_array (a : Tok) (h : a.arr = .array) : closeText a = ['}'] := by
  simp [closeText, renderTok, h]

theorem closeText_paren (t : Tok) (h1 : t.arr = .none) (h2 : t.ty = .function ∨ t.ty = .subexpression) :
    closeText t = [')'] := by
  rcases h2 with h2 | h2 <;> simp [closeText, renderTok, h1, h2]

/-- not the text pass 3 reads as a sign (`VInv` is where it matters) -/
def NotSign (v : List Char) : Prop := v ≠ ['-'] ∧ v ≠ ['+']

/-- the accumulator is never the text `-` or `+` outside string literals, so the text pass 2 stores in the
    first intersection token is never mistaken for a sign by pass 3; for that to be kept by a step it is
    non-empty inside a quoted name, a bracket and an error literal -/
def VInv (st : LexSt) : Prop :=
  ((st.mode = .path ∨ st.mode = .pathQ ∨ st.mode = .range ∨ st.mode = .error) → st.value ≠ []) ∧
  ((st.mode ≠ .str ∧ st.mode ≠ .strQ) → NotSign st.value)

theorem notSign_nil : NotSign [] := ⟨by simp, by simp⟩

theorem notSign_append {v : List Char} {c : Char} (h1 : c ≠ '-') (h2 : c ≠ '+') : NotSign (v ++ [c]) := by
  cases v with
  | nil => exact ⟨by simpa using h1, by simpa using h2⟩
  | cons a r => exact ⟨by simp, by simp⟩

theorem isSpecial_false_ne_sign {c : Char} (h : isSpecial c = false) : c ≠ '-' ∧ c ≠ '+' := by
  constructor <;> rintro rfl <;> simp [isSpecial, isPlainInfix] at h

theorem notSign_append_ne {v w : List Char} (hv : v ≠ []) (hw : w ≠ []) : NotSign (v ++ w) := by
  cases v with
  | nil => exact absurd rfl hv
  | cons a r =>
    cases w with
    | nil => exact absurd rfl hw
    | cons b s => exact ⟨by simp, by simp⟩

theorem vinv_of_empty {st : LexSt} (hv : st.value = [])
    (hm : ¬ (st.mode = .path ∨ st.mode = .pathQ ∨ st.mode = .range ∨ st.mode = .error)) : VInv st :=
  ⟨fun h => absurd h hm, fun _ => by rw [hv]; exact notSign_nil⟩

theorem finish_notSign {st : LexSt} (hv : VInv st) (hm : st.mode ≠ .str) : NotSign (finish st).value := by
  rw [(finish_eq st).2]
  unfold resume
  cases hmode : st.mode with
  | str => exact absurd hmode hm
  | strQ => exact notSign_nil
  | pathQ => exact notSign_append (by decide) (by decide)
  | _ => exact hv.2 (by simp [hmode])

/-- what holds of the tokenizer's state while the scanner, now in state `sc`, has accepted the text read so far:
    the four invariants of pass 1 travel together -/
structure Run (sc : Spec.Scan) (st : LexSt) : Prop where
  sim : Sim sc st
  inv : Inv st
  ok : AllOk st.toks
  val : VInv st

theorem run_init : Run ⟨.normal, []⟩ {} :=
  ⟨⟨rfl, .nil⟩, inv_init, fun _ h => (nomatch h), vinv_of_empty rfl (by simp)⟩

/-- a character the scanner accepts contributes itself: `)` closes a parenthesis, `;` and `}` stand directly
    inside a brace -/
theorem stepNormal_run (st : LexSt) (hm : st.mode = .normal) {d : List Spec.Br} (hst : StackSim d st.stack)
    (hok : AllOk st.toks) (c : Char) {sc' : Spec.Scan} (h : Spec.scanNormal d c = some sc') :
    Sim sc' (stepNormal st c) ∧ AllOk (stepNormal st c).toks ∧ VInv (stepNormal st c) ∧
      emitNormal st.stack c = [c] := by
  have fu := allOk_flush st .unknown (Or.inl rfl) hok
  have fo := allOk_flush st .operand (Or.inr rfl) hok
  unfold Spec.scanNormal at h
  induction c using special_cases with
  | dq =>
    simp at h; subst h; rw [sn_dq]
    exact ⟨⟨by simp [SimMode], by simpa using hst⟩, fu, ⟨by simp, by simp⟩, by simp [emitNormal]⟩
  | sq =>
    simp at h; subst h; rw [sn_sq]
    exact ⟨⟨by simp [SimMode], by simpa using hst⟩, fu, ⟨by simp, fun _ => ⟨by simp, by simp⟩⟩, by simp [emitNormal]⟩
  | lb =>
    simp at h; subst h; rw [sn_lb]
    exact ⟨⟨by simp [SimMode], by simpa using hst⟩, hok,
      ⟨by simp, fun _ => notSign_append (by decide) (by decide)⟩, by simp [emitNormal]⟩
  | hash =>
    simp at h; subst h; rw [sn_hash]
    exact ⟨⟨by simp [SimMode], by simpa using hst⟩, fu, ⟨by simp, fun _ => ⟨by simp, by simp⟩⟩, by simp [emitNormal]⟩
  | lbrace =>
    simp at h; subst h; rw [sn_lbrace]
    exact ⟨⟨by simp [SimMode, hm], by simpa using StackSim.brace _ _ rfl rfl rfl rfl hst⟩,
      allOk_append (allOk_append fu (by simp [okTok, arrayTok])) (by simp [okTok, arrayRowTok]),
      vinv_of_empty (by simp) (by simp [hm]), by simp [emitNormal]⟩
  | semi =>
    cases d with
    | nil => simp at h
    | cons b bs =>
    cases b with
    | paren => simp at h
    | brace =>
      obtain ⟨r, a, ts, hs', h1, h2, h3, h4, h5⟩ := stackSim_brace_inv hst
      simp at h; subst h
      rw [sn_semi, close_cons _ ((flush_stack st _).trans hs')]
      simp only [flush_mode, hm, reduceCtorEq, if_false]
      exact ⟨⟨by simp [SimMode], by simpa using StackSim.brace _ _ rfl rfl h3 h4 h5⟩,
        allOk_append (allOk_append (allOk_append fo (okTok_stop r (Or.inl h2))) (by simp [okTok]))
          (by simp [okTok, arrayRowTok]),
        vinv_of_empty (by simp) (by simp), by simp [emitNormal, hs', closeText_row r h1 h2]⟩
  | rbrace =>
    cases d with
    | nil => simp at h
    | cons b bs =>
    cases b with
    | paren => simp at h
    | brace =>
      obtain ⟨r, a, ts, hs', h1, h2, h3, h4, h5⟩ := stackSim_brace_inv hst
      simp at h; subst h
      rw [sn_rbrace, close_cons _ ((flush_stack st _).trans hs')]
      simp only [flush_mode, hm, reduceCtorEq, if_false]
      rw [close_cons _ (show LexSt.stack _ = a :: ts from rfl)]
      exact ⟨⟨by simp [SimMode], h5⟩,
        allOk_append (allOk_append fo (okTok_stop r (Or.inl h2))) (okTok_stop a (Or.inl h4)),
        vinv_of_empty (by simp) (by simp),
        by simp [emitNormal, hs', closeText_row r h1 h2, closeText_array a h3]⟩
  | blank =>
    simp at h; subst h; rw [sn_blank]
    exact ⟨⟨by simp [SimMode], by simpa using hst⟩, allOk_append fo (by simp [okTok]),
      vinv_of_empty (by simp) (by simp), by simp [emitNormal]⟩
  | lt =>
    simp at h; subst h; rw [sn_lt]
    exact ⟨⟨by simp [SimMode], by simpa using hst⟩, fo, vinv_of_empty (by simp) (by simp), by simp [emitNormal]⟩
  | gt =>
    simp at h; subst h; rw [sn_gt]
    exact ⟨⟨by simp [SimMode], by simpa using hst⟩, fo, vinv_of_empty (by simp) (by simp), by simp [emitNormal]⟩
  | infx c hc =>
    have hc' := hc
    simp only [isPlainInfix, Bool.or_eq_true, decide_eq_true_eq] at hc'
    have hsc : sc' = ⟨.normal, d⟩ ∧ emitNormal st.stack c = [c] := by
      rcases hc' with (((((rfl | rfl) | rfl) | rfl) | rfl) | rfl) | rfl <;>
        exact ⟨by simpa using h.symm, by simp [emitNormal]⟩
    obtain ⟨rfl, he⟩ := hsc
    rw [sn_infix st c hc]
    exact ⟨⟨by simp [SimMode, hm], by simpa using hst⟩, allOk_append fo (by simp [okTok]),
      vinv_of_empty (by simp) (by simp [hm]), he⟩
  | pct =>
    simp at h; subst h; rw [sn_pct]
    exact ⟨⟨by simp [SimMode, hm], by simpa using hst⟩, allOk_append fo (by simp [okTok]),
      vinv_of_empty (by simp) (by simp [hm]), by simp [emitNormal]⟩
  | lp =>
    simp at h; subst h; rw [sn_lp]
    by_cases hv : st.value = []
    · simp only [hv, if_true]
      exact ⟨⟨by simp [SimMode, hm], by simpa using StackSim.paren _ rfl (Or.inr rfl) hst⟩,
        allOk_append hok (by simp [okTok]), vinv_of_empty (by simpa using hv) (by simp [hm]), by simp [emitNormal]⟩
    · simp only [hv, if_false]
      exact ⟨⟨by simp [SimMode, hm], by simpa using StackSim.paren _ rfl (Or.inl rfl) hst⟩,
        allOk_append hok (by simp [okTok]), vinv_of_empty (by simp) (by simp [hm]), by simp [emitNormal]⟩
  | comma =>
    by_cases hd : d = []
    · simp [hd] at h
    · simp [hd] at h; subst h
      rw [sn_comma]
      cases hs' : st.stack with
      | nil => rw [hs'] at hst; cases hst; exact absurd rfl hd
      | cons t rest =>
        simp only [flush_stack, hs']
        rw [hs'] at hst
        have hre := stackSim_retop hst
        exact ⟨⟨by simp [SimMode, hm], by simpa using hre⟩, allOk_append fo (okTok_comma t.ty),
          vinv_of_empty (by simp) (by simp [hm]), by simp [emitNormal]⟩
  | rp =>
    cases d with
    | nil => simp at h
    | cons b bs =>
    cases b with
    | brace => simp at h
    | paren =>
      obtain ⟨t, ts, hs', h1, h2, h3⟩ := stackSim_paren_inv hst
      simp at h; subst h
      rw [sn_rp, close_cons _ ((flush_stack st _).trans hs')]
      exact ⟨⟨by simp [SimMode, hm], h3⟩, allOk_append fo (okTok_stop t h2),
        vinv_of_empty (by simp) (by simp [hm]), by simp [emitNormal, hs', closeText_paren t h1 h2]⟩
  | other c hsp =>
    have hc := hsp
    simp only [isSpecial, isPlainInfix, Bool.or_eq_false_iff, decide_eq_false_iff_not] at hc
    simp [hc] at h; subst h
    rw [sn_other st c hsp]
    exact ⟨⟨by simp [SimMode, hm], by simpa using hst⟩, hok,
      ⟨by simp [hm], fun _ => notSign_append (isSpecial_false_ne_sign hsp).1 (isSpecial_false_ne_sign hsp).2⟩,
      by apply emitNormal_plain <;> simp_all⟩

theorem run_step {sc : Spec.Scan} {st : LexSt} (hr : Run sc st) (c : Char) (sc' : Spec.Scan)
    (h : Spec.scanStep sc c = some sc') :
    Run sc' (step st c) ∧ out (step st c) = out st ++ emit st c ∧ BlankErasure [c] (emit st c) := by
  obtain ⟨m, d⟩ := sc
  obtain ⟨⟨hm, hd⟩, hi, hok, hv⟩ := hr
  -- a step that leaves the stack alone: the scanner's mode follows from the tokenizer's
  have quiet : ∀ (st' : LexSt) (m' : Spec.SMode), st'.stack = st.stack → SimMode m' st' → sc' = ⟨m', d⟩ → Sim sc' st' :=
    fun st' m' h1 h2 h3 => by subst h3; exact ⟨h2, by rw [h1]; exact hd⟩
  have grow : ∀ (w : List Char) (m : Mode), st.value ≠ [] → w ≠ [] →
      VInv { st with value := st.value ++ w, mode := m } :=
    fun w m hne hw => ⟨fun _ => by simp [hne], fun _ => notSign_append_ne hne hw⟩
  have keep : emit st c = [c] → BlankErasure [c] (emit st c) := fun h => h ▸ .refl _
  have key : Sim sc' (step st c) ∧ AllOk (step st c).toks ∧ VInv (step st c) ∧
      BlankErasure [c] (emit st c) := by
    refine step_cases (P := fun s => Sim sc' s ∧ AllOk s.toks ∧ VInv s ∧
      BlankErasure [c] (emit st c)) st c ?_ ?_ ?_ ?_ ?_ ?_ ?_ ?_ ?_ ?_ ?_ ?_
    · rintro (hmode | ⟨hmode, rfl⟩)
      · simp [SimMode, hmode] at hm
      · simp only [SimMode, hmode] at hm; subst hm
        exact ⟨quiet st .normal rfl (by simp [SimMode, hmode]) (by simpa [Spec.scanStep, Spec.scanNormal] using h.symm),
          hok, hv, by simpa [emit, hmode] using BlankErasure.drop .nil⟩
    · intro hres
      rw [scanStep_resumes m d st c hm hres] at h
      obtain ⟨h1, h2, h3, h4⟩ := stepNormal_run (resume st) (resume_mode st) (by rw [resume_stack]; exact hd)
        (allOk_resume st hok) c h
      exact ⟨h1, h2, h3, keep (by rw [emit_resumes st c hres, ← resume_stack]; exact h4)⟩
    · intro a hmode hmc
      simp only [SimMode, hmode] at hm; subst hm
      refine ⟨quiet _ .normal rfl (by simp [SimMode]) ?_, allOk_append hok (by simp [okTok]),
        ⟨by simp, fun _ => hv.2 (by simp [hmode])⟩, keep (by simp [emit, hmode, hmc])⟩
      have hc : c = '=' ∨ c = '>' := by
        simp only [isMultiCmp, Bool.or_eq_true, Bool.and_eq_true, decide_eq_true_eq] at hmc
        rcases hmc with (h | h) | h
        · exact Or.inl h.2
        · exact Or.inl h.2
        · exact Or.inr h.2
      rcases hc with rfl | rfl <;> simpa [Spec.scanStep, Spec.scanNormal] using h.symm
    · rintro hmode rfl
      simp only [SimMode, hmode] at hm; subst hm
      exact ⟨quiet _ .strQ rfl (by simp [SimMode]) (by simpa [Spec.scanStep] using h.symm), hok,
        ⟨by simp, by simp⟩, keep (by simp [emit, hmode])⟩
    · intro hmode hc
      simp only [SimMode, hmode] at hm; subst hm
      exact ⟨quiet _ .str rfl (by simp [SimMode, hmode]) (by simpa [Spec.scanStep, hc] using h.symm), hok,
        ⟨by simp [hmode], by simp [hmode]⟩, keep (by simp [emit, hmode])⟩
    · rintro hmode rfl
      simp only [SimMode, hmode] at hm; subst hm
      exact ⟨quiet _ .str rfl (by simp [SimMode]) (by simpa [Spec.scanStep] using h.symm), hok,
        ⟨by simp, by simp⟩, keep (by simp [emit, hmode])⟩
    · rintro hmode rfl
      simp only [SimMode, hmode] at hm; subst hm
      exact ⟨quiet _ .pathQ rfl (by simp [SimMode]) (by simpa [Spec.scanStep] using h.symm), hok,
        ⟨fun _ => hv.1 (Or.inl hmode), fun _ => hv.2 (by simp [hmode])⟩, keep (by simp [emit, hmode])⟩
    · intro hmode hc
      simp only [SimMode, hmode] at hm; subst hm
      exact ⟨quiet _ .path rfl (by simp [SimMode, hmode]) (by simpa [Spec.scanStep, hc] using h.symm), hok,
        grow [c] _ (hv.1 (Or.inl hmode)) (by simp), keep (by simp [emit, hmode])⟩
    · rintro hmode rfl
      simp only [SimMode, hmode] at hm; subst hm
      exact ⟨quiet _ .path rfl (by simp [SimMode]) (by simpa [Spec.scanStep] using h.symm), hok,
        grow _ _ (hv.1 (Or.inr (Or.inl hmode))) (by simp), keep (by simp [emit, hmode])⟩
    · intro hmode
      simp only [SimMode, hmode] at hm; subst hm
      refine ⟨quiet _ (if c = ']' then .normal else .bracket) rfl ?_ (by simpa [Spec.scanStep] using h.symm), hok,
        grow [c] _ (hv.1 (Or.inr (Or.inr (Or.inl hmode)))) (by simp), keep (by simp [emit, hmode])⟩
      by_cases hc : c = ']' <;> simp [SimMode, hc]
    · intro hmode he
      simp only [SimMode, hmode] at hm; subst hm
      exact ⟨quiet _ .normal rfl (by simp [SimMode]) (by simpa [Spec.scanStep, ← errors_eq, he] using h.symm),
        allOk_append hok (by simp [okTok]), vinv_of_empty rfl (by simp), keep (by simp [emit, hmode])⟩
    · intro hmode he
      simp only [SimMode, hmode] at hm; subst hm
      exact ⟨quiet _ (.err (st.value ++ [c])) rfl (by simp [SimMode, hmode])
          (by simpa [Spec.scanStep, ← errors_eq, he] using h.symm), hok,
        grow [c] _ (hv.1 (Or.inr (Or.inr (Or.inr hmode)))) (by simp), keep (by simp [emit, hmode])⟩
  obtain ⟨ho, hi'⟩ := step_out st c hi (sim_not_dead key.1)
  exact ⟨⟨key.1, hi', key.2.1, key.2.2.1⟩, ho, key.2.2.2⟩

theorem run_scan (s : List Char) {sc : Spec.Scan} {st : LexSt} (h : Run sc st) (r : Spec.Scan)
    (hs : Spec.scanFrom sc s = some r) :
    Run r (s.foldl step st) ∧ ∃ e, out (s.foldl step st) = out st ++ e ∧ BlankErasure s e := by
  induction s generalizing sc st with
  | nil => simp [Spec.scanFrom] at hs; subst hs; exact ⟨h, [], by simp, .nil⟩
  | cons c rest ih =>
    simp only [Spec.scanFrom] at hs
    cases hstep : Spec.scanStep sc c with
    | none => simp [hstep] at hs
    | some sc' =>
      simp only [hstep] at hs
      obtain ⟨h', ho, hem⟩ := run_step h c sc' hstep
      obtain ⟨hr, e, he, hb⟩ := ih h' hs
      exact ⟨hr, emit st c ++ e, by rw [List.foldl_cons, he, ho, List.append_assoc], hem.append hb⟩

theorem clean_lex1 (s : List Char) (h : Spec.Clean s = true) :
    ∃ toks lv, lex1 s = .ok (toks, lv) ∧ AllOk toks ∧ NotSign lv ∧ BlankErasure s (render1 toks) := by
  unfold Spec.Clean Spec.scan at h
  cases hsc : Spec.scanFrom ⟨.normal, []⟩ s with
  | none => simp [hsc] at h
  | some res =>
    simp only [hsc, Bool.and_eq_true] at h
    obtain ⟨hr, e, he, hb⟩ : Run res (lexRun s) ∧ ∃ e, out (lexRun s) = out {} ++ e ∧ BlankErasure s e :=
      run_scan s run_init res hsc
    have hclosed : (lexRun s).mode ≠ .str := fun hm => by
      simp [simMode_str hr.sim.1 hm, Spec.closedMode] at h
    refine ⟨_, _, lex1_eq s (sim_not_dead hr.sim), finish_allOk hr.ok, finish_notSign hr.val hclosed, ?_⟩
    rw [finish_render _ hr.inv hclosed]
    rwa [he]

end Umya.Formula
