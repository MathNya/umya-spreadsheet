/-
  C11: the first loop of the writer as a WRITE LOG.  `WM.add` is "first writer wins", so a run of `add`s is the list of
  its (name, content) requests looked up by first match: `addAll_lookup`.  The first loop's requests do not depend on
  the state (`writes1`), so `loop1 false w p ss = addAll w (writes1 p ss)` and every question about the package after
  the first loop is a question about membership in a list that is a function of the workbook.  Here: every position
  gets exactly its sheet part (`writes1_sheets`).
-/
import Umya.Lemmas.Lazy
namespace Umya.Lazy

variable {C : Type}

def addAll (w : WM C) (l : List (PName × Content C)) : WM C := l.foldl (fun w e => w.add e.1 e.2) w

theorem addAll_cons (w : WM C) (e : PName × Content C) (l : List (PName × Content C)) :
    addAll w (e :: l) = addAll (w.add e.1 e.2) l := rfl

theorem addAll_append (w : WM C) (l l' : List (PName × Content C)) : addAll w (l ++ l') = addAll (addAll w l) l' :=
  List.foldl_append ..

theorem addAll_lookup (l : List (PName × Content C)) (w : WM C) (n : PName) :
    (addAll w l).lookup n = lookupPart (w.parts ++ l) n := by
  induction l generalizing w with
  | nil => simp [addAll, WM.lookup]
  | cons e l ih =>
    rw [addAll_cons, ih, lookupPart_append, add_lookup, ← lookupPart_append, List.append_assoc]; rfl

theorem addAll_has (l : List (PName × Content C)) (w : WM C) (n : PName) :
    (addAll w l).has n = hasPart (w.parts ++ l) n := by
  rw [WM.has, hasPart_eq_isSome, hasPart_eq_isSome]; exact congrArg _ (addAll_lookup l w n)

theorem addAll_parts_sub (l : List (PName × Content C)) (w : WM C) : ∀ e ∈ (addAll w l).parts, e ∈ w.parts ++ l := by
  induction l generalizing w with
  | nil => exact fun e h => List.mem_append_left _ h
  | cons x l ih =>
    intro e h
    rcases List.mem_append.mp (ih (w.add x.1 x.2) e h) with h1 | h1
    · exact (mem_add h1).elim (List.mem_append_left _) fun e' => List.mem_append_right _ (e' ▸ List.mem_cons_self ..)
    · exact List.mem_append_right _ (List.mem_cons_of_mem _ h1)

theorem addAll_ext {P : PName → Prop} (l : List (PName × Content C)) (w : WM C) (h : ∀ e ∈ l, P e.1) : Ext P w (addAll w l) :=
  List.foldlRecOn l _ (Ext.refl w) fun _ hb e he => Ext.add e.1 e.2 (h e he) hb

/-- `Ext` with content: `b` arises from `a` by `add`s of (name, content) pairs that satisfy `P` -/
inductive ExtC (P : PName → Content C → Prop) : WM C → WM C → Prop where
  | refl (w : WM C) : ExtC P w w
  | add {a b : WM C} (n : PName) (c : Content C) : P n c → ExtC P a b → ExtC P a (b.add n c)

theorem ExtC.single {P : PName → Content C → Prop} (w : WM C) (n : PName) (c : Content C) (h : P n c) : ExtC P w (w.add n c) :=
  ExtC.add n c h (ExtC.refl w)

/-- the name a relationships part of the closure is written under: the `if` of `writeRaw` (`Model/Lazy.lean`) -/
def relsTarget (p : Nat) (r : RawSheet) (q : RawRels) : PName := if q.name = .rels r.file then .rels (.sheet p) else q.name

/-- `RawRelationships::write_to` as requests: unless the list is empty, the part (under `tgt`) with its recorded
    targets; then each non-empty target under its original name with its original bytes -/
def relsWrites (q : RawRels) (tgt : PName) : List (PName × Content C) :=
  (if q.rels.isEmpty then [] else [(tgt, .relsOf q.targets)]) ++
    q.rels.filterMap (fun r => if r.empty then none else some (r.file, .bytes r.cid))

/-- `RawWorksheet::write` after the sheet part, as requests: each relationships part of the closure — the sheet's own
    under `_rels/sheet{p}.xml.rels`, any other under the name it was read from -/
def closureWrites (p : Nat) (r : RawSheet) : List (PName × Content C) :=
  r.closure.flatMap (fun q => relsWrites q (relsTarget p r q))

/-- the first loop of `make_buffer` for the sheet `s` at position `p`: `sheet{p}.xml`, serialised from memory for a
    deserialized sheet, and nothing else; the original bytes for a raw one, then its closure -/
def stepWrites (p : Nat) (s : Sheet C) : List (PName × Content C) :=
  match s.body with
  | .loaded l => [(.sheet p, .ser l.content)]
  | .raw r => (.sheet p, .bytes r.cid) :: closureWrites p r

def writes1 : Nat → List (Sheet C) → List (PName × Content C)
  | _, [] => []
  | p, s :: ss => stepWrites p s ++ writes1 (p + 1) ss

theorem writeRels_eq (w : WM C) (q : RawRels) (tgt : PName) : writeRels w q tgt = addAll w (relsWrites q tgt) := by
  unfold writeRels relsWrites
  split
  · rename_i h; rw [List.isEmpty_iff.mp h]; rfl
  · rw [List.singleton_append, addAll_cons]
    generalize w.add tgt (.relsOf q.targets) = w'
    induction q.rels generalizing w' with
    | nil => rfl
    | cons r rs ih =>
      rw [List.foldl_cons, ih]
      cases he : r.empty <;> simp [he, addAll_cons]

theorem writeRaw_eq (w : WM C) (p : Nat) (r : RawSheet) :
    writeRaw w p r = addAll w ((.sheet p, .bytes r.cid) :: closureWrites p r) := by
  unfold writeRaw closureWrites
  simp only [writeRels_eq]
  rw [addAll_cons]
  exact List.foldl_flatMap.symm

theorem sheetStep_eq (w : WM C) (p : Nat) (s : Sheet C) : sheetStep false w p s = addAll w (stepWrites p s) := by
  unfold sheetStep stepWrites
  cases s.body with
  | loaded l => rfl
  | raw r => simp only [Bool.false_eq_true, if_false]; exact writeRaw_eq w p r

theorem loop1_eq (ss : List (Sheet C)) (p : Nat) (w : WM C) : loop1 false w p ss = addAll w (writes1 p ss) := by
  induction ss generalizing p w with
  | nil => rfl
  | cons s ss ih => rw [loop1, ih, sheetStep_eq, writes1, addAll_append]

theorem loop1_ext (ss : List (Sheet C)) (p : Nat) (w : WM C) : Ext (fun _ => True) w (loop1 false w p ss) := by
  rw [loop1_eq]; exact addAll_ext _ _ fun _ _ => trivial

theorem loop1_lookup (ss : List (Sheet C)) (p : Nat) (n : PName) :
    (loop1 false ({} : WM C) p ss).lookup n = lookupPart (writes1 p ss) n := by
  rw [loop1_eq, addAll_lookup]; rfl

theorem loop1_has (ss : List (Sheet C)) (p : Nat) (n : PName) :
    (loop1 false ({} : WM C) p ss).has n = hasPart (writes1 p ss) n := by
  rw [loop1_eq, addAll_has]; rfl

theorem mem_writes1 {e : PName × Content C} : ∀ {p : Nat} {ss : List (Sheet C)},
    e ∈ writes1 p ss ↔ ∃ j s, ss[j]? = some s ∧ e ∈ stepWrites (p + j) s
  | _, [] => by simp [writes1]
  | p, s :: ss => by
    rw [writes1, List.mem_append, mem_writes1 (p := p + 1) (ss := ss)]
    constructor
    · rintro (h | ⟨j, s', hj, h⟩)
      · exact ⟨0, s, rfl, h⟩
      · exact ⟨j + 1, s', hj, by rwa [show p + (j + 1) = p + 1 + j by omega]⟩
    · rintro ⟨j, s', hj, h⟩
      cases j with
      | zero => left; simp at hj; subst hj; exact h
      | succ j => right; exact ⟨j, s', hj, by rwa [show p + 1 + j = p + (j + 1) by omega]⟩

theorem mem_closureWrites {p : Nat} {r : RawSheet} {n : PName} {c : Content C} :
    (n, c) ∈ closureWrites p r ↔
      (∃ q ∈ r.closure, q.rels.isEmpty = false ∧ n = relsTarget p r q ∧ c = .relsOf q.targets) ∨
      (∃ q ∈ r.closure, ∃ r' ∈ q.rels, r'.empty = false ∧ n = r'.file ∧ c = .bytes r'.cid) := by
  simp only [closureWrites, relsWrites, List.mem_flatMap, List.mem_append, List.mem_filterMap]
  constructor
  · rintro ⟨q, hq, h | ⟨r', hr', h⟩⟩
    · split at h
      · cases h
      · rename_i hne
        obtain ⟨rfl, rfl⟩ := Prod.mk.inj (List.mem_singleton.mp h)
        exact Or.inl ⟨q, hq, by simpa using hne, rfl, rfl⟩
    · split at h
      · cases h
      · rename_i he
        cases h
        exact Or.inr ⟨q, hq, r', hr', by simpa using he, rfl, rfl⟩
  · rintro (⟨q, hq, hne, rfl, rfl⟩ | ⟨q, hq, r', hr', he, rfl, rfl⟩)
    · exact ⟨q, hq, Or.inl (by simp [hne])⟩
    · exact ⟨q, hq, Or.inr ⟨r', hr', by simp [he]⟩⟩

/-- what `sheet{p}.xml` holds for the sheet `s` at position `p` -/
def expectedSheet (s : Sheet C) : Content C :=
  match s.body with
  | .loaded l => .ser l.content
  | .raw r => .bytes r.cid

theorem mem_stepWrites {p : Nat} {s : Sheet C} {e : PName × Content C} :
    e ∈ stepWrites p s ↔ e = (.sheet p, expectedSheet s) ∨ ∃ r, s.body = .raw r ∧ e ∈ closureWrites p r := by
  unfold stepWrites expectedSheet
  cases s.body <;> simp

theorem raw_mem_writes1 {ss : List (Sheet C)} {p j : Nat} {s : Sheet C} {r : RawSheet} (hj : ss[j]? = some s) (hb : s.body = .raw r)
    {e : PName × Content C} (h : e ∈ closureWrites (p + j) r) : e ∈ writes1 p ss :=
  mem_writes1.mpr ⟨j, s, hj, mem_stepWrites.mpr (Or.inr ⟨r, hb, h⟩)⟩

theorem sheet_mem_writes1 {ss : List (Sheet C)} {p j : Nat} {s : Sheet C} (hj : ss[j]? = some s) :
    (.sheet (p + j), expectedSheet s) ∈ writes1 p ss :=
  mem_writes1.mpr ⟨j, s, hj, mem_stepWrites.mpr (Or.inl rfl)⟩

/-- names of the closure of a raw sheet: its relationship parts and their targets -/
def RawSheet.names (r : RawSheet) : List PName := r.closure.flatMap (fun q => q.name :: q.rels.map (·.file))

/-- no part of a raw sheet's closure is named like a sheet part: copied in the first loop, it would take the place of a
    position's `sheet{p}.xml`.  Consistency with the package read gives it (`rawsOk_of_consistent`, `LazySaveRaw`). -/
def RawOk (r : RawSheet) : Prop := ∀ n ∈ r.names, NotSheet n

def RawsOk (ss : List (Sheet C)) : Prop := ∀ s ∈ ss, ∀ r, s.body = .raw r → RawOk r

theorem mem_writes1_sheet {ss : List (Sheet C)} (hok : RawsOk ss) {p k : Nat} {c : Content C} (h : (.sheet k, c) ∈ writes1 p ss) :
    ∃ j s, ss[j]? = some s ∧ k = p + j ∧ c = expectedSheet s := by
  obtain ⟨j, s, hj, h⟩ := mem_writes1.mp h
  refine ⟨j, s, hj, ?_⟩
  rcases mem_stepWrites.mp h with h | ⟨r, hb, h⟩
  · exact ⟨PName.sheet.inj (Prod.mk.inj h).1, (Prod.mk.inj h).2⟩
  · have hn := hok s (List.mem_of_getElem? hj) r hb
    rcases mem_closureWrites.mp h with ⟨q, hq, _, e, _⟩ | ⟨q, hq, r', hr', _, e, _⟩
    · unfold relsTarget at e
      split at e
      · cases e
      · exact absurd e.symm (hn _ (List.mem_flatMap.mpr ⟨q, hq, List.mem_cons_self ..⟩) k)
    · exact absurd e.symm (hn _ (List.mem_flatMap.mpr ⟨q, hq, List.mem_cons_of_mem _ (List.mem_map.mpr ⟨r', hr', rfl⟩)⟩) k)

theorem writes1_sheets (ss : List (Sheet C)) (p : Nat) (hok : RawsOk ss) :
    (∀ j s, ss[j]? = some s → lookupPart (writes1 p ss) (.sheet (p + j)) = some (expectedSheet s)) ∧
    (∀ k, p + ss.length ≤ k → hasPart (writes1 p ss) (.sheet k) = false) := by
  refine ⟨fun j s hj => lookupPart_of_unique (sheet_mem_writes1 hj) fun c' h' => ?_,
    fun k hk => eq_false_of_ne_true fun hh => ?_⟩
  · obtain ⟨j', s', hj', e, hc'⟩ := mem_writes1_sheet hok h'
    obtain rfl : j' = j := by omega
    rw [hj] at hj'; cases hj'; exact hc'
  · obtain ⟨c, h'⟩ := (hasPart_iff _ _).mp hh
    obtain ⟨j, s, hj, e, _⟩ := mem_writes1_sheet hok h'
    have := (List.getElem?_eq_some_iff.mp hj).1
    omega

end Umya.Lazy
