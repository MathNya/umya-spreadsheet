/-
  (T) for the data-validation / conditional-formatting enums: the string tables `tools/extract_tables.py`
  regenerates from the Rust source on every run (`Umya/Model/Gen/Tables.lean`: `dv_type_table`, `dv_operator_table`,
  `cf_type_table`, `cf_operator_table`, `time_period_table`, `cfvo_type_table`; each the `get_value_string` arms and the
  `from_str` arms in source order) are the hand model's tables (`Umya/Model/AnnotDv.lean`, `AnnotCf.lean`).

  For each enum: the variants and their spellings, in arm order, are the model's constructors and `toStr` texts; the
  `from_str` arms are exactly the `get_value_string` arms turned round (so the source's two tables are inverse to each
  other); and the model's `fromStr` returns, for the text of every `from_str` arm, the constructor of that arm.
  A changed spelling, a dropped or swapped arm in either direction breaks these proofs.
-/
import Umya.Model.Gen.Tables
import Umya.Lemmas.AnnotCf
namespace Umya.Gen
open Umya.AnnotDv Umya.AnnotCf

/-- what "the generated pair of tables is the model's enum" means -/
def EnumMatches {α} (tbl : List (String × String) × List (String × String)) (names : List String) (all : List α)
    (toStr : α → List Char) (fromStr : List Char → Option α) : Prop :=
  tbl.1.map (fun p => p.1.toList) = names.map String.toList ∧
  tbl.1.map (fun p => p.2.toList) = all.map toStr ∧
  tbl.2.map (fun p => (p.1.toList, p.2.toList)) = tbl.1.map (fun p => (p.2.toList, p.1.toList)) ∧
  tbl.2.map (fun p => fromStr p.1.toList) = all.map some

/-- The generated pair is compared as strings; the last clause of `EnumMatches` follows from the model's own table
    lemma (`fromStr` inverts `toStr`). -/
theorem EnumMatches.of_roundtrip {α} {tbl : List (String × String) × List (String × String)} {names : List String}
    {all : List α} {toStr : α → List Char} {fromStr : List Char → Option α}
    (h1 : tbl.1.map (·.1) = names) (h2 : tbl.1.map (fun p => p.2.toList) = all.map toStr)
    (h3 : tbl.2 = tbl.1.map (fun p => (p.2, p.1))) (hrt : ∀ v, fromStr (toStr v) = some v) :
    EnumMatches tbl names all toStr fromStr := by
  obtain ⟨t1, t2⟩ := tbl
  dsimp only at h1 h2 h3
  subst h1 h3
  refine ⟨by simp only [List.map_map, Function.comp_def], h2, by simp only [List.map_map, Function.comp_def], ?_⟩
  simpa only [List.map_map, Function.comp_def, hrt] using congrArg (List.map fromStr) h2

theorem gen_dv_type : EnumMatches dv_type_table
    ["Custom", "Date", "Decimal", "List", "None", "TextLength", "Time", "Whole"] DvType.all DvType.toStr DvType.fromStr :=
  .of_roundtrip rfl rfl rfl dvType_table

theorem gen_dv_operator : EnumMatches dv_operator_table
    ["Between", "Equal", "GreaterThan", "GreaterThanOrEqual", "LessThan", "LessThanOrEqual", "NotBetween", "NotEqual"]
    DvOp.all DvOp.toStr DvOp.fromStr :=
  .of_roundtrip rfl rfl rfl dvOp_table

theorem gen_cf_type : EnumMatches cf_type_table
    ["AboveAverage", "BeginsWith", "CellIs", "ColorScale", "ContainsBlanks", "ContainsErrors", "ContainsText", "DataBar",
     "DuplicateValues", "EndsWith", "Expression", "IconSet", "NotContainsBlanks", "NotContainsErrors", "NotContainsText",
     "TimePeriod", "Top10", "UniqueValues"] CfType.all CfType.toStr CfType.fromStr :=
  .of_roundtrip rfl rfl rfl cfType_table

theorem gen_cf_operator : EnumMatches cf_operator_table
    ["BeginsWith", "Between", "ContainsText", "EndsWith", "Equal", "GreaterThan", "GreaterThanOrEqual", "LessThan",
     "LessThanOrEqual", "NotBetween", "NotContains", "NotEqual"] CfOp.all CfOp.toStr CfOp.fromStr :=
  .of_roundtrip rfl rfl rfl cfOp_table

theorem gen_time_period : EnumMatches time_period_table
    ["Last7Days", "LastMonth", "LastWeek", "NextMonth", "NextWeek", "ThisMonth", "ThisWeek", "Today", "Tomorrow", "Yesterday"]
    TimePeriod.all TimePeriod.toStr TimePeriod.fromStr :=
  .of_roundtrip rfl rfl rfl timePeriod_table

theorem gen_cfvo_type : EnumMatches cfvo_type_table
    ["Formula", "Max", "Min", "Number", "Percent", "Percentile"] CfvoType.all CfvoType.toStr CfvoType.fromStr :=
  .of_roundtrip rfl rfl rfl cfvoType_table

end Umya.Gen
