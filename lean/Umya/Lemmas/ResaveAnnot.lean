/-
  Tab colour, selection, sheet view, the views of a sheet: one save + load as a function (`tabRs`, `selectionRs`, `viewRs`, `viewsRs`), which is
  `some ∘ norm` on well-formed values (`…Rs_eq`); and what a second save + load needs on top: the well-formedness predicates are closed
  under the normal forms, `normTab` is idempotent.  Last, `Resave.ofRes`: the readers that can panic return `Coord.Res`, and a codec of
  `Thm/C04Fix.lean` wants the same `Option` form of them.
-/
import Umya.Lemmas.AnnotProt
import Umya.Lemmas.AnnotView
import Umya.Model.Coord
namespace Umya.AnnotProt
open Umya.AnnotCodec

/-- the hypotheses of `C06_tab_color_codec`, for an optional tab colour -/
def TabWF {Z : NumZ} (t : Option (Color Z)) : Prop :=
  ∀ c, t = some c → (∀ n, c.theme = some n → n < 4294967296) ∧ (∀ n, c.indexed = some n → n < 4294967296)

theorem Color.norm_isEmpty {Z : NumZ} (c : Color Z) : c.norm.isEmpty = c.isEmpty := by
  obtain ⟨ix, th, ar, ti⟩ := c
  cases th <;> cases ix <;> simp [Color.norm, Color.isEmpty]

theorem normTab_idem {Z : NumZ} (t : Option (Color Z)) : normTab (normTab t) = normTab t := by
  cases t with
  | none => rfl
  | some c =>
    cases he : c.isEmpty with
    | true => simp [normTab, he]
    | false => simp [normTab, he, Color.norm_isEmpty, Color.norm_idem]

theorem normTab_WF {Z : NumZ} (t : Option (Color Z)) (h : TabWF t) : TabWF (normTab t) := by
  cases t with
  | none => intro c hc; simp [normTab] at hc
  | some c =>
    obtain ⟨h1, h2⟩ := h c rfl
    intro d hd
    cases he : c.isEmpty with
    | true => simp [normTab, he] at hd
    | false =>
      simp only [normTab, he, Bool.false_eq_true, if_false, Option.some.injEq] at hd
      subst hd
      refine ⟨fun n hn => h1 n hn, fun n hn => ?_⟩
      simp only [Color.norm] at hn
      split at hn
      · cases hn
      · exact h2 n hn

/-- one save + load of the `<sheetPr>` tab colour -/
def tabRs {Z : NumZ} (t : Option (Color Z)) : Option (Option (Color Z)) := readSheetPr (writeSheetPr [] t)

theorem tabRs_eq {Z : NumZ} (hs : Z.F.Sound) (t : Option (Color Z)) (h : TabWF t) : tabRs t = some (normTab t) := by
  cases t with
  | none => rfl
  | some c => exact Color.read_writeTab hs c (h c rfl).1 (h c rfl).2

end Umya.AnnotProt

namespace Umya.AnnotView
open Umya.AnnotCodec

theorem SheetView.norm_WF {Z : NumZ} (v : SheetView Z) (h : v.WF) : v.norm.WF := by
  obtain ⟨hp, hsel, h1, h2, h3, h4, h5⟩ := h
  refine ⟨?_, hsel, ?_, h2, h3, h4, h5⟩
  · intro p hp'
    simp only [SheetView.norm, Option.map_eq_some_iff] at hp'
    obtain ⟨q, hq, rfl⟩ := hp'
    exact hp q hq
  · intro n hn
    simp only [SheetView.norm, Option.some.injEq] at hn
    subst hn
    cases hw : v.workbookViewId with
    | none => simp
    | some w => simpa using h1 w hw

/-- one save + load of a selection; the two below likewise for one sheet view, all views of a sheet -/
def selectionRs (s : Selection) : Option Selection := s.write.bind Selection.read
def viewRs {Z : NumZ} (v : SheetView Z) : Option (SheetView Z) := v.write.bind SheetView.read
def viewsRs {Z : NumZ} (vs : List (SheetView Z)) : Option (List (SheetView Z)) :=
  (writeViews vs).bind fun ns =>
    match ns with
    | [] => some []
    | n :: _ => readViews n

theorem selectionRs_eq (s : Selection) (h : s.WF) : selectionRs s = some s :=
  Option.bind_eq_some_iff.2 (Selection.read_write s h)

theorem viewRs_eq {Z : NumZ} (hs : Z.F.Sound) (v : SheetView Z) (h : v.WF) : viewRs v = some v.norm := by
  obtain ⟨n, h1, _, _, h2⟩ := SheetView.read_write hs v h
  exact Option.bind_eq_some_iff.2 ⟨n, h1, h2⟩

theorem viewsRs_eq {Z : NumZ} (hs : Z.F.Sound) (vs : List (SheetView Z)) (h : ∀ v ∈ vs, v.WF) :
    viewsRs vs = some (vs.map SheetView.norm) := by
  cases vs with
  | nil => rfl
  | cons v r =>
    obtain ⟨n, h1, h2⟩ := writeViews_readViews hs (v :: r) (by simp) h
    simp [viewsRs, h1, h2]

end Umya.AnnotView

namespace Umya.Resave
/-- a model result (`.panic` = a Rust panic) as an `Option` -/
def ofRes {α : Type} : Umya.Coord.Res α → Option α
  | .ok a => some a
  | .panic => none

@[simp] theorem ofRes_ok {α : Type} (a : α) : ofRes (Umya.Coord.Res.ok a) = some a := rfl
end Umya.Resave
