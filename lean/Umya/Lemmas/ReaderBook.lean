/-
  Above the sheet data, element by element: a relationships part, one `<hyperlink>`, one `<definedName>`
  (`Umya.Model.ReaderSheet` against `Spec.Sml.decodeSheet` / `decode`).
  The `spec…` functions are the decoder's own expressions, taken out of `relsOf` / `decodeSheet` / `decode`
  (`relsOf_eq` here, `C03_hyperlinks_is_decodeSheet` in `Umya/Thm/C03Sheet.lean` show that they are).
-/
import Umya.Model.ReaderSheet
import Umya.Lemmas.Reader
import Umya.Lemmas.ListRel
namespace Umya.Reader.Lemmas
open Umya.Reader Umya.Spec.Xml Umya.Spec.Sml

/-- the decoder's relationship list of a relationships part with root `root` (`relsOf`) -/
def specRels (root : Node) : List Rel :=
  (root.kids "Relationship").map fun r =>
    { id := str ((r.attr? "Id".toList).getD []), type := str ((r.attr? "Type".toList).getD []),
      target := str ((r.attr? "Target".toList).getD []),
      external := (r.attr? "TargetMode".toList) = some "External".toList }

theorem relsOf_eq (p : Package) (part : String) (root : Node)
    (h : (p.part? (relsNameOf part)).bind (·.xml) = some root) : relsOf p part = specRels root := by
  unfold relsOf
  simp only [h, specRels]

/-- model list and decoder list name the same ids and targets, in the same order -/
def RelsAgree (rs : List RelR) (srels : List Rel) : Prop :=
  srels.map (fun r => (r.id, r.target)) = rs.map (fun r => (str r.id, str r.target))

/-- every `<Relationship>` carries `Id`, `Type`, `Target` (the library unwraps all three) -/
def validRels (root : Node) : Bool :=
  (root.kids "Relationship").all fun r =>
    (r.attr? "Id".toList).isSome && (r.attr? "Type".toList).isSome && (r.attr? "Target".toList).isSome

theorem readRels_spec (root : Node) (h : validRels root = true) :
    ∃ rs, readRels root = some rs ∧ RelsAgree rs (specRels root) := by
  refine ⟨(root.kids "Relationship").map fun r =>
    ⟨(r.attr? "Id".toList).getD [], (r.attr? "Type".toList).getD [], (r.attr? "Target".toList).getD []⟩, ?_, ?_⟩
  · unfold readRels
    apply mapM_some
    intro r hr
    have := List.all_eq_true.mp h r hr
    simp only [Bool.and_eq_true, Option.isSome_iff_exists] at this
    obtain ⟨⟨⟨i, hi⟩, ⟨t, ht⟩⟩, ⟨g, hg⟩⟩ := this
    simp only [hi, ht, hg, Option.getD_some]
  · simp only [RelsAgree, specRels, List.map_map]
    rfl

/-- the library's loop visits every relationship with the id, in document order -/
theorem filter_rel (rs : List RelR) (srels : List Rel) (rid : Text) (h : RelsAgree rs srels) :
    (srels.filter (fun r => r.id = str rid)).map (·.target) = (rs.filter (·.id = rid)).map (fun r => str r.target) := by
  have := congrArg (fun l => (l.filter (fun q => q.1 = str rid)).map (·.2)) h
  have hp : ∀ r : RelR, decide (str r.id = str rid) = decide (r.id = rid) := fun r =>
    decide_eq_decide.mpr String.ofList_inj
  simpa only [List.filter_map, List.map_map, Function.comp_def, hp] using this

theorem find_rel (rs : List RelR) (srels : List Rel) (rid : Text) (h : RelsAgree rs srels) :
    (srels.find? (fun r => r.id = str rid)).map (·.target) = (rs.find? (·.id = rid)).map (fun r => str r.target) := by
  have := congrArg List.head? (filter_rel rs srels rid h)
  rwa [List.head?_map, List.head?_map, List.head?_filter, List.head?_filter] at this

/-- the decoder's reading of one `<hyperlink>`: the link component of `decodeSheet`'s `linksE` -/
def specLink (rels : List Rel) (h : Node) : Link :=
  match h.attr? "r:id".toList with
  | some rid =>
    (match rels.find? (fun (r : Rel) => r.id = str rid) with
     | some r => { ref := (h.attr? "ref".toList).getD [], external := true, target := r.target.toList,
                   location := h.attr? "location".toList, tooltip := h.attr? "tooltip".toList,
                   display := h.attr? "display".toList }
     | none => { ref := (h.attr? "ref".toList).getD [], external := true, target := [],
                 tooltip := h.attr? "tooltip".toList, display := h.attr? "display".toList })
  | none => { ref := (h.attr? "ref".toList).getD [], external := false, target := (h.attr? "location".toList).getD [],
              tooltip := h.attr? "tooltip".toList, display := h.attr? "display".toList }

/-- what is compared of a link: (anchor, external?, target / location text, tooltip) -/
structure LinkView where
  ref : Text
  external : Bool
  target : Text
  tooltip : Text
  deriving DecidableEq, Repr

/-- `LinkR.location` is the library's flag "internal link" (`url` then holds the location) -/
def linkViewR (l : LinkR) : LinkView := ⟨l.ref, !l.location, l.url, l.tooltip⟩
/-- an absent `tooltip` is compared as the empty one: the library holds a plain string -/
def linkViewS (l : Link) : LinkView := ⟨l.ref, l.external, l.target, l.tooltip.getD []⟩

/-- the hyperlinks whose meaning the library can hold: an external link (`r:id`) whose relationship exists and
    which has NO `location` (known finding C03-hyperlink-location-with-rid: `Hyperlink` holds one string and a
    flag; `C03_hyperlink_location_with_rid_fails`), or an internal link (`location` only).  A `<hyperlink>` with
    neither is schema-valid but means nothing; it is outside. -/
def validHyperlinks (rs : Option (List RelR)) (hs : List Node) : Bool :=
  hs.all fun h =>
    match h.attr? "r:id".toList with
    | some rid => (h.attr? "location".toList).isNone &&
        (match rs with | some l => l.any (fun r => r.id = rid) | none => false)
    | none => (h.attr? "location".toList).isSome

theorem hyperlink_agrees (rs : Option (List RelR)) (srels : List Rel) (hag : RelsAgree (rs.getD []) srels) (hs : List Node)
    (hv : validHyperlinks rs hs = true) (h : Node) (hh : h ∈ hs) :
    ∃ l, readHyperlink rs h = some l ∧ linkViewR l = linkViewS (specLink srels h) := by
  replace hv := List.all_eq_true.mp hv h hh
  unfold readHyperlink specLink
  cases hrid : h.attr? "r:id".toList with
  | none =>
    rw [hrid] at hv
    simp only [Option.isSome_iff_exists] at hv
    obtain ⟨loc, hloc⟩ := hv
    simp only [hloc, Option.getD_some]
    exact ⟨_, rfl, by simp [linkViewR, linkViewS]⟩
  | some rid =>
    rw [hrid] at hv
    simp only [Bool.and_eq_true, Option.isNone_iff_eq_none] at hv
    obtain ⟨hloc, hany⟩ := hv
    cases rs with
    | none => simp at hany
    | some l =>
      simp only [List.any_eq_true, decide_eq_true_eq] at hany
      obtain ⟨r0, hr0, hid0⟩ := hany
      rcases map_eq_map_cases (find_rel l srels rid hag) with ⟨_, hf⟩ | ⟨s, r, hs, hf, e⟩
      · have := List.find?_eq_none.mp hf r0 hr0
        simp [hid0] at this
      · simp only [hloc, hf, hs, Option.map_some]
        exact ⟨_, rfl, by simp [linkViewR, linkViewS, e, str]⟩

/-- the decoder's reading of one `<definedName>` (`decode`) -/
def specName (d : Node) : NameV :=
  NameV.mk ((d.attr? "name".toList).getD []) ((d.attr? "localSheetId".toList).bind natOf) d.ownText

/-- `localSheetId` an unsigned decimal that fits `u32`; the content character data only, without blanks at its
    ends (the workbook part is read with `trim_text(true)`) -/
def validDefinedName (d : Node) : Bool :=
  (match d.attr? "localSheetId".toList with | some v => uintOk u32Bound v | none => true) && plainText true d

theorem definedName_agrees (d : Node) (h : validDefinedName d = true) :
    readDefinedName d = some ⟨(specName d).name, (specName d).scope, (specName d).text⟩ := by
  simp only [validDefinedName, Bool.and_eq_true] at h
  unfold readDefinedName specName
  rw [lastText_plain true d h.2]
  cases hl : d.attr? "localSheetId".toList with
  | none => rfl
  | some v =>
    have h1 := h.1
    rw [hl] at h1
    obtain ⟨n, e1, e2⟩ := uintOk_parse h1
    have e2' : parseU32 v = some n := e2
    simp only [e2', Option.map_some, Option.bind_some, e1]

end Umya.Reader.Lemmas
