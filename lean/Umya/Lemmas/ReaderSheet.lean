/-
  The model of the reader's `<sheetData>` loop (`Umya.Reader.readRows`) against the decoder's cell list
  (`Spec.Sml.decodeSheet`: `rowNumbers`, `fillRefs`, `expandShared`).

  The decoder's shared-formula expansion is hard-wired to the spec's translator
  `Spec.SharedF.translateText`; `expandSharedT` is the same walk with the translator as a parameter
  (`expandSharedT_spec`: with the spec's translator it IS `Spec.Sml.expandShared`).
-/
import Umya.Model.ReaderSheet
import Umya.Thm.C03Cell
namespace Umya.Reader.Lemmas
open Umya.Reader Umya.Spec.Xml Umya.Spec.Sml Umya.Coord Umya.Thm.C03

/-- the decoder's cells of one row, references filled in -/
def filledRow (sst : List Text) (rn prev : Nat) (cs : List Node) : List CellV :=
  fillRefs rn prev ((cs.map (decodeCell sst)).map (·.1))

/-- the decoder's cells of the rows before shared-formula expansion (`specFilled_eq`: `decodeSheet`'s `flatMap` over the rows
    zipped with their numbers, as a recursion the induction over the rows can follow) -/
def specFilled (sst : List Text) : Nat → List Node → List CellV
  | _, [] => []
  | prev, r :: rest =>
    filledRow sst (((r.attr? "r".toList).bind natOf).getD (prev + 1)) 0 (r.kids "c") ++
      specFilled sst (((r.attr? "r".toList).bind natOf).getD (prev + 1)) rest

theorem specFilled_eq (sst : List Text) : ∀ (rows : List Node) (prev : Nat),
    specFilled sst prev rows =
      (rows.zip (rowNumbers prev rows)).flatMap
        (fun p => fillRefs p.2 0 (((p.1.kids "c").map (decodeCell sst)).map (·.1))) := by
  intro rows
  induction rows with
  | nil => intro _; rfl
  | cons r rest ih =>
    intro prev
    simp only [specFilled, rowNumbers, List.zip_cons_cons, List.flatMap_cons, ih, filledRow]

/-- the decoder's cells of a sheet: `decodeSheet`'s `cells` field (`C03_sheet_is_decodeSheet`) -/
def specSheetCells (sst : List Text) (rows : List Node) : List CellV :=
  Umya.Spec.Sml.expandShared [] (specFilled sst 0 rows)

/-- the master list after the cells `cs` (it does not depend on the translator) -/
def mastersAfter : List Master → List CellV → List Master
  | ms, [] => ms
  | ms, c :: rest =>
    match c.shared with
    | none => mastersAfter ms rest
    | some si =>
      match ms.find? (·.si = si) with
      | none => mastersAfter (⟨si, colOf c.ref, rowOf c.ref, c.formula.getD []⟩ :: ms) rest
      | some _ => mastersAfter ms rest

/-- `Spec.Sml.expandShared` with the translator `T` in the place of `SharedF.translateText`
    (`none` = the translator panics: at the master in `parseOk`, at a child in `tr`) -/
def expandSharedT (T : Tr) : List Master → List CellV → Option (List CellV)
  | _, [] => some []
  | ms, c :: rest =>
    match c.shared with
    | none => (expandSharedT T ms rest).map (c :: ·)
    | some si =>
      match ms.find? (·.si = si) with
      | none =>
        if T.parseOk (c.formula.getD []) then
          (expandSharedT T (⟨si, colOf c.ref, rowOf c.ref, c.formula.getD []⟩ :: ms) rest).map (c :: ·)
        else none
      | some m =>
        if (c.formula.getD []).isEmpty then
          match T.tr m.text ((colOf c.ref : Int) - m.col) ((rowOf c.ref : Int) - m.row) with
          | none => none
          | some t => (expandSharedT T ms rest).map ({ c with formula := some t, sharedChild := true } :: ·)
        else (expandSharedT T ms rest).map ({ c with sharedChild := true } :: ·)

/-- the spec's translator: never panics -/
def specTr : Tr where
  parseOk _ := true
  tr m dc dr := some (Umya.Spec.SharedF.translateText m dc dr)

theorem specTr_parseOk (m : Text) : specTr.parseOk m = true := rfl
theorem specTr_tr (m : Text) (dc dr : Int) : specTr.tr m dc dr = some (Umya.Spec.SharedF.translateText m dc dr) := rfl

theorem expandSharedT_spec : ∀ (cs : List CellV) (ms : List Master),
    expandSharedT specTr ms cs = some (Umya.Spec.Sml.expandShared ms cs) := by
  intro cs ms
  fun_induction Umya.Spec.Sml.expandShared ms cs <;>
    simp only [expandSharedT, specTr_parseOk, specTr_tr, if_true, if_false, Bool.false_eq_true, Option.map_some, *]
  rfl  -- the translated child: what is left are the `let`s of `expandShared`

/-- well-formed shared groups (ECMA-376 18.3.1.40), walking the cells in document order: the first
    `f t="shared"` of an `si` is the master and carries the formula text; every later `f` of that `si` is a
    child and carries none.  (So each `si` has exactly one master, and it precedes its children.) -/
def groupsOk : List Master → List CellV → Bool
  | _, [] => true
  | ms, c :: rest =>
    match c.shared with
    | none => groupsOk ms rest
    | some si =>
      match ms.find? (·.si = si) with
      | none => !(c.formula.getD []).isEmpty && groupsOk (⟨si, colOf c.ref, rowOf c.ref, c.formula.getD []⟩ :: ms) rest
      | some _ => (c.formula.getD []).isEmpty && groupsOk ms rest

theorem mastersAfter_append : ∀ (xs ys : List CellV) (ms : List Master),
    mastersAfter ms (xs ++ ys) = mastersAfter (mastersAfter ms xs) ys := by
  intro xs ys ms
  fun_induction mastersAfter ms xs <;> simp only [List.cons_append, List.nil_append, mastersAfter, *]

theorem groupsOk_append : ∀ (xs ys : List CellV) (ms : List Master),
    groupsOk ms (xs ++ ys) = (groupsOk ms xs && groupsOk (mastersAfter ms xs) ys) := by
  intro xs ys ms
  fun_induction groupsOk ms xs <;>
    simp only [List.cons_append, List.nil_append, groupsOk, mastersAfter, Bool.true_and, Bool.and_assoc, *]

-- the shape the `cons` cases of `expandSharedT_append` leave
theorem cons_bind_append {α : Type} (h : α) (X Y : Option (List α)) :
    (X.map (h :: ·)).bind (fun o => Y.map (o ++ ·)) = (X.bind fun o => Y.map (o ++ ·)).map (h :: ·) := by
  cases X <;> cases Y <;> rfl

theorem expandSharedT_append (T : Tr) : ∀ (xs ys : List CellV) (ms : List Master),
    expandSharedT T ms (xs ++ ys) =
      (expandSharedT T ms xs).bind fun o1 => (expandSharedT T (mastersAfter ms xs) ys).map (o1 ++ ·) := by
  intro xs ys ms
  fun_induction expandSharedT T ms xs <;>
    simp only [List.cons_append, List.nil_append, expandSharedT, mastersAfter, Option.bind_some, Option.bind_none,
      Option.map_id', cons_bind_append, if_true, if_false, Bool.false_eq_true, *]

/-- what is compared of a cell: (column, row, kind, value text, formula text, style index) -/
structure View where
  col : Nat
  row : Nat
  kind : String
  value : Text
  formula : Option Text
  style : Nat
  deriving DecidableEq, Repr

/-- the view of a cell as the reader model leaves it (`shownKind`: an empty text is no value, as in `C03_cell`) -/
def outView (o : CellOut) : View :=
  ⟨o.col, o.row, shownKind o.cell.raw.kind o.cell.raw.text, o.cell.raw.text, o.formula, o.cell.style⟩

/-- the view of a cell as the decoder gives it -/
def specView (v : CellV) : View :=
  ⟨colOf v.ref, rowOf v.ref, shownKind v.kind v.value, v.value, v.formula, v.style⟩

/-- an entry of `formula_shared_list` as a master of the spec -/
def toM (a : Anchor) : Master := ⟨a.si, a.col, a.row, a.text⟩

theorem find_toM (as : List Anchor) (si : Nat) :
    (as.map toM).find? (·.si = si) = (as.find? (·.si = si)).map toM := by
  rw [List.find?_map]; rfl

/-- at most one `<f>`, so `fSteps` is one `fStep`: the right-hand side is that step, written with the decoder's view of the cell -/
theorem fSteps_valid (T : Tr) (c : Node) (cv : CellV) (hf : (c.kids "f").length ≤ 1)
    (hfo : (lastKid? c "f").map (lastText false) = cv.formula) (hg : groupOf c = some cv.shared)
    (col row : Nat) (as : List Anchor) :
    fSteps T col row as (c.kids "f") =
      (match cv.shared with
       | none => some (as, none)
       | some si =>
         match as.find? (·.si = si) with
         | some a => (T.tr a.text ((col : Int) - a.col) ((row : Int) - a.row)).map fun v => (as, some v)
         | none =>
           if T.parseOk (cv.formula.getD []) then some (⟨si, col, row, cv.formula.getD []⟩ :: as, none) else none) := by
  unfold lastKid? at hfo
  unfold groupOf lastKid? at hg
  match hk : c.kids "f", hf with
  | [], _ =>
    rw [hk] at hg
    simp only [List.getLast?_nil] at hg
    injection hg with hg
    rw [← hg]
    rfl
  | [f], _ =>
    rw [hk] at hg hfo
    simp only [List.getLast?_singleton] at hg hfo
    simp only [fSteps, fStep, hg]
    cases hs : cv.shared with
    | none => rfl
    | some si =>
      simp only []
      have : cv.formula.getD [] = lastText false f := by rw [← hfo]; rfl
      simp only [this]
      cases List.find? (fun x => decide (x.si = si)) as <;> rfl
  | _ :: _ :: _, h => simp at h

theorem readCellAt_eq (T : Tr) {sstM : List (Option Text)} (rn prev : Nat) (as : List Anchor) (c : Node)
    {col row : Nat} (r : CellR)
    (hset : setCoordinate (cellRefText rn prev c) = some (col, row))
    (hr : readCell sstM c = some r) :
    readCellAt T sstM rn prev as c =
      (fSteps T col row as (c.kids "f")).map fun p =>
        ({ col := col, row := row, cell := r, formula := match p.2 with | some v => some v | none => r.formula }, p.1) := by
  unfold readCellAt
  simp only [hset, hr]
  cases fSteps T col row as (c.kids "f") with
  | none => rfl
  | some p => cases p; rfl

/-- the pair that is compared of a run over some cells: the views of the cells and the master list after them (which
    `rows_sheet` hands from one row to the next) -/
def runView (p : List CellOut × List Anchor) : List View × List Master := (p.1.map outView, p.2.map toM)

/-- the `match` is the tail of `readCells` after its first cell -/
theorem lift_step {o : CellOut} {v : CellV} (hview : outView o = specView v)
    {X : Option (List CellOut × List Anchor)} {Y : Option (List CellV)} {M : List Master}
    (E : X.map runView = Y.map (fun vs => (vs.map specView, M))) :
    (match X with
      | none => none
      | some (os, as'') => some (o :: os, as'')).map runView =
      (Y.map (v :: ·)).map (fun vs => (vs.map specView, M)) := by
  rcases map_eq_map_cases E with ⟨rfl, rfl⟩ | ⟨⟨os, as''⟩, y, rfl, rfl, e⟩
  · rfl
  · simp only [Option.map_some, Option.some.injEq, runView, Prod.mk.injEq] at e ⊢
    exact ⟨by rw [List.map_cons, List.map_cons, hview, e.1], e.2⟩

theorem cells_sheet (T : Tr) (sis : List Node) (rn : Nat) (hrn : rn < 4294967296) :
    ∀ (cs : List Node) (prev : Nat) (as : List Anchor),
    (∀ c ∈ cs, validCell sis c = true) → cellRefsOk cs = true →
    (filledRow (sis.map rstText) rn prev cs).all (fun c => decide (colOf c.ref ≤ 16384)) = true →
    groupsOk (as.map toM) (filledRow (sis.map rstText) rn prev cs) = true →
    (readCells T (sis.map (stringItem false)) rn prev as cs).map runView =
      (expandSharedT T (as.map toM) (filledRow (sis.map rstText) rn prev cs)).map
        (fun vs => (vs.map specView, mastersAfter (as.map toM) (filledRow (sis.map rstText) rn prev cs))) := by
  intro cs
  induction cs with
  | nil => intro prev as _ _ _ _; rfl
  | cons c rest ih =>
    intro prev as hv hok hgrid hg
    have hvc := hv c List.mem_cons_self
    simp only [cellRefsOk, List.all_cons, Bool.and_eq_true] at hok
    obtain ⟨ref', hset, hfill⟩ := cell_position (sis.map rstText) rn hrn prev c hok.1 hgrid
    change filledRow _ rn prev (c :: rest) = _ :: filledRow _ rn (colOf ref') rest at hfill
    obtain ⟨r, hr, hform, _, hstyle, _, htext, hkind⟩ := C03_cell sis c hvc
    obtain ⟨_, _, hf1, _, _, hfo, _⟩ := (validCell_iff sis c).1 hvc
    obtain ⟨hfo, hgrp⟩ := cell_formula (sis.map rstText) c hf1 hfo
    rw [hfill] at hgrid hg ⊢
    simp only [List.all_cons, Bool.and_eq_true] at hgrid
    have ih := fun as' => ih (colOf ref') as' (fun c' h => hv c' (List.mem_cons_of_mem _ h)) hok.2 hgrid.2
    generalize (decodeCell (sis.map rstText) c).1 = cv at *
    rw [htext] at hkind
    -- both sides branch on the cell's group, the master list, and the translator, in this order
    simp only [readCells, readCellAt_eq T rn prev as c r hset hr,
      fSteps_valid T c cv hf1 hfo hgrp, expandSharedT, mastersAfter, find_toM]
    simp only [groupsOk, find_toM] at hg
    cases hs : cv.shared with
    | none =>
      simp only [hs] at hg
      exact lift_step (by simp only [outView, specView, htext, hkind, hstyle, hform]) (ih as hg)
    | some si =>
      simp only [hs] at hg
      cases hm : as.find? (·.si = si) with
      | none =>
        simp only [hm, Option.map_none, Bool.and_eq_true] at hg ⊢
        by_cases hp : T.parseOk (cv.formula.getD []) = true
        · simp only [hp, if_true, Option.map_some]
          exact lift_step (by simp only [outView, specView, htext, hkind, hstyle, hform])
            (ih (⟨si, colOf ref', rowOf ref', cv.formula.getD []⟩ :: as) hg.2)
        · simp only [hp, if_false, Bool.false_eq_true, Option.map_none]
      | some a =>
        obtain ⟨_, acol, arow, atext⟩ := a
        simp only [hm, Option.map_some, Bool.and_eq_true, toM] at hg ⊢
        simp only [hg.1, if_true]
        cases T.tr atext ((colOf ref' : Int) - acol) ((rowOf ref' : Int) - arow) with
        | none => rfl
        | some t => exact lift_step (by simp only [outView, specView, htext, hkind, hstyle]) (ih as hg.2)

-- the views of the first row's cells pass through the `map` over the rest (both sides of `rows_sheet`)
theorem map_append_view {α β} (f : α → β) (os : List α) (X : Option (List α)) :
    (X.map (os ++ ·)).map (·.map f) = (X.map (·.map f)).map (os.map f ++ ·) := by
  cases X <;> simp

theorem rows_sheet (T : Tr) (sis : List Node) : ∀ (rows : List Node) (prev : Nat) (as : List Anchor),
    rowRefsOk rows = true → rows.all (fun r => cellRefsOk (r.kids "c")) = true →
    inGrid (sis.map rstText) prev rows = true →
    rows.all (fun r => (r.kids "c").all (validCell sis)) = true →
    groupsOk (as.map toM) (specFilled (sis.map rstText) prev rows) = true →
    (readRows T (sis.map (stringItem false)) prev as rows).map (·.map outView) =
      (expandSharedT T (as.map toM) (specFilled (sis.map rstText) prev rows)).map (·.map specView) := by
  intro rows
  induction rows with
  | nil => intro prev as _ _ _ _ _; rfl
  | cons r rest ih =>
    intro prev as h1 h2 h3 h4 hg
    simp only [rowRefsOk, List.all_cons, Bool.and_eq_true] at h1 h2 h4
    obtain ⟨n, hn1, hn2, hn3, hcols, hrest⟩ := rowNumber_step (sis.map rstText) prev r rest h1.1 h3
    simp only [specFilled, hn2] at hg ⊢
    rw [groupsOk_append, Bool.and_eq_true] at hg
    have E := cells_sheet T sis n (by omega) (r.kids "c") 0 as (fun c hc => List.all_eq_true.mp h4.1 c hc) h2.1 hcols hg.1
    rw [expandSharedT_append]
    simp only [readRows, hn1]
    rcases map_eq_map_cases E with ⟨hX, hY⟩ | ⟨⟨os, as'⟩, vs, hX, hY, e⟩
    · rw [hX, hY]; rfl
    · simp only [runView, Prod.mk.injEq] at e
      have hih := ih n as' h1.2 h2.2 hrest h4.2 (by rw [e.2]; exact hg.2)
      rw [hX, hY]
      simp only [Option.bind_some]
      rw [map_append_view, map_append_view, hih, e.1, e.2]

end Umya.Reader.Lemmas
