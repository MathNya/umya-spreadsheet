import Umya.Lemmas.ReaderStyle
namespace Umya.Reader.Lemmas
open Umya.Reader Umya.Spec.Xml Umya.Spec.Sml
open Umya.StyleCodec

/-- a valid `<alignment>`: `horizontal` / `vertical`, when present, words of their enumerations; `textRotation` an
    unsigned decimal that fits `u32` -/
def validAlign (n : Node) : Bool :=
  valIn HAlign.fromStr "horizontal" n.attrs && valIn VAlign.fromStr "vertical" n.attrs && uintAttrOk n.attrs "textRotation"

theorem align_agrees (n : Node) (h : validAlign n = true) :
    ∃ a, Alignment.read n = some a ∧ alignFacts a = alignV n := by
  simp only [validAlign, Bool.and_eq_true] at h
  obtain ⟨⟨h1, h2⟩, h3⟩ := h
  unfold Alignment.read
  rw [u32Attr_natOf h3]
  refine ⟨_, rfl, ?_⟩
  simp only [alignFacts, alignV, attr?_eq_getAttr, boolAttr_xsd, Option.map_none, Option.or_none,
    enum_attr_opt HAlign.fromStr HAlign.toStr "horizontal" n.attrs none HAlign.toStr_of_fromStr h1,
    enum_attr_opt VAlign.fromStr VAlign.toStr "vertical" n.attrs none VAlign.toStr_of_fromStr h2]

theorem prot_agrees (n : Node) : ∃ p, Protection.read n = some p ∧ protFacts p = protV n := by
  refine ⟨_, rfl, ?_⟩
  simp only [protFacts, protV, attr?_eq_getAttr, boolAttr_xsd]

/-- a valid `<numFmt>`: `numFmtId` an unsigned decimal that fits `u32`, `formatCode` present -/
def validNumFmt (n : Node) : Bool :=
  (match getAttr n.attrs "numFmtId" with | some v => uintOk u32Bound v | none => false) &&
  (getAttr n.attrs "formatCode").isSome

/-- the decoder's table entry of a `<numFmt>` (the function `numFmtTable` maps over the items) -/
def numFmtV (n : Node) : Option (Nat × Text) :=
  match (n.attr? "numFmtId".toList).bind natOf, n.attr? "formatCode".toList with
  | some i, some c => some (i, c)
  | _, _ => none

theorem numFmt_agrees (n : Node) (h : validNumFmt n = true) :
    ∃ v, NumFmt.read n = some v ∧ some (v.id, v.code) = numFmtV n := by
  simp only [validNumFmt, Bool.and_eq_true] at h
  obtain ⟨h1, h2⟩ := h
  obtain ⟨c, hc⟩ := Option.isSome_iff_exists.mp h2
  cases hi : getAttr n.attrs "numFmtId" with
  | none => rw [hi] at h1; cases h1
  | some iv =>
    rw [hi] at h1
    obtain ⟨i, hn, _⟩ := uintOk_parse h1
    refine ⟨⟨i, c⟩, ?_, ?_⟩
    · simp only [NumFmt.read, hi, hc, u32Of_uintOk iv h1, hn, Option.map_some]
    · simp only [numFmtV, attr?_eq_getAttr, hi, hc, Option.bind_some, hn]

/-- a valid `<xf>`: unprefixed children, at most one `alignment` (a `validAlign`) and one `protection`; the four ids,
    when present, unsigned decimals that fit `u32` -/
def validXf (n : Node) : Bool :=
  n.children.all plain && uniq n.children "alignment" && uniq n.children "protection" &&
  uintAttrOk n.attrs "numFmtId" && uintAttrOk n.attrs "fontId" && uintAttrOk n.attrs "fillId" &&
  uintAttrOk n.attrs "borderId" &&
  n.children.all (fun c => if named "alignment" c then validAlign c else true)

/-- the fields no child of `<xf>` touches, packed so that one `foldOpt_const` covers them all -/
def xfScalars (x : XfR) : (Nat × Nat × Nat × Nat) × (Option Bool × Option Bool × Option Bool × Option Bool × Option Bool × Option Bool) :=
  ((x.numFmtId, x.fontId, x.fillId, x.borderId),
   (x.applyNumFmt, x.applyFont, x.applyFill, x.applyBorder, x.applyAlignment, x.applyProtection))

theorem xfStep_spec (x x' : XfR) (n : Node) (h : xfStep x n = some x') :
    xfScalars x' = xfScalars x ∧
    x'.alignment = (if named "alignment" n then Alignment.read n else x.alignment) ∧
    x'.protection = (if named "protection" n then Protection.read n else x.protection) := by
  unfold xfStep at h
  by_cases c1 : named "alignment" n = true
  · rw [if_pos c1] at h
    obtain ⟨a, ha, rfl⟩ := Option.map_eq_some_iff.mp h
    obtain ⟨as, ks, rfl⟩ := elem_of_named _ _ c1
    simp [xfScalars, named, Node.isElem, Node.name]; exact ha.symm
  rw [if_neg c1] at h
  by_cases c2 : named "protection" n = true
  · rw [if_pos c2] at h
    obtain ⟨a, ha, rfl⟩ := Option.map_eq_some_iff.mp h
    simp [xfScalars, c1, c2, ha]
  rw [if_neg c2] at h
  simp only [Option.some.injEq] at h; subst h
  simp [c1, c2]

theorem xfStep_total (x : XfR) (c : Node) (h : (if named "alignment" c then validAlign c else true) = true) :
    ∃ x', xfStep x c = some x' := by
  unfold xfStep
  by_cases c1 : named "alignment" c = true
  · rw [if_pos c1] at h ⊢
    obtain ⟨a, ha, _⟩ := align_agrees c h
    exact ⟨_, by rw [ha]; rfl⟩
  rw [if_neg c1]
  by_cases c2 : named "protection" c = true
  · rw [if_pos c2]; exact ⟨_, rfl⟩
  rw [if_neg c2]; exact ⟨_, rfl⟩

/-- the record `x` holds what the decoder reads of the `<xf>` element `n`, attribute by attribute -/
structure XfAgrees (x : XfR) (n : Node) : Prop where
  numFmtId : x.numFmtId = ((n.attr? "numFmtId".toList).bind natOf).getD 0
  fontId : x.fontId = ((n.attr? "fontId".toList).bind natOf).getD 0
  fillId : x.fillId = ((n.attr? "fillId".toList).bind natOf).getD 0
  borderId : x.borderId = ((n.attr? "borderId".toList).bind natOf).getD 0
  aNumFmt : x.applyNumFmt.getD true = applied n "applyNumberFormat"
  aFont : x.applyFont.getD true = applied n "applyFont"
  aFill : x.applyFill.getD true = applied n "applyFill"
  aBorder : x.applyBorder.getD true = applied n "applyBorder"
  aAlignment : x.applyAlignment.getD true = applied n "applyAlignment"
  aProtection : x.applyProtection.getD true = applied n "applyProtection"
  alignment : x.alignment.map alignFacts = (n.kid? "alignment").map alignV
  protection : x.protection.map protFacts = (n.kid? "protection").map protV
  -- the flags as such, of which `aNumFmt` … `aProtection` are the `getD true`: `neutral_of` needs them of the `cellStyleXfs` record
  flags : (x.applyNumFmt, x.applyFont, x.applyFill, x.applyBorder, x.applyAlignment, x.applyProtection) =
    ((n.attr? "applyNumberFormat".toList).map xsdTrue, (n.attr? "applyFont".toList).map xsdTrue,
     (n.attr? "applyFill".toList).map xsdTrue, (n.attr? "applyBorder".toList).map xsdTrue,
     (n.attr? "applyAlignment".toList).map xsdTrue, (n.attr? "applyProtection".toList).map xsdTrue)

theorem xf_agrees (n : Node) (h : validXf n = true) : ∃ x, readXf n = some x ∧ XfAgrees x n := by
  simp only [validXf, Bool.and_eq_true, uniq, decide_eq_true_eq] at h
  obtain ⟨⟨⟨⟨⟨⟨⟨hpl, u1⟩, u2⟩, i1⟩, i2⟩, i3⟩, i4⟩, hk⟩ := h
  unfold readXf
  rw [u32Attr_natOf i1, u32Attr_natOf i2, u32Attr_natOf i3, u32Attr_natOf i4]
  simp only []
  refine (foldOpt_total xfStep_total n.children _ hk).imp fun x hx => ⟨hx, ?_⟩
  have e0 := foldOpt_const xfStep xfScalars (fun a c a' ha => (xfStep_spec a a' c ha).1) hx
  have e1 := foldOpt_field xfStep (·.alignment) (named "alignment") (fun _ c => Alignment.read c)
    (fun a c a' ha => (xfStep_spec a a' c ha).2.1) hx u1
  have e2 := foldOpt_field xfStep (·.protection) (named "protection") (fun _ c => Protection.read c)
    (fun a c a' ha => (xfStep_spec a a' c ha).2.2) hx u2
  simp only [xfScalars, Prod.mk.injEq, boolAttr_xsd, ← attr?_eq_getAttr] at e0
  obtain ⟨⟨a1, a2, a3, a4⟩, b1, b2, b3, b4, b5, b6⟩ := e0
  have hal : x.alignment.map alignFacts = (n.kid? "alignment").map alignV := by
    rw [e1, kid?_eq_find n _ hpl]
    exact optKid_agrees fun c hf => align_agrees c (found_of_all_if hk hf)
  have hpr : x.protection.map protFacts = (n.kid? "protection").map protV := by
    rw [e2, kid?_eq_find n _ hpl]
    exact optKid_agrees fun c _ => prot_agrees c
  -- `applied` is the `getD true` of the flag as `b1` … `b6` give it
  exact ⟨a1, a2, a3, a4, congrArg (·.getD true) b1, congrArg (·.getD true) b2, congrArg (·.getD true) b3,
    congrArg (·.getD true) b4, congrArg (·.getD true) b5, congrArg (·.getD true) b6, hal, hpr, by rw [b1, b2, b3, b4, b5, b6]⟩

/-- the decoder's item list of a table (`Spec.Sml` writes it inline: `numFmtTable_eq`, `styleTable_eq`) -/
def tableNodes (root : Node) (t i : String) : List Node := ((root.kid? t).map (·.kids i)).getD []

theorem tableOf_eq (root : Node) {t i : String} (hpl : root.children.all plain = true)
    (hu : uniq root.children t = true) (hin : root.children.all (fun c => c.children.all plain) = true) :
    tableOf root t i = tableNodes root t i := by
  simp only [uniq, decide_eq_true_eq] at hu
  unfold tableOf tableNodes
  rw [kid?_eq_find root t hpl, ← List.head?_filter]
  cases hf : root.children.filter (named t) with
  | nil => rfl
  | cons x r =>
    cases r with
    | cons y r' => rw [hf] at hu; simp at hu
    | nil =>
      have hx : x ∈ root.children := (List.mem_filter.mp (by rw [hf]; exact List.mem_singleton.mpr rfl)).1
      have := List.all_eq_true.mp hin x hx
      simp only [List.flatMap_cons, List.flatMap_nil, List.append_nil, List.head?_cons, Option.map_some, Option.getD_some]
      exact (kids_eq_filter x i this).symm

end Umya.Reader.Lemmas
