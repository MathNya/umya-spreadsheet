/-
  Conditional formatting under re-saving: a save leaves the dxf table with the styles of the rules registered in
  writing order (`writeBlocks_table`); the table a workbook is loaded with already holds every one of them, so the
  second save appends nothing to it (find-or-append finds) — the table, too, is a fixed point.
-/
import Umya.Lemmas.AnnotCf
namespace Umya.AnnotCf

def ruleStyles (rs : List Rule) : List Sty := rs.filterMap (·.style)
def blockStyles (bs : List Block) : List Sty := bs.flatMap (fun b => ruleStyles b.rules)

theorem writeRules_table : ∀ (rs : List Rule) (t : List Sty), (writeRules t rs).1 = (Interning.internAllEq t (ruleStyles rs)).1
  | [], _ => rfl
  | r :: rs, t => by
    simp only [writeRules, writeRules_table rs, writeRule, dxfOf, ruleStyles, List.filterMap_cons]
    cases r.style with
    | none => rfl
    | some s => simp only [internSty_eq]; rfl

theorem writeBlocks_table : ∀ (bs : List Block) (t : List Sty), (writeBlocks t bs).1 = (Interning.internAllEq t (blockStyles bs)).1
  | [], _ => rfl
  | b :: bs, t => by
    simp only [writeBlocks, writeBlocks_table bs, writeBlock, writeRules_table, blockStyles, List.flatMap_cons,
      Interning.internAllEq_append]

theorem writeBlocks_table_fixed (t0 : List Sty) (bs : List Block) :
    (writeBlocks (writeBlocks t0 bs).1 bs).1 = (writeBlocks t0 bs).1 := by
  simp only [writeBlocks_table, Interning.internAllEq_twice]

/-- one save + load of the conditional-formatting blocks together with the dxf table they are written against:
    the table after the save is the table of the loaded workbook -/
def cfRs (x : List Sty × List Block) : Option (List Sty × List Block) :=
  match readBlocks (writeBlocks x.1 x.2).1 (writeBlocks x.1 x.2).2 with
  | .ok bs => some ((writeBlocks x.1 x.2).1, bs)
  | .panic => none

def cfNorm (x : List Sty × List Block) : List Sty × List Block := ((writeBlocks x.1 x.2).1, x.2)

/-- 18446744073709551616 = 2^64: a written `dxfId` is an index below the table's length and is read as a `usize`
    (`readBlocks_written`), so `≤` is enough.  `CellXml.CellsWF` has `<` on the string table, whose indices are read
    the same way, because `writeBook_readBook` is stated so. -/
def CfWF (x : List Sty × List Block) : Prop :=
  (∀ b ∈ x.2, BlockWF b) ∧ (writeBlocks x.1 x.2).1.length ≤ 18446744073709551616

theorem cfRs_eq (x : List Sty × List Block) (h : CfWF x) : cfRs x = some (cfNorm x) := by
  simp [cfRs, cfNorm, readBlocks_written x.2 x.1 _ h.1 (Ext.refl _) h.2]

theorem cfNorm_idem (x : List Sty × List Block) : cfNorm (cfNorm x) = cfNorm x := by
  simp [cfNorm, writeBlocks_table_fixed]

theorem cfNorm_WF (x : List Sty × List Block) (h : CfWF x) : CfWF (cfNorm x) :=
  ⟨h.1, by simpa [cfNorm, writeBlocks_table_fixed] using h.2⟩

end Umya.AnnotCf
