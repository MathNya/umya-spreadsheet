/-
  Date/time format codes (after fix d30eec7).  The checked conversion `excelToEpochSecondsChecked`
  (`excel_to_date_time_object_checked`) returns, where it returns, the value of the unguarded sum `excelToEpochSeconds`
  (the one the C18 theorems are about), inside chrono's range.  `strftime` returns a text for every strftime string made
  of literals and modelled specifiers (`sfOk`) and every date-time whose month is in 1..12 (`ofEpochSeconds` only produces
  such).  `replaceAll` (`str::replace`) satisfies the scanner's equation with no fuel in it (`replaceAll_cons`).
-/
import Umya.Model.Date
import Umya.Lemmas.Calendar
namespace Umya.Lemmas.DateFmt
open Umya.Date Umya.Dec Umya.Spec.Calendar Umya.Lemmas.Calendar Umya.Date.FloatOps

/-- the bound is `i64::MAX / 1000` (chrono's `try_*`) -/
theorem tryUnits_some {unit m s : Int} (h : tryUnits unit m = some s) :
    s = m * unit ∧ -9223372036854775 ≤ s ∧ s ≤ 9223372036854775 := by
  unfold tryUnits i64? trySeconds at h
  split at h
  · simp only [Option.bind_some] at h
    split at h
    · rename_i hb; cases h; exact ⟨rfl, hb.1, hb.2⟩
    · cases h
  · cases h

/-- the count was not clamped: `± 2⁶³` times a unit `≥ 1` is beyond the bound of `tryUnits_some` -/
theorem tryUnits_clamp_some {unit n s : Int} (hu : 0 < unit) (h : tryUnits unit (clampI64 n) = some s) :
    s = n * unit := by
  obtain ⟨e, b1, b2⟩ := tryUnits_some h
  unfold clampI64 at e
  split at e
  · omega
  · split at e
    · omega
    · exact e

theorem checkedAddSigned_some {t d r : Int} (h : checkedAddSigned t d = some r) :
    r = t + d ∧ chronoMinSec ≤ r ∧ r ≤ chronoMaxSec := by
  unfold checkedAddSigned at h
  split at h
  · rename_i hb; cases h; exact ⟨rfl, hb.1, hb.2⟩
  · cases h

theorem checked_agrees {F : Type} [FloatOps F] (ts : F) (t : Int)
    (h : excelToEpochSecondsChecked ts = some t) :
    t = excelToEpochSeconds ts ∧ chronoMinSec ≤ t ∧ t ≤ chronoMaxSec := by
  unfold excelToEpochSecondsChecked at h
  simp only [bind, Option.bind_eq_some_iff] at h
  obtain ⟨d, hd, t1, ht1, hh, hhh, t2, ht2, mi, hmi, t3, ht3, s, hs, h⟩ := h
  have e1 := tryUnits_clamp_some (by decide) hd
  have e2 := tryUnits_clamp_some (by decide) hhh
  have e3 := tryUnits_clamp_some (by decide) hmi
  have e4 := tryUnits_clamp_some (by decide) hs
  obtain ⟨a1, _, _⟩ := checkedAddSigned_some ht1
  obtain ⟨a2, _, _⟩ := checkedAddSigned_some ht2
  obtain ⟨a3, _, _⟩ := checkedAddSigned_some ht3
  obtain ⟨a4, b4, c4⟩ := checkedAddSigned_some h
  refine ⟨?_, b4, c4⟩
  unfold excelToEpochSeconds splitSeconds
  simp only []
  omega

/-- the characters on which `specDash` answers (`specDash_some`); `plainOk` likewise for `specPlain` -/
def dashOk (c : Char) : Bool := c == 'm' || c == 'd' || c == 'H' || c == 'I'

def plainOk (c : Char) : Bool :=
  c == 'Y' || c == 'y' || c == 'm' || c == 'd' || c == 'H' || c == 'I' || c == 'M' || c == 'S' ||
  c == 'B' || c == 'b' || c == 'A' || c == 'a' || c == 'P'

/-- well-formed strftime string: literals and the modelled specifiers (the case analysis of `strftime`, without its
    fuel and without its overlapping patterns) -/
def sfOk : List Char → Bool
  | [] => true
  | c :: r =>
    if c = '%' then
      match r with
      | [] => false
      | d :: r2 =>
        if d = '-' then
          match r2 with
          | [] => false
          | e :: r3 => dashOk e && sfOk r3
        else plainOk d && sfOk r2
    else sfOk r

theorem nameAt_some (l : List String) (i : Int) (h0 : 0 ≤ i) (h1 : i.toNat < l.length) :
    ∃ s, nameAt l i = some s := by
  unfold nameAt
  rw [if_pos h0, List.getElem?_eq_getElem h1]
  exact ⟨_, rfl⟩

theorem specDash_some (dt : DateTime) (c : Char) (h : dashOk c = true) : ∃ s, specDash dt c = some s := by
  simp only [dashOk, Bool.or_eq_true, beq_iff_eq] at h
  rcases h with ((h | h) | h) | h <;> subst h <;> exact ⟨_, rfl⟩

theorem specPlain_some (dt : DateTime) (hm : 1 ≤ dt.month ∧ dt.month ≤ 12) (c : Char)
    (h : plainOk c = true) : ∃ s, specPlain dt c = some s := by
  have hmo : ∃ s, nameAt monthNames (dt.month - 1) = some s :=
    nameAt_some _ _ (by omega) (by simp only [monthNames, List.length_cons, List.length_nil]; omega)
  have hda : ∃ s, nameAt dayNames ((dt.dayNo + 4) % 7) = some s :=
    nameAt_some _ _ (by omega) (by simp only [dayNames, List.length_cons, List.length_nil]; omega)
  obtain ⟨mo, hmo⟩ := hmo
  obtain ⟨da, hda⟩ := hda
  simp only [plainOk, Bool.or_eq_true, beq_iff_eq] at h
  rcases h with (((((((((((( h | h) | h) | h) | h) | h) | h) | h) | h) | h) | h) | h) | h) <;> subst h <;>
    simp [specPlain, hmo, hda]

/-! The three clauses of `strftime` that go on, `%c` (`eq_4`), `%-c` (`eq_3`) and a literal (`eq_6`); the function arguments
  discharge the patterns of the clauses above, which overlap. -/

theorem strftime_plain (dt : DateTime) (c : Char) (hc : c ≠ '-') {a : List Char} (h : specPlain dt c = some a)
    (r : List Char) (fuel : Nat) :
    strftime dt ('%' :: c :: r) (fuel + 1) = (strftime dt r fuel).map (a ++ ·) := by
  rw [strftime.eq_4 dt c r fuel (fun _ _ e _ => hc e), h]
  cases strftime dt r fuel <;> rfl

theorem strftime_dash (dt : DateTime) (c : Char) {a : List Char} (h : specDash dt c = some a)
    (r : List Char) (fuel : Nat) :
    strftime dt ('%' :: '-' :: c :: r) (fuel + 1) = (strftime dt r fuel).map (a ++ ·) := by
  rw [strftime.eq_3, h]
  cases strftime dt r fuel <;> rfl

theorem strftime_lit (dt : DateTime) (c : Char) (hc : c ≠ '%') (r : List Char) (fuel : Nat) :
    strftime dt (c :: r) (fuel + 1) = (strftime dt r fuel).map ([c] ++ ·) :=
  strftime.eq_6 dt c r fuel (fun _ _ e _ => hc e) (fun _ _ e _ => hc e) (fun e _ => hc e)

/-- chrono renders the strftime string `sf`, given fuel beyond its length -/
def Renders (dt : DateTime) (sf : List Char) : Prop := ∀ fuel, sf.length < fuel → ∃ s, strftime dt sf fuel = some s

theorem renders_nil (dt : DateTime) : Renders dt [] := fun fuel _ => ⟨[], by cases fuel <;> rfl⟩

theorem renders_step {dt : DateTime} {sf r a : List Char} (hlen : r.length < sf.length)
    (h : ∀ k, strftime dt sf (k + 1) = (strftime dt r k).map (a ++ ·)) (hr : Renders dt r) : Renders dt sf := by
  intro fuel hf
  obtain ⟨k, rfl⟩ : ∃ k, fuel = k + 1 := ⟨fuel - 1, by omega⟩
  obtain ⟨b, hb⟩ := hr k (by omega)
  exact ⟨a ++ b, by rw [h k, hb]; rfl⟩

theorem strftime_some (dt : DateTime) (hm : 1 ≤ dt.month ∧ dt.month ≤ 12) (rest : List Char) (hr : Renders dt rest) :
    ∀ (sf : List Char), sfOk sf = true → Renders dt (sf ++ rest) := by
  intro sf
  fun_induction sfOk sf with
  | case1 => intro _; exact hr
  | case2 => intro h; cases h
  | case3 => intro h; cases h
  | case4 e r3 ih =>
    intro h
    simp only [Bool.and_eq_true] at h
    obtain ⟨a, ha⟩ := specDash_some dt e h.1
    exact renders_step (by simp; omega) (strftime_dash dt e ha _) (ih h.2)
  | case5 d r2 hd ih =>
    intro h
    simp only [Bool.and_eq_true] at h
    obtain ⟨a, ha⟩ := specPlain_some dt hm d h.1
    exact renders_step (by simp; omega) (strftime_plain dt d hd ha _) (ih h.2)
  | case6 c r hc ih =>
    intro h
    exact renders_step (by simp) (strftime_lit dt c hc _) (ih h)

theorem ofEpochSeconds_month (t : Int) :
    1 ≤ (ofEpochSeconds t).month ∧ (ofEpochSeconds t).month ≤ 12 := by
  have h := civilFromDays_valid (t / 86400)
  unfold ValidDate at h
  unfold ofEpochSeconds
  exact ⟨h.1, h.2.1⟩

theorem startsWith_length : ∀ (s p : List Char), startsWith s p = true → p.length ≤ s.length
  | _, [], _ => by simp
  | [], _ :: _, h => by simp [startsWith] at h
  | a :: s, b :: p, h => by
    simp only [startsWith, Bool.and_eq_true] at h
    have := startsWith_length s p h.2
    simp only [List.length_cons]; omega

theorem replaceAll_go_nil (f t : List Char) (fuel : Nat) : replaceAll.go f t [] fuel = [] := by
  cases fuel <;> simp [replaceAll.go]

theorem replaceAll_go_fuel (f t : List Char) : ∀ (fuel₁ fuel₂ : Nat) (s : List Char), s.length ≤ fuel₁ → s.length ≤ fuel₂ →
    replaceAll.go f t s fuel₁ = replaceAll.go f t s fuel₂ := by
  intro fuel₁
  induction fuel₁ with
  | zero =>
    intro fuel₂ s h1 _
    have : s = [] := List.eq_nil_of_length_eq_zero (by omega)
    subst this; simp [replaceAll_go_nil]
  | succ n ih =>
    intro fuel₂ s h1 h2
    cases s with
    | nil => simp [replaceAll_go_nil]
    | cons c r =>
      obtain ⟨m, rfl⟩ : ∃ m, fuel₂ = m + 1 := ⟨fuel₂ - 1, by simp only [List.length_cons] at h2; omega⟩
      simp only [List.length_cons] at h1 h2
      simp only [replaceAll.go]
      split
      · rename_i hm
        cases f with
        | nil => simp at hm
        | cons q f' =>
          congr 1
          apply ih <;> simp only [List.length_drop, List.length_cons] <;> omega
      · congr 1
        exact ih m r (by omega) (by omega)

theorem replaceAll_cons (f t : List Char) (c : Char) (r : List Char) :
    replaceAll (c :: r) f t =
      if !f.isEmpty && startsWith (c :: r) f then t ++ replaceAll ((c :: r).drop f.length) f t
      else c :: replaceAll r f t := by
  unfold replaceAll
  simp only [List.length_cons, replaceAll.go]
  split
  · rename_i hm
    have : 1 ≤ f.length := by cases f <;> simp at hm ⊢
    rw [replaceAll_go_fuel f t r.length _ _ (by simp only [List.length_drop, List.length_cons]; omega) (Nat.le_refl _)]
  · rfl

end Umya.Lemmas.DateFmt
