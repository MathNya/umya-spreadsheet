/-
  UTF-8 decoding inverts encoding; the workbook operations keep the active tab inside the sheet list (`Inv`).
-/
import Umya.Model.Csv
namespace Umya.Lemmas.CsvBook
open Umya.Csv

/-- a `String` is its validated UTF-8 bytes: `String.fromUTF8` only re-wraps the byte array, hence `rfl` -/
theorem fromUTF8?_toUTF8 (s : String) : String.fromUTF8? s.toUTF8 = some s := by
  have h : s.toUTF8.IsValidUTF8 := s.isValidUTF8
  rw [String.fromUTF8?, dif_pos h]; rfl

theorem decodeUtf8_encodeUtf8 (s : Text) : decodeUtf8 (encodeUtf8 s) = some s := by
  have hb : ByteArray.mk ((String.ofList s).toUTF8.data.toList.toArray) = (String.ofList s).toUTF8 := by simp
  rw [decodeUtf8, encodeUtf8, hb, fromUTF8?_toUTF8]
  exact congrArg some String.toList_ofList

def Inv (b : Book) : Prop := b.active < b.sheets.length

theorem inv_new : Inv Book.new := by simp [Inv, Book.new]

theorem inv_newSheet (b : Book) (h : Inv b) : Inv b.newSheet := by
  simp only [Inv, Book.newSheet, List.length_append, List.length_cons, List.length_nil] at h ⊢; omega

theorem inv_setActive (b : Book) (i : Nat) (hi : i < b.sheets.length) : Inv (b.setActive i) := by
  simpa [Inv, Book.setActive] using hi

/-- No `Inv b` is asked: the clamp of the active tab in `removeSheet` establishes `Inv b'` by itself. -/
theorem inv_removeSheet (b : Book) {b' : Book} (i : Nat) (h2 : 2 ≤ b.sheets.length)
    (hr : b.removeSheet i = some b') : Inv b' := by
  unfold Book.removeSheet at hr
  split at hr
  · exact absurd hr (by simp)
  · rename_i hlt
    have hlen : (b.sheets.eraseIdx i).length = b.sheets.length - 1 := by
      rw [List.length_eraseIdx]; simp [Nat.lt_of_not_le hlt]
    injection hr with hr
    subst hr
    simp only [Inv, hlen]
    split <;> omega

theorem inv_setCell {b b' : Book} {s r c : Nat} {v : Text} (h : Inv b) (hs : b.setCell s r c v = some b') : Inv b' := by
  unfold Book.setCell at hs
  split at hs
  · injection hs with hs; subst hs; simpa [Inv] using h
  · exact absurd hs (by simp)

theorem activeSheet_of_inv (b : Book) (h : Inv b) : ∃ g, b.activeSheet = some g := by
  unfold Book.activeSheet
  exact ⟨b.sheets[b.active], List.getElem?_eq_getElem h⟩

end Umya.Lemmas.CsvBook
