/-
  Every tree `Umya/Model/CellNode.lean` renders is in the XML reader's normal form (`isNF`: no empty text
  node, no two adjacent text nodes).  The only text nodes the rendering produces come from `charData`, which gives
  the one text node of a value that is not empty and no node otherwise (`charData_eq`); all other children are
  elements in normal form (`ElemsNF`).
-/
import Umya.Model.XmlWrite
import Umya.Lemmas.CellDecode
namespace Umya.CellNode
open Umya.Xml Umya.CellXml Umya.XmlWrite
open Umya.Spec.Xml (Node Attr)

theorem charData_nf (raw : List Char) (ks : List Node) (h : charData raw = some ks) : isNFKids ks = true := by
  rw [charData_eq] at h
  split at h
  · cases h
  · obtain ⟨v, _, rfl⟩ := Option.map_eq_some_iff.1 h
    cases v <;> simp [txt, isNFKids, startsText]

theorem isNFKids_elem_cons (k : Node) (r : List Node) (hk : k.isElem = true) : isNFKids (k :: r) = (isNF k && isNFKids r) := by
  cases k with
  | elem n as ks => simp [isNFKids, isNF]
  | text s => simp [Node.isElem] at hk

theorem isNFKids_append (a b : List Node) (ha : ∀ k ∈ a, k.isElem = true) : isNFKids (a ++ b) = (isNFKids a && isNFKids b) := by
  induction a with
  | nil => simp [isNFKids]
  | cons k r ih =>
    have hk := ha k (by simp)
    rw [List.cons_append, isNFKids_elem_cons k _ hk, isNFKids_elem_cons k _ hk, ih (fun x hx => ha x (by simp [hx])), Bool.and_assoc]

/-- children that are all elements in normal form: closed under `++`, and in normal form as a list (no text node, so
    nothing to be empty or adjacent) -/
def ElemsNF (ks : List Node) : Prop := ∀ k ∈ ks, k.isElem = true ∧ isNF k = true

theorem isNFKids_of_all (l : List Node) (h : ElemsNF l) : isNFKids l = true := by
  induction l with
  | nil => simp [isNFKids]
  | cons k r ih =>
    rw [isNFKids_elem_cons k r (h k (by simp)).1, (h k (by simp)).2, ih (fun x hx => h x (by simp [hx]))]; rfl

theorem ElemsNF.nil : ElemsNF [] := fun _ h => nomatch h

theorem ElemsNF.append {a b : List Node} (ha : ElemsNF a) (hb : ElemsNF b) : ElemsNF (a ++ b) := fun k hk =>
  (List.mem_append.1 hk).elim (ha k) (hb k)

theorem ElemsNF.single {k : Node} (h : k.isElem = true ∧ isNF k = true) : ElemsNF [k] := fun _ hx =>
  List.mem_singleton.1 hx ▸ h

theorem ElemsNF.elem {ks : List Node} (h : ElemsNF ks) (n : List Char) (as : List Attr) :
    (Node.elem n as ks).isElem = true ∧ isNF (Node.elem n as ks) = true := ⟨rfl, isNFKids_of_all ks h⟩

theorem ElemsNF.of_opt {o : Option Node} {ks : List Node} (h : o.map ([·]) = some ks)
    (ho : ∀ t, o = some t → t.isElem = true ∧ isNF t = true) : ElemsNF ks := by
  obtain ⟨t, ht, rfl⟩ := Option.map_eq_some_iff.1 h
  exact .single (ho t ht)

theorem mapOpt_nf {α : Type} (f : α → Option Node) (hf : ∀ a k, f a = some k → k.isElem = true ∧ isNF k = true)
    (l : List α) (ns : List Node) (h : mapOpt f l = some ns) : ElemsNF ns := fun k hk => by
  obtain ⟨a, _, ha⟩ := (mapOpt_some.1 h).mem_left hk
  exact hf a k ha

theorem textElem_nf (n : List Char) (as : List Attr) (raw : List Char) (t : Node) (h : textElem n as raw = some t) :
    t.isElem = true ∧ isNF t = true := by
  simp only [textElem, Option.map_eq_some_iff] at h
  obtain ⟨ks, hk, rfl⟩ := h
  exact ⟨rfl, charData_nf raw ks hk⟩

theorem tNode_nf (tx : TX) (t : Node) (h : tNode tx = some t) : t.isElem = true ∧ isNF t = true := by
  simp only [tNode, Option.bind_eq_some_iff] at h
  obtain ⟨as, _, h2⟩ := h
  exact textElem_nf _ _ _ _ h2

theorem fNodes_nf (f : Option (List Char)) (ks : List Node) (h : fNodes f = some ks) : ElemsNF ks := by
  cases f with
  | none => cases h; exact .nil
  | some raw => exact .of_opt h (textElem_nf _ _ _)

theorem vNodes_nf (v : VNode) (ks : List Node) (h : vNodes v = some ks) : ElemsNF ks := by
  cases v with
  | absent => cases h; exact .nil
  | emptyTag => cases h; exact .single (ElemsNF.nil.elem _ _)
  | text raw => exact .of_opt h (textElem_nf _ _ _)

theorem isNodes_nf (i : Option TX) (ks : List Node) (h : isNodes i = some ks) : ElemsNF ks := by
  cases i with
  | none => cases h; exact .nil
  | some tx =>
    simp only [isNodes, Option.map_eq_some_iff] at h
    obtain ⟨t, ht, rfl⟩ := h
    exact .single ((ElemsNF.single (tNode_nf _ _ ht)).elem _ _)

theorem cellNode_isNF (xf : Nat) (cx : CellX) (n : Node) (h : cellNode xf cx = some n) : isNF n = true := by
  simp only [cellNode, Option.bind_eq_some_iff] at h
  obtain ⟨as, _, f, hf, v, hv, i, hi, h5⟩ := h
  cases h5
  exact (((fNodes_nf _ _ hf).append (vNodes_nf _ _ hv)).append (isNodes_nf _ _ hi)).elem _ _ |>.2

theorem runNode_nf (r : RunX) (n : Node) (h : runNode r = some n) : n.isElem = true ∧ isNF n = true := by
  simp only [runNode, Option.map_eq_some_iff] at h
  obtain ⟨t, ht, rfl⟩ := h
  refine ElemsNF.elem (.append ?_ (.single (tNode_nf _ _ ht))) _ _
  cases r.font
  · exact .nil
  · exact .single (ElemsNF.nil.elem _ _)

theorem phoneticPr_nf : phoneticPr.isElem = true ∧ isNF phoneticPr = true := ElemsNF.nil.elem _ _

theorem siNode_isNF (x : SiX) (n : Node) (h : siNode x = some n) : isNF n = true := by
  simp only [siNode, Option.bind_eq_some_iff] at h
  obtain ⟨t, ht, rs, hrs, h3⟩ := h
  cases h3
  have ht' : ElemsNF t := by
    cases hx : x.t with
    | none => rw [hx] at ht; cases ht; exact .nil
    | some tx => rw [hx] at ht; exact .of_opt ht (tNode_nf _)
  exact ((ht'.append (mapOpt_nf runNode runNode_nf _ _ hrs)).append (.single phoneticPr_nf)).elem _ _ |>.2

theorem siNode_shape (x : SiX) (n : Node) (h : siNode x = some n) : ∃ ks, n = .elem ['s', 'i'] [] ks := by
  simp only [siNode, Option.bind_eq_some_iff] at h
  obtain ⟨t, _, rs, _, h3⟩ := h
  exact ⟨_, (Option.some.inj h3).symm⟩

theorem renderCells_nf (xf : List Char → Nat) (xs : List CellX) (ns : List Node) (h : renderCells xf xs = some ns) :
    ElemsNF ns :=
  mapOpt_nf _ (fun cx k hk => by
    obtain ⟨_, _, _, rfl⟩ := cellNode_isC _ _ _ hk
    exact ⟨rfl, cellNode_isNF _ _ _ hk⟩) xs ns h

end Umya.CellNode
