/-
  The definitions of `Umya/Model/CellXml.lean` one at a time, as the equations and case lists the round trips use.
  `mapOpt` is the model's `List.mapM` in `Option`.
-/
import Umya.Model.CellXml
import Umya.Lemmas.Xml
import Umya.Lemmas.InternC01
import Umya.Lemmas.ListRel
namespace Umya.CellXml
open Umya.Xml Umya.Num Umya.Coord Umya.Dec

theorem mem_upper {s : Text} {c : Char} (h : c ∈ upper s) : ∃ d ∈ s, upChar d = c := by
  simpa [upper] using h

theorem numChar_cases {c : Char} (h : numChar c = true) :
    c = '-' ∨ c = '0' ∨ c = '1' ∨ c = '2' ∨ c = '3' ∨ c = '4' ∨ c = '5' ∨ c = '6' ∨ c = '7' ∨ c = '8' ∨ c = '9' ∨
    c = '.' ∨ c = 'e' ∨ c = 'E' ∨ c = '+' ∨ c = 'i' ∨ c = 'n' ∨ c = 'f' ∨ c = 'N' ∨ c = 'a' := by
  simpa [numChar] using h

theorem numChar_not_TL_hash_ws {c : Char} (h : numChar c = true) :
    upChar c ≠ 'T' ∧ upChar c ≠ 'L' ∧ upChar c ≠ '#' ∧ isXmlWs c = false := by
  rcases numChar_cases h with h | h | h | h | h | h | h | h | h | h | h | h | h | h | h | h | h | h | h | h <;>
    subst h <;> decide

theorem RawValue.isEmpty_iff {N} {r : RawValue N} : r.isEmpty = true ↔ r = .empty := by
  cases r <;> simp [RawValue.isEmpty]

theorem isEmpty_isNone_iff {N} {r : RawValue N} {fo : Option Text} : r.isEmpty = true ∧ fo.isNone = true ↔ r = .empty ∧ fo = none := by
  rw [RawValue.isEmpty_iff, Option.isNone_iff_eq_none]

theorem errText_mem_hash (e : ErrT) : '#' ∈ e.text := by cases e <;> simp [ErrT.text]

theorem errText_ne_nil (e : ErrT) : e.text ≠ [] := List.ne_nil_of_mem (errText_mem_hash e)

theorem errText_no_ws (e : ErrT) : ∀ c ∈ e.text, isXmlWs c = false := by
  cases e <;> decide

theorem ofText?_none_of_no_hash {u : Text} (h : '#' ∉ u) : ErrT.ofText? u = none := by
  unfold ErrT.ofText?
  rw [List.find?_eq_none]
  intro e _ he
  have : e.text = u := by simpa using he
  exact h (this ▸ errText_mem_hash e)

section
variable (F : NumFmt)

theorem guess_fmt (hF : F.Sound) (n : F.Num) : guess F (F.fmt n) = .num n := by
  -- no character of a printed number is `T`, `L` or `#` in upper case: the text is not TRUE, not FALSE, no error code
  have hu : ∀ c ∈ upper (F.fmt n), c ≠ 'T' ∧ c ≠ 'L' ∧ c ≠ '#' := fun c h => by
    obtain ⟨d, hd, rfl⟩ := mem_upper h
    have := numChar_not_TL_hash_ws (hF.fmt_chars n d hd)
    exact ⟨this.1, this.2.1, this.2.2.1⟩
  have h0 : upper (F.fmt n) ≠ [] := fun h => hF.fmt_ne n (by simpa [upper] using h)
  have h1 : upper (F.fmt n) ≠ sTRUE := fun h => (hu 'T' (h ▸ by decide)).1 rfl
  have h2 : upper (F.fmt n) ≠ sFALSE := fun h => (hu 'L' (h ▸ by decide)).2.1 rfl
  simp only [guess, if_neg h0, if_neg h1, if_neg h2, ofText?_none_of_no_hash fun h => (hu '#' h).2.2 rfl, hF.parse_fmt n]

theorem guess_errText (e : ErrT) : guess F e.text = .err e := by
  cases e <;> rfl

theorem fmt_no_ws (hF : F.Sound) (n : F.Num) : ∀ c ∈ F.fmt n, isXmlWs c = false :=
  fun c hc => (numChar_not_TL_hash_ws (hF.fmt_chars n c hc)).2.2.2

theorem guess_cases (s : Text) :
    guess F s = .empty ∨ (∃ b, guess F s = .bool b) ∨ (∃ e, guess F s = .err e) ∨ (∃ n, guess F s = .num n) ∨
      guess F s = .str s := by
  unfold guess
  by_cases h1 : upper s = []
  · exact Or.inl (if_pos h1)
  by_cases h2 : upper s = sTRUE
  · exact Or.inr (Or.inl ⟨true, by rw [if_neg h1, if_pos h2]⟩)
  by_cases h3 : upper s = sFALSE
  · exact Or.inr (Or.inl ⟨false, by rw [if_neg h1, if_neg h2, if_pos h3]⟩)
  simp only [if_neg h1, if_neg h2, if_neg h3]
  cases ErrT.ofText? (upper s) with
  | some e => exact Or.inr (Or.inr (Or.inl ⟨e, rfl⟩))
  | none =>
    cases F.parse s with
    | some n => exact Or.inr (Or.inr (Or.inr (Or.inl ⟨n, rfl⟩)))
    | none => exact Or.inr (Or.inr (Or.inr (Or.inr rfl)))

theorem guess_not_lazy (s : Text) : (guess F s).isLazy = false := by
  rcases guess_cases F s with h | ⟨_, h⟩ | ⟨_, h⟩ | ⟨_, h⟩ | h <;> rw [h] <;> rfl

theorem resolveRaw_not_lazy (r : RawValue F.Num) : (resolveRaw F r).isLazy = false := by
  cases r <;> first | rfl | exact guess_not_lazy F _

theorem resolveRaw_of_not_lazy {r : RawValue F.Num} (h : r.isLazy = false) : resolveRaw F r = r := by
  cases r <;> first | rfl | simp [RawValue.isLazy] at h

theorem resolveRaw_idem (r : RawValue F.Num) : resolveRaw F (resolveRaw F r) = resolveRaw F r :=
  resolveRaw_of_not_lazy F (resolveRaw_not_lazy F r)

theorem resolved_of_not_lazy {c : Cell F.Num} (h : c.raw.isLazy = false) : Cell.resolved F c = c := by
  obtain ⟨col, row, raw, fo, styled⟩ := c
  simp only [Cell.resolved]
  rw [resolveRaw_of_not_lazy F h]

theorem resolved_idem (c : Cell F.Num) : Cell.resolved F (Cell.resolved F c) = Cell.resolved F c :=
  resolved_of_not_lazy F (resolveRaw_not_lazy F c.raw)

theorem blankUnstyled_of_not_lazy {c : Cell F.Num} (h : c.raw.isLazy = false) : blankUnstyled F c = blankCore F c := by
  unfold blankUnstyled; rw [resolved_of_not_lazy F h]

theorem blankUnstyled_iff (c : Cell F.Num) :
    blankUnstyled F c = true ↔ resolveRaw F c.raw = .empty ∧ c.formula = none ∧ c.styled = false := by
  simp [blankUnstyled, blankCore, Cell.resolved, RawValue.isEmpty_iff, and_assoc]

theorem blankUnstyled_resolved (c : Cell F.Num) : blankUnstyled F (Cell.resolved F c) = blankUnstyled F c := by
  unfold blankUnstyled; rw [resolved_idem]

theorem writeTo_of_not_lazy (tbl : Table) {c : Cell F.Num} (h : c.raw.isLazy = false) :
    writeTo F tbl c = writeCore F tbl c := by
  unfold writeTo; rw [resolved_of_not_lazy F h]

/-- the literal shape of the repaired `write_to`: a lazy value is converted on a clone and the clone is written -/
theorem writeTo_lazy (tbl : Table) (c : Cell F.Num) (s : Text) (h : c.raw = .lazy s) :
    writeTo F tbl c = writeTo F tbl { c with raw := guess F s } := by
  have e : Cell.resolved F c = { c with raw := guess F s } := by simp [Cell.resolved, h, resolveRaw]
  have e2 : writeTo F tbl { c with raw := guess F s } = writeCore F tbl { c with raw := guess F s } :=
    writeTo_of_not_lazy F tbl (guess_not_lazy F s)
  rw [e2, ← e]; rfl

theorem dataTypeOf_rich (rs : List Run) (fo : Option Text) : dataTypeOf F (.rich rs) fo = tS := by cases fo <;> rfl
theorem dataTypeOf_num (n : F.Num) (fo : Option Text) : dataTypeOf F (.num n) fo = tN := by cases fo <;> rfl
theorem dataTypeOf_bool (b : Bool) (fo : Option Text) : dataTypeOf F (.bool b) fo = tB := by cases fo <;> rfl
theorem dataTypeOf_err (e : ErrT) (fo : Option Text) : dataTypeOf F (.err e) fo = tE := by cases fo <;> rfl

theorem writeV_shared (tbl : Table) (raw : RawValue F.Num) (h : raw.isEmpty = false) :
    writeV F tbl tS raw = ((Umya.InternC01.intern tbl (itemOf F raw)).1,
        .text (escape (decDigits (Umya.InternC01.intern tbl (itemOf F raw)).2))) := by
  unfold writeV; rw [h]; rfl

theorem writeV_str (tbl : Table) (s : Text) : writeV F tbl tSTR (.str s) = (tbl, .text (partialEscape s)) := rfl
theorem writeV_num (tbl : Table) (n : F.Num) : writeV F tbl tN (.num n) = (tbl, .text (partialEscape (F.fmt n))) := rfl
theorem writeV_bool (tbl : Table) (b : Bool) :
    writeV F tbl tB (.bool b) = (tbl, .text (escape (if b then ['1'] else ['0']))) := by cases b <;> rfl
theorem writeV_err (tbl : Table) (e : ErrT) : writeV F tbl tE (.err e) = (tbl, .text (escape e.text)) := rfl

theorem writeV_grows (tbl : Table) (dt : Text) (raw : RawValue F.Num) :
    ∃ ext, (writeV F tbl dt raw).1 = tbl ++ ext ∧ ∀ it ∈ ext, it = itemOf F raw := by
  unfold writeV
  split
  · exact ⟨[], (List.append_nil tbl).symm, nofun⟩
  · split
    · obtain ⟨ext, he, hx⟩ := (Umya.InternC01.intern_spec tbl (itemOf F raw)).1
      exact ⟨ext, he, fun y hy => (hx y hy).1⟩
    · repeat' split
      all_goals exact ⟨[], (List.append_nil tbl).symm, nofun⟩

theorem writeCore_blank (tbl : Table) {c : Cell F.Num} (hb : blankCore F c = true) : writeCore F tbl c = some (tbl, none) := by
  rw [writeCore, if_pos hb]

/-- column 0 has no letters: the only panic modelled -/
theorem writeCore_col0 (tbl : Table) {c : Cell F.Num} (hb : blankCore F c = false) (hc : c.col = 0) : writeCore F tbl c = none := by
  simp [writeCore, hb, coordinateFromIndexWithLock?, hc]

theorem coordinate?_of_pos {col : Nat} (row : Nat) (hc : 1 ≤ col) :
    coordinateFromIndexWithLock? col row false false = some (coordinateFromIndexWithLock col row false false) := by
  simp [coordinateFromIndexWithLock?, coordinateFromIndexWithLock, hc]

theorem writeCore_bare (tbl : Table) {c : Cell F.Num} (hb : blankCore F c = false) (hc : 1 ≤ c.col)
    (he : c.raw.isEmpty = true ∧ c.formula.isNone = true) :
    writeCore F tbl c = some (tbl, some { ref := coordinateFromIndexWithLock c.col c.row false false,
                                          t := tAttrOf (dataTypeCrate F c), styled := c.styled }) := by
  simp only [writeCore, hb, coordinate?_of_pos c.row hc, Bool.false_eq_true, if_false, if_pos he]

theorem writeCore_value (tbl : Table) {c : Cell F.Num} (hb : blankCore F c = false) (hc : 1 ≤ c.col)
    (he : ¬ (c.raw.isEmpty = true ∧ c.formula.isNone = true)) :
    writeCore F tbl c = some ((writeV F tbl (dataTypeCrate F c) c.raw).1,
      some { ref := coordinateFromIndexWithLock c.col c.row false false, t := tAttrOf (dataTypeCrate F c), styled := c.styled,
             f := c.formula.map partialEscape, v := (writeV F tbl (dataTypeCrate F c) c.raw).2 }) := by
  simp only [writeCore, hb, coordinate?_of_pos c.row hc, Bool.false_eq_true, if_false, if_neg he]

theorem writeCells_cons_some {tbl tbl' : Table} {c : Cell F.Num} {cs : List (Cell F.Num)} {xs : List CellX}
    (h : writeCells F tbl (c :: cs) = some (tbl', xs)) :
    ∃ t1 ox ys, writeTo F tbl c = some (t1, ox) ∧ writeCells F t1 cs = some (tbl', ys) ∧ xs = consOpt ox ys := by
  simp only [writeCells] at h
  cases hw : writeTo F tbl c with
  | none => simp [hw] at h
  | some p =>
    cases hws : writeCells F p.1 cs with
    | none => simp [hw, hws] at h
    | some q =>
      simp only [hw, hws, Option.some.injEq, Prod.mk.injEq] at h
      exact ⟨p.1, p.2, q.2, rfl, h.1 ▸ hws, h.2.symm⟩

theorem writeSheets_cons_some {tbl tbl' : Table} {s : List (Cell F.Num)} {ss : List (List (Cell F.Num))} {xss : List (List CellX)}
    (h : writeSheets F tbl (s :: ss) = some (tbl', xss)) :
    ∃ t1 xs yss, writeCells F tbl s = some (t1, xs) ∧ writeSheets F t1 ss = some (tbl', yss) ∧ xss = xs :: yss := by
  simp only [writeSheets] at h
  cases hw : writeCells F tbl s with
  | none => simp [hw] at h
  | some p =>
    cases hws : writeSheets F p.1 ss with
    | none => simp [hw, hws] at h
    | some q =>
      simp only [hw, hws, Option.some.injEq, Prod.mk.injEq] at h
      exact ⟨p.1, p.2, q.2, rfl, h.1 ▸ hws, h.2.symm⟩

end

/-- an item that `readSi` gives back: it turns an empty run list into `none`, so a rich text without runs does not survive -/
def ItemOK (it : Item) : Prop := it.rich ≠ some []

theorem mapOpt_eq_mapM {α β} (f : α → Option β) (l : List α) : mapOpt f l = l.mapM f := by
  induction l with
  | nil => rfl
  | cons a l ih => rw [mapOpt, ih, List.mapM_cons]; cases f a <;> cases l.mapM f <;> rfl

theorem mapOpt_some {α β : Type} {f : α → Option β} {l : List α} {bs : List β} :
    mapOpt f l = some bs ↔ Forall₂ (fun b a => f a = some b) bs l := by
  rw [mapOpt_eq_mapM]; exact mapM_eq_some

theorem mapOpt_map {α β γ : Type} (f : β → Option γ) (g : α → β) (k : α → γ) (l : List α) (h : ∀ a ∈ l, f (g a) = some (k a)) :
    mapOpt f (l.map g) = some (l.map k) := by
  rw [mapOpt_eq_mapM, List.mapM_map]; exact mapM_some _ k l h

theorem mapOpt_map_result {α β γ} (f : α → Option β) (g : β → γ) (f' : α → Option γ) (h : ∀ a, f' a = (f a).map g) :
    ∀ l : List α, mapOpt f' l = (mapOpt f l).map (·.map g)
  | [] => rfl
  | a :: l => by
    simp only [mapOpt, h a, mapOpt_map_result f g f' h l]
    cases f a with
    | none => rfl
    | some b =>
      cases mapOpt f l with
      | none => rfl
      | some bs => rfl

theorem readTX_writeText (s : Text) : readTX (writeText s) = some s := by
  simp [readTX, writeText, readText_false_escape]

theorem readRun_write (r : Run) : readRun { font := r.font, t := writeText r.text } = some r := by
  simp [readRun, readTX_writeText]

theorem readSi_siOf (it : Item) (h : ItemOK it) : readSi (siOf it) = some it := by
  obtain ⟨text, rich⟩ := it
  have e1 : readOptTX (Option.map writeText text) = some text := by
    cases text <;> simp [readOptTX, readTX_writeText]
  cases rich with
  | none => simp [readSi, siOf, e1, mapOpt]
  | some rs =>
    have e2 : mapOpt readRun (rs.map fun r => ({ font := r.font, t := writeText r.text } : RunX)) = some rs := by
      rw [mapOpt_map readRun _ id rs fun a _ => readRun_write a, List.map_id]
    have hne : rs ≠ [] := by intro e; exact h (by simp [e])
    simp [readSi, siOf, e1, e2, hne]

theorem readSst_writeSst (t : Table) (h : ∀ it ∈ t, ItemOK it) : mapOpt readSi (t.map siOf) = some t := by
  rw [mapOpt_map readSi siOf id t fun a ha => readSi_siOf a (h a ha), List.map_id]

theorem decDigits_no_ws (n : Nat) : ∀ c ∈ decDigits n, isXmlWs c = false := decDigits_forall _ (by decide) n

theorem stripPlus_decDigits (n : Nat) : stripPlus (decDigits n) = decDigits n := by
  unfold stripPlus
  split
  · next r he => exact absurd he (decDigits_ne_cons (by decide) n r)
  · rfl

/-- 18446744073709551616 = 2^64: the range of `usize`, in which the reader parses the index (`str::parse::<usize>`) -/
theorem parseUsize_decDigits (n : Nat) (h : n < 18446744073709551616) : parseUsize (decDigits n) = some n := by
  unfold parseUsize
  simp only [stripPlus_decDigits, if_neg (decDigits_ne_nil n), decDigits_all_digit, if_true, parseDec_decDigits, h]

end Umya.CellXml
