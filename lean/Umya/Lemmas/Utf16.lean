/-
  The UTF-16 encoder of the CSV model is two stages, scalar values to 16-bit units (`flatMap utf16Units`) and units to
  bytes (`flatMap (unitBytes be)`) (`encodeUtf16_eq_units`); each of the two stages of the strict decoder, `unitsOfBytes`
  and `charsOfUnits`, inverts one of them, which is why their lemmas are stated on `flatMap`s.
-/
import Umya.Model.Csv
namespace Umya.Lemmas.Utf16
open Umya.Csv

theorem char_range (c : Char) : c.toNat < 0xD800 ∨ (0xDFFF < c.toNat ∧ c.toNat < 0x110000) := by
  have := c.valid
  simpa [UInt32.isValidChar, Nat.isValidChar] using this

theorem utf16Units_lt (c : Char) : ∀ u ∈ utf16Units c, u < 65536 := by
  have hc := char_range c
  intro u hu
  unfold utf16Units at hu
  split at hu <;> simp at hu <;> omega

theorem unitsOfBytes_unitBytes (be : Bool) (us : List Nat) (h : ∀ u ∈ us, u < 65536) :
    unitsOfBytes be (us.flatMap (unitBytes be)) = some us := by
  induction us with
  | nil => simp [unitsOfBytes]
  | cons u us ih =>
    have hu : u < 65536 := h u (by simp)
    have ih' := ih (fun x hx => h x (by simp [hx]))
    have h1 : (UInt8.ofNat (u / 256)).toNat = u / 256 := UInt8.toNat_ofNat_of_lt' (show u / 256 < 256 by omega)
    have h2 : (UInt8.ofNat (u % 256)).toNat = u % 256 := UInt8.toNat_ofNat_of_lt' (show u % 256 < 256 by omega)
    cases be <;>
      simp only [List.flatMap_cons, unitBytes, Bool.false_eq_true, if_false, if_true, List.cons_append,
        List.nil_append, unitsOfBytes, ih', h1, h2] <;>
      congr 2 <;> omega

theorem utf16Units_bmp (c : Char) (h : c.toNat < 0x10000) : utf16Units c = [c.toNat] := by
  simp [utf16Units, h]

theorem utf16Units_astral (c : Char) (h : ¬ c.toNat < 0x10000) :
    utf16Units c = [0xD800 + (c.toNat - 0x10000) / 0x400, 0xDC00 + (c.toNat - 0x10000) % 0x400] := by
  simp [utf16Units, h]

theorem charsOfUnits_pair (q r : Nat) (hq : q < 0x400) (hr : r < 0x400) (rest : List Nat) :
    charsOfUnits ((0xD800 + q) :: (0xDC00 + r) :: rest) =
      (charsOfUnits rest).map (Char.ofNat (0x10000 + q * 0x400 + r) :: ·) := by
  rw [charsOfUnits, if_neg (by omega), if_pos (by omega)]
  simp only [if_pos (show 0xDC00 ≤ 0xDC00 + r ∧ 0xDC00 + r < 0xE000 by omega), Nat.add_sub_cancel_left]
  cases charsOfUnits rest <;> rfl

theorem charsOfUnits_utf16Units (s : Text) : charsOfUnits (s.flatMap utf16Units) = some s := by
  induction s with
  | nil => simp [charsOfUnits]
  | cons c s ih =>
    have hc := char_range c
    simp only [List.flatMap_cons]
    by_cases hb : c.toNat < 0x10000
    · rw [utf16Units_bmp c hb]
      simp only [List.cons_append, List.nil_append]
      unfold charsOfUnits
      have : c.toNat < 0xD800 ∨ 0xE000 ≤ c.toNat := by omega
      rw [if_pos this, ih, Char.ofNat_toNat]
    · rw [utf16Units_astral c hb]
      -- write `c.toNat - 0x10000 = q * 0x400 + r`; with `q`, `r` as variables the two units are those of `charsOfUnits_pair`
      have hn := Nat.div_add_mod (c.toNat - 0x10000) 0x400
      have hq : (c.toNat - 0x10000) / 0x400 < 0x400 := Nat.div_lt_of_lt_mul (by omega)
      have hr := Nat.mod_lt (c.toNat - 0x10000) (show 0x400 > 0 by decide)
      generalize (c.toNat - 0x10000) / 0x400 = q at *
      generalize (c.toNat - 0x10000) % 0x400 = r at *
      simp only [List.cons_append, List.nil_append]
      rw [charsOfUnits_pair q r hq hr, ih, show 0x10000 + q * 0x400 + r = c.toNat by omega, Char.ofNat_toNat]
      rfl

theorem encodeUtf16_eq_units (be : Bool) (s : Text) :
    encodeUtf16 be s = (s.flatMap utf16Units).flatMap (unitBytes be) := List.flatMap_assoc.symm

theorem decode_encode (be : Bool) (s : Text) : decodeUtf16 be (encodeUtf16 be s) = some s := by
  unfold decodeUtf16
  rw [encodeUtf16_eq_units, unitsOfBytes_unitBytes]
  · exact charsOfUnits_utf16Units s
  · intro u hu
    rw [List.mem_flatMap] at hu
    obtain ⟨c, _, hc⟩ := hu
    exact utf16Units_lt c u hc

end Umya.Lemmas.Utf16
