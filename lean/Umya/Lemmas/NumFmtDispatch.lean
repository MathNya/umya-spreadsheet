/-
  The dispatcher of number formatting (`Umya/Model/NumFmtDispatch.lean`) yields a text for every value when its plan passes
  the decidable test `planOk` (`run_isOk`), and what a number / percentage / fraction plan shows (`run_number`, `run_percent`, `run_fraction`).
  Behind `run_isOk`: the strftime string of a date plan renders whatever the text of `value * 24` is, since `sfOk` (of
  `Lemmas/DateFmt`) holds of every piece (`Seg`) and a piece renders in front of any rest that does; the fraction formatter's
  `replace("0.", "")` then `parse::<f64>()` succeeds on the text of a number in `[0, 1)`.  Behind the other two: `str::trim`
  is the identity on the texts the number / percentage renderers produce (`numCh`).
-/
import Umya.Model.NumFmtDispatch
import Umya.Lemmas.DateFmt
import Umya.Lemmas.NumFmt
import Umya.Lemmas.ListFacts
namespace Umya.Lemmas.NumFmtDispatch
open Umya.NumFmtDispatch Umya.NumFmt Umya.Dec Umya.Date Umya.Lemmas.DateFmt Umya.Spec

theorem sfOk_hoursText : ∀ (h : List Char), isHoursText h = true → sfOk h = true := by
  intro h
  induction h with
  | nil => intro _; rfl
  | cons c r ih =>
    intro hh
    simp only [isHoursText, List.all_cons, Bool.and_eq_true, bne_iff_ne, ne_eq] at hh
    have := ih (by simpa [isHoursText] using hh.2)
    rw [sfOk.eq_def]
    simp [hh.1, this]

/-- every literal piece is a well-formed strftime string on its own -/
def segsOk (segs : List Seg) : Bool :=
  segs.all (fun s => match s with
    | .lit l => sfOk l
    | .hours => true)

theorem flatten_ok (dt : DateTime) (hm : 1 ≤ dt.month ∧ dt.month ≤ 12) (segs : List Seg) (h : List Char)
    (hs : segsOk segs = true) (hh : isHoursText h = true) : Renders dt (flatten segs h) := by
  induction segs with
  | nil => exact renders_nil dt
  | cons s r ih =>
    simp only [segsOk, List.all_cons, Bool.and_eq_true] at hs
    have hr := ih (by simpa [segsOk] using hs.2)
    simp only [flatten, List.flatMap_cons]
    cases s with
    | lit l => exact strftime_some dt hm _ hr l hs.1
    | hours => exact strftime_some dt hm _ hr h (sfOk_hoursText h hh)

theorem trimWs_id (s : List Char) (h1 : ∀ c, s.head? = some c → isWs c = false)
    (h2 : ∀ c, s.getLast? = some c → isWs c = false) : trimWs s = s := by
  unfold trimWs
  rw [dropWhile_of_head?_false isWs s h1, dropWhile_of_head?_false isWs s.reverse (by simpa using h2), List.reverse_reverse]

/-- the characters of a rendered number -/
def numCh (c : Char) : Bool := isDigit c || c == ',' || c == '-' || c == '.' || c == '%'

theorem numCh_not_ws (c : Char) (h : numCh c = true) : isWs c = false := by
  simp only [numCh, Bool.or_eq_true, beq_iff_eq] at h
  rcases h with (((h | h) | h) | h) | h
  · simp only [isDigit, Bool.and_eq_true, decide_eq_true_eq] at h
    simp only [isWs, Bool.or_eq_false_iff, Bool.and_eq_false_iff, decide_eq_false_iff_not, beq_eq_false_iff_ne]
    omega
  all_goals (subst h; decide)

theorem trimWs_numCh (s : List Char) (h : s.all numCh = true) : trimWs s = s := by
  rw [List.all_eq_true] at h
  apply trimWs_id
  · intro c hc
    exact numCh_not_ws c (h c (List.mem_of_mem_head? hc))
  · intro c hc
    exact numCh_not_ws c (h c (List.mem_of_getLast? hc))

theorem groupNat_numCh (m : Nat) : (groupNat m).all numCh = true :=
  groupNat_all (fun c h => by simp [numCh, h]) (by decide) m

theorem digits_numCh (l : List Char) (h : l.all isDigit = true) : l.all numCh = true := by
  rw [List.all_eq_true] at h ⊢
  intro c hc
  simp [numCh, h c hc]

theorem render_numCh (sgn : Bool) (R n : Nat) (th : Bool) : (render sgn R n th).all numCh = true := by
  unfold render intText
  simp only [List.all_append, Bool.and_eq_true]
  refine ⟨⟨?_, ?_⟩, ?_⟩
  · cases sgn <;> decide
  · cases th
    · simpa using digits_numCh _ (decDigits_all_digit _)
    · simpa using groupNat_numCh _
  · split
    · rfl
    · simp only [List.all_cons, Bool.and_eq_true]
      exact ⟨by decide, digits_numCh _ (padLeft_all_digit _ _)⟩

theorem formatDecimal_numCh (t : DecText) (shift n : Nat) (th : Bool) :
    (formatDecimal t shift n th).all numCh = true := by
  rw [formatDecimal_eq]; exact render_numCh _ _ _ _

theorem trimWs_formatDecimal_pct (t : DecText) (shift n : Nat) (th : Bool) :
    trimWs (formatDecimal t shift n th ++ ['%']) = formatDecimal t shift n th ++ ['%'] := by
  apply trimWs_numCh
  simp only [List.all_append, Bool.and_eq_true]
  exact ⟨formatDecimal_numCh t shift n th, by decide⟩

theorem replaceAll_digits (rep : List Char) :
    ∀ ds : List Char, ds.all isDigit = true → replaceAll ds ['0', '.'] rep = ds
  | [], _ => rfl
  | c :: r, h => by
    simp only [List.all_cons, Bool.and_eq_true] at h
    have hsw : startsWith (c :: r) ['0', '.'] = false := by
      cases r with
      | nil => simp [startsWith]
      | cons d r' =>
        have hd : isDigit d = true := by
          have := h.2; simp only [List.all_cons, Bool.and_eq_true] at this; exact this.1
        have : d ≠ '.' := by intro e; subst e; exact absurd hd (by decide)
        simp [startsWith, this]
    rw [replaceAll_cons, hsw, replaceAll_digits rep r h.2]; rfl

theorem asciiLower_digit (c : Char) (h : isDigit c = true) : asciiLower c = c := by
  simp only [isDigit, Bool.and_eq_true, decide_eq_true_eq] at h
  unfold asciiLower
  rw [if_neg (by omega)]

theorem isF64Syntax_digits (ds : List Char) (hne : ds ≠ []) (h : ds.all isDigit = true) :
    isF64Syntax ds = true := by
  obtain ⟨c, r, rfl⟩ := List.exists_cons_of_ne_nil hne
  have hall := List.all_eq_true.1 h
  have hc : isDigit c = true := hall c List.mem_cons_self
  have hs : stripSign (c :: r) = c :: r := by
    unfold stripSign
    split
    · rename_i heq; cases heq; exact absurd hc (by decide)
    · rename_i heq; cases heq; exact absurd hc (by decide)
    · rfl
  -- `inf`, `infinity`, `nan` do not start with a digit
  have hlow : ∀ (x : Char) (w : List Char), isDigit x = false → (c :: r).map asciiLower ≠ x :: w := by
    intro x w hx e
    rw [List.map_cons, asciiLower_digit c hc] at e
    rw [(List.cons.inj e).1, hx] at hc
    cases hc
  unfold isF64Syntax
  simp only [hs]
  rw [if_neg (by rintro (e | e | e) <;> exact hlow _ _ (by decide) e)]
  simp [takeWhile_all _ _ hall, dropWhile_all _ _ hall]

theorem fractionDecimalPart_some (rem : List Char) (h : isFracText rem = true) :
    ∃ s, fractionDecimalPart rem = some s := by
  unfold isFracText at h
  split at h
  · exact ⟨['0'], by decide⟩
  · rename_i ds
    simp only [Bool.and_eq_true, Bool.not_eq_true', List.isEmpty_eq_false_iff] at h
    have hgo : replaceAll ('0' :: '.' :: ds) ['0', '.'] [] = ds := by
      rw [replaceAll_cons]; simpa [startsWith] using replaceAll_digits [] ds h.2
    unfold fractionDecimalPart
    simp only [hgo, isF64Syntax_digits ds h.1 h.2, if_true]
    exact ⟨_, rfl⟩
  · cases h

/-- a fraction plan does not reach the `unwrap` of `format_as_fraction` with a text it fails on -/
theorem run_fraction {F : Type} [FloatOps F] (pre : List Char) (useAbs : Bool) (v : List Char) (env : Env F)
    (hr : isFracText env.rem = true) :
    run (.fraction pre useAbs) v env =
      if parsesAsUsize (if useAbs then absText v else v) then
        .ok .fractionWhole (some (trimWs (pre ++ if useAbs then absText v else v)))
      else .ok .fraction none := by
  obtain ⟨s, hs⟩ := fractionDecimalPart_some env.rem hr
  simp only [run, hs]

/-- decidable test on a plan: none of its steps can panic or leave the model, given an `Env` whose texts have the shapes
    `run_isOk` asks for -/
def planOk : Plan → Bool
  | .date segs _ => segsOk segs
  | .stop _ => false
  | _ => true

/-- the `match` is the date arm of `run`, word for word, so that `run_isOk` applies this to either setting of `useAbs` -/
theorem date_isOk {F : Type} [FloatOps F] (segs : List Seg) (g h : List Char) (ts : F)
    (hs : segsOk segs = true) (hh : isHoursText h = true) :
    ∃ b t, (match excelToEpochSecondsChecked ts with
      | none => Outcome.ok .dateOutOfRange (some (trimWs g))
      | some t =>
        match strftime (ofEpochSeconds t) (flatten segs h) ((flatten segs h).length + 1) with
        | some s => Outcome.ok .date (some (trimWs s))
        | none => Outcome.unmodelled "strftime specifier") = .ok b t := by
  cases excelToEpochSecondsChecked ts with
  | none => exact ⟨_, _, rfl⟩
  | some t =>
    obtain ⟨s, hs'⟩ := flatten_ok _ (ofEpochSeconds_month t) segs h hs hh _ (Nat.lt_succ_self _)
    refine ⟨.date, some (trimWs s), ?_⟩
    simp [hs']

theorem run_isOk {F : Type} [FloatOps F] (p : Plan) (v : List Char) (env : Env F) (hp : planOk p = true)
    (hr : isFracText env.rem = true) (hh : isHoursText env.hours = true) (hha : isHoursText env.hoursAbs = true) :
    ∃ b t, run p v env = .ok b t := by
  cases p with
  | general => exact ⟨_, _, rfl⟩
  | text => exact ⟨_, _, rfl⟩
  | date segs useAbs =>
    simp only [planOk] at hp
    unfold run
    cases useAbs
    · exact date_isOk segs v env.hours env.val hp hh
    · exact date_isOk segs (absText v) env.hoursAbs env.absVal hp hha
  | literal inner =>
    by_cases hf : isF64Syntax inner = true
    · exact ⟨.literal, none, by simp only [run, hf, if_true]⟩
    · exact ⟨.literal, some (trimWs inner), by simp only [run, hf]; rfl⟩
  | percent n th useAbs => exact ⟨_, _, rfl⟩
  | fraction pre useAbs =>
    rw [run_fraction pre useAbs v env hr]
    cases parsesAsUsize (if useAbs then absText v else v) <;> exact ⟨_, _, rfl⟩
  | number dec th pre useAbs =>
    cases dec with
    | none => exact ⟨_, _, rfl⟩
    | some n => exact ⟨_, _, rfl⟩
  | stop s => simp [planOk] at hp

theorem dispatch_eq_run {F : Type} [FloatOps F] {code : List Char} (v : List Char) (env : Env F) (hv : isPlainDecimal v = true) :
    dispatch code v env = run (plan code (signClass v)) v env := by
  simp [dispatch, hv]

theorem render_ne_nil (sgn : Bool) (R n : Nat) (th : Bool) : render sgn R n th ≠ [] := by
  unfold render intText
  intro h
  simp only [List.append_eq_nil_iff] at h
  cases th
  · exact decDigits_ne_nil _ (by simpa using h.1.2)
  · have hf := groupNat_filter (R / 10 ^ n)
    have hg : groupNat (R / 10 ^ n) = [] := by simpa using h.1.2
    rw [hg] at hf
    exact decDigits_ne_nil _ hf.symm

theorem formatDecimal_ne_nil (t : DecText) (shift n : Nat) (th : Bool) : formatDecimal t shift n th ≠ [] := by
  rw [formatDecimal_eq]
  exact render_ne_nil _ _ _ _

theorem trimWs_prefixed (pre : List Char) (t : DecText) (n : Nat) (th : Bool)
    (hpre : ∀ c, pre.head? = some c → isWs c = false) :
    trimWs (pre ++ formatDecimal t 0 n th) = pre ++ formatDecimal t 0 n th := by
  have hne := formatDecimal_ne_nil t 0 n th
  have hall := List.all_eq_true.mp (formatDecimal_numCh t 0 n th)
  apply trimWs_id
  · intro c hc
    cases pre with
    | nil => exact numCh_not_ws c (hall c (List.mem_of_mem_head? hc))
    | cons d r => exact hpre c hc
  · intro c hc
    rw [List.getLast?_append, List.getLast?_eq_some_getLast hne, Option.some_or] at hc
    cases hc
    exact numCh_not_ws _ (hall _ (List.getLast_mem hne))

/-- `hpre`: `trim` changes nothing when the prefix does not start with white space -/
theorem run_number {F : Type} [FloatOps F] (v : List Char) (env : Env F) (t : DecText) {n : Nat} {th : Bool}
    (pre : List Char) (useAbs : Bool) (ht : parseDecText (if useAbs then absText v else v) = some t)
    (hpre : ∀ c, pre.head? = some c → isWs c = false) :
    run (.number (some n) th pre useAbs) v env = .ok .number (some (pre ++ formatFixed t n th)) := by
  simp only [run, formatDecimalText, ht, formatFixed, trimWs_prefixed pre t n th hpre]

theorem run_percent {F : Type} [FloatOps F] (v : List Char) (env : Env F) (t : DecText) (n : Nat) (th : Bool)
    (useAbs : Bool) (ht : parseDecText (if useAbs then absText v else v) = some t) :
    run (.percent n th useAbs) v env = .ok .percent (some (formatPercent t n th)) := by
  simp only [run, formatDecimalText, ht, trimWs_formatDecimal_pct, formatPercent]

end Umya.Lemmas.NumFmtDispatch
