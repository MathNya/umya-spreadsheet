/-
  What the decoder reads from `<sheetData>` as a whole, from the children of `<worksheet>` (schema order, look-ups by
  name through the opaque frame), from the merged ranges, the hyperlinks and the relationships part.
-/
import Umya.Lemmas.SheetNodeRows
namespace Umya.SheetNode
open Umya.CellXml Umya.CellNode Umya.Dec Umya.Coord
open Umya.Spec.Sml
open Umya.Spec.Xml (Node Attr localName)

section
variable (F : Umya.Num.NumFmt)

theorem rowNumbers_rendered {xf : List Char → Nat} {t : Table} {gs : List (RowW × List (Cell F.Num))} {ns : List Node}
    (h : Forall₂ (RowRel F xf t) gs ns) : ∀ prev, rowNumbers prev ns = gs.map (·.1.num) := by
  induction h with
  | nil => intro _; rfl
  | cons hr _ ih =>
    intro prev
    obtain ⟨nodes, rfl, _, _⟩ := hr
    simp only [rowNumbers, List.map_cons]
    rw [toList_lit, row_attr_r]
    simp only [Option.bind_some, natOf_decDigits, Option.getD_some]
    rw [ih]

def GroupOk (g : RowW × List (Cell F.Num)) : Prop :=
  (∀ c ∈ g.2, c.row = g.1.num) ∧ g.2.Pairwise (fun a b => a.col < b.col) ∧ (∀ c ∈ g.2, 1 ≤ c.col ∧ c.col ≤ 16384)

theorem perRow_all (path : String) (nXf : Nat) (xf : List Char → Nat) (tblF sst : Table) (hx : Extends sst tblF)
    (hxf : ∀ ref, xf ref < nXf)
    {gs : List (RowW × List (Cell F.Num))} {ns : List Node} (h : Forall₂ (RowRel F xf tblF) gs ns)
    (hg : ∀ g ∈ gs, GroupOk F g) :
    dsPerRow path (sst.map itemText) nXf ns = gs.map (fun g => (cellViews F xf g.2, [])) := by
  unfold dsPerRow
  rw [rowNumbers_rendered F h 0]
  exact h.zip_map _ _ _ fun g hgm n hr =>
    perRow_rendered F path nXf xf tblF sst hx g n hr (hg g hgm).1 (hg g hgm).2.1 (hg g hgm).2.2 hxf

theorem rowVs_all {xf : List Char → Nat} {t : Table} {gs : List (RowW × List (Cell F.Num))} {ns : List Node}
    (h : Forall₂ (RowRel F xf t) gs ns) : dsRowVs ns = gs.map (fun g => rowView g.1) := by
  unfold dsRowVs
  rw [rowNumbers_rendered F h 0]
  refine h.zip_map _ _ _ fun g _ n hr => ?_
  obtain ⟨nodes, rfl, _, _⟩ := hr
  have e := row_attrs g.1 g.2 nodes
  simp only [rowFields, List.forall_mem_cons] at e
  obtain ⟨-, -, e3, e4, e5, e6, -⟩ := e
  -- `s` is read only under `customFormat`, and both are written exactly when the row has a style of its own
  simp only [boolAttrL, e3, e4, e5, e6, rowView]
  cases g.1.hidden <;> by_cases hx : g.1.xf > 0 <;> simp [hx, natOf_decDigits]

theorem noR_all {xf : List Char → Nat} {t : Table} {gs : List (RowW × List (Cell F.Num))} {ns : List Node}
    (h : Forall₂ (RowRel F xf t) gs ns) : dsNoR ns = false := by
  unfold dsNoR
  rw [List.any_eq_false]
  intro n hn
  obtain ⟨g, _, nodes, rfl, hc, _⟩ := h.mem_right hn
  have : nodes.any (fun c => (c.attr? ['r']).isNone) = false :=
    List.any_eq_false.2 fun k hk => by simp [isC_has_r k (hc k hk)]
  simp [row_attr_r, row_kids_c g.1 g.2 nodes hc, this]

theorem rowRel_isKid {xf : List Char → Nat} {t : Table} {gs : List (RowW × List (Cell F.Num))} {ns : List Node}
    (h : Forall₂ (RowRel F xf t) gs ns) : ns.filter (isKid nRow) = ns :=
  List.filter_eq_self.2 fun n hn => by
    obtain ⟨g, _, nodes, rfl, _, _⟩ := h.mem_right hn
    exact isKid_self _ _ _ (by decide)

end

/-- an element whose local name has a position in CT_Worksheet's child order (`nameIdx`; `idxOf` is that position) -/
def Known (k : Node) : Prop := k.isElem = true ∧ ∃ i, nameIdx k = some i

/-- a run of children at schema positions `lo..hi`, in schema order -/
def Seg (lo hi : Nat) (l : List Node) : Prop :=
  (∀ k ∈ l, Known k ∧ lo ≤ idxOf k ∧ idxOf k ≤ hi) ∧ l.Pairwise (fun a b => idxOf a ≤ idxOf b)

theorem seg_nil (lo hi : Nat) : Seg lo hi [] := ⟨by simp, List.Pairwise.nil⟩

theorem sortedIdx_pairwise (l : List Node) (h : sortedIdx l = true) : l.Pairwise (fun a b => idxOf a ≤ idxOf b) := by
  induction l with
  | nil => exact List.Pairwise.nil
  | cons a r ih =>
    simp only [sortedIdx, Bool.and_eq_true, List.all_eq_true, decide_eq_true_eq] at h
    exact List.pairwise_cons.2 ⟨h.1, ih h.2⟩

theorem opaqueOk_spec (lo hi : Nat) (k : Node) (h : opaqueOk lo hi k = true) : Known k ∧ lo ≤ idxOf k ∧ idxOf k ≤ hi := by
  unfold opaqueOk at h
  cases hi' : nameIdx k with
  | none => simp [hi'] at h
  | some i =>
    simp only [hi', Bool.and_eq_true, decide_eq_true_eq] at h
    exact ⟨⟨h.1, i, hi'⟩, by simp [idxOf, hi']; exact h.2.1, by simp [idxOf, hi']; exact h.2.2⟩

theorem seg_of_opaque (lo hi : Nat) (l : List Node) (h1 : l.all (opaqueOk lo hi) = true) (h2 : sortedIdx l = true) : Seg lo hi l :=
  ⟨fun k hk => opaqueOk_spec lo hi k (List.all_eq_true.1 h1 k hk), sortedIdx_pairwise l h2⟩

/-- a range with a hole: children admitted at `lo..a` or at `b..hi` (the frame's last run, which may not hold `tableParts`) -/
theorem seg_of_opaque2 (lo a b hi : Nat) (hlo : lo ≤ b) (hhi : a ≤ hi) (l : List Node)
    (h1 : l.all (fun k => opaqueOk lo a k || opaqueOk b hi k) = true) (h2 : sortedIdx l = true) :
    Seg lo hi l ∧ ∀ k ∈ l, idxOf k ≤ a ∨ b ≤ idxOf k := by
  have h : ∀ k ∈ l, Known k ∧ lo ≤ idxOf k ∧ idxOf k ≤ hi ∧ (idxOf k ≤ a ∨ b ≤ idxOf k) := fun k hk => by
    have := List.all_eq_true.1 h1 k hk
    simp only [Bool.or_eq_true] at this
    rcases this with h | h
    · have := opaqueOk_spec _ _ k h; exact ⟨this.1, this.2.1, by omega, Or.inl this.2.2⟩
    · have := opaqueOk_spec _ _ k h; exact ⟨this.1, by omega, this.2.2, Or.inr this.2.1⟩
  exact ⟨⟨fun k hk => ⟨(h k hk).1, (h k hk).2.1, (h k hk).2.2.1⟩, sortedIdx_pairwise l h2⟩, fun k hk => (h k hk).2.2.2⟩

theorem isKid_idx (nm : List Char) (k : Node) (h : isKid nm k = true) :
    nameIdx k = indexIn worksheetOrder (str nm) := by
  unfold isKid at h
  simp only [Bool.and_eq_true, decide_eq_true_eq] at h
  unfold nameIdx
  rw [h.2]

theorem seg_filter_none (nm : List Char) (j : Nat) (hj : indexIn worksheetOrder (str nm) = some j) (l : List Node)
    (h : ∀ k ∈ l, idxOf k ≠ j) : l.filter (isKid nm) = [] := by
  apply List.filter_eq_nil_iff.2
  intro k hkm hkid
  have := isKid_idx nm k hkid
  rw [hj] at this
  exact h k hkm (by simp [idxOf, this])

theorem seg_no (nm : List Char) (j : Nat) (hj : indexIn worksheetOrder (str nm) = some j) {lo hi : Nat} {l : List Node}
    (h : Seg lo hi l) (hout : j < lo ∨ hi < j) : l.filter (isKid nm) = [] := by
  apply seg_filter_none nm j hj l
  intro k hk; have := h.1 k hk; omega

/-- The children of `<worksheet>` come as runs, each within a range of schema positions: a look-up by name
    only sees the runs whose range holds the name's position. -/
theorem filter_runs (nm : List Char) (j : Nat) (hj : indexIn worksheetOrder (str nm) = some j) :
    ∀ runs : List (Nat × Nat × List Node), (∀ r ∈ runs, Seg r.1 r.2.1 r.2.2) →
      (runs.flatMap (·.2.2)).filter (isKid nm)
        = (runs.filter (fun r => r.1 ≤ j && j ≤ r.2.1)).flatMap (fun r => r.2.2.filter (isKid nm)) := by
  intro runs
  induction runs with
  | nil => intro _; rfl
  | cons r rs ih =>
    intro h
    rw [List.flatMap_cons, List.filter_append, ih (fun x hx => h x (by simp [hx])), List.filter_cons]
    split
    · rfl
    · rename_i hout
      rw [seg_no nm j hj (h r (by simp)) (by simp only [Bool.and_eq_true, decide_eq_true_eq] at hout; omega)]
      rfl

/- The positions in CT_Worksheet's child order (`Spec.Sml.worksheetOrder`; the ranges of the frame's four runs
   are set out at `Frame.ok` in `Model/SheetNode.lean`).  Evaluated by the kernel: the elaborator's `rfl` is slow to compare
   `String`s built by `str`. -/
theorem idx_cols : indexIn worksheetOrder (str nCols) = some 4 := by decide +kernel
theorem idx_sheetData : indexIn worksheetOrder (str nSheetData) = some 5 := by decide +kernel
theorem idx_mergeCells : indexIn worksheetOrder (str nMergeCells) = some 14 := by decide +kernel
theorem idx_condFmt : indexIn worksheetOrder (str nCondFmt) = some 16 := by decide +kernel
theorem idx_phoneticPr : indexIn worksheetOrder (str ['p', 'h', 'o', 'n', 'e', 't', 'i', 'c', 'P', 'r']) = some 15 := by decide +kernel
theorem idx_hyperlinks : indexIn worksheetOrder (str nHyperlinks) = some 18 := by decide +kernel
theorem idx_tableParts : indexIn worksheetOrder (str nTableParts) = some 37 := by decide +kernel

theorem seg_elem (nm : List Char) (as : List Attr) (ks : List Node) (j : Nat) (hl : localName nm = nm)
    (hj : indexIn worksheetOrder (str nm) = some j) : Seg j j [Node.elem nm as ks] := by
  have hi : nameIdx (Node.elem nm as ks) = some j := by
    rw [nameIdx, show (Node.elem nm as ks).name = nm from rfl, hl, hj]
  refine ⟨fun k hk => ?_, List.pairwise_singleton _ _⟩
  rw [List.mem_singleton.1 hk]
  exact ⟨⟨rfl, j, hi⟩, by simp [idxOf, hi], by simp [idxOf, hi]⟩

theorem alt_none : indexIn worksheetOrder "AlternateContent" = none := by decide +kernel

theorem Known.idx {k : Node} (h : Known k) : indexIn worksheetOrder (str (localName k.name)) = some (idxOf k) := by
  obtain ⟨_, i, hi⟩ := h
  rw [idxOf, hi]
  exact hi

theorem known_names (l : List Node) (h : ∀ k ∈ l, Known k) :
    ((l.filter (·.isElem)).map (fun k => str (localName k.name))).filter (· ≠ "AlternateContent")
      = l.map (fun k => str (localName k.name)) := by
  rw [List.filter_eq_self.2 (fun k hk => (h k hk).1)]
  apply List.filter_eq_self.2
  intro s hs
  obtain ⟨k, hk, rfl⟩ := List.mem_map.1 hs
  have hi := (h k hk).idx
  simp only [decide_eq_true_eq]
  intro he
  rw [he, alt_none] at hi
  cases hi

theorem known_idxs (l : List Node) (h : ∀ k ∈ l, Known k) :
    (l.map (fun k => str (localName k.name))).filterMap (indexIn worksheetOrder) = l.map idxOf := by
  -- `∘` unfolded first: met with `indexIn worksheetOrder`, the unifier unfolds the latter
  simp only [List.filterMap_map, Function.comp_def]
  rw [← List.filterMap_eq_map]
  exact filterMap_congr_mem fun k hk => (h k hk).idx

theorem known_unknown (l : List Node) (h : ∀ k ∈ l, Known k) :
    (l.map (fun k => str (localName k.name))).filter (fun k => (indexIn worksheetOrder k).isNone) = [] := by
  apply List.filter_eq_nil_iff.2
  intro s hs
  obtain ⟨k, hk, rfl⟩ := List.mem_map.1 hs
  simp [(h k hk).idx]

theorem e1_nil (path : String) (nm : List Char) (as : List Attr) (runs : List (Nat × Nat × List Node))
    (h : ∀ r ∈ runs, Seg r.1 r.2.1 r.2.2) (hasc : runs.Pairwise (fun a b => a.2.1 ≤ b.1)) :
    dsE1 path (Node.elem nm as (runs.flatMap (·.2.2))) = [] ∧ dsE1b path (Node.elem nm as (runs.flatMap (·.2.2))) = [] := by
  have hk : ∀ k ∈ runs.flatMap (·.2.2), Known k := fun k hk => by
    obtain ⟨r, hr, hkr⟩ := List.mem_flatMap.1 hk
    exact ((h r hr).1 k hkr).1
  have hs : (runs.flatMap (·.2.2)).Pairwise (fun a b => idxOf a ≤ idxOf b) :=
    List.pairwise_flatMap.2 ⟨fun r hr => (h r hr).2, hasc.imp_of_mem fun ha hb hab x hx y hy =>
      Nat.le_trans ((h _ ha).1 x hx).2.2 (Nat.le_trans hab ((h _ hb).1 y hy).2.1)⟩
  generalize runs.flatMap (·.2.2) = l at hk hs
  have hn : dsKidsNames (Node.elem nm as l) = l.map (fun k => str (localName k.name)) := known_names l hk
  constructor
  · unfold dsE1
    rw [hn, known_idxs l hk, nonDecreasing_of_pairwise _ (List.pairwise_map.2 hs)]
    rfl
  · unfold dsE1b
    rw [hn, known_unknown l hk]
    rfl

theorem localName_mergeCell : localName nMergeCell = nMergeCell := by decide

theorem merges_kids (merges : List (List Char)) :
    ((merges.map fun m => Node.elem nMergeCell [⟨['r', 'e', 'f'], m⟩] []).filter (isKid nMergeCell)).filterMap
      (·.attr? ['r', 'e', 'f']) = merges := by
  rw [List.filter_eq_self.2 fun x hx => by
      obtain ⟨m, _, rfl⟩ := List.mem_map.1 hx
      exact isKid_self _ _ _ localName_mergeCell,
    List.filterMap_map]
  simp [Function.comp_def, Node.attr?, Node.attrs]

theorem merges_decode (merges : List (List Char)) :
    ((((mergeNodes merges).head?).map (kidsL · nMergeCell)).getD []).filterMap (·.attr? ['r', 'e', 'f']) = merges := by
  unfold mergeNodes
  cases merges with
  | nil => rfl
  | cons m ms =>
    simp only [List.isEmpty_cons, Bool.false_eq_true, if_false, List.head?_cons, Option.map_some, Option.getD_some, kidsL,
      Node.children]
    exact merges_kids (m :: ms)

/-- one `<Relationship>` as `Spec.Sml.relsOf` reads it (its `fun` on a child, with the names as character lists) -/
def relOf (r : Node) : Rel :=
  { id := str ((r.attr? ['I', 'd']).getD []), type := str ((r.attr? ['T', 'y', 'p', 'e']).getD []),
    target := str ((r.attr? ['T', 'a', 'r', 'g', 'e', 't']).getD []),
    external := (r.attr? ['T', 'a', 'r', 'g', 'e', 't', 'M', 'o', 'd', 'e']) = some ['E', 'x', 't', 'e', 'r', 'n', 'a', 'l'] }

/-- the relationships an independent reader takes from the part the writer emits (none written: none read) -/
def relsView (links : List LinkW) (rest : List Node) : List Rel :=
  ((relWalk 1 links ++ rest).filter (isKid nRelationship)).map relOf

theorem relsRoot_some {links : List LinkW} {rest : List Node} {rr : Node} (h : relsRoot links rest = some rr) :
    rr = Node.elem nRelationships [⟨['x', 'm', 'l', 'n', 's'], relNs⟩] (relWalk 1 links ++ rest) := by
  unfold relsRoot at h
  split at h <;> cases h
  rfl

theorem relsOf_some (p : Package) (path : String) (root : Node) (h : (p.part? (relsNameOf path)).bind (·.xml) = some root) :
    relsOf p path = (root.children.filter (isKid nRelationship)).map relOf := by
  unfold relsOf
  rw [h]
  simp only [kids_eq, toList_lit]
  rfl

theorem relsOf_rendered (p : Package) (path : String) (links : List LinkW) (rest : List Node)
    (h : (p.part? (relsNameOf path)).bind (·.xml) = relsRoot links rest) : relsOf p path = relsView links rest := by
  unfold relsRoot at h
  split at h
  next he => unfold relsOf relsView; rw [h, he]; rfl
  · exact relsOf_some p path _ h

/-- the records of the hyperlink relationships, `k` = the counter of worksheet_rels.rs -/
def relRecs : Nat → List LinkW → List Rel
  | _, [] => []
  | k, l :: ls =>
    if l.location then relRecs k ls
    else { id := str (rIdText k), type := str hyperlinkType, target := str l.url, external := true } :: relRecs (k + 1) ls

theorem isKid_relNode (k : Nat) (u : List Char) : isKid nRelationship (relNode k u) = true := by
  unfold relNode; rw [isKid_elem]; decide

theorem relOf_relNode (k : Nat) (u : List Char) :
    relOf (relNode k u) = { id := str (rIdText k), type := str hyperlinkType, target := str u, external := true } := by
  simp [relOf, relNode, Node.attr?, Node.attrs, nRelationship]

theorem relWalk_recs (ls : List LinkW) : ∀ k, ((relWalk k ls).filter (isKid nRelationship)).map relOf = relRecs k ls := by
  induction ls with
  | nil => intro _; rfl
  | cons l ls ih =>
    intro k
    simp only [relWalk, relRecs]
    split
    · exact ih k
    · simp only [List.filter_cons, isKid_relNode, if_true, List.map_cons, relOf_relNode, ih]

theorem relsView_eq (links : List LinkW) (rest : List Node) :
    relsView links rest = relRecs 1 links ++ (rest.filter (isKid nRelationship)).map relOf := by
  simp [relsView, List.filter_append, relWalk_recs]

theorem rIdText_inj (i j : Nat) (h : str (rIdText i) = str (rIdText j)) : i = j := by
  have h1 : rIdText i = rIdText j := String.ofList_injective h
  simp only [rIdText, List.cons.injEq, true_and] at h1
  exact decDigits_injective h1

theorem find_rId_none (A : List Rel) (k : Nat) (hA : ∀ r ∈ A, ∃ i, i < k ∧ r.id = str (rIdText i)) :
    A.find? (fun (r : Rel) => r.id = str (rIdText k)) = none := by
  apply List.find?_eq_none.2
  intro r hr
  obtain ⟨i, hi, hid⟩ := hA r hr
  simp only [decide_eq_true_eq]
  intro he
  rw [hid] at he
  have := rIdText_inj i k he
  omega

theorem rIds_below_snoc (A : List Rel) (k : Nat) (hA : ∀ r ∈ A, ∃ i, i < k ∧ r.id = str (rIdText i)) (x : Rel)
    (hx : x.id = str (rIdText k)) : ∀ r ∈ A ++ [x], ∃ i, i < k + 1 ∧ r.id = str (rIdText i) := by
  intro r hr
  rcases List.mem_append.1 hr with hr | hr
  · obtain ⟨i, hi, hid⟩ := hA r hr
    exact ⟨i, by omega, hid⟩
  · rw [List.mem_singleton.1 hr]
    exact ⟨k, by omega, hx⟩

theorem linkOf_location (path : String) (rels : List Rel) (l : LinkW) :
    linkOf path rels (Node.elem nHyperlink ([⟨['r', 'e', 'f'], l.ref⟩, ⟨['l', 'o', 'c', 'a', 't', 'i', 'o', 'n'], l.url⟩] ++ tooltipAttr l) [])
      = ({ ref := l.ref, external := false, target := l.url, location := none,
           tooltip := if l.tooltip = [] then none else some l.tooltip, display := none }, []) := by
  by_cases ht : l.tooltip = [] <;> simp [linkOf, tooltipAttr, ht, Node.attr?, Node.attrs]

theorem linkOf_external (path : String) (rels : List Rel) (l : LinkW) (k : Nat) (r : Rel)
    (hf : rels.find? (fun (r : Rel) => r.id = str (rIdText k)) = some r) :
    linkOf path rels (Node.elem nHyperlink ([⟨['r', 'e', 'f'], l.ref⟩, ⟨['r', ':', 'i', 'd'], rIdText k⟩] ++ tooltipAttr l) [])
      = ({ ref := l.ref, external := true, target := r.target.toList, location := none,
           tooltip := if l.tooltip = [] then none else some l.tooltip, display := none }, []) := by
  by_cases ht : l.tooltip = [] <;> simp [linkOf, tooltipAttr, ht, Node.attr?, Node.attrs, hf]

/-- The pairing: the hyperlink elements of the sheet part, walked with the counter at `k`, against a relationship list
    that holds — after relationships with smaller ids — the records the relationships writer produces for the same
    links from the same counter. -/
theorem links_decode (path : String) (R : List Rel) : ∀ (ls : List LinkW) (k : Nat) (A : List Rel),
    (∀ r ∈ A, ∃ i, i < k ∧ r.id = str (rIdText i)) →
    (hlWalk k ls).map (linkOf path (A ++ relRecs k ls ++ R)) = ls.map (fun l => (linkView l, [])) := by
  intro ls
  induction ls with
  | nil => intro _ _ _; rfl
  | cons l ls ih =>
    intro k A hA
    by_cases hl : l.location = true
    · simp only [hlWalk, relRecs, hl, if_true, List.map_cons]
      rw [linkOf_location, ih k A hA]
      simp [linkView, hl]
    · have hl' : l.location = false := by simpa using hl
      simp only [hlWalk, relRecs, hl', Bool.false_eq_true, if_false, List.map_cons]
      have hfind : (A ++ ({ id := str (rIdText k), type := str hyperlinkType, target := str l.url, external := true } :: relRecs (k + 1) ls) ++ R).find?
          (fun (r : Rel) => r.id = str (rIdText k))
          = some { id := str (rIdText k), type := str hyperlinkType, target := str l.url, external := true } := by
        rw [List.append_assoc, List.find?_append, find_rId_none A k hA]
        simp
      rw [linkOf_external path _ l k _ hfind]
      have hassoc : A ++ ({ id := str (rIdText k), type := str hyperlinkType, target := str l.url, external := true } :: relRecs (k + 1) ls) ++ R
          = (A ++ [{ id := str (rIdText k), type := str hyperlinkType, target := str l.url, external := true }]) ++ relRecs (k + 1) ls ++ R := by
        simp
      rw [hassoc, ih (k + 1) _ (rIds_below_snoc A k hA _ rfl)]
      simp [linkView, hl', str]

theorem hlWalk_isKid (ls : List LinkW) (k : Nat) : (hlWalk k ls).filter (isKid nHyperlink) = hlWalk k ls :=
  List.filter_eq_self.2 fun x hx => by
    obtain ⟨as, rfl⟩ := hlWalk_shape ls k x hx
    exact isKid_self _ _ _ (by decide)

theorem hyperlinks_decode (path : String) (links : List LinkW) (rest : List Node) :
    ((((hyperlinkNodes links).head?).map (kidsL · nHyperlink)).getD []).map (linkOf path (relsView links rest))
      = links.map (fun l => (linkView l, [])) := by
  unfold hyperlinkNodes
  cases links with
  | nil => rfl
  | cons l ls =>
    simp only [List.isEmpty_cons, Bool.false_eq_true, if_false, List.head?_cons, Option.map_some, Option.getD_some, kidsL,
      Node.children, hlWalk_isKid, relsView_eq]
    have := links_decode path ((rest.filter (isKid nRelationship)).map relOf) (l :: ls) 1 [] (by simp)
    simpa using this

end Umya.SheetNode
