/-
  `contentTypeOf` (the decoder's look-up: `Override` by part name, else `Default` by extension) on a package of the shape
  `Pieces.pkg` whose `[Content_Types].xml` is `contentTypesNodeT` — the trees of the plain and of the comments model are
  that tree with the lists of comments / table numbers empty.
-/
import Umya.Lemmas.PackageNodeLookup
import Umya.Lemmas.PackageNodeCmtPath
namespace Umya.PackageNode
open Umya.Xml Umya.CellXml Umya.CellNode Umya.SheetNode Umya.WorkbookNode Umya.Dec
open Umya.Spec.Xml (Node Attr localName)
open Umya.Spec.Sml

def nOverride : List Char := ['O', 'v', 'e', 'r', 'r', 'i', 'd', 'e']
def nDefault : List Char := ['D', 'e', 'f', 'a', 'u', 'l', 't']

theorem isKid_override (a ct : List Char) : isKid nOverride (overrideEl a ct) = true ∧ isKid nDefault (overrideEl a ct) = false := by
  unfold overrideEl; rw [isKid_elem, isKid_elem]; exact ⟨by decide, by decide⟩

theorem isKid_default (a ct : List Char) : isKid nOverride (defaultEl a ct) = false ∧ isKid nDefault (defaultEl a ct) = true := by
  unfold defaultEl; rw [isKid_elem, isKid_elem]; exact ⟨by decide, by decide⟩

theorem overrides_kids (f : Nat → List Char) (ct : List Char) (l : List Nat) :
    (l.map fun i => overrideEl (f i) ct).filter (isKid nOverride) = (l.map fun i => overrideEl (f i) ct) ∧
    (l.map fun i => overrideEl (f i) ct).filter (isKid nDefault) = [] := by
  induction l with
  | nil => exact ⟨rfl, rfl⟩
  | cons c cs ih => simp [(isKid_override _ _).1, (isKid_override _ _).2, ih.1, ih.2]

theorem sheetOverrides_eq (n : Nat) : ∀ k, sheetOverrides k n = (List.range' k n).map fun i => overrideEl (sheetPartL i) sheetContentType := by
  induction n with
  | zero => intro _; rfl
  | succ n ih => intro k; rw [sheetOverrides, ih, List.range'_succ, List.map_cons]

/-- the `Override` children of `contentTypesNodeT` in the order it writes them, `defaultsT` its `Default` children (`ct_kidsT`) -/
def overridesT (n : Nat) (hs : Bool) (cs ts : List Nat) : List Node :=
  [overrideEl nApp ctApp, overrideEl nCore ctCore] ++ (commentsOverrides cs ++ ((if hs then [overrideEl nSst ctSst] else []) ++
    ([overrideEl nStyles ctStyles] ++ (tableOverrides ts ++ ([overrideEl nTheme ctTheme, overrideEl nWorkbookPart ctWorkbook] ++ sheetOverrides 1 n)))))

def defaultsT (vs : List Nat) : List Node :=
  [defaultEl ['r', 'e', 'l', 's'] ctRels, defaultEl ['x', 'm', 'l'] ctXml] ++ (if vs.isEmpty then [] else [defaultEl ['v', 'm', 'l'] ctVml])

theorem ct_kidsT (n : Nat) (hs : Bool) (vs cs ts : List Nat) :
    (contentTypesNodeT n hs vs cs ts).kids "Override" = overridesT n hs cs ts ∧
    (contentTypesNodeT n hs vs cs ts).kids "Default" = defaultsT vs := by
  have e1 : "Override".toList = nOverride := toList_lit _
  have e2 : "Default".toList = nDefault := toList_lit _
  rw [kids_eq, kids_eq, e1, e2]
  simp only [contentTypesNodeT, overridesT, defaultsT, Node.children, List.filter_append, List.filter_cons, List.filter_nil,
    apply_ite (List.filter (isKid nOverride)), apply_ite (List.filter (isKid nDefault)), isKid_override, isKid_default,
    sheetOverrides_eq, commentsOverrides, tableOverrides, overrides_kids, if_true, Bool.false_eq_true, if_false, List.nil_append, ite_self,
    List.append_assoc, List.cons_append, List.append_nil, true_and]

theorem contentTypesNodeC_eq (n : Nat) (hs : Bool) (vs cs : List Nat) : contentTypesNodeC n hs vs cs = contentTypesNodeT n hs vs cs [] := by
  simp [contentTypesNodeT, contentTypesNodeC, tableOverrides]

theorem contentTypesNode_eq (n : Nat) (hs : Bool) : contentTypesNode n hs = contentTypesNodeT n hs [] [] [] := by
  rw [← contentTypesNodeC_eq]; cases hs <;> rfl

/-- the decoder's Override predicate for the part `nm` -/
def ovPred (nm : List Char) (o : Node) : Bool := decide (o.attr? ['P', 'a', 'r', 't', 'N', 'a', 'm', 'e'] = some ('/' :: nm))

theorem ovPred_el (a ct nm : List Char) : ovPred nm (overrideEl a ct) = decide (a = nm) := by
  simp [ovPred, overrideEl, Node.attr?, Node.attrs]

theorem ov_find_cons (a ct nm : List Char) (l : List Node) :
    (overrideEl a ct :: l).find? (ovPred nm) = if a = nm then some (overrideEl a ct) else l.find? (ovPred nm) := by
  rw [List.find?_cons, ovPred_el]
  by_cases h : a = nm <;> simp [h]

theorem ov_find_other (f : Nat → List Char) (ct nm : List Char) (h : ∀ i, f i ≠ nm) (l : List Nat) :
    (l.map fun i => overrideEl (f i) ct).find? (ovPred nm) = none := by
  induction l with
  | nil => rfl
  | cons c cs ih => rw [List.map_cons, ov_find_cons, if_neg (h c), ih]

theorem ov_find (f : Nat → List Char) (hf : ∀ i j, f i = f j → i = j) (ct : List Char) (c : Nat) (l : List Nat) (hc : c ∈ l) :
    (l.map fun i => overrideEl (f i) ct).find? (ovPred (f c)) = some (overrideEl (f c) ct) := by
  induction l with
  | nil => cases hc
  | cons c' cs ih =>
    rw [List.map_cons, ov_find_cons]
    by_cases h : c' = c
    · subst h; rw [if_pos rfl]
    · rw [if_neg (fun e => h (hf _ _ e)), ih ((List.mem_cons.1 hc).resolve_left (Ne.symm h))]

theorem ct_attr (a ct : List Char) : ((overrideEl a ct).attr? "ContentType".toList).map str = some (str ct) := by
  rw [toList_lit]
  simp [overrideEl, Node.attr?, Node.attrs]

theorem overridesT_are (n : Nat) (hs : Bool) (cs ts : List Nat) (o : Node) (h : o ∈ overridesT n hs cs ts) : ∃ nm ct, o = overrideEl nm ct := by
  simp only [overridesT, commentsOverrides, tableOverrides, sheetOverrides_eq, List.mem_append, List.mem_cons, List.mem_map, List.not_mem_nil, or_false] at h
  rcases h with (rfl | rfl) | ⟨_, _, rfl⟩ | h | rfl | ⟨_, _, rfl⟩ | (rfl | rfl) | ⟨_, _, rfl⟩
  all_goals try exact ⟨_, _, rfl⟩
  cases hs with
  | false => simp at h
  | true => simp only [if_true, List.mem_singleton] at h; exact ⟨_, _, h⟩

theorem ov_find_numbered {n : Nat} {hs : Bool} {cs ts : List Nat} {nm : List Char} (h : nm ∉ closedNames) :
    (overridesT n hs cs ts).find? (ovPred nm) = ((commentsOverrides cs).find? (ovPred nm)).or
      (((tableOverrides ts).find? (ovPred nm)).or ((sheetOverrides 1 n).find? (ovPred nm))) := by
  have hc : ∀ a ∈ closedNames, a ≠ nm := fun a ha e => h (e ▸ ha)
  simp only [overridesT, List.cons_append, List.nil_append, apply_ite (List.find? (ovPred nm)), List.find?_append, ov_find_cons,
    if_neg (hc nApp (by decide)), if_neg (hc nCore (by decide)), if_neg (hc nSst (by decide)), if_neg (hc nStyles (by decide)),
    if_neg (hc nTheme (by decide)), if_neg (hc nWorkbookPart (by decide)), List.find?_nil, ite_self, Option.none_or]

theorem ov_none {n : Nat} {hs : Bool} {cs ts : List Nat} {nm : List Char} (h1 : nm ∉ closedNames) (h2 : ∀ i, sheetPartL i ≠ nm)
    (h3 : ∀ i, commentsPartL i ≠ nm) (h4 : ∀ i, tblPartL i ≠ nm) : (overridesT n hs cs ts).find? (ovPred nm) = none := by
  rw [ov_find_numbered h1, commentsOverrides, tableOverrides, sheetOverrides_eq, ov_find_other _ _ nm h2, ov_find_other _ _ nm h3,
    ov_find_other _ _ nm h4]
  rfl

theorem ov_sheet {n : Nat} {hs : Bool} {cs ts : List Nat} (j : Nat) (h1 : 1 ≤ j) (h2 : j < 1 + n) :
    (overridesT n hs cs ts).find? (ovPred (sheetPartL j)) = some (overrideEl (sheetPartL j) sheetContentType) := by
  rw [ov_find_numbered (fun hm => sheetPart_ne_closed j _ hm rfl), commentsOverrides, tableOverrides, sheetOverrides_eq,
    ov_find_other _ _ _ (fun i => (foreign_comments i).sheet j |>.symm), ov_find_other _ _ _ (fun i => (foreign_tbl i).sheet j |>.symm),
    ov_find _ sheetPartL_inj _ j _ (List.mem_range'_1.2 ⟨h1, h2⟩)]
  rfl

theorem ov_workbook {n : Nat} {hs : Bool} {cs ts : List Nat} :
    (overridesT n hs cs ts).find? (ovPred nWorkbookPart) = some (overrideEl nWorkbookPart ctWorkbook) := by
  have h3 : ∀ i, commentsPartL i ≠ nWorkbookPart := fun i e => (foreign_comments i).closed (e ▸ (by decide : nWorkbookPart ∈ closedNames))
  have h4 : ∀ i, tblPartL i ≠ nWorkbookPart := fun i e => (foreign_tbl i).closed (e ▸ (by decide : nWorkbookPart ∈ closedNames))
  simp only [overridesT, List.cons_append, List.nil_append, apply_ite (List.find? (ovPred nWorkbookPart)), ite_self, List.find?_append, ov_find_cons,
    if_neg (show nApp ≠ nWorkbookPart by decide), if_neg (show nCore ≠ nWorkbookPart by decide), if_neg (show nSst ≠ nWorkbookPart by decide),
    if_neg (show nStyles ≠ nWorkbookPart by decide), if_neg (show nTheme ≠ nWorkbookPart by decide), if_pos, commentsOverrides, tableOverrides,
    ov_find_other _ _ _ h3, ov_find_other _ _ _ h4, List.find?_nil, Option.none_or]

theorem ov_comments {n : Nat} {hs : Bool} {cs ts : List Nat} (c : Nat) (hc : c ∈ cs) :
    (overridesT n hs cs ts).find? (ovPred (commentsPartL c)) = some (overrideEl (commentsPartL c) ctComments) := by
  rw [ov_find_numbered (foreign_comments c).closed, commentsOverrides, ov_find _ commentsPartL_inj _ c cs hc]
  rfl

/-- the decoder's Default predicate for the extension `ext` -/
def dfPred (ext : List Char) (d : Node) : Bool :=
  decide (((d.attr? "Extension".toList).map (fun e => (str e).toLower)) = some (String.ofList ext).toLower)

theorem df_hit (e ct : List Char) : dfPred e (defaultEl e ct) = true := by
  simp [dfPred, defaultEl, Node.attr?, Node.attrs, toList_lit, str]

theorem df_attr (e ct : List Char) : ((defaultEl e ct).attr? "ContentType".toList).map str = some (str ct) := by
  rw [toList_lit]
  simp [defaultEl, Node.attr?, Node.attrs]

theorem defaults_rels (vs : List Nat) :
    ((defaultsT vs).find? (dfPred ['r', 'e', 'l', 's'])).bind (fun d => (d.attr? "ContentType".toList).map str) = some (str ctRels) := by
  rw [defaultsT, List.cons_append, List.find?_cons_of_pos (df_hit _ _), Option.bind_some]
  exact df_attr _ _

theorem defaults_xml (vs : List Nat) :
    ((defaultsT vs).find? (dfPred ['x', 'm', 'l'])).bind (fun d => (d.attr? "ContentType".toList).map str) = some (str ctXml) := by
  rw [defaultsT, List.cons_append, List.cons_append, List.find?_cons_of_neg (by decide +kernel), List.find?_cons_of_pos (df_hit _ _),
    Option.bind_some]
  exact df_attr _ _

theorem defaults_vml (vs : List Nat) (h : vs ≠ []) :
    ((defaultsT vs).find? (dfPred ['v', 'm', 'l'])).bind (fun d => (d.attr? "ContentType".toList).map str) = some (str ctVml) := by
  rw [defaultsT, List.isEmpty_eq_false_iff.2 h, List.cons_append, List.cons_append, List.find?_cons_of_neg (by decide +kernel), List.find?_cons_of_neg (by decide +kernel),
    List.nil_append, if_neg Bool.false_ne_true, List.find?_cons_of_pos (df_hit _ _), Option.bind_some]
  exact df_attr _ _

namespace Pieces
variable {q : Pieces} {tbl : Table} {vs cs ts : List Nat} (h : q.OK tbl) (hct : q.contentTypes = contentTypesNodeT q.n q.hs vs cs ts)
include h hct

theorem contentTypeOf_eq (nm : List Char) :
    contentTypeOf q.pkg (String.ofList nm) =
      match (overridesT q.n q.hs cs ts).find? (ovPred nm) with
      | some o => (o.attr? "ContentType".toList).map str
      | none => ((defaultsT vs).find? (dfPred (extOfL nm))).bind fun d => (d.attr? "ContentType".toList).map str := by
  have e0 : "[Content_Types].xml" = String.ofList nContentTypes := rfl
  have e1 : ("/" ++ String.ofList nm).toList = '/' :: nm := by simp
  unfold contentTypeOf
  rw [e0, part_contentTypes h, hct]
  simp only [xmlPart, Option.bind_some, (ct_kidsT _ _ _ _ _).1, (ct_kidsT _ _ _ _ _).2, e1, toList_lit, extOf]
  rfl

theorem ct_override (nm ct : List Char) (ho : (overridesT q.n q.hs cs ts).find? (ovPred nm) = some (overrideEl nm ct)) :
    contentTypeOf q.pkg (String.ofList nm) = some (str ct) := by
  rw [contentTypeOf_eq h hct, ho]
  exact ct_attr nm ct

theorem ct_sheetRels (k : Nat) : contentTypeOf q.pkg (String.ofList (sheetRelsL k)) = some (str ctRels) := by
  rw [contentTypeOf_eq h hct, ov_none (fun hm => sheetRels_ne_closed k _ hm rfl) (fun i => sheetPart_ne_sheetRels i k)
    (fun i => (foreign_comments i).rels k |>.symm) (fun i => (foreign_tbl i).rels k |>.symm), ext_sheetRels]
  exact defaults_rels _

theorem ct_vml (v : Nat) (hv : vs ≠ []) : contentTypeOf q.pkg (String.ofList (vmlPartL v)) = some (str ctVml) := by
  rw [contentTypeOf_eq h hct, ov_none (foreign_vml v).closed (foreign_vml v).sheet (fun i e => vml_ne_comments v i e.symm)
    (fun i e => vml_ne_tbl v i e.symm), ext_vmlPart]
  exact defaults_vml _ hv

theorem ct_isSome (nm : List Char) (hext : extOfL nm = ['x', 'm', 'l'] ∨ extOfL nm = ['r', 'e', 'l', 's'] ∨ (extOfL nm = ['v', 'm', 'l'] ∧ vs ≠ [])) :
    (contentTypeOf q.pkg (String.ofList nm)).isSome = true := by
  rw [contentTypeOf_eq h hct]
  cases hf : (overridesT q.n q.hs cs ts).find? (ovPred nm) with
  | some o =>
    obtain ⟨a, ct, rfl⟩ := overridesT_are _ _ _ _ o (List.mem_of_find?_eq_some hf)
    simp only [ct_attr]; rfl
  | none =>
    simp only
    rcases hext with e | e | ⟨e, hv⟩
    · rw [e, defaults_xml]; rfl
    · rw [e, defaults_rels]; rfl
    · rw [e, defaults_vml _ hv]; rfl

theorem ct_cover (hx : ∀ p ∈ q.extra, ∃ nm r, p = xmlPart nm r ∧ (extOfL nm = ['x', 'm', 'l'] ∨ (extOfL nm = ['v', 'm', 'l'] ∧ vs ≠ []))) :
    ∀ part ∈ q.pkg, part.name ≠ "[Content_Types].xml" → (contentTypeOf q.pkg part.name).isSome = true := by
  intro part hp hne
  obtain ⟨nm, r, rfl, hc⟩ := mem_pkg h part hp
  rcases hc with hm | ⟨j, rfl⟩ | ⟨hm, _⟩ | ⟨j, _, _, _, rfl⟩ | rfl
  · rcases (by decide : ∀ nm ∈ fixedNames, nm = nContentTypes ∨ extOfL nm = ['x', 'm', 'l'] ∨ extOfL nm = ['r', 'e', 'l', 's']) nm hm with e | e | e
    · exact absurd (congrArg String.ofList e) hne
    · exact ct_isSome h hct _ (Or.inl e)
    · exact ct_isSome h hct _ (Or.inr (Or.inl e))
  · exact ct_isSome h hct _ (Or.inl (ext_sheetPart j))
  · obtain ⟨nm', r', e, hx'⟩ := hx _ hm
    cases String.ofList_injective (congrArg Part.name e)
    exact ct_isSome h hct _ (hx'.imp_right Or.inr)
  · exact ct_isSome h hct _ (Or.inr (Or.inl (ext_sheetRels j)))
  · exact ct_isSome h hct _ (Or.inl (by decide))

end Pieces
end Umya.PackageNode
