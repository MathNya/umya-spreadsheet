/-
  One cell through the codec, on lexed facts: what `Cell::write_to` writes (`writeV`, `writeCore`, `writeTo`) the reader
  (`readV`, `readCell`) turns back into the cell, against ANY string table that extends the writer's (`Extends`): later
  cells only append to the table, so an index written early still resolves at the end of the save.
-/
import Umya.Lemmas.CellXml
import Umya.Lemmas.CoordRange
namespace Umya.CellXml
open Umya.Xml Umya.Num Umya.Coord Umya.Dec Umya.InternC01

section
variable (F : NumFmt)

/-- value kinds that survive: everything except a rich text without runs (an unresolved lazy value survives as
    the typed value `write_to` resolves it to, fix 6; a rich text under a formula survives since fix 5) -/
def rawOK : RawValue F.Num → Bool
  | .rich rs => !rs.isEmpty
  | _ => true

/-- `guess_typed_data` never returns rich text -/
theorem rawOK_resolveRaw {r : RawValue F.Num} (h : rawOK F r = true) : rawOK F (resolveRaw F r) = true := by
  cases r with
  | lazy s =>
    show rawOK F (guess F s) = true
    rcases guess_cases F s with h | ⟨_, h⟩ | ⟨_, h⟩ | ⟨_, h⟩ | h <;> rw [h] <;> rfl
  | _ => exact h

/-- in the sheet grid (16384 columns = `XFD`, 1048576 rows: inside the bounds 18278 and 2^32 of `coord_print_parse`), with a covered value -/
def cellOK (c : Cell F.Num) : Bool :=
  decide (1 ≤ c.col ∧ c.col ≤ 16384 ∧ 1 ≤ c.row ∧ c.row ≤ 1048576) && rawOK F c.raw

theorem cellOK_iff {c : Cell F.Num} :
    cellOK F c = true ↔ (1 ≤ c.col ∧ c.col ≤ 16384 ∧ 1 ≤ c.row ∧ c.row ≤ 1048576) ∧ rawOK F c.raw = true := by
  simp only [cellOK, Bool.and_eq_true, decide_eq_true_eq]

/-- `sst` agrees with `tbl` on every index of `tbl` -/
def Extends (sst tbl : Table) : Prop := ∀ (i : Nat) (it : Item), tbl[i]? = some it → sst[i]? = some it

theorem Extends.restrict {sst tbl ext : Table} (h : Extends sst (tbl ++ ext)) : Extends sst tbl :=
  fun i it hi => h i it (getElem?_append_left' hi)

/-- `hg` has the form in which the writers' results state that the table grew, so that it is passed on as it
    is; its `P` half plays no part here -/
theorem Extends.of_grows {sst t1 t2 : Table} {P : Item → Prop} (h : Extends sst t2)
    (hg : ∃ ext, t2 = t1 ++ ext ∧ ∀ it ∈ ext, P it) : Extends sst t1 := by
  obtain ⟨ext, he, _⟩ := hg
  rw [he] at h
  exact h.restrict

theorem all_of_grows {t0 t1 : Table} {P : Item → Prop} (h0 : ∀ it ∈ t0, P it)
    (hg : ∃ ext, t1 = t0 ++ ext ∧ ∀ it ∈ ext, P it) : ∀ it ∈ t1, P it := by
  obtain ⟨ext, he, hp⟩ := hg
  intro it hit
  rw [he] at hit
  rcases List.mem_append.1 hit with h | h
  · exact h0 it h
  · exact hp it h

theorem grows_trans {t0 t1 t2 : Table} {P : Item → Prop} (h1 : ∃ ext, t1 = t0 ++ ext ∧ ∀ it ∈ ext, P it)
    (h2 : ∃ ext, t2 = t1 ++ ext ∧ ∀ it ∈ ext, P it) : ∃ ext, t2 = t0 ++ ext ∧ ∀ it ∈ ext, P it := by
  obtain ⟨e1, he1, hp1⟩ := h1
  obtain ⟨e2, he2, hp2⟩ := h2
  refine ⟨e1 ++ e2, by rw [he2, he1, List.append_assoc], fun it hit => ?_⟩
  rcases List.mem_append.1 hit with h | h
  · exact hp1 it h
  · exact hp2 it h

theorem readF_map {g : Text → Text} (hg : ∀ s, readText false (g s) = some s) (fo : Option Text) : readF (fo.map g) = some fo := by
  cases fo <;> simp [readF, hg]

theorem readText_one : readText true (escape ['1']) = some ['1'] := by decide
theorem readText_zero : readText true (escape ['0']) = some ['0'] := by decide

theorem readV_interned (tbl : Table) (it : Item) (fo : Option Text) (sst : Table)
    (hlen : sst.length < 18446744073709551616) (hext : Extends sst (intern tbl it).1) :
    readV F sst (tAttrOf tS) (.text (escape (decDigits (intern tbl it).2))) fo = some (setSharedStringItem F it .empty fo) := by
  have hres := (intern_spec tbl it).2
  have hs := hext _ _ hres
  have hlt : (intern tbl it).2 < sst.length := by
    rcases Nat.lt_or_ge (intern tbl it).2 sst.length with h | h
    · exact h
    · rw [List.getElem?_eq_none h] at hs; simp at hs
  have hp := parseUsize_decDigits (intern tbl it).2 (by omega)
  simp [readV, tAttrOf, applyV, tS, tB, tSTR, tE, readText_true_escape _ (decDigits_ne_nil _) (decDigits_no_ws _), hp, hs]

theorem itemOK_itemOf {raw : RawValue F.Num} (hv : rawOK F raw = true) : ItemOK (itemOf F raw) := by
  cases raw <;> simp_all [ItemOK, itemOf, getRich, rawOK]

theorem writeV_growsOK (tbl : Table) (dt : Text) {raw : RawValue F.Num} (hv : rawOK F raw = true) :
    ∃ ext, (writeV F tbl dt raw).1 = tbl ++ ext ∧ ∀ it ∈ ext, ItemOK it := by
  obtain ⟨ext, he, hx⟩ := writeV_grows F tbl dt raw
  exact ⟨ext, he, fun it hit => hx it hit ▸ itemOK_itemOf F hv⟩

theorem writeV_readV (hF : F.Sound) (tbl : Table) (raw : RawValue F.Num) (fo : Option Text)
    (hnl : raw.isLazy = false) (hne : ¬ (raw.isEmpty = true ∧ fo.isNone = true)) :
    ∀ sst : Table, sst.length < 18446744073709551616 →
      Extends sst (writeV F tbl (dataTypeOf F raw fo) raw).1 →
      readV F sst (tAttrOf (dataTypeOf F raw fo)) (writeV F tbl (dataTypeOf F raw fo) raw).2 fo = some (raw, fo) := by
  cases raw with
  | empty =>
    cases fo with
    | none => exact absurd ⟨rfl, rfl⟩ hne
    | some f => exact fun sst _ _ => rfl
  | str s =>
    cases fo with
    | none =>
      rw [show dataTypeOf F (.str s) none = tS from rfl, writeV_shared F tbl _ rfl]
      exact readV_interned F tbl _ none
    | some f =>
      rw [show dataTypeOf F (.str s) (some f) = tSTR from rfl, writeV_str]
      intro sst _ _
      simp [readV, tAttrOf, tS, tB, tSTR, tE, readText_false_partialEscape, applyV]
  | rich rs =>
    rw [dataTypeOf_rich, writeV_shared F tbl _ rfl]
    exact readV_interned F tbl _ fo
  | num n =>
    rw [dataTypeOf_num, writeV_num]
    intro sst _ _
    have hr := readText_true_partialEscape (F.fmt n) (hF.fmt_ne n) (fmt_no_ws F hF n)
    simp [readV, tAttrOf, tN, tS, tB, tSTR, tE, hr, applyV, guess_fmt F hF n]
  | bool b =>
    rw [dataTypeOf_bool, writeV_bool]
    intro sst _ _
    cases b
    · simp [readV, tAttrOf, tS, tB, tSTR, tE, readText_zero, applyV]
    · simp [readV, tAttrOf, tS, tB, tSTR, tE, readText_one, applyV]
  | err e =>
    rw [dataTypeOf_err, writeV_err]
    intro sst _ _
    have hr := readText_true_escape e.text (errText_ne_nil e) (errText_no_ws e)
    simp [readV, tAttrOf, tS, tB, tSTR, tE, hr, applyV, guess_errText F e]
  | lazy s => simp [RawValue.isLazy] at hnl

theorem writeCore_readCell (hF : F.Sound) (tbl : Table) (c : Cell F.Num) (hc : cellOK F c = true)
    (hnl : c.raw.isLazy = false) :
    ∃ tbl' ox, writeCore F tbl c = some (tbl', ox) ∧
      (∃ ext, tbl' = tbl ++ ext ∧ ∀ it ∈ ext, ItemOK it) ∧
      (blankCore F c = true → ox = none) ∧
      (blankCore F c = false → ∃ x, ox = some x ∧
        ∀ sst : Table, sst.length < 18446744073709551616 → Extends sst tbl' → readCell F sst x = some c) := by
  obtain ⟨⟨hc1, hc2, hr1, hr2⟩, hv⟩ := (cellOK_iff F).1 hc
  -- `coord_print_parse` stands in `Lemmas/CoordRange.lean`, under C17's namespace
  obtain ⟨_, hco2⟩ := Umya.Thm.C17.coord_print_parse c.col c.row false false ⟨hc1, by omega⟩ (by omega)
  cases hb : blankCore F c with
  | true => exact ⟨tbl, none, writeCore_blank F tbl hb, ⟨[], by simp, by simp⟩, fun _ => rfl, fun h => by cases h⟩
  | false =>
    by_cases he : c.raw.isEmpty = true ∧ c.formula.isNone = true
    · refine ⟨_, _, writeCore_bare F tbl hb hc1 he, ⟨[], by simp, by simp⟩, nofun, fun _ => ⟨_, rfl, fun sst _ _ => ?_⟩⟩
      obtain ⟨col, row, raw, fo, styled⟩ := c
      obtain ⟨rfl, rfl⟩ := isEmpty_isNone_iff.1 he
      simp [readCell, hco2, readF, readV, readIs]
    · have hread := writeV_readV F hF tbl c.raw c.formula hnl he
      refine ⟨_, _, writeCore_value F tbl hb hc1 he, writeV_growsOK F tbl _ hv, nofun, fun _ => ⟨_, rfl, fun sst hlen hx => ?_⟩⟩
      simp [readCell, hco2, readF_map readText_false_partialEscape, dataTypeCrate, hread sst hlen hx, readIs]

theorem cellOK_resolved {c : Cell F.Num} (hc : cellOK F c = true) : cellOK F (Cell.resolved F c) = true := by
  obtain ⟨hg, hv⟩ := (cellOK_iff F).1 hc
  exact (cellOK_iff F).2 ⟨hg, rawOK_resolveRaw F hv⟩

theorem writeTo_readCell (hF : F.Sound) (tbl : Table) (c : Cell F.Num) (hc : cellOK F c = true) :
    ∃ tbl' ox, writeTo F tbl c = some (tbl', ox) ∧
      (∃ ext, tbl' = tbl ++ ext ∧ ∀ it ∈ ext, ItemOK it) ∧
      (blankUnstyled F c = true → ox = none) ∧
      (blankUnstyled F c = false → ∃ x, ox = some x ∧
        ∀ sst : Table, sst.length < 18446744073709551616 → Extends sst tbl' →
          readCell F sst x = some (Cell.resolved F c)) :=
  writeCore_readCell F hF tbl (Cell.resolved F c) (cellOK_resolved F hc) (resolveRaw_not_lazy F c.raw)

theorem writeTo_kept (hF : F.Sound) (tbl : Table) (c : Cell F.Num) (hc : cellOK F c = true) (hb : blankUnstyled F c = false) :
    ∃ tbl' x, writeTo F tbl c = some (tbl', some x) ∧
      ∀ sst : Table, sst.length < 18446744073709551616 → Extends sst tbl' → readCell F sst x = some (Cell.resolved F c) := by
  obtain ⟨tbl', ox, hw, _, _, hk⟩ := writeTo_readCell F hF tbl c hc
  obtain ⟨x, rfl, hr⟩ := hk hb
  exact ⟨tbl', x, hw, hr⟩

end

end Umya.CellXml
