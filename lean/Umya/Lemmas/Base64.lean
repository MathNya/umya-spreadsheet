/-
  base64 (`Umya/Model/Base64.lean`, RFC 4648 standard alphabet with padding — the executable instance of
  `Prims.b64` / `Prims.unb64`): decoding inverts encoding for EVERY byte string (induction on 3-byte groups), and the
  encoded text consists of the 64 alphabet characters and `=` only (so it is `plain`, the predicate of
  `Model/AgileInfoW.lean` for the descriptor's texts: no XML escaping, ASCII).
-/
import Umya.Model.Base64
import Umya.Model.AgileInfoW
import Umya.Lemmas.ListFacts
namespace Umya.Base64

open Umya.Crypt (plainChar plain)

theorem enc6_spec (n : Nat) : dec6 (enc6 n) = some (n % 64) ∧ enc6 n ≠ '=' ∧ plainChar (enc6 n) = true := by
  have h : ∀ k : Fin 64, dec6 (enc6 k.val) = some k.val ∧ enc6 k.val ≠ '=' ∧ plainChar (enc6 k.val) = true := by
    unfold enc6 alphabet
    simp only [toList_lit]
    decide +kernel
  have h := h ⟨n % 64, Nat.mod_lt _ (by omega)⟩
  simp only [enc6, Nat.mod_mod] at h ⊢
  exact h

theorem dec6_enc6 (n : Nat) : dec6 (enc6 n) = some (n % 64) := (enc6_spec n).1

theorem enc6_ne_pad (n : Nat) : enc6 n ≠ '=' := (enc6_spec n).2.1

theorem enc6_plain (n : Nat) : plainChar (enc6 n) = true := (enc6_spec n).2.2

/-! The patterns of `decode` overlap where `=` stands in third or fourth place; the side conditions `hz`, `hw` exclude the
    earlier pattern. -/

theorem decode_pad2 (x y : Char) : decode [x, y, '=', '='] =
    match dec6 x, dec6 y with
    | some x, some y => some [UInt8.ofNat ((x * 64 + y) / 16)]
    | _, _ => none := by
  rw [decode]; rfl

theorem decode_pad1 {x y z : Char} (hz : z ≠ '=') : decode [x, y, z, '='] =
    match dec6 x, dec6 y, dec6 z with
    | some x, some y, some z =>
      let n := (x * 64 + y) * 64 + z
      some [UInt8.ofNat (n / 1024), UInt8.ofNat (n / 4 % 256)]
    | _, _, _ => none := by
  rw [decode]
  · rfl
  · exact hz

theorem decode_four {x y z w : Char} {rest : List Char} (hz : z ≠ '=') (hw : w ≠ '=') : decode (x :: y :: z :: w :: rest) =
    match dec6 x, dec6 y, dec6 z, dec6 w, decode rest with
    | some x, some y, some z, some w, some r =>
      let n := ((x * 64 + y) * 64 + z) * 64 + w
      some (UInt8.ofNat (n / 65536) :: UInt8.ofNat (n / 256 % 256) :: UInt8.ofNat (n % 256) :: r)
    | _, _, _, _, _ => none := by
  rw [decode]
  · rfl
  · intro a _ _; exact hz a
  · intro a _; exact hw a

/-- `n` is left free so that `apply` leaves `n = a.toNat` as a goal for `omega` -/
theorem ofNat_eq_of_eq_toNat (a : UInt8) (n : Nat) (h : n = a.toNat) : UInt8.ofNat n = a := by
  subst h; exact UInt8.ofNat_toNat

/-! `encode` reads a group of one, two or three bytes as a number `n` and cuts it into sextets.  Put together again, the
    sextets give `n` back, shifted left by the padding bits of a short group: 4 bits (`n * 16`) for one byte, 2 bits
    (`n * 4`) for two. -/

theorem sextets_one (n : Nat) (h : n < 256) : n / 4 % 64 * 64 + n % 4 * 16 % 64 = n * 16 := by omega

theorem sextets_two (n : Nat) (h : n < 65536) : (n / 1024 % 64 * 64 + n / 16 % 64) * 64 + n % 16 * 4 % 64 = n * 4 := by
  omega

theorem sextets_three (n : Nat) (h : n < 16777216) :
    ((n / 262144 % 64 * 64 + n / 4096 % 64) * 64 + n / 64 % 64) * 64 + n % 64 = n := by
  omega

theorem decode_encode (bs : List UInt8) : decode (encode bs) = some bs := by
  induction bs using encode.induct with
  | case1 => rfl
  | case2 a =>
    simp only [encode]
    rw [decode_pad2, dec6_enc6, dec6_enc6]
    simp only [Option.some.injEq, List.cons.injEq, and_true]
    have := a.toNat_lt
    rw [sextets_one _ this]
    apply ofNat_eq_of_eq_toNat
    omega
  | case3 a b =>
    simp only [encode]
    rw [decode_pad1 (enc6_ne_pad _), dec6_enc6, dec6_enc6, dec6_enc6]
    simp only [Option.some.injEq, List.cons.injEq, and_true, Nat.mod_mod]
    have := a.toNat_lt
    have := b.toNat_lt
    rw [sextets_two _ (by omega)]
    constructor <;> apply ofNat_eq_of_eq_toNat <;> omega
  | case4 a b c rest ih =>
    simp only [encode]
    rw [decode_four (enc6_ne_pad _) (enc6_ne_pad _), dec6_enc6, dec6_enc6, dec6_enc6, dec6_enc6, ih]
    simp only [Option.some.injEq, List.cons.injEq, and_true, Nat.mod_mod]
    have := a.toNat_lt
    have := b.toNat_lt
    have := c.toNat_lt
    rw [sextets_three _ (by omega)]
    refine ⟨?_, ?_, ?_⟩ <;> apply ofNat_eq_of_eq_toNat <;> omega

theorem encode_plain (bs : List UInt8) : plain (encode bs) = true := by
  induction bs using encode.induct with
  | case1 => rfl
  | case2 a => simp only [encode, plain, List.all_cons, enc6_plain, List.all_nil, Bool.and_true, Bool.true_and]; decide
  | case3 a b => simp only [encode, plain, List.all_cons, enc6_plain, List.all_nil, Bool.and_true, Bool.true_and]; decide
  | case4 a b c rest ih =>
    simp only [plain] at ih
    simp only [encode, plain, List.all_cons, enc6_plain, ih, Bool.and_self]

end Umya.Base64
