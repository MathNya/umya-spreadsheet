/-
  (T) translator — `src/structs/cell_value.rs`: `CellValue::guess_typed_data` as compiled from the source on
  this run (the enum `CellRawValue` with its payloads regenerated too) is the hand model's `guessTyped`
  (`Umya/Model/Reader.lean`), for every text.  Externs: `CellErrorType::from_str` and `str::parse::<f64>` are
  parameters of the compiled definition; the model represents an error value and a number by their texts, so they
  are instantiated with the membership test in `errorLits` and with `parseF64Ok`.
-/
import Umya.Lemmas.FnsGen
import Umya.Model.Reader
namespace Umya.Gen
open Umya.Reader Umya.Coord
set_option linter.unusedSimpArgs false

/-- the model's view of a compiled `CellRawValue` (error values and numbers by their texts; rich text and lazy
    values do not arise from `guess_typed_data`) -/
def rawView : CellRawValue_val (List Char) (List Char) Unit → Raw
  | .String s => .str s
  | .RichText _ => .str []
  | .Lazy s => .str s
  | .Numeric t => .num t
  | .Bool b => .bool b
  | .Error e => .err e
  | .Empty => .empty

/-- `CellErrorType::from_str` on the model's representation: the literals of `errorLits` -/
def errorFromStr (up : List Char) : Option (List Char) := if errorLits.contains up then some up else none

/-- `str::parse::<f64>` on the model's representation: the text itself where the model's grammar accepts it -/
def parseF64Text (t : List Char) : Option (List Char) := if Umya.Formula.parseF64Ok t then some t else none

theorem gen_guess_typed_data (v : List Char) :
    rawView (guess_typed_data (List Char) (List Char) Unit errorFromStr parseF64Text v) = guessTyped v := by
  have eT : "TRUE".toList = ['T', 'R', 'U', 'E'] := by decide +kernel
  have eF : "FALSE".toList = ['F', 'A', 'L', 'S', 'E'] := by decide +kernel
  unfold guess_typed_data guessTyped rt_to_uppercase errorFromStr parseF64Text
  simp only [eT, eF]
  by_cases h0 : v = []
  · subst h0; rfl
  · by_cases h1 : List.map upcase v = ['T', 'R', 'U', 'E']
    · simp [h0, h1, rawView]
    · by_cases h2 : List.map upcase v = ['F', 'A', 'L', 'S', 'E']
      · simp [h0, h1, h2, rawView]
      · have hn : List.map upcase v ≠ [] := by simpa using h0
        simp only [gen_nf, h0, h1, h2, hn, decide_false, decide_true, reduceCtorEq]
        by_cases he : errorLits.contains (List.map upcase v) = true <;>
          by_cases hp : Umya.Formula.parseF64Ok v = true <;>
          simp only [gen_nf, he, hp, h1, h2, hn] <;>
          (first
            | rfl
            | (split <;> first
                | (exact absurd ‹_› hn)
                | (exact absurd ‹_› h1)
                | (exact absurd ‹_› h2)
                | rfl
                | simp [rawView])
            | simp [rawView])

end Umya.Gen
