/-
  What `split(':')`, `index_from_coordinate`, `rsplit_once('!')` and `strip_sheet_quote` make of printed text, and
  `Range.parse_print`.  The namespace is that of the C17 statements, whose predicates `Range.IsShape`,
  `Range.InBounds` and `LegalSheetName` are defined here.
-/
import Umya.Lemmas.Coord
import Umya.Lemmas.ListFacts
import Umya.Lemmas.SplitCh
namespace Umya.Thm.C17
open Umya.Coord Umya.Dec

/-- The bounds: 18278 is `ZZZ` (the function matches at most three letters), 4294967296 is 2^32 (a row is a `u32`). -/
theorem indexFromCoordinate_print (c r : Option Ref)
    (hc : ∀ x, c = some x → 1 ≤ x.num ∧ x.num ≤ 18278)
    (hr : ∀ x, r = some x → x.num < 4294967296) :
    indexFromCoordinate (optText colRefText c ++ optText rowRefText r)
      = (c.map (·.num), r.map (·.num), c.map (·.lock), r.map (·.lock)) := by
  cases c with
  | none =>
    cases r with
    | none => simp [optText, indexFromCoordinate, matchColGroup_nil, matchRowGroup_nil]
    | some x =>
      simp [optText, indexFromCoordinate, matchColGroup_rowText, matchRowGroup_rowText, parseU32_decDigits x.num (hr x rfl)]
  | some y =>
    have hy := hc y rfl
    cases r with
    | none =>
      have := matchColGroup_colText y [] hy.2 (Or.inl rfl)
      simp only [List.append_nil] at this
      simp [optText, indexFromCoordinate, this, matchRowGroup_nil, alphaVal_indexToAlpha y.num hy.1]
    | some x => simpa [optText] using indexFromCoordinate_suffix y x [] hy (hr x rfl) (Or.inl rfl)

theorem coord_print_parse (c r : Nat) (lc lr : Bool) (hc : 1 ≤ c ∧ c ≤ 18278) (hr : r < 4294967296) :
    coordinateFromIndexWithLock? c r lc lr = some (coordinateFromIndexWithLock c r lc lr) ∧
    indexFromCoordinate (coordinateFromIndexWithLock c r lc lr) = (some c, some r, some lc, some lr) := by
  constructor
  · simp [coordinateFromIndexWithLock?, coordinateFromIndexWithLock, hc.1]
  · simpa [colRefText, rowRefText, coordinateFromIndexWithLock, List.append_assoc] using
      indexFromCoordinate_suffix ⟨c, lc⟩ ⟨r, lr⟩ [] hc hr (Or.inl rfl)

/-- The four printable shapes of the property: a cell, cell:cell, whole rows, whole columns. -/
def Range.IsShape (ρ : Range) : Prop :=
  (ρ.startCol.isSome ∧ ρ.startRow.isSome ∧ ρ.endCol.isNone ∧ ρ.endRow.isNone) ∨
  (ρ.startCol.isSome ∧ ρ.startRow.isSome ∧ ρ.endCol.isSome ∧ ρ.endRow.isSome) ∨
  (ρ.startCol.isNone ∧ ρ.startRow.isSome ∧ ρ.endCol.isNone ∧ ρ.endRow.isSome) ∨
  (ρ.startCol.isSome ∧ ρ.startRow.isNone ∧ ρ.endCol.isSome ∧ ρ.endRow.isNone)

/-- each reference present is within the bounds of `indexFromCoordinate_print` -/
def Range.InBounds (ρ : Range) : Prop :=
  (∀ x, ρ.startCol = some x → 1 ≤ x.num ∧ x.num ≤ 18278) ∧
  (∀ x, ρ.endCol = some x → 1 ≤ x.num ∧ x.num ≤ 18278) ∧
  (∀ x, ρ.startRow = some x → x.num < 4294967296) ∧
  (∀ x, ρ.endRow = some x → x.num < 4294967296)

theorem colon_free_text (c r : Option Ref) : ':' ∉ optText colRefText c ++ optText rowRefText r :=
  fun h => cornerText_chars (P := (· ≠ ':')) (by decide) (fun _ h => upperDigit_ne h (by decide)) c r _ h rfl

theorem splitColon_eq (s : List Char) : splitColon s = AnnotCodec.splitCh ':' s :=
  AnnotCodec.splitCh_of_loop ':' splitColon.go (fun _ => rfl) (fun _ _ _ => rfl) s

theorem splitColon_one (a : List Char) (ha : ':' ∉ a) : splitColon a = [a] := by
  rw [splitColon_eq, AnnotCodec.splitCh_free ':' a ha]

theorem splitColon_two (a b : List Char) (ha : ':' ∉ a) (hb : ':' ∉ b) :
    splitColon (a ++ ':' :: b) = [a, b] := by
  rw [splitColon_eq, AnnotCodec.splitCh_append ':' a b ha, AnnotCodec.splitCh_free ':' b hb]

theorem Range.splitColon_print (ρ : Range) :
    splitColon ρ.print = (optText colRefText ρ.startCol ++ optText rowRefText ρ.startRow) ::
      (if ρ.endCol.isSome || ρ.endRow.isSome then [optText colRefText ρ.endCol ++ optText rowRefText ρ.endRow]
       else []) := by
  simp only [Range.print]
  by_cases he : (ρ.endCol.isSome || ρ.endRow.isSome) = true
  · rw [if_pos he, if_pos he, List.append_assoc _ [':'], List.singleton_append]
    exact splitColon_two _ _ (colon_free_text _ _) (colon_free_text _ _)
  · rw [if_neg he, if_neg he]
    exact splitColon_one _ (colon_free_text _ _)

theorem Range.IsShape.cases {ρ : Range} (h : Range.IsShape ρ) :
    (∃ a b, ρ = ⟨some a, some b, none, none⟩) ∨ (∃ a b x y, ρ = ⟨some a, some b, some x, some y⟩) ∨
    (∃ x y, ρ = ⟨none, some x, none, some y⟩) ∨ (∃ x y, ρ = ⟨some x, none, some y, none⟩) := by
  obtain ⟨sc, sr, ec, er⟩ := ρ
  simp only [Range.IsShape, Option.isSome_iff_exists, Option.isNone_iff_eq_none] at h
  rcases h with ⟨⟨a, rfl⟩, ⟨b, rfl⟩, rfl, rfl⟩ | ⟨⟨a, rfl⟩, ⟨b, rfl⟩, ⟨x, rfl⟩, ⟨y, rfl⟩⟩ |
    ⟨rfl, ⟨x, rfl⟩, rfl, ⟨y, rfl⟩⟩ | ⟨⟨x, rfl⟩, rfl, ⟨y, rfl⟩, rfl⟩
  · exact .inl ⟨a, b, rfl⟩
  · exact .inr (.inl ⟨a, b, x, y, rfl⟩)
  · exact .inr (.inr (.inl ⟨x, y, rfl⟩))
  · exact .inr (.inr (.inr ⟨x, y, rfl⟩))

theorem refsOf_print (c r : Option Ref)
    (hc : ∀ x, c = some x → 1 ≤ x.num ∧ x.num ≤ 18278) (hr : ∀ x, r = some x → x.num < 4294967296) :
    refsOf (indexFromCoordinate (optText colRefText c ++ optText rowRefText r)) = (c, r) := by
  rw [indexFromCoordinate_print c r hc hr]
  cases c <;> cases r <;> rfl

/-- For EVERY range inside the bounds, whichever of its four corners are present: each side of the `:` is read by
    `index_from_coordinate`, which returns exactly the references printed, and a default range has nothing to fall back
    on for the absent ones. -/
theorem Range.parse_print (ρ : Range) (hb : Range.InBounds ρ) : Range.parse ρ.print = .ok ρ := by
  obtain ⟨sc, sr, ec, er⟩ := ρ
  obtain ⟨b1, b2, b3, b4⟩ := hb
  have pS := refsOf_print sc sr b1 b3
  have pE := refsOf_print ec er b2 b4
  rw [Range.parse, Range.setRange, Range.splitColon_print]
  by_cases he : (ec.isSome || er.isSome) = true
  · simp [he, pS, pE]
  · have hn : ec = none ∧ er = none := by cases ec <;> cases er <;> simp at he ⊢
    obtain ⟨rfl, rfl⟩ := hn
    simp [pS]

/-- Legal sheet names (the part of Excel's rule that matters here): non-empty and not starting
    with an apostrophe.  `!`, `"`, blanks, inner apostrophes are all allowed. -/
def LegalSheetName (name : List Char) : Prop := name ≠ [] ∧ name.head? ≠ some '\''

theorem rsplitBang_join (sheet a : List Char) (ha : '!' ∉ a) :
    rsplitBang (sheet ++ '!' :: a) = some (sheet, a) := by
  have hr : (sheet ++ '!' :: a).reverse = a.reverse ++ '!' :: sheet.reverse := by simp
  obtain ⟨tw, dw⟩ := takeWhile_dropWhile_run (fun x => decide (x ≠ '!')) a.reverse ('!' :: sheet.reverse)
    (List.all_eq_true.2 fun x hx => decide_eq_true fun e => ha (e ▸ List.mem_reverse.1 hx)) (.inr ⟨_, _, rfl, by simp⟩)
  simp only [rsplitBang, hr, tw, dw]
  simp

theorem rsplitBang_none (t : List Char) (h : '!' ∉ t) : rsplitBang t = none := by
  have hd : t.reverse.dropWhile (fun x => decide (x ≠ '!')) = [] :=
    dropWhile_all _ _ fun x hx => decide_eq_true fun e => h (e ▸ List.mem_reverse.1 hx)
  simp only [rsplitBang, hd]

theorem rsplitBang_some_eq (t q a : List Char) (h : rsplitBang t = some (q, a)) : t = q ++ '!' :: a ∧ '!' ∉ a := by
  obtain ⟨hcat, hall, hhd⟩ := takeWhile_dropWhile_spec (fun c => decide (c ≠ '!')) t.reverse
  simp only [rsplitBang] at h
  split at h
  · cases h
  · rename_i x hd hdw
    cases h
    rw [hdw] at hcat hhd
    have hx : x = '!' := by simpa using hhd x rfl
    constructor
    · simpa [hx] using (congrArg List.reverse hcat).symm
    · intro hm
      simpa using hall _ (List.mem_reverse.1 hm)

theorem stripSheetQuote_legal (name : List Char) (h : LegalSheetName name) :
    stripSheetQuote name = name := by
  have hh := h.2
  unfold stripSheetQuote
  split
  · simp at hh
  · rfl

theorem stripSheetQuote_quoted (name : List Char) :
    stripSheetQuote ('\'' :: (name ++ ['\''])) = name := by
  simp [stripSheetQuote]

theorem LegalSheetName.isEmpty {name : List Char} (h : LegalSheetName name) : name.isEmpty = false := by
  cases name with
  | nil => exact absurd rfl h.1
  | cons _ _ => rfl

theorem splitAddress_qual (q a : List Char) (ha : '!' ∉ a) :
    splitAddress (q ++ '!' :: a) = (stripSheetQuote q, a) := by
  simp only [splitAddress, rsplitBang_join q a ha]

/-- what both printers put in front of the range: the name, bare or between apostrophes, and `!` -/
theorem splitAddress_wrapped (name a : List Char) (h : LegalSheetName name) (ha : '!' ∉ a) (q : Bool) :
    splitAddress ((if q then ['\''] else []) ++ name ++ (if q then ['\''] else []) ++ ['!'] ++ a) = (name, a) := by
  cases q
  · have e : ([] : List Char) ++ name ++ [] ++ ['!'] ++ a = name ++ '!' :: a := by simp
    simp only [Bool.false_eq_true, if_false, e, splitAddress_qual _ _ ha, stripSheetQuote_legal name h]
  · have e : ['\''] ++ name ++ ['\''] ++ ['!'] ++ a = ('\'' :: (name ++ ['\''])) ++ '!' :: a := by simp
    simp only [if_true, e, splitAddress_qual _ _ ha, stripSheetQuote_quoted]

end Umya.Thm.C17
